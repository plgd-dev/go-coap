import CoapVerif.Model.DedupLockNCfg
import CoapVerif.Lemmas.DedupLockNInv
import CoapVerif.Lemmas.DedupLockNProj
import CoapVerif.Lemmas.DedupLockNTwo
/-!
# C05 — "… even when the copies are processed concurrently": n goroutines over the modelled `MutexMap`

Statement (properties.jsonl, C05): on datagram transports, a confirmable request — or a non-confirmable request for which a
reply was produced — that arrives again with the same message ID from the same peer before the exchange lifetime (247 s) has
elapsed is not handed to the application handler a second time, **even when the copies are processed concurrently**.  Each
duplicate is instead answered with a reply of the same code, token, options and payload as the first one.  Once the lifetime
has elapsed the ID is treated as fresh again.

`Model/DedupLockN.lean` is the interleaving model of `handleReq`'s section over `udp/client/mutexmap.go` (entries created and
reference-counted under the map lock, removed when the count drops to zero): any number of goroutines, any message IDs,
copies arriving and cache entries expiring at any point of the schedule.  The theorems hold for **every** schedule
(`List Ev`), hence every number of goroutines, every arrival pattern and every wake-up order; they are proved from an
invariant (`Lemmas/DedupLockN*.lean`), not by enumerating schedules.  `Model.DedupLockN.run` is the program with the shape
regenerated from /repo (`useLock` = `handleReqLockedPerMID` ∧ `mutexMapRefCounted`, `tryFirst` = `copyWaitsAfterHandover`:
`Model/DedupLockNCfg.lean`); the theorems below are proved for both values of `tryFirst` (TryLock-then-Lock, and plain Lock)
and need `useLock = true`; without the lock `nolock_two_executions_n` is the counter-example.

A reply is a value: the index of the goroutine that ran the handler.  `s.runs k` lists the executions for message ID `k`,
`s.exps k` counts how often the cached reply of `k` expired, `c0 k` is what the cache held for `k` at the start.
-/
namespace CoapVerif.Props.C05Lock
open CoapVerif CoapVerif.Model.DedupLockN CoapVerif.Lemmas.DedupLockN

/-- `udp/client/mutexmap.go` has the shape the model's `TryLock` / `Lock` / `Unlock` statements follow (regenerated, the
    recogniser fails closed). -/
theorem mutexmap_is_refcounted : Generated.Dedup.mutexMapRefCounted = true := rfl

/-- The regenerated program shape has the lock: `handleReq` takes it around check – handle – store, and it is that `MutexMap`. -/
theorem cfg_locked : cfg.useLock = true := rfl

theorem run_inv (c0 : Nat → Option Nat) (sched : List Ev) : Inv c0 (run c0 sched) :=
  inv_exec cfg_locked sched _ (inv_init c0)

/-! ## the modelled `MutexMap`: mutual exclusion per message ID, no interference between message IDs, no deadlock, no panic -/

/-- Two copies of one message ID are never inside the lock section together — a consequence of the reference count
    (the entry a goroutine waits for / holds is the one in the map), not an assumption. -/
theorem mutex_per_mid (c0 : Nat → Option Nat) (sched : List Ev) (i j : Nat) (g g' : G)
    (hi : (run c0 sched).gs[i]? = some g) (hj : (run c0 sched).gs[j]? = some g') (hk : g'.key = g.key)
    (hc : inCS g.pc = true) (hc' : inCS g'.pc = true) : j = i := by
  obtain ⟨k, p⟩ := g
  obtain ⟨k', q⟩ := g'
  cases hk
  exact (run_inv c0 sched).lock.mutex hi hj hc hc'

/-- two message IDs at the same time: both lock sections are occupied -/
example : (run (fun _ => none) [.arrive 7, .arrive 8, .step 0, .step 1]).gs = [⟨7, .locked⟩, ⟨8, .locked⟩] := by decide

/-- Copies of different message IDs never wait for each other: a goroutine that cannot move waits for an entry whose mutex is
    held by a goroutine with **the same** message ID, and that goroutine can move. -/
theorem blocked_only_by_same_mid (c0 : Nat → Option Nat) (sched : List Ev) (i : Nat) (g : G)
    (hi : (run c0 sched).gs[i]? = some g) (hl : live g = true) (hb : runnable (run c0 sched) g = false) :
    ∃ (j : Nat) (h : G), (run c0 sched).gs[j]? = some h ∧ h.key = g.key ∧ j ≠ i ∧ runnable (run c0 sched) h = true := by
  have hI := (run_inv c0 sched).lock
  generalize run c0 sched = s at *
  obtain ⟨k, pc⟩ := g
  cases pc <;> simp [live, runnable] at hl hb
  rename_i e
  cases hh : (s.heap k e).held with
  | none => simp [hh] at hb
  | some j =>
    -- the holder is in the section or in the second half of `Unlock`: it can move, and it is not the waiting goroutine
    obtain ⟨q, hj, hq⟩ := hI.held k e j hh
    refine ⟨j, ⟨k, q⟩, hj, rfl, ?_, ?_⟩
    · rintro rfl
      rw [hi] at hj; cases hj
      exact hq
    · cases q <;> first | exact hq.elim | rfl

/-- a blocked goroutine (hypotheses of `blocked_only_by_same_mid`): 1 waits for the entry 0 holds -/
example : let s := run (fun _ => none) [.arrive 7, .arrive 7, .step 0, .step 1, .step 1]
    (s.gs, runnable s ⟨7, .waiting 0⟩, live ⟨7, .waiting 0⟩) = ([⟨7, .locked⟩, ⟨7, .waiting 0⟩], false, true) := by decide

/-- No deadlock: in every reachable state in which some copy is not through, some goroutine can execute a statement. -/
theorem no_deadlock (c0 : Nat → Option Nat) (sched : List Ev) (i : Nat) (g : G)
    (hi : (run c0 sched).gs[i]? = some g) (hl : live g = true) :
    ∃ (j : Nat) (h : G), (run c0 sched).gs[j]? = some h ∧ runnable (run c0 sched) h = true := by
  cases hb : runnable (run c0 sched) g
  · obtain ⟨j, h, hj, _, _, hr⟩ := blocked_only_by_same_mid c0 sched i g hi hl hb
    exact ⟨j, h, hj, hr⟩
  · exact ⟨i, g, hi, hb⟩

theorem unlock_never_panics (c0 : Nat → Option Nat) (sched : List Ev) (i : Nat) (g : G)
    (hi : (run c0 sched).gs[i]? = some g) : g.pc ≠ .panicked :=
  fun hp => by
    obtain ⟨k, p⟩ := g
    cases hp
    exact (run_inv c0 sched).lock.granted i k _ hi

/-- A goroutine that can move does move: its statement changes its program counter. -/
theorem runnable_moves (c : Cfg) (s : State) (i : Nat) (g : G) (hi : s.gs[i]? = some g) (hr : runnable s g = true) :
    (step c s (.step i)).gs[i]? ≠ some g := by
  obtain ⟨hlt, _⟩ := List.getElem?_eq_some_iff.mp hi
  obtain ⟨k, pc⟩ := g
  simp only [step, hi]
  cases pc <;> simp [runnable] at hr <;> simp only [stepG, lockRef, unlockRef]
  -- every branch of `stepG` at a runnable program counter writes one of another constructor into slot `i`
  -- (`waiting` has only the branch `held = none` left)
  all_goals (repeat' split)
  all_goals simp_all [setPc, setEntry, newEntry]

/-! ## the handler runs at most once per message ID and cache lifetime -/

/-- For every schedule — any number of concurrent copies, arriving whenever — the number of handler executions for a message
    ID is at most one per cache lifetime: one plus the number of expiries, counting what the cache held at the start. -/
theorem handler_once_per_mid_n (c0 : Nat → Option Nat) (sched : List Ev) (k : Nat) :
    ((run c0 sched).runs k).length + (c0 k).toList.length ≤ 1 + (run c0 sched).exps k := by
  have := (run_inv c0 sched).reply.atMostOne k
  simpa [srcs] using this

/-- Without an expiry in between: at most one execution, none if the request had been answered before. -/
theorem handler_once_without_expiry (c0 : Nat → Option Nat) (sched : List Ev) (k : Nat) (he : (run c0 sched).exps k = 0) :
    ((run c0 sched).runs k).length ≤ 1 ∧ ((c0 k).isSome → (run c0 sched).runs k = []) := by
  have := handler_once_per_mid_n c0 sched k
  rw [he] at this
  constructor
  · omega
  · intro hs
    cases hc : c0 k with
    | none => simp [hc] at hs
    | some v =>
      simp [hc] at this
      exact this

/-- a request that had been answered before (`c0 7 = some 99`): the copy is answered from the cache, no execution -/
example : let s := run (fun k => if k = 7 then some 99 else none) ([.arrive 7] ++ List.replicate 4 (.step 0))
    (s.gs, s.runs 7) = ([⟨7, .done 99⟩], []) := by decide

/-- The bound of `handler_once_per_mid_n` is tight, a copy after the lifetime is legitimately fresh
    (`Props.C05.fresh_after_lifetime`): one copy runs through, the cached reply expires, a second copy with the same message ID
    arrives and the handler runs for it — two executions, one expiry. -/
example : ((run (fun _ => none) ([.arrive 7] ++ List.replicate 6 (.step 0) ++ [.expire 7, .arrive 7] ++ List.replicate 6 (.step 1))).runs 7,
    (run (fun _ => none) ([.arrive 7] ++ List.replicate 6 (.step 0) ++ [.expire 7, .arrive 7] ++ List.replicate 6 (.step 1))).exps 7) =
    ([1, 0], 1) := by decide

/-! ## every copy that completes gets the reply of the one execution -/

/-- The reply a completed copy sent is the reply of an execution for its message ID (or what the cache held at the start) — -/
theorem completed_reply_is_an_execution (c0 : Nat → Option Nat) (sched : List Ev) (i k v : Nat)
    (hi : (run c0 sched).gs[i]? = some ⟨k, .done v⟩) : v ∈ (run c0 sched).runs k ∨ c0 k = some v := by
  have : v ∈ srcs c0 (run c0 sched) k := (run_inv c0 sched).reply.sourced i k _ hi
  simpa [srcs] using this

/-- — and without an expiry in between there was **exactly one** execution (if some copy completed), whose reply every
    completed copy got. -/
theorem completed_copies_exactly_one_execution (c0 : Nat → Option Nat) (sched : List Ev) (i k v : Nat)
    (he : (run c0 sched).exps k = 0) (h0 : c0 k = none) (hi : (run c0 sched).gs[i]? = some ⟨k, .done v⟩) :
    (run c0 sched).runs k = [v] := by
  have := (run_inv c0 sched).reply.srcs_of_done he hi
  rwa [srcs, h0, Option.toList_none, List.append_nil] at this

theorem completed_copies_same_reply (c0 : Nat → Option Nat) (sched : List Ev) (i j k v v' : Nat)
    (he : (run c0 sched).exps k = 0) (hi : (run c0 sched).gs[i]? = some ⟨k, .done v⟩)
    (hj : (run c0 sched).gs[j]? = some ⟨k, .done v'⟩) : v = v' :=
  have hr := (run_inv c0 sched).reply
  List.singleton_inj.1 ((hr.srcs_of_done he hi).symm.trans (hr.srcs_of_done he hj))

/-- three copies; 0 takes the lock (TryLock), 1 and 2 queue up behind it (TryLock fails, Lock), 0 runs the handler and
    stores, the scheduler wakes 2 before 1: everybody is through, one execution, everybody sent reply 0 -/
example : let s := run (fun _ => none) [.arrive 7, .arrive 7, .arrive 7, .step 0, .step 1, .step 2, .step 1, .step 2,
      .step 0, .step 0, .step 1, .step 0, .step 0, .step 0, .step 2, .step 2, .step 2, .step 2, .step 1, .step 1, .step 1, .step 1]
    (s.gs, s.runs 7, s.ma 7) = ([⟨7, .done 0⟩, ⟨7, .done 0⟩, ⟨7, .done 0⟩], [0], none) := by decide

/-! ## different message IDs are independent -/

/-- The projection of any run (any number of message IDs) to one message ID `k` — its goroutines, its map entry, its cache
    entry, its executions; the goroutines of other message IDs reduced to slots that never move — **is a run of the system in
    which only copies of `k` exist**: the same program on the schedule in which arrivals of other message IDs are empty slots
    and their expiries nothing.  (Holds for both shapes of the program, with and without the lock.) -/
theorem different_mids_independent (c : Cfg) (c0 : Nat → Option Nat) (k : Nat) (sched : List Ev) :
    restrict k (exec c (init c0) sched) = exec c (init (rk k c0 none)) (sched.map (projEv k)) := by
  rw [restrict_exec, restrict_init]

/-- … and in that schedule nothing of another message ID is left. -/
theorem projected_schedule_has_one_mid (k : Nat) (ev : Ev) :
    (∀ k', projEv k ev = .arrive k' → k' = k) ∧ (∀ k', projEv k ev = .expire k' → k' = k) := by
  cases ev with
  | arrive k2 => by_cases h : k2 = k <;> simp [projEv, h]
  | expire k2 => by_cases h : k2 = k <;> simp [projEv, h]
  | step i => simp [projEv]
  | pad => simp [projEv]
  | nop => simp [projEv]

/-- two message IDs interleaved; seen from 8, goroutine 0 (a copy of 7) is a slot and 8's own copy is where it is -/
example : (restrict 8 (run (fun _ => none) [.arrive 7, .arrive 8, .step 0, .step 1, .step 0, .step 1])).gs =
    [⟨0, .gone⟩, ⟨8, .miss⟩] := by decide

/-! ## the two-goroutine model of `Props.C05.concurrent_copies_handled_once` is the n = 2 case -/

/-- Two copies of one message ID `k` arrive and are then scheduled in any way (`bs`: `false` = goroutine 0, `true` =
    goroutine 1): the coarse view of the resulting state — program counters with the `MutexMap` statements folded into
    "idle" / "done", who is in the section, is a reply cached, how often did the handler run — **is a state of
    `Model.DedupLock.run`** for some schedule of that model: every statement of the n-goroutine model is either invisible there
    (`TryLock` failing, queueing up, the second half of `Unlock`) or one statement of the two-goroutine model.  So that
    model, which takes the mutex as one atomic lock / unlock, omits nothing two copies can do over the `MutexMap` protocol;
    no other theorem here rests on it. -/
theorem two_copies_refine_DedupLock (c0 : Nat → Option Nat) (k : Nat) (bs : List Bool) :
    ∃ sched, abs2 k (run c0 ([.arrive k, .arrive k] ++ bs.map stepOf)) = Model.DedupLock.run (c0 k).isSome sched := by
  obtain ⟨hi, ht⟩ := two_init c0 cfg k
  have hI : Inv c0 (exec cfg (init c0) [.arrive k, .arrive k]) := inv_exec cfg_locked _ _ (inv_init c0)
  obtain ⟨sched, h⟩ := two_refines c0 cfg cfg_locked k (c0 k).isSome bs _ [] hI ht hi
  refine ⟨sched, ?_⟩
  have hl : Generated.Dedup.handleReqLockedPerMID = true := rfl
  unfold Model.DedupLock.run
  rw [hl, ← h]
  simp [run, exec]

/-- 0 takes the lock, 1 queues up; 0 handles, stores, unlocks; 1 hits the cache: seen coarsely, both through, one execution -/
example : abs2 7 (run (fun _ => none) ([.arrive 7, .arrive 7] ++ [false, true, true, false, false, false, false, false, true, true, true, true].map stepOf)) =
    ⟨.done, .done, none, true, 1⟩ := by decide

/-! ## without the lock two executions are possible (n = 2 suffices) -/

/-- The program without the per-message-ID lock (either shape of `tryFirst`): both copies see the miss, both run the handler;
    no expiry involved. -/
theorem nolock_two_executions_n (tf : Bool) :
    ∃ sched, ((exec ⟨false, tf⟩ (init (fun _ => none)) sched).runs 7).length = 2 ∧
      (exec ⟨false, tf⟩ (init (fun _ => none)) sched).exps 7 = 0 :=
  ⟨[.arrive 7, .arrive 7, .step 0, .step 0, .step 1, .step 1, .step 0, .step 1], by cases tf <;> decide⟩

end CoapVerif.Props.C05Lock

section Audit
open CoapVerif.Props.C05Lock
#print axioms mutexmap_is_refcounted
#print axioms cfg_locked
#print axioms run_inv
#print axioms mutex_per_mid
#print axioms blocked_only_by_same_mid
#print axioms no_deadlock
#print axioms unlock_never_panics
#print axioms runnable_moves
#print axioms handler_once_per_mid_n
#print axioms handler_once_without_expiry
#print axioms completed_reply_is_an_execution
#print axioms completed_copies_exactly_one_execution
#print axioms completed_copies_same_reply
#print axioms nolock_two_executions_n
#print axioms different_mids_independent
#print axioms projected_schedule_has_one_mid
#print axioms two_copies_refine_DedupLock
end Audit
