import CoapVerif.Model.Reader
import CoapVerif.Model.ReaderPrograms
import CoapVerif.Lemmas.Reader
import CoapVerif.Lemmas.ReaderPrograms
import CoapVerif.Generated.Dedup
/-!
# C11 — each received message is processed once; handlers may call back

Statement (properties.jsonl): every message accepted from the network is dispatched to application handling exactly
once — never dropped while the connection is open, never processed twice — and, as long as handlers return without
blocking, in arrival order.  A handler or callback may itself issue blocking requests on the same connection, to any
nesting depth, without stalling the connection: processing of later incoming messages (including the awaited
response) continues while it waits.

The theorems are about `Model.Reader` (`run (init cap udp inbox) evs`): **every** receive-queue capacity (0, 1, N), both
transports, **every** list of messages on the wire (distinct), **every** schedule `evs` of the socket reader, the loops
(including loops that take a message although their `loopDone` is already closed — Go's `select` may do that), the
handlers, time and close.  The first part (`exactly_once`, `exactly_once_across_replacement`, `replacement_moves_nothing`,
`dispatch_fifo`, `one_current_loop`) holds for *all* handlers.  `exactly_once` is largely what a FIFO channel with one
producer gives; the statements about loop replacement are not: they say that a message in the hands of a loop that
has been replaced is neither lost nor processed again.  The second part (`current_never_blocked`, `nested_any_depth`)
holds for handlers whose first blocking construct is preceded by a replacement request (`waitsPreceded`; `WF` for all
requests of an inbox); `doInternal_waits_preceded` shows that the connection's own `doInternal` / `waitForAcknowledge`
have that form in today's source.  The library's other blocking operations (limiter, first notification of an
observation, ping) wait at places of their own: for each, `Findings/C11.lean` shows that the full statement is false if
the source has no hand-over before that wait, and that the operation is well-formed if it has one (F11, F12, F24 = ping;
in today's source only the limiter, F11, lacks it).
-/
namespace CoapVerif.Props.C11
open CoapVerif CoapVerif.Model.Reader CoapVerif.Lemmas.Reader CoapVerif.Lemmas.ReaderPrograms

/-- handlers of all requests on the wire have their first blocking construct preceded by a replacement request -/
def WF (inbox : List Msg) : Prop := ∀ m ∈ inbox, waitsPreceded (progOf m.kind) = true

/-- For every schedule: (1) every accepted message is in exactly one stage — dispatched, in the queue,
    in the reader's hand, or (only once the connection is closed) discarded —, in arrival order; (2) no message is
    dispatched twice. -/
theorem exactly_once (cap : Nat) (udp : Bool) (inbox : List Msg) (hnd : inbox.Nodup) (evs : List Event) :
    let s := run (init cap udp inbox) evs
    s.accepted = s.started ++ s.queue ++ s.hand.toList ++ s.lost ∧ (s.lost ≠ [] → s.closed = true) ∧ s.started.Nodup := by
  intro s
  have inv := invQ_run _ evs (invQ_init cap udp inbox hnd)
  refine ⟨inv.fifo, fun h => (inv.lostClosed h).1, ?_⟩
  have h1 : s.accepted.Nodup := (List.nodup_append.mp inv.wire).1
  rw [inv.fifo] at h1
  simp only [List.append_assoc] at h1
  exact (List.nodup_append.mp h1).1

/-- What the channel does not give by itself: for every schedule, whatever loops
    have been replaced in the meantime (a replaced loop keeps running its handler, and may even take further messages),
    every message that has been taken is *either* finished *or* in the hands of exactly one loop — never both, never
    two loops, never lost when `TryToReplaceLoop` closes a loop's `loopDone` and starts another one —; a loop that is
    not running a handler holds nothing; and no message finishes twice. -/
theorem exactly_once_across_replacement (cap : Nat) (udp : Bool) (inbox : List Msg) (hnd : inbox.Nodup) (evs : List Event) :
    let s := run (init cap udp inbox) evs
    (∀ m ∈ s.started, (m ∈ s.finished ∧ ∀ l lp, s.loops l = some lp → lp.cur ≠ some m) ∨
                      (m ∉ s.finished ∧ ∃ l lp, s.loops l = some lp ∧ lp.cur = some m ∧
                         ∀ l' lp', s.loops l' = some lp' → lp'.cur = some m → l' = l)) ∧
    (∀ l lp, s.loops l = some lp → lp.pc ≠ .running → lp.cur = none) ∧
    (∀ m ∈ s.finished, m ∈ s.started) ∧ s.finished.Nodup := by
  intro s
  have ia := invA_run _ evs (invQ_init cap udp inbox hnd) (invC_init cap udp inbox) (invA_init cap udp inbox)
  refine ⟨?_, ia.idle, ia.fin, ia.finNd⟩
  intro m hm
  rcases ia.acc m hm with hf | ⟨l, lp, h1, h2⟩
  · left
    refine ⟨hf, ?_⟩
    intro l lp hl hc
    exact (ia.curS l lp m hl hc).2 hf
  · right
    exact ⟨(ia.curS l lp m h1 h2).2, l, lp, h1, h2, fun l' lp' h1' h2' => ia.uniq l' l lp' lp m h1' h1 h2' h2⟩

/-- `TryToReplaceLoop` itself, in every reachable state: the queue, the reader's hand and
    the lists of accepted / taken messages are untouched, every loop keeps the message it holds, and the new loop
    starts with none. -/
theorem replacement_moves_nothing (cap : Nat) (udp : Bool) (inbox : List Msg) (evs : List Event) :
    let s := run (init cap udp inbox) evs
    qview (tryReplace s) = qview s ∧
    (∀ l lp, s.loops l = some lp → ∃ lp', (tryReplace s).loops l = some lp' ∧ lp'.cur = lp.cur) ∧
    (∀ l lp', (tryReplace s).loops l = some lp' → s.loops l = none → lp'.cur = none) := by
  intro s
  have ic := invC_run _ evs (invC_init cap udp inbox)
  have cp := keepsHeld_tryReplace s ic
  refine ⟨(tryReplace_qview_finished s).1, cp.fwd, ?_⟩
  intro l lp' h1 h2
  rcases cp.bwd l lp' h1 with g | ⟨lp, g1, _, _⟩
  · exact g
  · rw [h2] at g1; cases g1

/-- Corollary of `exactly_once`: while the connection is open, an accepted message has been dispatched or is still
    waiting for a loop. -/
theorem never_dropped (cap : Nat) (udp : Bool) (inbox : List Msg) (hnd : inbox.Nodup) (evs : List Event) (m : Msg) :
    let s := run (init cap udp inbox) evs
    s.closed = false → m ∈ s.accepted → m ∈ s.started ∨ m ∈ s.queue ∨ s.hand = some m := by
  intro s hopen hm
  have inv := invQ_run _ evs (invQ_init cap udp inbox hnd)
  rw [inv.fifo, inv.lost_nil (Or.inl hopen)] at hm
  simp only [List.append_nil, List.mem_append] at hm
  rcases hm with (h | h) | h
  · exact Or.inl h
  · exact Or.inr (Or.inl h)
  · right; right
    cases hh : s.hand with
    | none => rw [hh] at h; simp at h
    | some x => rw [hh] at h; simp at h; rw [h]

/-- Messages are dispatched in the order in which they were accepted, whatever the handlers do. -/
theorem dispatch_fifo (cap : Nat) (udp : Bool) (inbox : List Msg) (hnd : inbox.Nodup) (evs : List Event) :
    ∃ rest, (run (init cap udp inbox) evs).accepted = (run (init cap udp inbox) evs).started ++ rest := by
  have inv := invQ_run _ evs (invQ_init cap udp inbox hnd)
  refine ⟨(run (init cap udp inbox) evs).queue ++ (run (init cap udp inbox) evs).hand.toList ++ (run (init cap udp inbox) evs).lost, ?_⟩
  rw [inv.fifo]; simp only [List.append_assoc]

/-- At every moment exactly one loop has an open `loopDone` — the one the reader's
    `(loopDone, readingMessages)` pair belongs to; every other loop has been told to leave; and `readingMessages` of
    a loop is false exactly while it processes a message. -/
theorem one_current_loop (cap : Nat) (udp : Bool) (inbox : List Msg) (evs : List Event) :
    let s := run (init cap udp inbox) evs
    (∃ lp, s.loops s.current = some lp ∧ lp.doneClosed = false) ∧
    (∀ l lp, s.loops l = some lp → l ≠ s.current → lp.doneClosed = true) ∧
    (∀ l lp, s.loops l = some lp → (lp.reading = false ↔ lp.pc = .running)) := by
  intro s
  have inv := invC_run _ evs (invC_init cap udp inbox)
  exact ⟨inv.cur, inv.others, inv.flag⟩

/-- With well-formed handlers, in every reachable state the current loop is either at its
    select or running a handler whose next action can be taken at once; it has left only if the connection closed. -/
theorem current_never_blocked (cap : Nat) (udp : Bool) (inbox : List Msg) (hwf : WF inbox) (evs : List Event) :
    let s := run (init cap udp inbox) evs
    ∀ lp, s.loops s.current = some lp →
      (lp.pc = .exited → s.closed = true) ∧
      (lp.pc = .running → ∀ act rest, lp.prog = act :: rest → (doAct s s.current lp act rest).isSome = true) := by
  intro s lp hlp
  have iw := invW_run _ evs (invC_init cap udp inbox) (invW_init cap udp inbox hwf)
  exact ⟨iw.alive lp hlp, fun hr act rest hp => current_can_step s iw lp hlp hr act rest hp⟩

/-- With well-formed handlers, from every reachable state of an open connection, the oldest waiting
    message — e.g. the response a nested call is waiting for, behind any number of requests whose handlers block in
    nested calls of their own — is dispatched after finitely many steps *of the current loop alone*; no step of any
    blocked handler is needed.  (Repeating it empties the queue.) -/
theorem nested_any_depth (cap : Nat) (udp : Bool) (inbox : List Msg) (hwf : WF inbox) (evs : List Event)
    (hopen : (run (init cap udp inbox) evs).closed = false) (m : Msg) (rest : List Msg)
    (hw : waiting (run (init cap udp inbox) evs) = m :: rest) :
    ∃ n, (advanceN n (run (init cap udp inbox) evs)).started = (run (init cap udp inbox) evs).started ++ [m] ∧
      waiting (advanceN n (run (init cap udp inbox) evs)) = rest := by
  obtain ⟨n, h⟩ := head_taken _ (invC_run _ evs (invC_init cap udp inbox))
    (invW_run _ evs (invC_init cap udp inbox) (invW_init cap udp inbox hwf)) hopen m rest hw
  exact ⟨n, h.started, h.waits⟩

/-- `nested_any_depth` repeated: every waiting message is dispatched, oldest first, by steps of the current loop alone.
    Stated of any state with (C) and (W), which the induction needs after each message. -/
theorem queue_drains : ∀ (ws : List Msg) (s : State), InvC s → InvW s → s.closed = false → waiting s = ws →
    ∃ n, (advanceN n s).started = s.started ++ ws ∧ waiting (advanceN n s) = [] := by
  intro ws
  induction ws with
  | nil => intro s _ _ _ hw; exact ⟨0, by simp [advanceN], by simpa [advanceN] using hw⟩
  | cons m rest ih =>
    intro s ic iw hopen hw
    obtain ⟨n, h⟩ := head_taken s ic iw hopen m rest hw
    obtain ⟨n2, g1, g2⟩ := ih (advanceN n s) h.invC h.invW h.stillOpen h.waits
    refine ⟨n + n2, ?_, ?_⟩
    · rw [advanceN_add, g1, h.started, List.append_assoc]; rfl
    · rw [advanceN_add, g2]
where
  advanceN_add : ∀ (a b : Nat) (s : State), advanceN (a + b) s = advanceN b (advanceN a s)
    | 0, b, s => by simp [advanceN]
    | a + 1, b, s => by
      have : a + 1 + b = (a + b) + 1 := by omega
      rw [this]; simp only [advanceN]; exact advanceN_add a b (advance s)

open CoapVerif.Generated.WaitShape in
/-- Tie to the source.  In today's source every blocking construct of `doInternal` (datagram
    and stream) and of `waitForAcknowledge` has a `TryToReplaceLoop` call before it, and the reader has the structure
    the model follows (facts re-read from the AST on every run). -/
theorem doInternal_waits_preceded :
    (waits.filter (fun w => w.func == "Conn.doInternal" || w.func == "Conn.waitForAcknowledge")).all (·.precededByReplace) = true ∧
    (waits.filter (fun w => w.func == "Conn.doInternal")).length = 2 ∧
    loopExitsOnDone = true ∧ loopExitsOnConnDone = true ∧ loopClearsFlagProcessesSetsFlagUnderMutex = true ∧
    tryReplaceChecksCurrentFlagThenClosesAndSpawns = true := by
  decide +kernel

/-- A nested `Do` without limiter (limits 0) is a well-formed handler program, on both transports — whether or not the source
    hands the loop over before the limiter (the proof does not look at those facts).  The source facts enter as
    `ackWait_preceded`, `doInternal_preceded`: decided anew in the form the programs use (`preceded`, which also asks that the
    function has such a construct), not derived from `doInternal_waits_preceded`. -/
theorem do_unlimited_wf (udp : Bool) (key k : Nat) :
    waitsPreceded (Model.ReaderPrograms.doProg udp key 0 0 k) = true := by
  simp -implicitDefEqProofs [Model.ReaderPrograms.doProg, waitsPreceded_cons, waitsPreceded_limiterPart, waitsPreceded_ackPart, waitsPreceded_rep,
    ackWait_preceded, doInternal_preceded]

/-- Tie to the source (repair F36).  The one lock the receive path itself waits for while it
    holds the reader loop is the per-message-ID lock of `udp/client handleReq` (held by the handler of the original while
    a retransmitted copy of that request arrives).  In today's source the copy tries the lock first and asks for a
    replacement loop before it waits (`copyWaitsAfterHandover`, re-read from the AST on every run): the queue behind the
    copy keeps moving, so the answer to the handler's own nested request is not parked behind it.  (Before the repair the
    loop waited with the queue in its hand: `scn udp 16 0 0 arrivem:1:g1:con:+7000 ack:1 dup:1&sep:1 …` hung until the
    nested request's deadline.) -/
theorem copy_waits_after_handover : Generated.Dedup.copyWaitsAfterHandover = true := by decide

/-! Non-vacuity of the hypotheses `Nodup` and `WF`: three requests whose handlers each block in a nested call, then the three
    responses in reverse order. -/

def demoInbox : List Msg := [
  ⟨1, .req (Model.ReaderPrograms.doProg true 1 0 0 1)⟩, ⟨2, .req (Model.ReaderPrograms.doProg true 1 0 0 2)⟩,
  ⟨3, .req (Model.ReaderPrograms.doProg true 1 0 0 3)⟩, ⟨103, .resp 3⟩, ⟨102, .resp 2⟩, ⟨101, .resp 1⟩]

example : demoInbox.Nodup := by decide
example : WF demoInbox := by
  intro m hm
  simp only [demoInbox, List.mem_cons, List.mem_nil_iff, or_false] at hm
  rcases hm with rfl | rfl | rfl | rfl | rfl | rfl
  · exact do_unlimited_wf true 1 1
  · exact do_unlimited_wf true 1 2
  · exact do_unlimited_wf true 1 3
  · rfl
  · rfl
  · rfl

end CoapVerif.Props.C11

section Audit
open CoapVerif.Props.C11
#print axioms exactly_once
#print axioms exactly_once_across_replacement
#print axioms replacement_moves_nothing
#print axioms never_dropped
#print axioms dispatch_fifo
#print axioms one_current_loop
#print axioms current_never_blocked
#print axioms nested_any_depth
#print axioms queue_drains
#print axioms doInternal_waits_preceded
#print axioms copy_waits_after_handover
#print axioms do_unlimited_wf
end Audit
