import CoapVerif.Go.Basic
import CoapVerif.Model.PoolRetry
import CoapVerif.Spec.Rfc8323Parse
import CoapVerif.Lemmas.CoderDecode
import CoapVerif.Lemmas.RefParser
import CoapVerif.Lemmas.DecodeWF
import CoapVerif.Lemmas.PoolRetry
import CoapVerif.Lemmas.Views
import CoapVerif.Props.C01
/-!
# C02 — Decoders are total, safe and canonicalising on arbitrary bytes

Statement (properties.jsonl): for every byte string, the datagram and stream decoders (including
stream header pre-parsing) return in bounded time without crashing, and they accept or reject exactly
as an independent reference parser written from RFC 7252 section 3 / RFC 8323 section 3 (extended only
by the library's documented leniencies) does, yielding the same fields.  Whatever they accept can be
re-encoded, and re-encoding then decoding gives the same message again (decoding is idempotent onto
canonical encodings).  A message decoded through the pooled-message API never aliases the caller's
receive buffer, so overwriting that buffer afterwards does not change the message.

* Models: `Model/{OptionCodec,UdpCoder,TcpCoder,PoolMessage,PoolRetry}.lean` — every `b[i]`, `b[i:]`, `b[:j]` is a
  checked primitive returning `Err.panic` exactly when Go would panic; "never crashes" is the theorem
  "never returns `Err.panic`", for ALL byte strings and ALL option capacities.
* Bounded time: every model function is a total Lean function by structural or well-founded recursion;
  the pooled retry loop `decodeRetry` is defined by well-founded recursion on `len(data) − cap`, which
  needs exactly `decode_optCap_lt` and `newCap_gt` (see `retry_measure`).  For the step of the loop before repair
  DESIGN §6-F2 (`Findings/C02.lean`: `oldNewCap 0 = 0`) the second fact is false and the definition is rejected.
* Reference parsers: `Spec/Rfc7252Parse.lean`, `Spec/Rfc8323Parse.lean` (tokenise → prefix sums → 16-bit
  check → leniency filter), structured differently from the code.  Documented leniencies only; one
  documented restriction (frames whose declared length exceeds 32 bits are refused).  The statements compare through
  `toOpt` and `headVerdict` (a decoder's result in the reference's vocabulary, `Lemmas/RefParser.lean`); `ViewsIn` of
  `unmarshal_owns` is defined in `Lemmas/Views.lean`.
* Limits stated as hypotheses: stream inputs below 4 GiB (`uint32(len(data))` in `Coder.Decode`) for the
  reference equality, and stream inputs below the library's 0x7fff0000 framing limit (`messageMaxLen`)
  for "accepted ⇒ re-encodable".
-/
namespace CoapVerif.Props.C02
open CoapVerif CoapVerif.Model CoapVerif.Model.OptionCodec CoapVerif.Model.PoolMessage
open CoapVerif.Spec CoapVerif.Spec.Wire
open CoapVerif.Lemmas CoapVerif.Lemmas.CoderDecode CoapVerif.Lemmas.RefParser CoapVerif.Lemmas.PoolRetry
open CoapVerif.Lemmas.DecodeWF CoapVerif.Lemmas.Views
open CoapVerif.Props.C01 (wireOf framingOf)

/-! ## Total and safe -/

/-- The datagram decoder never indexes or slices out of range: any byte string, any option capacity. -/
theorem udp_decode_no_panic (bs : Bytes) (cap : Nat) : UdpCoder.decode cap bs ≠ .error .panic :=
  decode_no_panic .udp cap bs

theorem tcp_decodeHeader_no_panic (bs : Bytes) : TcpCoder.decodeHeader bs ≠ .error .panic := by
  rw [tcp_decodeHeader_eq]; exact tcpHdr_no_panic bs

theorem tcp_decode_no_panic (bs : Bytes) (cap : Nat) : TcpCoder.decode cap bs ≠ .error .panic :=
  decode_no_panic .tcp cap bs

/-- `Options.Unmarshal` alone (any table, any capacity / length of the option slice, any input). -/
theorem options_unmarshal_no_panic (defs : Defs) (cap n : Nat) (bs : Bytes) :
    optionsUnmarshal defs cap n bs ≠ .error .panic :=
  OptionCodec.unmarshalLoop_no_panic defs cap n 0 0 bs

/-- Tie of the retry loop to the source: the shape of the retry branch of `(*Message).decode`, regenerated from
the AST on every run — the new capacity is a multiple ≥ 2 of the old one, capacity 0 is replaced by a positive
value, and the capacity is not capped.  `newCap_gt` (hence the definition of `decodeRetry`) is proved with the three
generated values unfolded, so a change of the loop's shape has to pass the termination proof as well. -/
theorem retry_shape :
    Generated.PoolRetry.retryCapLimit = none ∧ 2 ≤ Generated.PoolRetry.retryFactor ∧ 0 < Generated.PoolRetry.retryZeroCap := by
  decide

/-- The two facts the termination measure `len(data) − cap` of the pooled retry loop rests on: a decoder
reports `ErrOptionsTooSmall` only while the capacity is below the input length, and the retried capacity
is strictly larger.  (`decodeRetry` is accepted by Lean's termination checker because of them.) -/
theorem retry_measure (c : Coder) (cap : Nat) (data : Bytes) (h : c.decode cap data = .error .optCap) :
    cap < data.length ∧ cap < newCap cap ∧ data.length - newCap cap < data.length - cap := by
  have h1 := decode_optCap_lt h
  have h2 := newCap_gt cap
  exact ⟨h1, h2, by omega⟩

/-- The retry loop ends with a decoder result that is not the capacity error — from every initial
capacity, 0 included. -/
theorem retry_resolves (c : Coder) (cap : Nat) (data : Bytes) :
    ∃ cap', cap ≤ cap' ∧ decodeRetry c cap data = (c.decode cap' data, cap') ∧ c.decode cap' data ≠ .error .optCap :=
  decodeRetry_spec c cap data

/-- … and that result is what the decoder returns with any capacity that cannot run out. -/
theorem retry_result_eq (c : Coder) (cap big : Nat) (data : Bytes) (hb : data.length ≤ big) :
    (decodeRetry c cap data).1 = c.decode big data := by
  obtain ⟨cap', _, heq, hne⟩ := decodeRetry_spec c cap data
  rw [heq]
  exact decode_cap_indep c cap' big data hne (decode_big_cap c big data hb)

/-- The proof-free executable twin that the correspondence driver runs (explicit fuel `len(data)+1`) is
the well-founded model the theorems are about. -/
theorem exec_twin_eq (c : Coder) (r : PoolMsg) (data : Bytes) :
    unmarshalWithDecoderN c r data = unmarshalWithDecoder c r data := by
  unfold unmarshalWithDecoderN unmarshalWithDecoder
  simp only [bind, Except.bind, unmarshal_copy]
  rw [decodeRetryN_eq c (data.length + 1) r.optCap data (by omega)]
  rfl

/-- The pooled unmarshal never panics and never reports the capacity error. -/
theorem pool_unmarshal_total (c : Coder) (r : PoolMsg) (data : Bytes) :
    unmarshalWithDecoder c r data ≠ .error .panic ∧ unmarshalWithDecoder c r data ≠ .error .optCap := by
  obtain ⟨cap', hne, he⟩ := unmarshalWithDecoder_eq c r data
  rw [he]
  have hnp := decode_no_panic c cap' data
  cases hd : c.decode cap' data with
  | error e =>
    constructor
    · intro h; injection h with h; subst h; exact hnp hd
    · intro h; injection h with h; subst h; exact hne hd
  | ok v => exact ⟨nofun, nofun⟩

/-! ## Decoder = reference parser -/

/-- Datagram decoder: accepts exactly what the RFC 7252 reference parser accepts, with the same fields, and
an accepted datagram is consumed completely.  (`cap ≥ len` = "enough option capacity"; see
`pooled_decode_eq_ref` for the wrapper that removes the hypothesis.) -/
theorem udp_decode_eq_ref (bs : Bytes) (cap : Nat) (hc : bs.length ≤ cap) :
    toOpt (UdpCoder.decode cap bs) = (Rfc7252.parse bs).map fun m => (m, bs.length) :=
  decode_eq_ref .udp bs cap hc nofun

/-- Header pre-parse: `ErrShortRead` exactly when the reference says "incomplete", another error exactly
when it says "malformed" (reserved token length, declared length beyond 32 bits), otherwise the same
header length, frame length, code and token. -/
theorem tcp_decodeHeader_eq_ref (bs : Bytes) : headVerdict (TcpCoder.decodeHeader bs) = Rfc8323.parseHead bs := by
  rw [tcp_decodeHeader_eq]; exact tcpHdr_eq_ref bs

/-- Stream decoder: same message and same consumed count (= the declared frame, never the bytes behind it)
as the RFC 8323 reference parser. -/
theorem tcp_decode_eq_ref (bs : Bytes) (cap : Nat) (hc : bs.length ≤ cap) (h32 : bs.length < 4294967296) :
    toOpt (TcpCoder.decode cap bs) = Rfc8323.parse bs :=
  decode_eq_ref .tcp bs cap hc fun _ => h32

/-- Through the pooled API the capacity hypothesis disappears: whatever the capacity of the recycled
message (0 included), the result is the reference parser's. -/
theorem pooled_decode_eq_ref (c : Coder) (cap : Nat) (bs : Bytes) (h32 : bs.length < 4294967296) :
    toOpt (decodeRetry c cap bs).1 =
      match c with
      | .udp => (Rfc7252.parse bs).map fun m => (m, bs.length)
      | .tcp => Rfc8323.parse bs := by
  rw [retry_result_eq c cap bs.length bs (Nat.le_refl _), decode_eq_ref c bs bs.length (Nat.le_refl _) fun _ => h32]
  cases c <;> rfl

/-! ## Accepted ⇒ well-formed ⇒ canonical -/

theorem udp_decode_result_WF (bs : Bytes) (cap : Nat) (m : Msg) (n : Nat) (h : UdpCoder.decode cap bs = .ok (m, n)) :
    WF .udp m = true :=
  decode_WF (c := .udp) h nofun

/-- The canonical re-encoding of an accepted stream message is never longer than the bytes it was decoded
from (delta/length fields have a unique encoding; dropped options only free bytes). -/
theorem tcp_decode_body_le (bs : Bytes) (cap : Nat) (m : Msg) (n : Nat) (h : TcpCoder.decode cap bs = .ok (m, n)) :
    (encBody m).length ≤ bs.length :=
  decode_body_le (c := .tcp) h

theorem tcp_decode_result_WF (bs : Bytes) (cap : Nat) (m : Msg) (n : Nat) (h : TcpCoder.decode cap bs = .ok (m, n))
    (hb : bs.length < tcpBodyLimit) : WF .tcp m = true :=
  decode_WF (c := .tcp) h fun _ => Nat.lt_of_le_of_lt (tcp_decode_body_le bs cap m n h) hb

/-- Whatever a decoder accepts can be re-encoded (`Size` and `Encode` succeed and produce `bs'`), and decoding `bs'`
gives the same message again, consuming all of `bs'`; for either coder. -/
theorem decode_canonical (c : Coder) (bs : Bytes) (cap : Nat) (m : Msg) (n : Nat) (h : c.decode cap bs = .ok (m, n))
    (hb : c = .tcp → bs.length < tcpBodyLimit) :
    ∃ bs', c.size m = .ok bs'.length ∧
      (∀ buf : Bytes, buf.length = bs'.length → c.encode m buf = .ok ⟨bs'.length, false, bs'⟩) ∧
      c.decode cap bs' = .ok (m, bs'.length) := by
  have hwf := decode_WF h fun hc => Nat.lt_of_le_of_lt (decode_body_le h) (hb hc)
  have hcanon : canon (framingOf c) m = m := by
    cases c with
    | udp => rfl
    | tcp =>
      obtain ⟨f, os, pay, _, hok, _, rfl, _⟩ := decode_ok h
      simp only [canon, framingOf, hok.stream rfl]
  refine ⟨wireOf c m, C01.size_spec c m hwf, fun buf hbl => ?_, ?_⟩
  · rw [C01.encode_spec c m hwf, if_neg (by omega), ← hbl, List.drop_length, List.append_nil]
  · have := C01.decode_encode c m hwf cap (decode_ok_len h)
    rwa [hcanon] at this

theorem udp_decode_canonical (bs : Bytes) (cap : Nat) (m : Msg) (n : Nat) (h : UdpCoder.decode cap bs = .ok (m, n)) :
    ∃ bs', UdpCoder.size m = .ok bs'.length ∧
      (∀ buf : Bytes, buf.length = bs'.length → UdpCoder.encode m buf = .ok ⟨bs'.length, false, bs'⟩) ∧
      UdpCoder.decode cap bs' = .ok (m, bs'.length) :=
  decode_canonical .udp bs cap m n h nofun

theorem tcp_decode_canonical (bs : Bytes) (cap : Nat) (m : Msg) (n : Nat) (h : TcpCoder.decode cap bs = .ok (m, n))
    (hb : bs.length < tcpBodyLimit) :
    ∃ bs', TcpCoder.size m = .ok bs'.length ∧
      (∀ buf : Bytes, buf.length = bs'.length → TcpCoder.encode m buf = .ok ⟨bs'.length, false, bs'⟩) ∧
      TcpCoder.decode cap bs' = .ok (m, bs'.length) :=
  decode_canonical .tcp bs cap m n h fun _ => hb

/-! ## No aliasing of the caller's buffer -/

/-- After `UnmarshalWithDecoder` the message's receive buffer holds a copy of the input (equal contents, a
buffer the message owns), and token, payload and every option value of the decoded message are regions
of THAT buffer.  The caller's buffer does not occur in the resulting state at all. -/
theorem unmarshal_owns (c : Coder) (r r' : PoolMsg) (data : Bytes) (n : Nat)
    (h : unmarshalWithDecoder c r data = .ok (n, r')) :
    r'.bufferUnmarshal = data ∧ ViewsIn r'.bufferUnmarshal r'.msg := by
  obtain ⟨cap', _, he⟩ := unmarshalWithDecoder_eq c r data
  rw [he] at h
  cases hd : c.decode cap' data with
  | error e => rw [hd] at h; cases h
  | ok v =>
    obtain ⟨m, k⟩ := v
    rw [hd] at h
    obtain ⟨_, rfl⟩ := Prod.mk.inj (Except.ok.inj h)
    exact ⟨rfl, decode_views hd⟩

/-! ## Non-vacuity -/

/-- A datagram with a dropped option (If-None-Match with a value), option number 0, and a marker followed
by nothing: accepted leniently by the reference. -/
def exBytes : Bytes := [0x41, 0x01, 0x12, 0x34, 0xAA, 0x01, 0x7A, 0x51, 0x78, 0x61, 0x62, 0xFF]

example : Rfc7252.parse exBytes = some ⟨0, 0x1234, 1, [0xAA], [⟨11, [0x62]⟩], []⟩ := by
  simp [Rfc7252.parse, exBytes, Rfc7252.parseBody, Rfc7252.tokens, Rfc7252.field, Rfc7252.absolute, Rfc7252.lenient,
    lengthLegal, lookup, rfcRegistry]
example : Rfc8323.parseHead [0x09] = .malformed ∧ Rfc8323.parseHead [0xD1] = .incomplete := by decide
example : Rfc8323.parseHead [0x21, 0x45, 0x07, 0xFF, 0x01, 0x99] = .ok ⟨3, 5, 0x45, [0x07]⟩ := by decide
example : ∃ cap', decodeRetry .udp 0 exBytes = (Coder.decode .udp cap' exBytes, cap') := by
  obtain ⟨c, _, h, _⟩ := retry_resolves .udp 0 exBytes; exact ⟨c, h⟩

end CoapVerif.Props.C02

section Audit
open CoapVerif.Props.C02
#print axioms udp_decode_no_panic
#print axioms tcp_decodeHeader_no_panic
#print axioms tcp_decode_no_panic
#print axioms options_unmarshal_no_panic
#print axioms retry_shape
#print axioms retry_measure
#print axioms retry_resolves
#print axioms retry_result_eq
#print axioms exec_twin_eq
#print axioms pool_unmarshal_total
#print axioms udp_decode_eq_ref
#print axioms tcp_decodeHeader_eq_ref
#print axioms tcp_decode_eq_ref
#print axioms pooled_decode_eq_ref
#print axioms udp_decode_result_WF
#print axioms tcp_decode_body_le
#print axioms tcp_decode_result_WF
#print axioms decode_canonical
#print axioms udp_decode_canonical
#print axioms tcp_decode_canonical
#print axioms unmarshal_owns
end Audit
