import CoapVerif.Go.Basic
import CoapVerif.Model.BlockOptWire
import CoapVerif.Spec.Wire
import CoapVerif.Props.C19
import CoapVerif.Props.C01
import CoapVerif.Lemmas.Uint32Bytes
import CoapVerif.Lemmas.BigEndian
/-!
# C19 (glue) — the block option as messages carry it

`Props/C19.lean` proves that `EncodeBlockOption` / `DecodeBlockOption` are the RFC 7959 §2.2 mapping on `uint32`
values.  A block message does not carry a `uint32` but an option value of 0–3 bytes: `blockwise.go` stores the value with
`SetOptionUint32` (`message.EncodeUint32`: big-endian, fewest bytes) and reads it back with `GetOptionUint32`
(`message.DecodeUint32`).  The theorems below compose C19's model with the integer codec of the option list (C15's
`Model/OptionValues.lean`) and with the coders of C01: for every triple of the domain the option value has at most three
bytes (what RFC 7959 and the option registry allow), the receiver decodes exactly the triple that was encoded — also
from a zero-padded encoding a foreign peer may send — distinct triples have distinct encodings, everything outside the
domain is refused before any byte is produced, every value of at most three bytes decodes, and the option survives both
coders unchanged.  Nothing is enumerated.
-/
namespace CoapVerif.Props.C19Wire
open CoapVerif CoapVerif.Model.BlockOpt CoapVerif.Model.BlockOptWire CoapVerif.Model.Options
open CoapVerif.Generated.OptionList CoapVerif.Spec.Wire CoapVerif.Lemmas.Uint32Bytes

/-- `DecodeUint32 ∘ EncodeUint32 = id` on every `uint32`. -/
theorem uint32_wire_roundtrip (v : Nat) (h : v < 2 ^ 32) : decodeUint32 (encodeUint32Bytes v) = v := by
  have h1 : v / 65536 = v / 256 / 256 := by rw [Nat.div_div_eq_div_mul]
  have h2 : v / 16777216 = v / 256 / 256 / 256 := by rw [Nat.div_div_eq_div_mul, Nat.div_div_eq_div_mul]
  rcases encodeUint32Bytes_cases v with ⟨h0, e⟩ | ⟨_, hv, e⟩ | ⟨_, hv, e⟩ | ⟨_, hv, e⟩ | ⟨_, e⟩
  all_goals
    rw [e]
    simp only [decodeUint32, List.take, List.foldl, h1, h2]
  · exact h0.symm
  · exact fold_top hv
  · rw [fold_top (show v / 256 < 256 by omega), fold_step]
  · rw [fold_top (show v / 256 / 256 < 256 by omega), fold_step, fold_step]
  · rw [fold_top (show v / 256 / 256 / 256 < 256 by omega), fold_step, fold_step, fold_step]

/-- `EncodeUint32` uses the fewest bytes (RFC 7252 §3.2 "uint": no leading zero bytes, the empty string for 0). -/
theorem uint32_wire_minimal (v : Nat) :
    (encodeUint32Bytes v).length =
      (if v = 0 then 0 else if v < 256 then 1 else if v < 65536 then 2 else if v < 16777216 then 3 else 4) := by
  rcases encodeUint32Bytes_cases v with ⟨h0, e⟩ | ⟨_, h1, e⟩ | ⟨_, h2, e⟩ | ⟨_, h3, e⟩ | ⟨_, e⟩
  · rw [e, if_pos h0]; rfl
  · rw [e, if_neg (by omega), if_pos h1]; rfl
  · rw [e, if_neg (by omega), if_neg (by omega), if_pos h2]; rfl
  · rw [e, if_neg (by omega), if_neg (by omega), if_neg (by omega), if_pos h3]; rfl
  · rw [e, if_neg (by omega), if_neg (by omega), if_neg (by omega), if_neg (by omega)]; rfl

/-- … and the first byte of a non-empty encoding is not zero. -/
theorem uint32_wire_no_leading_zero (v : Nat) (h : v < 2 ^ 32) : (encodeUint32Bytes v).head? ≠ some 0 := by
  rcases encodeUint32Bytes_cases v with ⟨_, e⟩ | ⟨_, _, e⟩ | ⟨_, _, e⟩ | ⟨_, _, e⟩ | ⟨_, e⟩
  · rw [e]; exact (Option.some_ne_none _).symm
  all_goals
    rw [e]
    exact fun hc => ofNat_ne_zero (by omega) (Option.some.inj hc)

/-- A peer may pad the integer with leading zero bytes (RFC 7252 §3.2: "a recipient MUST be prepared to process values
with leading zero bytes"): within the four bytes `DecodeUint32` reads, padding does not change the value. -/
theorem decodeUint32_padded (bs : List UInt8) (h : bs.length ≤ 3) : decodeUint32 (0 :: bs) = decodeUint32 bs := by
  unfold decodeUint32
  rw [List.take_of_length_le (l := bs) (by omega), List.take_of_length_le (l := 0 :: bs) (by simp; omega)]
  exact Lemmas.BigEndian.be_zero_cons bs

theorem decodeUint32_lt_of_len (bs : List UInt8) (h : bs.length ≤ 3) : decodeUint32 bs < 2 ^ 24 := by
  unfold decodeUint32
  rw [List.take_of_length_le (by omega)]
  exact Nat.lt_of_lt_of_le (Lemmas.BigEndian.be_lt bs) (Nat.pow_le_pow_right (by decide) h : 256 ^ bs.length ≤ 256 ^ 3)

/-- What the sender produced is the shortest form of a value below 2^24 that decodes to the triple. -/
theorem toWire_ok {szx : Nat} {num : Int} {more : Bool} {bs : List UInt8} (h : toWire szx num more = .ok bs) :
    ∃ v, bs = encodeUint32Bytes v ∧ v < 2 ^ 24 ∧ decodeBlock v = .ok (szx, num.toNat, more) ∧ 0 ≤ num := by
  unfold toWire at h
  cases he : encodeBlock szx num more with
  | error e => simp [he] at h
  | ok v =>
    simp only [he, Except.ok.injEq] at h
    have hd := C19.decode_encode szx num more v he
    refine ⟨v, h.symm, ?_, hd, ?_⟩
    · refine Nat.lt_of_not_le fun hv => ?_
      obtain ⟨e, he'⟩ := C19.decode_rejects v hv
      rw [hd] at he'; cases he'
    · refine Int.not_lt.mp fun p => ?_
      obtain ⟨e, he'⟩ := C19.encode_rejects szx num more (.inr (.inl p))
      rw [he] at he'; cases he'

/-- Every triple the encoder accepts becomes an option value of at most three bytes (RFC 7959 §2.1: "uint, 0-3"; the
length the option registry — and with it both decoders — admits for Block1/Block2). -/
theorem block_wire_len (szx : Nat) (num : Int) (more : Bool) (bs : List UInt8)
    (h : toWire szx num more = .ok bs) : bs.length ≤ 3 := by
  obtain ⟨v, rfl, hv, _⟩ := toWire_ok h
  rw [uint32_wire_minimal]
  repeat' split
  all_goals omega

/-- The receiver's `DecodeBlockOption(GetOptionUint32(…))` returns exactly the triple the sender encoded. -/
theorem block_wire_roundtrip (szx : Nat) (num : Int) (more : Bool) (bs : List UInt8)
    (h : toWire szx num more = .ok bs) : fromWire bs = .ok (szx, num.toNat, more) := by
  obtain ⟨v, rfl, hv, hd, _⟩ := toWire_ok h
  unfold fromWire
  rw [uint32_wire_roundtrip v (by omega), hd]

/-- … also when a peer pads the value to three bytes with leading zeros. -/
theorem block_wire_roundtrip_padded (szx : Nat) (num : Int) (more : Bool) (bs : List UInt8)
    (h : toWire szx num more = .ok bs) (hl : bs.length ≤ 2) : fromWire (0 :: bs) = .ok (szx, num.toNat, more) := by
  have := block_wire_roundtrip szx num more bs h
  unfold fromWire at this ⊢
  rw [decodeUint32_padded bs (by omega)]; exact this

/-- Distinct triples have distinct option values. -/
theorem block_wire_injective (s1 s2 : Nat) (n1 n2 : Int) (m1 m2 : Bool) (bs : List UInt8)
    (h1 : toWire s1 n1 m1 = .ok bs) (h2 : toWire s2 n2 m2 = .ok bs) : s1 = s2 ∧ n1 = n2 ∧ m1 = m2 := by
  have a := block_wire_roundtrip s1 n1 m1 bs h1
  have b := block_wire_roundtrip s2 n2 m2 bs h2
  rw [a] at b
  simp only [Except.ok.injEq, Prod.mk.injEq] at b
  obtain ⟨_, _, _, _, p1⟩ := toWire_ok h1
  obtain ⟨_, _, _, _, p2⟩ := toWire_ok h2
  refine ⟨b.1, ?_, b.2.2⟩
  have := b.2.1
  omega

/-- Outside the domain nothing is produced: the refusal happens before any byte is written. -/
theorem block_wire_refused (szx : Nat) (num : Int) (more : Bool)
    (h : 7 < szx ∨ num < 0 ∨ 2 ^ 20 ≤ num) : ∃ e, toWire szx num more = .error e := by
  obtain ⟨e, he⟩ := C19.encode_rejects szx num more h
  exact ⟨e, by unfold toWire; simp [he]⟩

theorem block_wire_total (szx : Nat) (num : Int) (more : Bool) (hs : szx ≤ 7) (h0 : 0 ≤ num) (h1 : num < 2 ^ 20) :
    ∃ bs, toWire szx num more = .ok bs := by
  have := C19.encode_total szx num more hs h0 h1
  refine ⟨encodeUint32Bytes (num.toNat * 16 + (if more then 8 else 0) + szx), ?_⟩
  unfold toWire; rw [this]

/-- Every option value the registry admits for a block option (0–3 bytes) decodes to a triple: the receive path cannot
be made to fail by a well-formed message's block option, whatever its bytes. -/
theorem fromWire_total (bs : List UInt8) (h : bs.length ≤ 3) : ∃ t, fromWire bs = .ok t := by
  have hv := decodeUint32_lt_of_len bs h
  exact ⟨_, C19.decode_total _ hv⟩

/-- The option value of a block message is registry-legal for Block2 (23) and Block1 (27): adding it never takes a
message out of the coders' domain `WF`. -/
theorem block_value_registry_legal (szx : Nat) (num : Int) (more : Bool) (bs : List UInt8)
    (h : toWire szx num more = .ok bs) :
    lengthLegal rfcRegistry 23 bs.length = true ∧ lengthLegal rfcRegistry 27 bs.length = true := by
  have hl := block_wire_len szx num more bs h
  unfold lengthLegal
  have e23 : lookup rfcRegistry 23 = some (0, 3) := by decide
  have e27 : lookup rfcRegistry 27 = some (0, 3) := by decide
  rw [e23, e27]
  simp [hl]

/-- With the datagram coder (C01): the peer decodes a well-formed message that carries the block option to a message that
carries the same option, and `fromWire` of that option's value is the triple that was encoded. -/
theorem block_option_through_datagram (m : Msg) (h : WF .udp m = true) (o : Opt) (ho : o ∈ m.options)
    (szx : Nat) (num : Int) (more : Bool) (hw : toWire szx num more = .ok o.val) (cap : Nat) (hc : m.options.length ≤ cap) :
    ∃ m' n, Model.UdpCoder.decode cap (encUdp m) = .ok (m', n) ∧ o ∈ m'.options ∧
      fromWire o.val = .ok (szx, num.toNat, more) :=
  ⟨_, _, C01.udp_decode_encode m h cap hc, ho, block_wire_roundtrip szx num more o.val hw⟩

/-- … and with the stream coder. -/
theorem block_option_through_stream (m : Msg) (h : WF .tcp m = true) (o : Opt) (ho : o ∈ m.options)
    (szx : Nat) (num : Int) (more : Bool) (hw : toWire szx num more = .ok o.val) (cap : Nat) (hc : m.options.length ≤ cap) :
    ∃ m' n, Model.TcpCoder.decode cap (encTcp m) = .ok (m', n) ∧ o ∈ m'.options ∧
      fromWire o.val = .ok (szx, num.toNat, more) :=
  ⟨_, _, C01.tcp_decode_encode m h cap hc, by simpa [canon] using ho, block_wire_roundtrip szx num more o.val hw⟩

/-! Non-vacuity -/
example : toWire 6 0 false = .ok [6] ∧ fromWire [6] = .ok (6, 0, false) := by decide
example : toWire 0 0 false = .ok [] ∧ fromWire [] = .ok (0, 0, false) := by decide
example : toWire 7 0xFFFFF true = .ok [0xff, 0xff, 0xff] ∧ fromWire [0xff, 0xff, 0xff] = .ok (7, 0xFFFFF, true) := by decide
example : toWire 2 4096 true = .ok [1, 0, 10] ∧ fromWire [0, 0, 6] = .ok (6, 0, false) := by decide
example : toWire 8 0 false = .error .invalidSZX := by decide
example : WF .udp { typ := 0, mid := 7, code := 69, token := [1], options := [⟨23, [1, 0, 10]⟩], payload := [9] } = true := by decide

end CoapVerif.Props.C19Wire

section Audit
open CoapVerif.Props.C19Wire
#print axioms uint32_wire_roundtrip
#print axioms uint32_wire_minimal
#print axioms uint32_wire_no_leading_zero
#print axioms decodeUint32_padded
#print axioms decodeUint32_lt_of_len
#print axioms toWire_ok
#print axioms block_wire_len
#print axioms block_wire_roundtrip
#print axioms block_wire_roundtrip_padded
#print axioms block_wire_injective
#print axioms block_wire_refused
#print axioms block_wire_total
#print axioms fromWire_total
#print axioms block_value_registry_legal
#print axioms block_option_through_datagram
#print axioms block_option_through_stream
end Audit
