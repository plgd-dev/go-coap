import CoapVerif.Go.Basic
import CoapVerif.Model.Router
import CoapVerif.Model.RouterWireOpts
import CoapVerif.Spec.Router
import CoapVerif.Spec.RouterWireOpts
import CoapVerif.Props.C17
/-!
# C17 — the path the router is handed is the path on the wire, whatever other options the request carries

Statement (properties.jsonl, C17): "For every set of registered patterns and every request path, dispatch invokes exactly one
handler: a registered one whose pattern matches the entire path and for which no other matching pattern is longer, or the default
handler exactly when nothing matches. …"  Anchored mechanism "path reconstruction from Uri-Path options".

`Props/C17.lean` (`wire_dispatch_spec`) starts from the list of Uri-Path values.  On the wire an option is a (delta, value) pair and
"Uri-Path" means "the deltas up to here add up to 11" (RFC 7252 §3.1).  The decoder SKIPS options whose value length is out of
range (an empty Uri-Host, a 4-byte Observe, a non-empty If-None-Match, a 9-byte ETag, a 3-byte Uri-Port …); here: for EVERY
option list whose numbers fit 16 bits and whose Uri-Path values are at most 255 bytes — whatever other options stand in front of,
between or behind the Uri-Path options, kept or skipped — the decoded Uri-Path values are exactly the values of the options whose
deltas add up to 11 (`skipped_options_do_not_move_the_path`), and dispatch is the admissible one for that path
(`wire_options_dispatch_spec`).  This rests on the regenerated fact that the loop of `Options.Unmarshal` takes the COMPUTED number
as the base of the next delta (`option_delta_base_is_the_computed_number`); `decoded_id_as_delta_base_loses_the_path` shows that the
other recognised shape (the ID of the decoded object, 0 after a skipped option) does not have the property.
-/
namespace CoapVerif.Props.C17Wire
open CoapVerif CoapVerif.Model.Router CoapVerif.Generated.RouterLockShape CoapVerif.Lemmas.Router
open CoapVerif.Spec.Router (optionNumbers requestSegments requestPath uriPathNumber)
open CoapVerif.Props.C17 (uri_path_window uri_path_segments_survive_decoding wire_dispatch_spec AdmissibleSpec summary exRouter)

/-- The loop of `message.Options.Unmarshal` takes the number it computed for an option as the base of the next option's delta
    (fact regenerated from message/options.go; shapes other than the two recognised ones fail closed). -/
theorem option_delta_base_is_the_computed_number : optionDeltaBase = .computed := by decide

def keptOpts (opts : List (Nat × Str)) : List (Nat × Str) :=
  opts.filter (fun o => optionKept o.1 (byteLen o.2) && decide (o.1 ≠ 0))

theorem unmarshal_computed_from (ws : List WireOpt) :
    ∀ prev, (∀ o ∈ optionNumbers ws, o.1 + prev ≤ optionIDMax) →
      unmarshalOpts .computed prev ws = some (keptOpts ((optionNumbers ws).map (fun o => (o.1 + prev, o.2)))) := by
  induction ws with
  | nil => intro prev _; rfl
  | cons w rest ih =>
    obtain ⟨d, v⟩ := w
    intro prev h
    have hd : prev + d ≤ optionIDMax := by
      have := h (d, v) (by simp [optionNumbers])
      simp only at this; omega
    have hrest : ∀ o ∈ optionNumbers rest, o.1 + (prev + d) ≤ optionIDMax := by
      intro o ho
      have := h (o.1 + d, o.2) (by
        simp only [optionNumbers, List.mem_cons, List.mem_map]
        exact Or.inr ⟨o, ho, rfl⟩)
      simp only at this; omega
    have hmap : ((optionNumbers rest).map (fun o => (o.1 + d, o.2))).map (fun o => (o.1 + prev, o.2)) =
        (optionNumbers rest).map (fun o => (o.1 + (prev + d), o.2)) := by
      rw [List.map_map]
      apply List.map_congr_left
      intro o _
      simp only [Function.comp, Prod.mk.injEq, and_true]
      omega
    simp only [unmarshalOpts, ih (prev + d) hrest, optionNumbers, List.map_cons, hmap, keptOpts, List.filter_cons,
      Nat.add_comm d prev]
    rw [if_neg (by omega)]
    generalize prev + d = n
    by_cases hk : optionKept n (byteLen v) = true <;> by_cases h0 : n = 0 <;> simp [hk, h0]

/-- **The decoder reconstructs the option numbers of RFC 7252 §3.1, skipped options included.**  For every option list whose
    numbers fit an OptionID: decoding succeeds and yields the options numbered by the sum of the deltas up to them, minus those
    the decoder skips (value length outside the window of the definition; number 0) — a skipped option still counts towards the
    numbers of the options behind it. -/
theorem decoder_numbers_options_by_delta_sums (ws : List WireOpt) (h : ∀ o ∈ optionNumbers ws, o.1 ≤ 65535) :
    unmarshalOpts optionDeltaBase 0 ws = some (keptOpts (optionNumbers ws)) := by
  rw [option_delta_base_is_the_computed_number, unmarshal_computed_from ws 0 (by simpa [optionIDMax] using h)]
  simp

/-- The Uri-Path values `Options.Path()` joins are the values of the options whose
    deltas add up to 11, all of them and in their order — whatever other options the request carries, in front of, between or
    behind them, and whether the decoder keeps or skips those. -/
theorem skipped_options_do_not_move_the_path (ws : List WireOpt) (h : ∀ o ∈ optionNumbers ws, o.1 ≤ 65535)
    (hlegal : ∀ s ∈ requestSegments ws, byteLen s ≤ 255) :
    (unmarshalOpts optionDeltaBase 0 ws).map uriPathValues = some (requestSegments ws) := by
  -- the regenerated option ID of Uri-Path is the RFC's number
  have hid : uriPathOptionID = uriPathNumber := rfl
  rw [decoder_numbers_options_by_delta_sums ws h]
  simp only [Option.map_some, Option.some.injEq, uriPathValues, requestSegments, keptOpts, List.filter_filter, hid]
  congr 1
  apply List.filter_congr
  intro ⟨n, v⟩ ho
  by_cases h11 : n = uriPathNumber
  · subst h11
    have hs : byteLen v ≤ 255 := hlegal v (by
      simp only [requestSegments, List.mem_map, List.mem_filter]
      exact ⟨_, ⟨ho, by simp⟩, rfl⟩)
    have hk : optionKept uriPathNumber (byteLen v) = true := by
      rw [← hid, uri_path_window]; exact decide_eq_true hs
    have h0 : uriPathNumber ≠ 0 := by decide
    simp only [hk, h0, decide_true, Bool.and_self, ne_eq, not_false_eq_true]
  · simp [h11]

/-- the same message as `Router.wireServe` sees it: only its Uri-Path values matter -/
theorem wire_options_serve_eq_wireServe (r : Router) (order : List (Str × Route)) (code : Nat) (ws : List WireOpt)
    (h : ∀ o ∈ optionNumbers ws, o.1 ≤ 65535) (hlegal : ∀ s ∈ requestSegments ws, byteLen s ≤ 255) :
    r.wireOptsServe order code ws = r.wireServe order code (requestSegments ws) := by
  have hp := skipped_options_do_not_move_the_path ws h hlegal
  simp only [Router.wireOptsServe, Router.wireServe]
  cases hu : unmarshalOpts optionDeltaBase 0 ws with
  | none => rw [hu] at hp; simp at hp
  | some opts =>
    rw [hu] at hp
    simp only [Option.map_some, Option.some.injEq] at hp
    simp only [hp, uri_path_segments_survive_decoding _ hlegal]

/-- A message with any code whose options are ANY list of (delta, value)
    pairs with 16-bit numbers and Uri-Path values of at most 255 bytes, received by a connection that got its handler from
    `options.WithMux(router)`: exactly one outcome, the admissible one for the path made of the values of the options numbered 11
    by the RFC's delta sums. -/
theorem wire_options_dispatch_spec (r : Router) (hwf : WF r) (order : List (Str × Route)) (hperm : order.Perm r.z)
    (code : Nat) (ws : List WireOpt) (h : ∀ o ∈ optionNumbers ws, o.1 ≤ 65535)
    (hlegal : ∀ s ∈ requestSegments ws, byteLen s ≤ 255) :
    AdmissibleSpec r.middlewares r.defaultHandler r.z (filterPath ((requestPath (requestSegments ws)).getD []))
      (r.wireOptsServe order code ws) := by
  rw [wire_options_serve_eq_wireServe r order code ws h hlegal]
  exact wire_dispatch_spec r hwf order hperm code _ hlegal

/-- the shape `prev = option.ID` does NOT have the property: an empty Uri-Host (number 3, skipped) in front of `/a/b` (deltas 8, 0)
    and the decoder numbers the two path options 8 (Location-Path): no Uri-Path value is left -/
theorem decoded_id_as_delta_base_loses_the_path :
    (unmarshalOpts .decoded 0 [(3, []), (8, ['a']), (0, ['b'])]).map uriPathValues = some [] ∧
    requestSegments [(3, []), (8, ['a']), (0, ['b'])] = [['a'], ['b']] := by decide

/-- non-vacuity: an empty Uri-Host, a 4-byte Observe, then `/a/b`, then a 3-byte Content-Format: the path is `/a/b` -/
example : (unmarshalOpts optionDeltaBase 0 [(3, []), (3, ['1', '2', '3', '4']), (5, ['a']), (0, ['b']), (1, ['x', 'y', 'z'])]).map uriPathValues =
    some [['a'], ['b']] := by rfl
example : summary (exRouter.wireOptsServe exRouter.z 1 [(3, []), (8, ['a']), (0, ['b'])]) =
    summary (exRouter.wireServe exRouter.z 1 [['a'], ['b']]) := by rfl

end CoapVerif.Props.C17Wire

section Audit
open CoapVerif.Props.C17Wire
#print axioms option_delta_base_is_the_computed_number
#print axioms unmarshal_computed_from
#print axioms decoder_numbers_options_by_delta_sums
#print axioms skipped_options_do_not_move_the_path
#print axioms wire_options_dispatch_spec
#print axioms wire_options_serve_eq_wireServe
#print axioms decoded_id_as_delta_base_loses_the_path
end Audit
