import CoapVerif.Go.Basic
import CoapVerif.Model.Blockwise
import CoapVerif.Model.BlockwiseObserve
import CoapVerif.Lemmas.Blockwise
import CoapVerif.Lemmas.BlockwiseObserve
/-!
# C04 — block-wise NOTIFICATIONS (the Observe branch of the layer, RFC 7959 §2.6)

Statement (properties.jsonl, C04): "… a block-wise exchange that completes hands the receiving application exactly the
bytes the sending application supplied, exactly once and with the message's other options preserved.  Duplicated, stale,
out-of-order or foreign-token blocks never corrupt, truncate or extend a body, and concurrent transfers with different
tokens never mix.  An exchange that cannot complete ends with an error or timeout — never with a partial body presented as
complete, and never by hanging."

Model: `Model/BlockwiseObserve.lean` on top of `Model/Blockwise.lean`: a block of a notification (Observe option,
code ≥ 2.01, a decodable Block2 option: neither its number nor `more` is looked at) makes the layer draw a NEW token — a
parameter here, any value —, store a clone of the
observation's request under it in the sending cache and the reassembly entry under it in the receiving cache (the held
message keeps the ORIGINAL token), and fetch the rest with the request minus Observe under the new token; later blocks
arrive under the new token; on completion both entries of the new key go.  The server side stores nothing for an observe
response (`startSendingSO`).

Theorems: `notification_delivered_in_order` (a, with `run_later`: the induction over the rounds),
`nothing_before_last_block_partial` (b), `notification_entries_end` (c), `unregistered_notification_refused` (d),
`notifications_do_not_mix_partial` (e), `observe_response_not_stored` (sender side).  (b) and (e) are here per step of a fetch;
for arbitrary lists of arrivals they are in `Props/C04ObserveRuns.lean`.
-/
namespace CoapVerif.Props.C04Observe
open CoapVerif CoapVerif.Model.Blockwise CoapVerif.Model.BlockOpt CoapVerif.Generated.BlockwiseXfer
open CoapVerif.Model.BlockwiseObserve CoapVerif.Lemmas.Blockwise CoapVerif.Lemmas.BlockwiseObserve

/-- blocks `j, j+1, …, j+k-1` of `R` (as the sender's `createSendingMessage` cuts them), block `i` arriving at time `t i`
    while `GetToken` would return `fr i` -/
def laterArrivals (R : Msg) (s ms : Nat) (t : Nat → Int) (fr : Nat → Nat) (j k : Nat) : List ArrivalO :=
  (List.range' j k).map (fun i => ArrivalO.msg (t i) (downloadBlock R s ms i) (fr i))

/-- the rounds after the first block, by induction over the number of blocks still to come -/
theorem run_later (app : App) (outside : Outside) (R c : Msg) (vs : Int) (ms : Nat) (t : Nat → Int) (fr : Nat → Nat)
    (hrc : RespCode R.code) (hnobs : isObserveResponse R = false) (htok : R.tok ≠ 0) (hb1 : R.block1 = none)
    (happ : ∀ m, app m = none) :
    ∀ (k j : Nat) (ep : Endpoint) (ent : Entry), ep.szx < 7 → 0 < j → j + k + 1 < 2 ^ 20 →
      (j + k) * sizeN ep.szx < R.body.length → R.body.length ≤ (j + k + 1) * sizeN ep.szx →
      ep.sending R.tok = some ⟨c, vs⟩ → ep.receiving R.tok = some ent → (∀ i, t i ≤ ent.validUntil) →
      ent.msg.body = R.body.take (j * sizeN ep.szx) → ent.msg.etag = R.etag → ent.msg.tok ≠ R.tok →
      (runO app outside ep (laterArrivals R ep.szx ms t fr j (k + 1))).2 =
          [{ ent.msg with body := R.body, block2 := none, size2 := none }] ∧
        (runO app outside ep (laterArrivals R ep.szx ms t fr j (k + 1))).1.sending R.tok = none ∧
        (runO app outside ep (laterArrivals R ep.szx ms t fr j (k + 1))).1.receiving R.tok = none := by
  intro k
  induction k with
  | zero =>
    intro j ep ent hs hj0 hnum hlo hhi hsnd hrcv hlive hheld hetag horig
    have hstep := handleO_later_last ep outside (fr j) (t j) R c vs ent app ms j hs hrc hnobs htok hsnd hrcv (hlive j) hheld
      (Nat.le_of_lt hlo) hetag hnum hj0 hhi horig (happ _)
    rw [show laterArrivals R ep.szx ms t fr j (0 + 1) = [.msg (t j) (downloadBlock R ep.szx ms j) (fr j)] from rfl,
      runO_msg_cons hstep]
    exact ⟨rfl, put_sending _ _ _, put_receiving _ _ _⟩
  | succ k ih =>
    intro j ep ent hs hj0 hnum hlo hhi hsnd hrcv hlive hheld hetag horig
    obtain ⟨hmore, hjle, hnum1, hnum', hlo', hhi'⟩ := later_round_bounds hnum hlo hhi
    have hstep := handleO_later_more ep outside (fr j) (t j) R c vs ent app ms j hs hrc hnobs htok hsnd hrcv (hlive j) hheld
      hjle hetag hnum1 hj0 hmore
    have hrec := ih (j + 1)
      (ep.put R.tok ⟨some ⟨c, vs⟩, some ⟨{ ent.msg with body := R.body.take ((j + 1) * sizeN ep.szx) }, ent.validUntil⟩⟩)
      ⟨{ ent.msg with body := R.body.take ((j + 1) * sizeN ep.szx) }, ent.validUntil⟩ hs (Nat.succ_pos j) hnum' hlo' hhi'
      (put_sending _ _ _) (put_receiving _ _ _) hlive rfl hetag horig
    rw [show laterArrivals R ep.szx ms t fr j (k + 1 + 1) =
        .msg (t j) (downloadBlock R ep.szx ms j) (fr j) :: laterArrivals R ep.szx ms t fr (j + 1) (k + 1) from rfl,
      runO_msg_cons hstep]
    exact hrec

/-- (a) For every notification `N` (any code ≥ 2.01 that is a response, any options —
    an Observe option among them —, any body of `n + 1 ≥ 2` blocks: `n` is the number of the last one; NUM has 20 bits, the
    rounds ask `n + 1 < 2 ^ 20` as for a block with a successor, so `hnum` has one to spare), every non-BERT block size of the
    receiver, every non-empty original token, every non-empty fresh token other than the original one under which nothing live is
    held: when the blocks arrive in order —
    block 0 as the sender's layer cuts it from `N` (the sender stores nothing: `observe_response_not_stored`), blocks
    1 … n as it cuts them from the answer `R` to the follow-up GETs (same body and ETag, token = the fresh token, no
    Observe) — at any times within the transfer timeout, exactly ONE message is handed to the application: `N` itself —
    original token, all of `N`'s options with the Observe option, the exact body — without the block options; and nothing
    is left under the fresh key. -/
theorem notification_delivered_in_order (ep : Endpoint) (outside : Outside) (F : Nat) (N R req : Msg) (app : App)
    (ms n : Nat) (t : Nat → Int) (fr : Nat → Nat)
    (hs : ep.szx < 7) (hrcN : RespCode N.code) (hobs : isObserveResponse N = true) (htokN : N.tok ≠ 0) (hb1N : N.block1 = none)
    (hsent : getSentRequest ep outside N.tok = some req)
    (hfs : live (ep.sending F) (t 0) = none) (hfr : live (ep.receiving F) (t 0) = none)
    (hrcR : RespCode R.code) (hnobs : isObserveResponse R = false) (hb1R : R.block1 = none)
    (hRtok : R.tok = F) (hF0 : F ≠ 0) (hFT : N.tok ≠ F) (hbody : R.body = N.body) (hetag : R.etag = N.etag)
    (hn : 1 ≤ n) (hnum : n + 2 < 2 ^ 20) (hlo : n * sizeN ep.szx < N.body.length) (hhi : N.body.length ≤ (n + 1) * sizeN ep.szx)
    (htime : ∀ i, t i ≤ t 0 + ep.expiration) (happ : ∀ m, app m = none) :
    (runO app outside ep (ArrivalO.msg (t 0) (downloadBlock N ep.szx ms 0) F :: laterArrivals R ep.szx ms t fr 1 n)).2 =
        [{ N with block2 := none, size2 := none }] ∧
      (runO app outside ep (ArrivalO.msg (t 0) (downloadBlock N ep.szx ms 0) F :: laterArrivals R ep.szx ms t fr 1 n)).1.sending F = none ∧
      (runO app outside ep (ArrivalO.msg (t 0) (downloadBlock N ep.szx ms 0) F :: laterArrivals R ep.szx ms t fr 1 n)).1.receiving F = none := by
  obtain ⟨k, rfl⟩ := Nat.exists_eq_add_of_le' hn
  have hmore : sizeN ep.szx < N.body.length := Nat.lt_of_le_of_lt (Nat.le_mul_of_pos_left _ (Nat.succ_pos k)) hlo
  have hfirst := handleO_first ep outside F (t 0) N req app ms hs hrcN hobs htokN hmore hsent hfs hfr
  subst hRtok
  rw [← hbody, ← Nat.add_comm 1 k] at hlo hhi
  rw [← Nat.add_comm 1 k] at hnum
  have hrec := run_later app outside R (cloneFor req R.tok) (t 0 + ep.expiration) ms t fr hrcR hnobs hF0 hb1R happ k 1
    (ep.put R.tok ⟨some ⟨cloneFor req R.tok, t 0 + ep.expiration⟩, some ⟨downloadBlock N ep.szx ms 0, t 0 + ep.expiration⟩⟩)
    ⟨downloadBlock N ep.szx ms 0, t 0 + ep.expiration⟩ hs Nat.one_pos (Nat.lt_of_succ_lt hnum) hlo hhi
    (put_sending _ _ _) (put_receiving _ _ _) htime
    (by show (downloadBlock N ep.szx ms 0).body = _
        rw [downloadBlock_zero_body N ms hs, hbody, Nat.one_mul]; rfl)
    hetag.symm hFT
  rw [runO_msg_cons hfirst]
  have hd : ({ (downloadBlock N ep.szx ms 0) with body := R.body, block2 := none, size2 := none } : Msg) = { N with block2 := none, size2 := none } := by
    rw [hbody]; rfl
  rw [← hd]
  exact hrec

def obsN : Msg := { code := 69, tok := 7, other := [(6, [5]), (12, [42])], body := exBody }
def obsR : Msg := { code := 69, tok := 900, other := [(12, [42])], body := exBody }
def obsReq : Msg := { code := 1, tok := 7, other := [(6, []), (11, [99])] }
def obsOutside : Outside := fun t => if t = 7 then some obsReq else none
def obsEp : Endpoint := { szx := 0, maxSize := 64, expiration := 1000 }

def obsRun := runO (fun _ => none) obsOutside obsEp
  (ArrivalO.msg 0 (downloadBlock obsN 0 64 0) 900 :: laterArrivals obsR 0 64 (fun i => (i : Int)) (fun _ => 901) 1 2)

/-- the hypotheses of (a) are satisfiable and its conclusion is not empty: a 2.05 notification of 40 bytes (three 16-byte
    blocks) with Observe = 5 under token 7, the observation registered in the observation table, fresh token 900 — exactly
    one delivery, of the 40 bytes, under token 7, Observe option kept, block options gone; nothing is left under 900 -/
example : obsRun.2.map (·.tok) = [7] ∧ obsRun.2.map (·.other) = [[(6, [5]), (12, [42])]] ∧ obsRun.2.map (·.body) = [exBody] ∧
    obsRun.2.map (·.block2) = [none] ∧ obsRun.2.map (·.size2) = [none] ∧
    obsRun.1.sending 900 = none ∧ obsRun.1.receiving 900 = none := by decide +kernel

/-- … and the follow-up request the first block triggers is the observation's request without Observe, under the fresh token,
    for block 1 -/
example : (handleO obsEp obsOutside 900 0 (downloadBlock obsN 0 64 0) (fun _ => none)).2.1.reply.map (·.code) = some 1 ∧
    (handleO obsEp obsOutside 900 0 (downloadBlock obsN 0 64 0) (fun _ => none)).2.1.reply.map (·.tok) = some 900 ∧
    (handleO obsEp obsOutside 900 0 (downloadBlock obsN 0 64 0) (fun _ => none)).2.1.reply.map (·.other) = some [(11, [99])] ∧
    (handleO obsEp obsOutside 900 0 (downloadBlock obsN 0 64 0) (fun _ => none)).2.1.reply.map (·.block2) = some (some 24) := by decide +kernel

/-- (d) A block-wise message of the response direction (a notification among them)
    for whose token no request is known — neither in the sending cache nor in the observation table — is refused: 4.08 and
    the error callback, nothing is handed to the application, the caches are untouched and no token is drawn. -/
theorem unregistered_notification_refused (ep : Endpoint) (outside : Outside) (fresh : Nat) (now : Int) (r : Msg) (app : App)
    (blk : Nat) (hs7 : ep.szx ≤ 7) (hrc : RespCode r.code) (htok : r.tok ≠ 0) (hb : r.block2 = some blk)
    (hnone : getSentRequest ep outside r.tok = none) :
    handleO ep outside fresh now r app = (ep, { reply := some (entityIncomplete r.tok), err := true }, false) := by
  have hsn : ep.sending r.tok = none := by
    unfold getSentRequest at hnone
    cases h : ep.sending r.tok with
    | none => rfl
    | some e => rw [h] at hnone; cases hnone
  have hgd := hrc.not_getdelete
  have hb' : r.block .b2 = some blk := hb
  have hpr : ∀ mx, processReceived ep.toCfg ⟨none, ep.receiving r.tok⟩ now none r mx app .b2 =
      { sl := ⟨none, ep.receiving r.tok⟩, w := none, failed := true } := by
    intro mx
    unfold processReceived
    simp only [if_neg htok, if_neg hgd, hb']
    cases decodeBlock blk with
    | error e => rfl
    | ok v => simp
  have hpro : ∀ mx, processReceivedO ep outside fresh now none r mx app .b2 = { ep := ep, w := none, failed := true } := by
    intro mx
    unfold processReceivedO
    simp only [hnone, hpr mx, writeBack, List.any_nil, Bool.and_false, Bool.false_eq_true, if_false, hsn]
    have : ep.put r.tok ⟨ep.sending r.tok, ep.receiving r.tok⟩ = ep := put_slots_id ep r.tok
    rw [hsn] at this
    rw [this]
  unfold handleO
  simp only [if_neg htok, hsn, live]
  rw [handleReceivedO_b2 _ _ _ _ _ _ hs7 hrc, hpro]
  simp [finishReceivedO]

example : (handleO obsEp (fun _ => none) 900 0 (downloadBlock obsN 0 64 0) (fun _ => none)).2.1 =
    { reply := some (entityIncomplete 7), err := true } := by decide +kernel

/-- (c) The entries a block-wise notification makes under the fresh token do not outlive the
    transfer.  Completion: `notification_delivered_in_order` (both slots of the fresh key are empty after the last block).
    Abandoned (a follow-up or a block is lost): the first block stores both entries with the deadline `now + expiration`
    (1); the later blocks keep that deadline (`handleO_later_more`); from then on, for whatever is held under the key —
    (2) `Load` hides both entries once the deadline has passed and (3) the next sweep removes the reassembly entry and,
    with it, the clone of the request (whatever its own deadline); (4) a clone that is left alone (the reassembly entry was
    dropped by an error) goes with the first sweep after its own deadline. -/
theorem notification_entries_end :
    (∀ (ep : Endpoint) (outside : Outside) (F : Nat) (now : Int) (N req : Msg) (app : App) (ms : Nat),
      ep.szx < 7 → RespCode N.code → isObserveResponse N = true → N.tok ≠ 0 → N.block1 = none →
      sizeN ep.szx < N.body.length → getSentRequest ep outside N.tok = some req →
      live (ep.sending F) now = none → live (ep.receiving F) now = none →
      (handleO ep outside F now (downloadBlock N ep.szx ms 0) app).1.sending F = some ⟨cloneFor req F, now + ep.expiration⟩ ∧
      (handleO ep outside F now (downloadBlock N ep.szx ms 0) app).1.receiving F = some ⟨downloadBlock N ep.szx ms 0, now + ep.expiration⟩) ∧
    (∀ (e : Entry) (t : Int), t > e.validUntil → live (some e) t = none) ∧
    (∀ (ep : Endpoint) (t : Int) (F : Nat) (e : Entry), ep.receiving F = some e → t > e.validUntil →
      (sweep ep t).receiving F = none ∧ (sweep ep t).sending F = none) ∧
    (∀ (ep : Endpoint) (t : Int) (F : Nat) (e : Entry), ep.sending F = some e → t > e.validUntil → (sweep ep t).sending F = none) := by
  refine ⟨?_, live_expired, fun ep t F => (sweep_removes ep t F).1, fun ep t F => (sweep_removes ep t F).2⟩
  intro ep outside F now N req app ms hs hrc hobs htok _ hmore hsent hfs hfr
  rw [handleO_first ep outside F now N req app ms hs hrc hobs htok hmore hsent hfs hfr]
  exact ⟨put_sending _ _ _, put_receiving _ _ _⟩

example : (sweep (handleO obsEp obsOutside 900 0 (downloadBlock obsN 0 64 0) (fun _ => none)).1 1001).sending 900 = none ∧
    (sweep (handleO obsEp obsOutside 900 0 (downloadBlock obsN 0 64 0) (fun _ => none)).1 1001).receiving 900 = none ∧
    ((handleO obsEp obsOutside 900 0 (downloadBlock obsN 0 64 0) (fun _ => none)).1.receiving 900).isSome = true := by decide +kernel

/-- (b), step by step.  In every state in which the blocks `0 … j−1` of a notification are held under the fresh key (`j = 0`:
    nothing live is held and the first block arrives), the arrival of block `j` hands NOTHING to the application unless it is
    the last block — the first block and every later non-final block only extend what is held (`handleO_first`,
    `handleO_later_more`); with `notification_delivered_in_order` and `run_later`: in an in-order arrival exactly the last block
    delivers, and what it delivers is the whole body.  ARBITRARY arrivals at the fresh key (duplicates, gaps, stale
    and foreign blocks): `nothing_before_last_block` of `Props/C04ObserveRuns.lean`.  `reassembly_prefix` /
    `no_partial_as_complete` of `Props/C04.lean` do not apply as they stand: their invariant `HeldOK` wants the held message to
    carry the token of its key and equal options on every block, while under the fresh key it carries the ORIGINAL token and
    only the first block has the Observe option. -/
theorem nothing_before_last_block_partial :
    (∀ (ep : Endpoint) (outside : Outside) (F : Nat) (now : Int) (N req : Msg) (app : App) (ms : Nat),
      ep.szx < 7 → RespCode N.code → isObserveResponse N = true → N.tok ≠ 0 → N.block1 = none →
      sizeN ep.szx < N.body.length → getSentRequest ep outside N.tok = some req →
      live (ep.sending F) now = none → live (ep.receiving F) now = none →
      (handleO ep outside F now (downloadBlock N ep.szx ms 0) app).2.1.delivered = []) ∧
    (∀ (ep : Endpoint) (outside : Outside) (fr : Nat) (now : Int) (R c : Msg) (vs : Int) (ent : Entry) (app : App) (ms j : Nat),
      ep.szx < 7 → RespCode R.code → isObserveResponse R = false → R.tok ≠ 0 → R.block1 = none →
      ep.sending R.tok = some ⟨c, vs⟩ → ep.receiving R.tok = some ent → now ≤ ent.validUntil →
      ent.msg.body = R.body.take (j * sizeN ep.szx) → j * sizeN ep.szx ≤ R.body.length → ent.msg.etag = R.etag →
      j + 1 < 2 ^ 20 → 0 < j → (j + 1) * sizeN ep.szx < R.body.length →
      (handleO ep outside fr now (downloadBlock R ep.szx ms j) app).2.1.delivered = [] ∧
      ((handleO ep outside fr now (downloadBlock R ep.szx ms j) app).1.receiving R.tok).map (·.msg.body) =
        some (R.body.take ((j + 1) * sizeN ep.szx))) := by
  constructor
  · intro ep outside F now N req app ms hs hrc hobs htok _ hmore hsent hfs hfr
    rw [handleO_first ep outside F now N req app ms hs hrc hobs htok hmore hsent hfs hfr]
  · intro ep outside fr now R c vs ent app ms j hs hrc hnobs htok _ hsnd hrcv hlive hheld hj hetag hnum hj0 hmore
    rw [handleO_later_more ep outside fr now R c vs ent app ms j hs hrc hnobs htok hsnd hrcv hlive hheld hj hetag hnum hj0 hmore]
    exact ⟨rfl, by rw [put_receiving]; rfl⟩

/-- (e), step by step.  Two block-wise notifications of ONE observation (same original token) are fetched under two different
    fresh tokens `F ≠ F'`.  The frame property of every step of one transfer, in ANY state of the endpoint: the first block of a
    notification fetched under `F` and every later block that arrives under `F` (final or not) leave the two cache slots of
    every other key `F'` and the configuration unchanged; and what such a step does and delivers is determined by the slots of
    `F` (and, for the first block, by the request found for the original token) alone — `handleO_first`, `handleO_later_more`,
    `handleO_later_last` have no other hypotheses.  So whatever position the steps of the other transfer take, the hypotheses
    of the next step of this transfer still hold and it does exactly what it would do alone.  `runO` over an arbitrary
    interleaving of the two arrival sequences: `notifications_do_not_mix` of `Props/C04ObserveRuns.lean`.  The instance below
    runs a lock-step interleaving. -/
theorem notifications_do_not_mix_partial :
    (∀ (ep : Endpoint) (outside : Outside) (F F' : Nat) (now : Int) (N req : Msg) (app : App) (ms : Nat),
      ep.szx < 7 → RespCode N.code → isObserveResponse N = true → N.tok ≠ 0 → N.block1 = none →
      sizeN ep.szx < N.body.length → getSentRequest ep outside N.tok = some req →
      live (ep.sending F) now = none → live (ep.receiving F) now = none → F' ≠ F →
      (handleO ep outside F now (downloadBlock N ep.szx ms 0) app).1.sending F' = ep.sending F' ∧
      (handleO ep outside F now (downloadBlock N ep.szx ms 0) app).1.receiving F' = ep.receiving F' ∧
      (handleO ep outside F now (downloadBlock N ep.szx ms 0) app).1.toCfg = ep.toCfg) ∧
    (∀ (ep : Endpoint) (outside : Outside) (fr F' : Nat) (now : Int) (R c : Msg) (vs : Int) (ent : Entry) (app : App) (ms j : Nat),
      ep.szx < 7 → RespCode R.code → isObserveResponse R = false → R.tok ≠ 0 → R.block1 = none →
      ep.sending R.tok = some ⟨c, vs⟩ → ep.receiving R.tok = some ent → now ≤ ent.validUntil →
      ent.msg.body = R.body.take (j * sizeN ep.szx) → j * sizeN ep.szx ≤ R.body.length → ent.msg.etag = R.etag →
      j + 1 < 2 ^ 20 → 0 < j → ent.msg.tok ≠ R.tok → (∀ m, app m = none) → F' ≠ R.tok →
      (handleO ep outside fr now (downloadBlock R ep.szx ms j) app).1.sending F' = ep.sending F' ∧
      (handleO ep outside fr now (downloadBlock R ep.szx ms j) app).1.receiving F' = ep.receiving F' ∧
      (handleO ep outside fr now (downloadBlock R ep.szx ms j) app).1.toCfg = ep.toCfg) := by
  constructor
  · intro ep outside F F' now N req app ms hs hrc hobs htok _ hmore hsent hfs hfr hne
    rw [handleO_first ep outside F now N req app ms hs hrc hobs htok hmore hsent hfs hfr]
    exact ⟨(put_caches_other ep _ hne).1, (put_caches_other ep _ hne).2, rfl⟩
  · intro ep outside fr F' now R c vs ent app ms j hs hrc hnobs htok _ hsnd hrcv hlive hheld hj hetag hnum hj0 horig happ hne
    by_cases hmore : (j + 1) * sizeN ep.szx < R.body.length
    · rw [handleO_later_more ep outside fr now R c vs ent app ms j hs hrc hnobs htok hsnd hrcv hlive hheld hj hetag hnum hj0 hmore]
      exact ⟨(put_caches_other ep _ hne).1, (put_caches_other ep _ hne).2, rfl⟩
    · rw [handleO_later_last ep outside fr now R c vs ent app ms j hs hrc hnobs htok hsnd hrcv hlive hheld hj hetag hnum hj0
        (by omega) horig (happ _)]
      exact ⟨(put_caches_other ep _ hne).1, (put_caches_other ep _ hne).2, rfl⟩

def obsN2 : Msg := { code := 69, tok := 7, other := [(6, [6]), (12, [42])], body := exRespBody }
def obsR2 : Msg := { code := 69, tok := 901, other := [(12, [42])], body := exRespBody }
def obsRun2 := runO (fun _ => none) obsOutside obsEp
  [.msg 0 (downloadBlock obsN 0 64 0) 900, .msg 1 (downloadBlock obsN2 0 64 0) 901,
   .msg 2 (downloadBlock obsR 0 64 1) 0, .msg 3 (downloadBlock obsR2 0 64 1) 0,
   .msg 4 (downloadBlock obsR 0 64 2) 0, .msg 5 (downloadBlock obsR2 0 64 2) 0]

/-- two notifications of the observation of token 7 (bodies `exBody` and `exRespBody`, Observe 5 and 6), fetched under 900 and
    901 in lock step (N1.0, N2.0, R1.1, R2.1, R1.2, R2.2): two deliveries, each with its own body and Observe value -/
example : obsRun2.2.map (·.body) = [exBody, exRespBody] ∧ obsRun2.2.map (·.other) = [[(6, [5]), (12, [42])], [(6, [6]), (12, [42])]] ∧
    obsRun2.2.map (·.tok) = [7, 7] ∧ obsRun2.1.sending 900 = none ∧ obsRun2.1.receiving 901 = none := by decide +kernel

-- `hms` is unused: whatever `createSendingMessage` cuts, nothing is stored (`startSendingSO_observe`)
set_option linter.unusedVariables false in
/-- Sender side, RFC 7959 §2.6.  A one-way write of an observe response — whatever its
    length — leaves the sender's caches exactly as they were: if it is cut into blocks, only the first block goes out and
    nothing is kept for the continuation (the receiver fetches the rest with GETs under a new token, which the application
    answers from its current resource). -/
theorem observe_response_not_stored (ep : Endpoint) (now : Int) (N : Msg) (hms : ep.szx < 7 ∨ 1024 ≤ ep.maxSize)
    (hobs : isObserveResponse N = true) : (writeMessageO ep now N).1 = ep := by
  unfold writeMessageO
  split
  · rfl
  · split
    · rfl
    · rename_i snd w heq
      have : snd = ep.sending N.tok := startSendingSO_observe hobs heq
      rw [this, put_self]

example : (writeMessageO obsEp 0 obsN).1.sending 7 = none ∧ (writeMessageO obsEp 0 obsN).2 = some (downloadBlock obsN 0 64 0) := by decide +kernel

end CoapVerif.Props.C04Observe

section Audit
open CoapVerif.Props.C04Observe
#print axioms run_later
#print axioms notification_delivered_in_order
#print axioms unregistered_notification_refused
#print axioms notification_entries_end
#print axioms observe_response_not_stored
#print axioms nothing_before_last_block_partial
#print axioms notifications_do_not_mix_partial
end Audit
