import CoapVerif.Model.Ownership
import CoapVerif.Spec.Ownership
/-!
# C12 — A pooled message has one owner at a time   (**partial**)

Statement (properties.jsonl): a message object is never returned to the pool twice without being re-acquired in
between, and it is never recycled while the application legitimately holds it: the content of a response returned
from a request call, of a request inside a handler and of a notification inside a callback stays unchanged until
the application releases it or returns.  The library never reads or writes a message after releasing it, under any
concurrency of requests, handlers, retransmissions and housekeeping.

What is proved here:
* `monitor_iff_spec` — the typestate monitor that is run over the lifecycle traces of the real code accepts a
  trace **iff** the trace satisfies the property as stated declaratively in `Spec/Ownership.lean`
  (no double release; no second hand-out by the pool without a release in between; no release/recycling while any
  of the — counted — application holds is in progress; no hand-out of a released object to the application; no
  read/write by the library of a released object; no write after release): for every trace and every initial
  ownership state with its pending obligations.  So a clean monitor run is exactly the property on that execution,
  and a monitor alarm is never a false alarm with respect to the stated conditions.  `monitor_sound`: from the empty
  state (`Store.init`, nothing seen yet) there are no pending obligations.
* `processReceived_ok` — the library's receive path obeys the discipline for **every** behaviour of the application
  handler built from SetMessage / Swap / release-of-swapped / Hijack; `doHandover_ok` — the response hand-over to a
  waiting request (the receive path with the one handler `[.hijack]`, then the caller's hold and release).  Both are
  path programs, a hand abstraction of the code.
* `midElement_ok`, `midElement_spec`, `midElement_released_once` — the pending confirmable's stored clone
  (`midElement` of udp/client/conn.go: `private.msg` under `private.Mutex`) as a transition system: for **every
  schedule** of release attempts (ACK, RST, response, expiry, write error), retransmissions (`GetMessage`: acquire a
  copy, clone the stored message into it, all under the lock; failing or not) and completions (write + release of
  the copy), interleaved at the granularity of the critical sections, the emitted trace is accepted by the monitor;
  the stored clone is released exactly once iff some release attempt runs.  `midElement_unlocked_clone_rejected`:
  the same system with the clone moved out of the critical section (seeded shape C12-A) has a rejected schedule.

Continued in `Props/C12Paths.lean` (the observation callbacks and the block-wise layer as programs of linear slot
operations, `Model/OwnershipPaths.lean`; the general theorem `linear_ok`), on top of it `Props/C12PrepareWrite.lean`
(`prepareWriteMessage` and the hand-over to the `midElement`) and `Props/C12Stale.lean` (block-wise entries that expired
and were not swept yet), and in `Props/C12Storage.lean` (the storage a decoded message aliases).

What is not proved (hence partial): that the Go code follows exactly these path programs / this transition system on
every schedule — this is observed, not proved: hook h1 records the real acquire/release trace of every scenario the
harness runs and the monitor validates it (evidence key `traces_validated_against_impl`); hook h1 records no reads: reads after release
by the real code are detected only through the poison values that a message carries while it sits in the pool, through
the race harness and, in the tracking-pool scenarios of harness/c12, through the trap body a pooled message carries (its
`Read` / `Seek` log `use n`, which `Driver/C12.lean` parses); in the models `use` is an event of `midElement` and an
operation of every slot program.
-/
namespace CoapVerif.Props.C12
open CoapVerif CoapVerif.Model.Ownership
open CoapVerif.Spec.Ownership (Ev okAfterRel okAfterAcq okWhileHeld specOK)

/-- What the spec asks of the rest of the trace at the event `e` itself (the clause that starts at `e`). -/
def headOK : Ev → List Ev → Bool
  | .rel o, r => okAfterRel o r
  | .acq o, r => okAfterAcq o r
  | .hold o, r => okWhileHeld o 0 r
  | .poisonBad _, _ => false
  | _, _ => true

theorem specOK_cons (e : Ev) (es : List Ev) : specOK (e :: es) = (headOK e es && specOK es) := by
  cases e <;> simp [specOK, headOK]

/-- The obligation a past `acq o` still puts on the rest of the trace. -/
def acqObl (o : Nat) (out : Bool) (es : List Ev) : Bool := if out then okAfterAcq o es else true

/-- The obligations the typestate `t` of object `o` puts on the rest of the trace -/
def obl (o : Nat) : TS → List Ev → Bool
  | .free, es => okAfterRel o es
  | .held out, es => acqObl o out es
  | .app out n, es => okWhileHeld o n es && acqObl o out es

def Pending (m : Store) (es : List Ev) : Prop := ∀ o, obl o (m o) es = true

theorem set_same (m : Store) (o : Nat) (t : TS) : (m.set o t) o = t := by simp [Store.set]
theorem set_other (m : Store) (o x : Nat) (t : TS) (h : x ≠ o) : (m.set o t) x = m x := by simp [Store.set, h]

theorem set_self (m : Store) (o : Nat) : m.set o (m o) = m := by
  funext x; simp only [Store.set]; split
  · rename_i h; rw [h]
  · rfl

theorem set_set (m : Store) (o : Nat) (a b : TS) : (m.set o a).set o b = m.set o b := by
  funext x; simp only [Store.set]; split <;> rfl

theorem okWhileHeld_mono1 (o : Nat) (es : List Ev) : ∀ d, okWhileHeld o (d + 1) es = true → okWhileHeld o d es = true := by
  induction es with
  | nil => intro d _; rfl
  | cons e es ih =>
    intro d h
    cases e with
    | hold o' =>
      simp only [okWhileHeld] at h ⊢
      by_cases ho : o' = o <;> simp only [ho, if_true, if_false] at h ⊢ <;> exact ih _ h
    | unhold o' =>
      simp only [okWhileHeld] at h ⊢
      by_cases ho : o' = o
      · simp only [ho, if_true] at h ⊢
        cases d with
        | zero => rfl
        | succ d' => exact ih _ h
      · simp only [ho, if_false] at h ⊢; exact ih _ h
    | rel o' | acq o' =>
      simp only [okWhileHeld] at h ⊢
      by_cases ho : o' = o
      · simp [ho] at h
      · simp only [ho, if_false] at h ⊢; exact ih _ h
    | poisonBad o' | use o' => simp only [okWhileHeld] at h ⊢; exact ih _ h

/-- The deepest pending scan implies the others; depth 0 is the clause `headOK` asks for at a new `hold`. -/
theorem okWhileHeld_zero (o : Nat) (es : List Ev) : ∀ d, okWhileHeld o d es = true → okWhileHeld o 0 es = true := by
  intro d
  induction d with
  | zero => exact id
  | succ d ih => exact fun h => ih (okWhileHeld_mono1 o es d h)

section Table
/- Each case of the two tables below is the evaluation of the scans at one event. -/
attribute [local simp] stepTS headOK obl acqObl okAfterRel okAfterAcq okWhileHeld objOf

theorem obl_other (x : Nat) (t : TS) (e : Ev) (es : List Ev) (h : objOf e ≠ x) : obl x t (e :: es) = obl x t es := by
  cases e <;> cases t <;> simp only [objOf] at h <;> simp [h]

/-- The event × typestate table of the monitor, read against the spec: the clause starting at the event together with the
    obligations pending on its object amount to the obligations of the new typestate where the monitor accepts the
    step, and are contradictory where it refuses it (`acq` on `app` / `held true`, `rel` on `free` / `app`, `hold` and
    `use` on `free`, `poisonBad`). -/
theorem step_spec (e : Ev) (t : TS) (es : List Ev) :
    (headOK e es = true ∧ obl (objOf e) t (e :: es) = true) ↔
      match stepTS (objOf e) t e with
      | .ok t' => obl (objOf e) t' es = true
      | .error _ => False := by
  cases e <;> cases t
  -- the one entry that is not an evaluation: the scan of the new, deeper hold is the pending one, and implies its own clause
  case hold.app o out n =>
    simp only [stepTS, headOK, obl, acqObl, okWhileHeld, objOf, if_true, Bool.and_eq_true]
    exact ⟨fun h => h.2, fun h => ⟨okWhileHeld_zero o es _ h.1, h⟩⟩
  case acq.held o out | rel.held o out => cases out <;> simp
  case unhold.app o out n => cases n <;> simp
  all_goals simp

end Table

/-- For every trace and every ownership state, the monitor accepts exactly the traces that meet
    the declarative property (given the obligations already pending from the past). -/
theorem monitor_iff_spec (es : List Ev) : ∀ (m : Store), monitor m es = none ↔ (specOK es = true ∧ Pending m es) := by
  induction es with
  | nil => intro m; simp only [monitor, specOK, Pending, true_and]; exact ⟨fun _ o => by cases m o <;> simp [obl, acqObl, okAfterRel, okAfterAcq, okWhileHeld], fun _ => trivial⟩
  | cons e es ih =>
    intro m
    simp only [monitor, stepM, specOK_cons, Bool.and_eq_true]
    have key := step_spec e (m (objOf e)) es
    cases hs : stepTS (objOf e) (m (objOf e)) e with
    | error v =>
      rw [hs] at key
      simp only []
      constructor
      · intro h; cases h
      · intro ⟨⟨hh, _⟩, hp⟩; exact (key.mp ⟨hh, hp (objOf e)⟩).elim
    | ok t' =>
      rw [hs] at key
      simp only []
      rw [ih]
      constructor
      · intro ⟨hsp, hp⟩
        have h1 := key.mpr (by simpa [set_same] using hp (objOf e))
        refine ⟨⟨h1.1, hsp⟩, fun x => ?_⟩
        by_cases hx : x = objOf e
        · rw [hx]; exact h1.2
        · rw [obl_other x _ e es (Ne.symm hx)]
          have := hp x
          rwa [set_other m _ x _ hx] at this
      · intro ⟨⟨hh, hsp⟩, hp⟩
        refine ⟨hsp, fun x => ?_⟩
        by_cases hx : x = objOf e
        · rw [hx, set_same]; exact key.mp ⟨hh, hp (objOf e)⟩
        · rw [set_other m _ x _ hx, ← obl_other x _ e es (Ne.symm hx)]
          exact hp x

/-- From the start of a trace (nothing seen yet): the monitor accepts iff the property holds. -/
theorem monitor_sound (es : List Ev) : monitor Store.init es = none ↔ specOK es = true := by
  rw [monitor_iff_spec]
  exact ⟨fun h => h.1, fun h => ⟨h, fun o => rfl⟩⟩

/-- `t` is the state of an object owned by library or handler code, not held by the application, not in the pool. -/
def Owned (t : TS) : Prop := ∃ out, t = .held out

theorem monitor_cons_ok (m m' : Store) (e : Ev) (es : List Ev) (h : stepM m e = .ok m') :
    monitor m (e :: es) = monitor m' es := by
  simp [monitor, h]

theorem monitor_rel_owned (m : Store) (o : Nat) (es : List Ev) (h : Owned (m o)) :
    monitor m (.rel o :: es) = monitor (m.set o .free) es := by
  obtain ⟨b, hb⟩ := h
  exact monitor_cons_ok _ _ _ _ (by simp [stepM, stepTS, objOf, hb])

theorem monitor_acq_avail (m : Store) (o : Nat) (es : List Ev) (h : m o = .free ∨ m o = .held false) :
    monitor m (.acq o :: es) = monitor (m.set o (.held true)) es := by
  rcases h with h | h <;> exact monitor_cons_ok _ _ _ _ (by simp [stepM, stepTS, objOf, h])

theorem monitor_use_live (m : Store) (o : Nat) (es : List Ev) (h : m o ≠ .free) :
    monitor m (.use o :: es) = monitor m es := by
  have : stepM m (.use o) = .ok m := by
    simp only [stepM, objOf]
    cases hm : m o with
    | free => exact absurd hm h
    | held b => simp only [stepTS]; rw [← hm, set_self]
    | app b n => simp only [stepTS]; rw [← hm, set_self]
  exact monitor_cons_ok _ _ _ _ this

/-- objects the handler brings in (it owns them: they are `held`) -/
def freshOf : List HandlerOp → List Nat
  | [] => []
  | .setMessage f :: r => f :: freshOf r
  | .swap f :: r => f :: freshOf r
  | _ :: r => freshOf r

/-- What the handler does with the objects it can release (the installed response, what Swap handed back, what it brings
    in): it releases some of them, the others are the response installed at the end and what Swap handed back and it
    kept. -/
theorem handler_conserves (ops : List HandlerOp) : ∀ s : PathState, ∃ rs,
    (handlerTrace s ops).2 = rs.map Ev.rel ∧
    (rs ++ (handlerTrace s ops).1.resp :: (handlerTrace s ops).1.swapped).Perm (s.resp :: (s.swapped ++ freshOf ops)) := by
  induction ops with
  | nil => intro s; exact ⟨[], rfl, by simp [handlerTrace, freshOf]⟩
  | cons op ops ih =>
    intro s
    cases op with
    | setMessage f =>
      obtain ⟨rs, e, hp⟩ := ih { s with resp := f }
      exact ⟨s.resp :: rs, congrArg _ e, (hp.trans List.perm_middle.symm).cons _⟩
    | swap f =>
      obtain ⟨rs, e, hp⟩ := ih { s with resp := f, swapped := s.resp :: s.swapped }
      exact ⟨rs, e, hp.trans (List.perm_middle (l₁ := s.resp :: s.swapped)).symm⟩
    | releaseSwapped =>
      obtain ⟨sr, ssw, sh⟩ := s
      cases ssw with
      | nil => exact ih ⟨sr, [], sh⟩
      | cons o rest =>
        obtain ⟨rs, e, hp⟩ := ih ⟨sr, rest, sh⟩
        exact ⟨o :: rs, congrArg _ e, (hp.cons o).trans (List.Perm.swap ..)⟩
    | hijack => exact ih { s with hijacked := true }

theorem monitor_rels (rs : List Nat) : ∀ m : Store, rs.Nodup → (∀ o ∈ rs, Owned (m o)) →
    ∃ m', (∀ tail, monitor m (rs.map Ev.rel ++ tail) = monitor m' tail) ∧ ∀ x, x ∉ rs → m' x = m x := by
  induction rs with
  | nil => intro m _ _; exact ⟨m, fun _ => rfl, fun _ _ => rfl⟩
  | cons o rs ih =>
    intro m hn ho
    have hn := List.nodup_cons.mp hn
    obtain ⟨m', e, hf⟩ := ih (m.set o .free) hn.2 fun x hx => by
      rw [set_other _ _ _ _ (ne_of_mem_of_not_mem hx hn.1)]; exact ho x (List.mem_cons_of_mem _ hx)
    refine ⟨m', fun tail => (monitor_rel_owned m o _ (ho o List.mem_cons_self)).trans (e tail), fun x hx => ?_⟩
    rw [List.mem_cons, not_or] at hx
    rw [hf x hx.2, set_other _ _ _ _ hx.1]

/-- The receive path: `ProcessReceivedMessageWithHandler` on udp and tcp obeys the ownership
    discipline for every sequence of handler operations — given that the objects the handler brings in are its own,
    distinct ones. In particular the request is released at most once and never while the handler runs, and no response
    object is released twice (one that `Swap` handed back and the handler kept is not released at all). -/
theorem processReceived_ok (tcp : Bool) (req resp : Nat) (ops : List HandlerOp)
    (hfresh : (freshOf ops).Nodup) (hreq : req ≠ resp ∧ req ∉ freshOf ops) (hresp : resp ∉ freshOf ops) :
    monitor Store.init (processReceived tcp req resp ops) = none := by
  unfold processReceived
  simp only []
  obtain ⟨rs, et, hp⟩ := handler_conserves ops { resp := resp }
  generalize (handlerTrace { resp := resp } ops).1 = s' at hp ⊢
  -- what the handler releases and the response it leaves installed: distinct objects, none of them the request
  have hn := List.nodup_append.mp (hp.nodup_iff.mpr (List.nodup_cons.mpr ⟨hresp, hfresh⟩))
  have hne : ∀ o, o ∈ rs ++ s'.resp :: s'.swapped → o ≠ req := fun o ho e =>
    (List.mem_cons.mp (hp.mem_iff.mp (e ▸ ho))).elim hreq.1 hreq.2
  have hr := hne _ (List.mem_append_right _ List.mem_cons_self)
  -- `acq resp`, `hold req`: after them every one of these objects is owned
  have hq : (Store.init.set resp (.held true)) req = .held false := by rw [set_other _ _ _ _ hreq.1]; rfl
  have s2 : stepM (Store.init.set resp (.held true)) (.hold req)
      = .ok ((Store.init.set resp (.held true)).set req (.app false 0)) := by
    simp [stepM, stepTS, objOf, hq]
  rw [et, monitor_acq_avail _ _ _ (Or.inr rfl), monitor_cons_ok _ _ _ _ s2]
  have own : ∀ o, o ≠ req → Owned (((Store.init.set resp (.held true)).set req (.app false 0)) o) := fun o ho => by
    rw [set_other _ _ _ _ ho]
    by_cases h : o = resp
    · rw [h, set_same]; exact ⟨_, rfl⟩
    · rw [set_other _ _ _ _ h]; exact ⟨_, rfl⟩
  obtain ⟨m', e1, e4⟩ := monitor_rels rs _ hn.1 fun o ho => own o (hne o (List.mem_append_left _ ho))
  have s3 : stepM m' (.unhold req) = .ok (m'.set req (.held false)) := by
    simp [stepM, stepTS, objOf, e4 req fun h => hne req (List.mem_append_left _ h) rfl, set_same]
  rw [e1, monitor_cons_ok _ _ _ _ s3]
  obtain ⟨b, hb⟩ : Owned ((m'.set req (.held false)) s'.resp) := by
    rw [set_other _ _ _ _ hr, e4 _ fun h => hn.2.2 _ h _ List.mem_cons_self rfl]
    exact own _ hr
  cases tcp <;> cases s'.hijacked <;>
    simp [monitor, stepM, stepTS, objOf, set_same, hb, set_other _ _ _ _ hr, set_other _ _ _ _ (Ne.symm hr)]

/-- The response hand-over: the response hijacked by a waiting request call is not released by the
    receive path, is held by the caller and released by it exactly once. -/
theorem doHandover_ok (r resp : Nat) (h : r ≠ resp) : monitor Store.init (doHandover r resp) = none := by
  unfold doHandover processReceived
  simp [handlerTrace, monitor, stepM, stepTS, objOf, Store.init, Store.set, h, Ne.symm h]

/-- What the ownership state knows about a `midElement` whose accesses are all under the lock. -/
structure MidInv (clone : Nat) (s : MidState) (m : Store) : Prop where
  noPtr : s.ptrs = 0
  cl : m clone = if s.stored then .held true else .free
  notCopy : clone ∉ s.copies
  nodup : s.copies.Nodup
  copies : ∀ k ∈ s.copies, m k = .held true
  others : ∀ x, x ≠ clone → x ∉ s.copies → m x = .free ∨ m x = .held false

/-- The steps of the code as it is, by their effect: nothing; the stored clone released; a copy `k` acquired and filled
    from the stored clone, released at once if cloning fails; a copy in flight written and released.  The conjuncts about
    `st ≠ .release` serve the count of `midRun_countRel` only. -/
theorem midStep_locked (clone : Nat) (s : MidState) (st : MidStep) (h : st.underLock = true) :
    (midStep clone s st = (s, []) ∧ (s.stored = true → st ≠ .release)) ∨
    (st = .release ∧ s.stored = true ∧ midStep clone s st = ({ s with stored := false }, [.rel clone])) ∨
    (∃ k, st ≠ .release ∧ (s.stored = true ∧ k ≠ clone ∧ k ∉ s.copies) ∧
      (midStep clone s st = (s, [.acq k, .use clone, .use k, .rel k]) ∨
       midStep clone s st = ({ s with copies := k :: s.copies }, [.acq k, .use clone, .use k]))) ∨
    ∃ k, st ≠ .release ∧ k ∈ s.copies ∧ midStep clone s st = ({ s with copies := s.copies.erase k }, [.use k, .rel k]) := by
  cases st with
  | release =>
    by_cases hs : s.stored = true
    · exact .inr (.inl ⟨rfl, hs, if_pos hs⟩)
    · exact .inl ⟨if_neg hs, fun h => absurd h hs⟩
  | getMessage k fail =>
    by_cases hc : (s.stored && s.poolMayGive clone k) = true
    · refine .inr (.inr (.inl ⟨k, MidStep.noConfusion, ?_, ?_⟩))
      · simp only [MidState.poolMayGive, Bool.and_eq_true, Bool.or_eq_true, bne_iff_ne, ne_eq, Bool.not_eq_true',
          List.contains_eq_mem, decide_eq_false_iff_not] at hc
        exact ⟨hc.1, hc.2.1.resolve_right (ne_false_of_eq_true hc.1), hc.2.2⟩
      · cases fail
        · exact .inr ((if_pos hc).trans (if_neg Bool.false_ne_true))
        · exact .inl ((if_pos hc).trans (if_pos rfl))
    · exact .inl ⟨if_neg hc, fun _ => MidStep.noConfusion⟩
  | finish k =>
    by_cases hk : s.copies.contains k = true
    · exact .inr (.inr (.inr ⟨k, MidStep.noConfusion, by simpa using hk, if_pos hk⟩))
    · exact .inl ⟨if_neg hk, fun _ => MidStep.noConfusion⟩
  | takePtr | cloneUnlocked k => exact absurd h Bool.false_ne_true

theorem midRun_ok (clone : Nat) (sched : List MidStep) : ∀ (s : MidState) (m : Store),
    (∀ st ∈ sched, st.underLock = true) → MidInv clone s m → monitor m (midRun clone s sched) = none := by
  induction sched with
  | nil => intro s m _ _; rfl
  | cons st r ih =>
    intro s m hl inv
    have ih := fun s' m' => ih s' m' fun x hx => hl x (List.mem_cons_of_mem _ hx)
    unfold midRun
    rcases midStep_locked clone s st (hl st List.mem_cons_self) with ⟨h, _⟩ | ⟨_, hs, h⟩ | ⟨k, _, ⟨hs, hkc, hk⟩, h⟩ | ⟨k, _, hk, h⟩
    · rw [h]; exact ih s m inv
    · -- the stored clone goes to the pool
      have hc : m clone = .held true := by rw [inv.cl, if_pos hs]
      rw [h]
      simp only [List.cons_append, List.nil_append]
      rw [monitor_rel_owned m clone _ ⟨true, hc⟩]
      refine ih _ _ { noPtr := inv.noPtr, cl := set_same .., notCopy := inv.notCopy, nodup := inv.nodup,
                      copies := fun x hx => ?_, others := fun x hx hx2 => ?_ }
      · rw [set_other _ _ _ _ (ne_of_mem_of_not_mem hx inv.notCopy)]; exact inv.copies x hx
      · rw [set_other _ _ _ _ hx]; exact inv.others x hx hx2
    · -- a copy `k`, which the pool may give by `others`, is acquired and filled from the stored clone
      have hcl : ∀ t, (m.set k t) clone = if s.stored then .held true else .free := fun t => by
        rw [set_other _ _ _ _ (Ne.symm hkc)]; exact inv.cl
      have hne : ∀ x ∈ s.copies, x ≠ k := fun x hx e => hk (e ▸ hx)
      have run : ∀ tail, monitor m (.acq k :: .use clone :: .use k :: tail) = monitor (m.set k (.held true)) tail := fun _ => by
        rw [monitor_acq_avail m k _ (inv.others k hkc hk), monitor_use_live _ clone _ (by rw [hcl, if_pos hs]; exact TS.noConfusion),
          monitor_use_live _ k _ (by rw [set_same]; exact TS.noConfusion)]
      rcases h with h | h <;> rw [h] <;> simp only [List.cons_append, List.nil_append] <;> rw [run]
      · -- cloning failed: `k` is released at once and is one of the `others` again
        rw [monitor_rel_owned _ k _ ⟨true, set_same ..⟩, set_set]
        refine ih _ _ { noPtr := inv.noPtr, cl := hcl _, notCopy := inv.notCopy, nodup := inv.nodup,
                        copies := fun x hx => ?_, others := fun x hx hx2 => ?_ }
        · rw [set_other _ _ _ _ (hne x hx)]; exact inv.copies x hx
        · by_cases hxk : x = k
          · rw [hxk, set_same]; exact .inl rfl
          · rw [set_other _ _ _ _ hxk]; exact inv.others x hx hx2
      · -- `k` joins the copies in flight
        refine ih _ _ { noPtr := inv.noPtr, cl := hcl _, notCopy := fun hx => ?_, nodup := List.nodup_cons.mpr ⟨hk, inv.nodup⟩,
                        copies := fun x hx => ?_, others := fun x hx hx2 => ?_ }
        · rcases List.mem_cons.mp hx with e | hx
          · exact hkc e.symm
          · exact inv.notCopy hx
        · rcases List.mem_cons.mp hx with e | hx
          · rw [e, set_same]
          · rw [set_other _ _ _ _ (hne x hx)]; exact inv.copies x hx
        · rw [List.mem_cons, not_or] at hx2
          rw [set_other _ _ _ _ hx2.1]; exact inv.others x hx hx2.2
    · -- a copy in flight is written and released: one of the `others` from now on
      have hmk := inv.copies k hk
      rw [h]
      simp only [List.cons_append, List.nil_append]
      rw [monitor_use_live _ k _ (by rw [hmk]; exact TS.noConfusion), monitor_rel_owned _ k _ ⟨true, hmk⟩]
      have hmem := fun x => List.Nodup.mem_erase_iff (a := x) (b := k) inv.nodup
      refine ih _ _ { noPtr := inv.noPtr, cl := ?_, notCopy := fun hx => inv.notCopy (List.mem_of_mem_erase hx),
                      nodup := inv.nodup.erase k, copies := fun x hx => ?_, others := fun x hx hx2 => ?_ }
      · rw [set_other _ _ _ _ (ne_of_mem_of_not_mem hk inv.notCopy).symm]; exact inv.cl
      · rw [set_other _ _ _ _ ((hmem x).mp hx).1]; exact inv.copies x ((hmem x).mp hx).2
      · by_cases hxk : x = k
        · rw [hxk, set_same]; exact .inl rfl
        · rw [set_other _ _ _ _ hxk]; exact inv.others x hx fun hc => hx2 ((hmem x).mpr ⟨hxk, hc⟩)

/-- The pending confirmable: whatever number of release attempts (ACK, RST, response, expiry, write
    error) and retransmissions (`GetMessage` + write + release of the copy) run against one `midElement`, in whatever
    interleaving of their critical sections, the lifecycle trace obeys the ownership discipline: the stored clone is
    not released twice, it is not read by a retransmission after its release, and the same holds of every copy (a copy
    whose `finish` is not scheduled is not released at all). -/
theorem midElement_ok (clone : Nat) (sched : List MidStep) (hl : ∀ st ∈ sched, st.underLock = true) :
    monitor Store.init (midElementTrace clone sched) = none := by
  unfold midElementTrace
  rw [monitor_acq_avail _ _ _ (Or.inr rfl), monitor_use_live _ _ _ (by rw [set_same]; simp)]
  refine midRun_ok clone sched {} _ hl ⟨rfl, by simp [set_same], by simp, by simp, by simp, fun x hx _ => ?_⟩
  rw [set_other _ _ _ _ hx]; exact Or.inr rfl

/-- The same in the words of the declarative property. -/
theorem midElement_spec (clone : Nat) (sched : List MidStep) (hl : ∀ st ∈ sched, st.underLock = true) :
    specOK (midElementTrace clone sched) = true :=
  (monitor_sound _).mp (midElement_ok clone sched hl)

def countRel (o : Nat) : List Ev → Nat
  | [] => 0
  | .rel o' :: r => (if o' = o then 1 else 0) + countRel o r
  | _ :: r => countRel o r

theorem countRel_append (o : Nat) (a b : List Ev) : countRel o (a ++ b) = countRel o a + countRel o b := by
  induction a with
  | nil => simp [countRel]
  | cons e a ih => cases e <;> simp [countRel, ih, Nat.add_assoc]

theorem midRun_countRel (clone : Nat) (sched : List MidStep) : ∀ (s : MidState),
    (∀ st ∈ sched, st.underLock = true) → clone ∉ s.copies →
    countRel clone (midRun clone s sched) = if s.stored = true ∧ MidStep.release ∈ sched then 1 else 0 := by
  induction sched with
  | nil => intro s _ _; simp [midRun, countRel]
  | cons st r ih =>
    intro s hl hc
    have ih := fun s' => ih s' fun x hx => hl x (List.mem_cons_of_mem _ hx)
    unfold midRun
    rw [countRel_append]
    rcases midStep_locked clone s st (hl st List.mem_cons_self) with
      ⟨h, hn⟩ | ⟨hn, hs, h⟩ | ⟨k, hn, ⟨hs, hkc, hk⟩, h | h⟩ | ⟨k, hn, hk, h⟩ <;> rw [h]
    · rw [ih _ hc]
      by_cases hs : s.stored = true
      · simp [countRel, hs, (hn hs).symm]
      · simp [countRel, hs]
    · rw [ih { s with stored := false } hc]; simp [countRel, hs, hn]
    · rw [ih _ hc]; simp [countRel, hkc, hn.symm]
    · rw [ih _ (by simp only [List.mem_cons, not_or]; exact ⟨Ne.symm hkc, hc⟩)]; simp [countRel, hn.symm]
    · rw [ih _ (fun h => hc (List.mem_of_mem_erase h))]; simp [countRel, ne_of_mem_of_not_mem hk hc, hn.symm]

/-- The stored clone goes back to the pool exactly once if any release attempt runs (and not at all otherwise),
    whatever else is scheduled around it. -/
theorem midElement_released_once (clone : Nat) (sched : List MidStep) (hl : ∀ st ∈ sched, st.underLock = true) :
    countRel clone (midElementTrace clone sched) = if MidStep.release ∈ sched then 1 else 0 := by
  unfold midElementTrace
  simp only [countRel]
  rw [midRun_countRel clone sched {} hl (by simp)]
  simp

/-- Negative (seeded shape C12-A): if `GetMessage` only reads the pointer under the lock and clones after
    unlocking, there is a schedule — pointer taken, then an ACK releases the stored clone, then the clone is read — whose
    trace the monitor rejects: a read of a message that sits in the pool. -/
theorem midElement_unlocked_clone_rejected :
    ∃ sched, monitor Store.init (midElementTrace 1 sched) = some (.usedAfterRelease 1) :=
  ⟨[.takePtr, .release, .cloneUnlocked 2], by decide +kernel⟩

/-- … for every object identity, and the declarative property is violated as well. -/
theorem midElement_unlocked_clone_rejected' (clone : Nat) :
    specOK (midElementTrace clone [.takePtr, .release, .cloneUnlocked (clone + 1)]) = false := by
  simp [midElementTrace, midRun, midStep, MidState.poolMayGive, specOK, okAfterRel, okAfterAcq]

/-! Non-vacuity.  Rejected, by the monitor and by the spec: -/
-- the pool hands one object to two owners without a release in between
example : monitor Store.init [.acq 1, .acq 1] = some (.handedOutTwice 1) := by decide +kernel
example : specOK [.acq 1, .acq 1] = false := by decide +kernel
example : monitor Store.init [.rel 1, .acq 1, .acq 1] = some (.handedOutTwice 1) := by decide +kernel
-- nested holds: the first holder is still protected after the second one is done
example : monitor Store.init [.hold 1, .hold 1, .unhold 1, .rel 1, .unhold 1] = some (.releasedWhileAppHolds 1) := by decide +kernel
example : specOK [.hold 1, .hold 1, .unhold 1, .rel 1, .unhold 1] = false := by decide +kernel
-- `midElement`: clone outside the lock → read of a released message (`midElement_unlocked_clone_rejected`); the trace
--    of that schedule, spelled out, and its offending pair on its own:
example : midElementTrace 1 [.takePtr, .release, .cloneUnlocked 2]
    = [.acq 1, .use 1, .rel 1, .acq 2, .use 1, .use 2] := by decide +kernel
example : monitor Store.init [.rel 1, .use 1] = some (.usedAfterRelease 1) := by decide +kernel
example : specOK [.rel 1, .use 1] = false := by decide +kernel
-- a double release; a release while the application holds the message
example : monitor Store.init [.rel 5, .rel 5] = some (.doubleRelease 5) := by decide +kernel
example : specOK [.hold 1, .rel 1, .unhold 1] = false := by decide +kernel

/-! What stays legal: an object that never came out of the pool (`pool.NewMessage`) is held, unheld and released;
    release and re-acquisition alternate; properly nested holds; a normal receive path; a handler that installs its
    own response (3), swaps in another (4), releases what Swap gave back and hijacks the request; a `midElement` with
    two retransmissions, an ACK in between and a late second release attempt. -/
example : monitor Store.init [.hold 1, .unhold 1, .rel 1] = none := by decide +kernel
example : monitor Store.init [.acq 1, .rel 1, .acq 1, .use 1, .rel 1] = none := by decide +kernel
example : monitor Store.init [.hold 1, .hold 1, .unhold 1, .unhold 1, .rel 1] = none := by decide +kernel
example : processReceived false 1 2 [] = [.acq 2, .hold 1, .unhold 1, .rel 2, .rel 1] := by decide +kernel
example : monitor Store.init (processReceived false 1 2 []) = none := by decide +kernel
example : specOK (processReceived true 1 2 []) = true := by decide +kernel
example : monitor Store.init (processReceived false 1 2 [.setMessage 3, .swap 4, .releaseSwapped, .hijack]) = none := by decide +kernel
example : midElementTrace 1 [.getMessage 2 false, .release, .getMessage 3 false, .finish 2, .release, .getMessage 2 true]
    = [.acq 1, .use 1, .acq 2, .use 1, .use 2, .rel 1, .use 2, .rel 2] := by decide +kernel
example : monitor Store.init (midElementTrace 1 [.getMessage 2 false, .release, .getMessage 3 false, .finish 2, .release]) = none := by decide +kernel
example : countRel 1 (midElementTrace 1 [.getMessage 2 false, .release, .finish 2, .release, .release]) = 1 := by decide +kernel

end CoapVerif.Props.C12

section Audit
open CoapVerif.Props.C12
#print axioms specOK_cons
#print axioms set_same
#print axioms set_other
#print axioms set_self
#print axioms set_set
#print axioms okWhileHeld_mono1
#print axioms okWhileHeld_zero
#print axioms obl_other
#print axioms step_spec
#print axioms monitor_iff_spec
#print axioms monitor_sound
#print axioms monitor_cons_ok
#print axioms monitor_rel_owned
#print axioms monitor_acq_avail
#print axioms monitor_use_live
#print axioms handler_conserves
#print axioms monitor_rels
#print axioms processReceived_ok
#print axioms doHandover_ok
#print axioms midStep_locked
#print axioms midRun_ok
#print axioms midElement_ok
#print axioms midElement_spec
#print axioms countRel_append
#print axioms midRun_countRel
#print axioms midElement_released_once
#print axioms midElement_unlocked_clone_rejected
#print axioms midElement_unlocked_clone_rejected'
end Audit
