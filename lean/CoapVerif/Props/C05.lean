import CoapVerif.Lemmas.Dedup
import CoapVerif.Lemmas.DedupLock
/-!
# C05 — datagram duplicates never re-execute a handler (MID de-duplication)

Statement (properties.jsonl): on datagram transports, a confirmable request — or a non-confirmable
request for which a reply was produced — that arrives again with the same message ID from the same
peer before the exchange lifetime (247 s) has elapsed is not handed to the application handler a second
time, even when the copies are processed concurrently.  Each duplicate is instead answered with a reply
of the same code, token, options and payload as the first one (a bare acknowledgement if that is what
the first copy got), matched to the duplicate's message ID.  Once the lifetime has elapsed the ID is
treated as fresh again.

The theorems are about `Model.Dedup.run`: every list of events (arrivals of any type / message ID /
token / handler behaviour / handler duration, sleeps of any length, housekeeping ticks at any time,
application-level separate responses), from any initial value of the endpoint's own message-ID counter.
One arrival is one atomic step there.  That the check–handle–store section of `handleReq` may be treated
as atomic per message ID — the clause "even when the copies are processed concurrently" — is proved in
`Props/C05Lock.lean`, for any number of goroutines over the modelled `MutexMap` and every schedule
(`mutex_per_mid`, `handler_once_per_mid_n`).  The last section here is the coarse two-copy case of that:
a two-goroutine interleaving model of the section (`Model/DedupLock.lean`), whose lock/unlock statements
are present iff the regenerated shape fact `handleReqLockedPerMID` says so, and in which under every
schedule the handler runs at most once (`concurrent_copies_handled_once`);
`Props.C05Lock.two_copies_refine_DedupLock` relates the two models.  That a replayed reply has the options
of the first, although the code caches its encoding and decodes it again, is `Props/C05Opts.lean`.
The store key, the lookup key, the lifetime and whether an empty / reset reply is cached are regenerated
from /repo as well; were the reply stored under its own message ID again (F9), or the 0.00 / Reset reply
left out of the cache again (F28), `store_key_is_request_mid` resp. `empty_reply_is_cached` and
everything below them would stop checking.

There is **no exception for any handler behaviour**: a confirmable request answered with code 0.00 (or Reset)
is in scope like every other confirmable request (`inScope` = the handler ran ∧ (confirmable ∨ a reply was
written)).  "A reply was produced" for a non-confirmable request means: through the response writer.

A trace lists arrivals most recent first: in `post ++ o :: pre`, `pre` are the arrivals before `o`.
-/
namespace CoapVerif.Props.C05
open CoapVerif CoapVerif.Spec.Dedup CoapVerif.Model.Dedup CoapVerif.Lemmas.Dedup

/-- `ExchangeLifetime` in the source is the 247 s of RFC 7252 §4.8.2. -/
theorem lifetime_is_rfc : params.lifetime = lifetimeNs := by decide

/-- `processResponse` stores the reply under the message ID of the *request* (not F9's reply MID). -/
theorem store_key_is_request_mid : params.storeKeyIsRequestMID = true := rfl

/-- `processResponse` caches an empty (0.00) / reset reply like any other (F28 fix). -/
theorem empty_reply_is_cached : params.emptyReplyCached = true := rfl

/-- `checkResponseCache` looks duplicates up under the request's message ID.  No definition of the model reads this flag:
    `recv` looks up under `mid` unconditionally, and this obligation is what holds that choice to the code. -/
theorem lookup_key_is_request_mid : Generated.Dedup.lookupKeyIsRequestMID = true := rfl

/-- `handleReq` holds the per-message-ID mutex around check – handle – store: the fact on which `Model.DedupLock.run` and
    `Model.DedupLockN.cfg` have the lock statements. -/
theorem handleReq_atomic_per_mid : Generated.Dedup.handleReqLockedPerMID = true := rfl

/-- Four regenerated shape facts about the connections the servers create themselves: `dtls/server.createConn` and
    `udp/server.getOrCreateConn` build them with `udp/client`'s default response cache (no replacement cache is handed
    in); the datagram server looks a peer's connection up under the concrete local address before the wildcard-keyed
    one that `Server.NewConn` makes; that local address is copied anew for every datagram.  What follows from them — a
    peer's datagrams keep reaching the connection that holds its replies — is checked on real servers by the harness
    levels `dtlssrv` and `udpsrv`, not proved here. -/
theorem server_made_connections_keep_the_cache :
    Generated.Dedup.dtlsServerConnDefaultCache = true ∧ Generated.Dedup.udpServerConnDefaultCache = true ∧
    Generated.Dedup.udpPeerLookupConcreteFirst = true ∧ Generated.Dedup.udpLocalAddrCopiedPerDatagram = true := by decide

theorem trace_ok (msgID : Nat) (evs : List Ev) : TraceOk lifetimeNs (run msgID evs).trace := by
  have h := inv_runFrom store_key_is_request_mid empty_reply_is_cached evs (init msgID) (inv_init _ _)
  have := h.trace
  rw [lifetime_is_rfc] at this
  exact this

theorem traceOk_split {L : Nat} : ∀ (post : List Obs) (o : Obs) (pre : List Obs),
    TraceOk L (post ++ o :: pre) → DupOk L o pre ∧ FreshOk L o pre
  | [], _, _, h => ⟨h.1, h.2.1⟩
  | _ :: post, o, pre, h => traceOk_split post o pre h.2.2

/-- A request whose message ID was already handled — by a confirmable copy, or by a non-confirmable one
    that got a reply — and whose reply was produced less than a lifetime ago is **not** handed
    to the handler again; whatever happened in between (other traffic, ticks, own messages).  (`trace_ok` has the same for
    exactly a lifetime, where the code still de-duplicates and the specification allows either.) -/
theorem dup_not_rehandled (msgID : Nat) (evs : List Ev) (post pre : List Obs) (o p : Obs)
    (ht : (run msgID evs).trace = post ++ o :: pre) (hp : p ∈ pre) (hmid : p.mid = o.mid)
    (hs : inScope p = true) (hlt : o.t < doneAt p + lifetimeNs) : o.ran = [] := by
  have h := trace_ok msgID evs
  rw [ht] at h
  exact ((traceOk_split post o pre h).1 p hp hmid hs (Nat.le_of_lt hlt)).1

/-- … and it is answered by exactly one datagram: the first reply (piggybacked response, or the bare
    acknowledgement if that is what the first copy got) with the same code, token, options and payload,
    carrying the duplicate's message ID; an acknowledgement if the duplicate is confirmable. -/
theorem dup_reply_equal (msgID : Nat) (evs : List Ev) (post pre : List Obs) (o p : Obs)
    (ht : (run msgID evs).trace = post ++ o :: pre) (hp : p ∈ pre) (hmid : p.mid = o.mid)
    (hs : inScope p = true) (hlt : o.t < doneAt p + lifetimeNs) :
    ∃ r d, reply p = some r ∧ o.sent = [d] ∧ sameContent d r = true ∧ d.mid = o.mid ∧
      (o.typ = .con → d.typ = .ack) := by
  have h := trace_ok msgID evs
  rw [ht] at h
  obtain ⟨_, r, hr, hsent⟩ := (traceOk_split post o pre h).1 p hp hmid hs (Nat.le_of_lt hlt)
  refine ⟨r, _, hr, hsent, ?_, rfl, ?_⟩
  · simp [sameContent]
  · intro hc; simp [hc, dupType]

/-- Once more than a lifetime has passed since every earlier handler execution for this message ID, the
    ID is fresh: the handler runs (exactly once) — with or without housekeeping ticks in between. -/
theorem fresh_after_lifetime (msgID : Nat) (evs : List Ev) (post pre : List Obs) (o : Obs)
    (ht : (run msgID evs).trace = post ++ o :: pre)
    (hall : ∀ p ∈ pre, p.mid = o.mid → p.ran ≠ [] → doneAt p + lifetimeNs < o.t) : ∃ n, o.ran = [n] := by
  have h := trace_ok msgID evs
  rw [ht] at h
  exact (traceOk_split post o pre h).2 hall

/-- A request with a message ID that no earlier request carried is always handed to the handler —
    whatever the endpoint's own counter is and whichever own message IDs its earlier replies, separate
    responses and nested messages used (the cache is keyed by request IDs only). -/
theorem own_mid_no_crosstalk (msgID : Nat) (evs : List Ev) (post pre : List Obs) (o : Obs)
    (ht : (run msgID evs).trace = post ++ o :: pre) (hnew : ∀ p ∈ pre, p.mid ≠ o.mid) : ∃ n, o.ran = [n] :=
  fresh_after_lifetime msgID evs post pre o ht (fun p hp hm => (hnew p hp hm).elim)

theorem check_ok {o : Obs} {pre : List Obs} (hd : DupOk lifetimeNs o pre) (hf : FreshOk lifetimeNs o pre) :
    check o pre = .ok := by
  unfold check
  cases hfind : pre.find? (covers o) with
  | some p =>
    have hp := List.mem_of_find?_eq_some hfind
    have hc := List.find?_some hfind
    simp only [covers, Bool.and_eq_true, beq_iff_eq, decide_eq_true_eq] at hc
    obtain ⟨hran, r, hr, hsent⟩ := hd p hp hc.1.1 hc.1.2 (Nat.le_of_lt hc.2)
    simp only [hran, hr, hsent]
    cases ho : o.typ <;> simp [sameContent, dupType]
  | none =>
    simp only
    by_cases hall : pre.all (clearOf o) = true
    · simp only [hall, if_true]
      have : ∀ p ∈ pre, p.mid = o.mid → p.ran ≠ [] → doneAt p + lifetimeNs < o.t := by
        intro p hp hm hr
        have := List.all_eq_true.mp hall p hp
        simp only [clearOf, Bool.or_eq_true, Bool.not_eq_true', Bool.and_eq_false_iff, beq_eq_false_iff_ne,
          decide_eq_true_eq] at this
        cases this with
        | inl h1 =>
          cases h1 with
          | inl h2 => exact (h2 hm).elim
          | inr h2 =>
            simp at h2
            exact (hr h2).elim
        | inr h1 => exact h1
      obtain ⟨n, hn⟩ := hf this
      simp [hn]
    · simp [hall]

theorem judgeRev_ok : ∀ (tr : List Obs), TraceOk lifetimeNs tr → judgeRev tr = .ok
  | [], _ => rfl
  | o :: pre, h => by
    unfold judgeRev
    rw [judgeRev_ok pre h.2.2]
    exact check_ok h.1 h.2.1

/-- The specification's judge (the one that is run on the implementation's observed histories) accepts
    every history of the model. -/
theorem run_conforms (msgID : Nat) (evs : List Ev) : judge (run msgID evs).trace.reverse = .ok := by
  unfold judge
  rw [List.reverse_reverse]
  exact judgeRev_ok _ (trace_ok msgID evs)

/-- F28: a confirmable request answered with code 0.00, duplicated within the lifetime: handler once, same empty ACK -/
example : ((run 7 [.recv .con 9 [1] .empty 0, .sleep 1000, .recv .con 9 [1] .empty 0]).trace.map
    (fun o => (o.ran, o.sent.map (fun d => (d.typ, d.code, d.mid))))) =
    [([], [(.ack, 0, 9)]), ([1], [(.ack, 0, 9)])] := by decide

/-- a duplicated NON request that got a reply: handler once, second copy answered from the cache.  (The own counter starts
    at `GetMID() − 0xffff/2`, here −32767 ≡ 32769 mod 2¹⁶, so the reply goes out under the own message ID 32770.) -/
example : ((run (initMsgID 0 32767) [.recv .non 5 [1] .pbe 0, .sleep 1000, .recv .non 5 [1] .pbe 0]).trace.map
    (fun o => (o.ran, o.sent.map (fun d => (d.typ, d.code, d.mid))))) =
    [([], [(.non, 132, 5)]), ([1], [(.con, 132, 32770)])] := by decide

/-- a request whose message ID equals the own MID used for an earlier reply is handled, not answered from the cache -/
example : ((run (initMsgID 0 32767) [.recv .non 5 [1] .pbe 0, .recv .con 32770 [2] .pbe 0]).trace.map
    (fun o => (o.mid, o.ran))) = [(32770, [2]), (5, [1])] := by decide

/-- lifetime boundary: at 247 s the copy is still a duplicate, 1 ns later (even without a tick) it is fresh -/
example : ((run 7 [.recv .con 9 [1] .none 0, .sleep 247000000000, .recv .con 9 [1] .none 0, .sleep 1,
    .recv .con 9 [1] .none 0]).trace.map (fun o => (o.t, o.ran))) =
    [(247000000001, [2]), (247000000000, []), (0, [1])] := by decide

/-- the hypotheses of `dup_not_rehandled` are satisfiable: the first arrival is in scope -/
example : inScope ⟨0, 0, .con, 9, [1], .none, [1], [⟨.ack, 0, 9, [], [], []⟩]⟩ = true := by decide

/-! ## copies processed concurrently: the per-message-ID lock section under every interleaving -/

/-- Two goroutines process two copies of one request at the same time, one statement at a time, under **any**
    schedule: the handler has run at most once at every moment, and not at all if an earlier copy had already
    been answered (`cached0`). -/
theorem concurrent_copies_handled_once (cached0 : Bool) (sched : List Bool) :
    (Model.DedupLock.run cached0 sched).runs ≤ 1 ∧ (cached0 = true → (Model.DedupLock.run cached0 sched).runs = 0) :=
  (Lemmas.DedupLock.run_inv cached0 sched).runs_le

/-- … and once both goroutines are through, exactly one of the two copies was handed to the handler (none if the
    request had been answered before); the other one was answered from the cache. -/
theorem concurrent_copies_final (cached0 : Bool) (sched : List Bool)
    (hd : (Model.DedupLock.run cached0 sched).pa = Model.DedupLock.PC.done ∧ (Model.DedupLock.run cached0 sched).pb = Model.DedupLock.PC.done) :
    (Model.DedupLock.run cached0 sched).runs = (if cached0 then 0 else 1) ∧ (Model.DedupLock.run cached0 sched).cached = true :=
  (Lemmas.DedupLock.run_inv cached0 sched).final hd.1

/-- a schedule in which both goroutines finish: A takes the lock, B waits, A handles and stores, B hits the cache -/
example : Model.DedupLock.run false [false, true, false, true, false, false, false, true, true, true, true] =
    ⟨Model.DedupLock.PC.done, Model.DedupLock.PC.done, none, true, 1⟩ := by decide

end CoapVerif.Props.C05

section Audit
open CoapVerif.Props.C05
#print axioms lifetime_is_rfc
#print axioms store_key_is_request_mid
#print axioms empty_reply_is_cached
#print axioms lookup_key_is_request_mid
#print axioms handleReq_atomic_per_mid
#print axioms server_made_connections_keep_the_cache
#print axioms trace_ok
#print axioms traceOk_split
#print axioms dup_not_rehandled
#print axioms dup_reply_equal
#print axioms fresh_after_lifetime
#print axioms own_mid_no_crosstalk
#print axioms check_ok
#print axioms judgeRev_ok
#print axioms run_conforms
#print axioms concurrent_copies_handled_once
#print axioms concurrent_copies_final
end Audit
