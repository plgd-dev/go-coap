import CoapVerif.Model.TokenValue
/-!
# C13 — stored keys are values fixed at registration (second use of a request message)

Statement (properties.jsonl): "… the connection retains nothing for them: … and no observation entries other than
observations that are still live."

Machine: `Model/TokenValue.lean`, where a handle holds the token value it was registered with (`krun`).  Cancellation removes
exactly the entry made at registration, whatever the application writes into its message objects afterwards
(`cancel_removes_exactly_the_registered_entry`), and in every history each entry belongs to a handle that was not cancelled
(`only_live_observations`, from the invariant `KInv`).  `krunAlias` is the negative shape, in which the handle shares the
message's token bytes: there the entry of a cancelled handle stays (`alias_leaks`).
-/
namespace CoapVerif.Props.C13Token
open CoapVerif.Model.TokenValue

def setAll (ws : List (Nat × Nat)) : List KEv := ws.map (fun w => KEv.setToken w.1 w.2)

theorem setTokens_keep_table : ∀ (ws : List (Nat × Nat)) (s : KState),
    krun s (setAll ws) = { s with msgs := (krun s (setAll ws)).msgs }
  | [], _ => rfl
  | w :: ws, s => setTokens_keep_table ws (kstep s (.setToken w.1 w.2))

/-- Cancellation removes exactly the entry registered under the registration-time token, whatever the caller does to its
    messages afterwards.  `s`: any state; the message in `slot` holds a token that is not in use; `ws`: any writes
    `(slot', tok')` - also to the message the observation was registered from. -/
theorem cancel_removes_exactly_the_registered_entry (s : KState) (slot : Nat) (ws : List (Nat × Nat))
    (hfree : s.obs.any (fun e => e.1 == s.msgs slot) = false) :
    (krun s (KEv.observe slot :: setAll ws ++ [KEv.cancel s.nextId])).obs = s.obs ∧
    (kstep s (.observe slot)).obs = (s.msgs slot, s.nextId) :: s.obs := by
  have h1 : (kstep s (.observe slot)).obs = (s.msgs slot, s.nextId) :: s.obs := by simp [kstep, hfree]
  have h2 : (kstep s (.observe slot)).stored s.nextId = some (s.msgs slot) := by simp [kstep, hfree]
  refine ⟨?_, h1⟩
  have e : krun s (KEv.observe slot :: setAll ws ++ [KEv.cancel s.nextId]) =
      kstep (krun (kstep s (.observe slot)) (setAll ws)) (.cancel s.nextId) := by
    simp only [krun, List.foldl_cons, List.foldl_append, List.foldl_nil, List.cons_append]
  rw [e, setTokens_keep_table]
  generalize kstep s (.observe slot) = s1 at h1 h2 ⊢
  simp only [kstep, h2, h1, List.filter_cons, bne_self_eq_false, Bool.false_eq_true, if_false]
  -- no other entry sits under the token
  rw [List.filter_eq_self]
  intro e he
  simpa [bne] using List.any_eq_false.mp hfree e he

/-- The first clause is the claim.  The other two (handles and cancelled ids are below `nextId`) are there so that in `kstep_inv`
    the id of a new handle is neither stored nor cancelled. -/
def KInv (s : KState) : Prop :=
  (∀ e ∈ s.obs, s.stored e.2 = some e.1 ∧ e.2 ∉ s.cancelled) ∧ (∀ o, s.stored o ≠ none → o < s.nextId) ∧
  (∀ c ∈ s.cancelled, c < s.nextId)

theorem kinv_init : KInv {} := ⟨by simp, by simp, by simp⟩

theorem kstep_inv (s : KState) (ev : KEv) (h : KInv s) : KInv (kstep s ev) := by
  obtain ⟨h1, h2, h3⟩ := h
  cases ev with
  | setToken slot tok => exact ⟨h1, h2, h3⟩
  | observe slot =>
    simp only [kstep]
    split
    · exact ⟨h1, fun o ho => Nat.lt_succ_of_lt (h2 o ho), fun c hc => Nat.lt_succ_of_lt (h3 c hc)⟩
    · refine ⟨fun e he => ?_, fun o ho => ?_, fun c hc => Nat.lt_succ_of_lt (h3 c hc)⟩
      · simp only [List.mem_cons] at he
        rcases he with rfl | he
        · exact ⟨by simp, fun hc => Nat.lt_irrefl _ (h3 _ hc)⟩
        · have := h1 e he
          have hlt : e.2 < s.nextId := h2 e.2 (by rw [this.1]; simp)
          exact ⟨by simp [Nat.ne_of_lt hlt, this.1], this.2⟩
      · by_cases c : o = s.nextId
        · subst c; exact Nat.lt_succ_self _
        · simp only [c, if_false] at ho; exact Nat.lt_succ_of_lt (h2 o ho)
  | cancel owner =>
    simp only [kstep]
    cases hs : s.stored owner with
    | none => exact ⟨h1, h2, h3⟩
    | some k =>
      refine ⟨fun e he => ?_, h2, fun c hc => ?_⟩
      · simp only [List.mem_filter, bne_iff_ne, ne_eq] at he
        have := h1 e he.1
        refine ⟨this.1, fun hc => ?_⟩
        simp only [List.mem_cons] at hc
        rcases hc with hc | hc
        · rw [hc, hs] at this; exact he.2 (Option.some.inj this.1).symm
        · exact this.2 hc
      · simp only [List.mem_cons] at hc
        rcases hc with rfl | hc
        · exact h2 _ (by rw [hs]; simp)
        · exact h3 c hc

theorem krun_inv (evs : List KEv) : ∀ s, KInv s → KInv (krun s evs) :=
  fun _ h => List.foldlRecOn evs _ h fun s h e _ => kstep_inv s e h

/-- No observation entries other than live observations, for every history of registrations, cancellations and writes
    into the application's message objects: every entry of the table belongs to a handle that was not cancelled and sits
    under the token value that handle holds. -/
theorem only_live_observations (evs : List KEv) :
    ∀ e ∈ (krun {} evs).obs, (krun {} evs).stored e.2 = some e.1 ∧ e.2 ∉ (krun {} evs).cancelled :=
  (krun_inv evs {} kinv_init).1

theorem cancelled_has_no_entry (evs : List KEv) (o : Nat) (h : o ∈ (krun {} evs).cancelled) :
    ∀ e ∈ (krun {} evs).obs, e.2 ≠ o :=
  fun e he ho => (only_live_observations evs e he).2 (ho ▸ h)

/-- register from message 0 (token 7), write token 9 then 8 into the same message, register again from it, cancel the first:
    the first entry is gone, the second stays -/
example : (krun {} [.setToken 0 7, .observe 0, .setToken 0 9, .setToken 0 8, .observe 0, .cancel 0]).obs = [(8, 1)] := by decide

/-- the aliasing machine: Cancel of the first looks under 8 - it removes the SECOND observation's entry and the first one's
    stays although its handle is cancelled -/
theorem alias_leaks :
    (krunAlias {} [.setToken 0 7, .observe 0, .setToken 0 9, .setToken 0 8, .observe 0, .cancel 0]).obs = [(7, 0)] ∧
    0 ∈ (krunAlias {} [.setToken 0 7, .observe 0, .setToken 0 9, .setToken 0 8, .observe 0, .cancel 0]).cancelled := by decide

/-- … and with a plain request as second use the entry simply stays -/
example : (krunAlias {} [.setToken 0 7, .observe 0, .setToken 0 9, .cancel 0]).obs = [(7, 0)] := by decide
example : (krun {} [.setToken 0 7, .observe 0, .setToken 0 9, .cancel 0]).obs = [] := by decide

end CoapVerif.Props.C13Token

section Audit
open CoapVerif.Props.C13Token
#print axioms setTokens_keep_table
#print axioms cancel_removes_exactly_the_registered_entry
#print axioms kinv_init
#print axioms kstep_inv
#print axioms krun_inv
#print axioms only_live_observations
#print axioms cancelled_has_no_entry
#print axioms alias_leaks
end Audit
