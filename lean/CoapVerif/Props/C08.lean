import CoapVerif.Lemmas.Observe
/-!
# C08 — Observers only ever see a resource move forward in time

Statement (properties.jsonl): for every arrival order of notifications on an observation — reordered,
duplicated, or with the 24-bit sequence number wrapping — the application callback is invoked for a
notification only if it is fresher than the last one delivered according to RFC 7641 §3.4 (or more than
128 s have passed).  Each registration receives notifications for its own token only, registration
succeeds only on a 2.05/2.03 answer, and once cancellation has returned (or registration has failed) no
notification arriving later reaches the callback.

Model: `Model/Observe.lean` (window shifts, timeout, accepted codes regenerated from /repo).  The history
theorems quantify over arbitrary event lists (registrations, arrivals in any order with any sequence
numbers and times, completion/abort of registrations, cancellations), i.e. over every interleaving at the
granularity of `Handler.Handle` / `LoadOrStore` / `LoadAndDelete` calls.
-/
namespace CoapVerif.Props.C08
open CoapVerif CoapVerif.Model.Observe CoapVerif.Generated.Observe CoapVerif.Lemmas.Observe
open CoapVerif.Spec.Observe (judgeSilentF Obs fresh judgeFresh judgeSilent judgeOwnToken)

/-- `validSeq` with the regenerated constants (`windowShiftLt`, `windowShiftGt`, `sequenceTimeoutNs`) written out: the proof
    fails when /repo changes one of them. -/
theorem validSeq_iff (old new : Nat) (last now : Int) :
    validSeq old new (some last) now = true ↔
      (old < new ∧ new - old < 2 ^ 23) ∨ (old > new ∧ old - new > 2 ^ 23) ∨ now - last > 128 * 1000000000 := by
  unfold validSeq windowShiftLt windowShiftGt sequenceTimeoutNs
  simp [or_assoc]

/-- The freshness predicate of the code is the RFC 7641 §3.4 condition, for all values and times. -/
theorem validSeq_eq_rfc (old new : Nat) (last now : Int) :
    validSeq old new (some last) now = fresh old new last now := by
  unfold validSeq fresh windowShiftLt windowShiftGt sequenceTimeoutNs Spec.Observe.window Spec.Observe.maxAgeNs
  -- with the constants written out the two differ only in how the time clause is put
  congr 1
  exact decide_eq_decide.mpr (by omega)

/-- With true (unbounded) resource versions `L` (last delivered) and `N` (incoming) less than 2^23 apart, carried
    modulo 2^24, and no more than 128 s between them: the notification is accepted iff it is really newer —
    also across the wrap of the 24-bit counter. -/
theorem monotone_versions (L N : Nat) (t now : Int) (h1 : N < L + 2 ^ 23) (h2 : L < N + 2 ^ 23)
    (ht : now - t ≤ 128 * 1000000000) :
    validSeq (L % 2 ^ 24) (N % 2 ^ 24) (some t) now = decide (L < N) := by
  rw [Bool.eq_iff_iff, validSeq_iff, decide_eq_true_eq]
  constructor
  · intro h; omega
  · intro h; omega

/-- A duplicate of the last delivered notification (same sequence number) within 128 s is not delivered. -/
theorem no_dup_within_window (v : Nat) (t now : Int) (ht : now - t ≤ 128 * 1000000000) :
    validSeq v v (some t) now = false := by
  rw [Bool.eq_false_iff]
  intro h
  rw [validSeq_iff] at h
  omega

/-- What `id`'s table entry remembers is the last notification (with a sequence number) delivered to `id`, and nothing was
    delivered to an identity not yet issued. -/
def Tracks (s : State) (prev : Option (Nat × Int)) (id : Nat) : Prop :=
  (∀ e ∈ s.table, e.id = id →
      match prev with
      | none => e.st.last = none
      | some (v, t) => e.st.seq = v ∧ e.st.last = some t) ∧
  (s.nextId ≤ id → prev = none)

theorem tracks_remove {s : State} {prev : Option (Nat × Int)} {id : Nat} (h : Tracks s prev id) (tok : Nat)
    (sg : List Sig) : Tracks { s with table := remove s.table tok, sigs := sg } prev id :=
  ⟨fun e he hid => h.1 e (mem_remove.mp he).1 hid, h.2⟩

theorem tracks_update_same {s : State} {prev : Option (Nat × Int)} {id : Nat} {e : Entry}
    (hinv : Inv s) (h : Tracks s prev id) (hmem : e ∈ s.table) (st : ObsState)
    (hst : e.id = id → st.seq = e.st.seq ∧ st.last = e.st.last) (sg : List Sig) :
    Tracks { s with table := update s.table e.tok st, sigs := sg } prev id := by
  refine ⟨fun e' he' hid' => ?_, h.2⟩
  rcases mem_update_of_nodup hinv.toks hmem he' with rfl | ⟨ha, _⟩
  · obtain ⟨hseq, hlast⟩ := hst hid'
    have := h.1 e hmem hid'
    cases prev with
    | none => exact hlast.trans this
    | some p => exact ⟨hseq.trans this.1, hlast.trans this.2⟩
  · exact h.1 e' ha hid'

theorem tracks_update_new {s : State} {id : Nat} {e : Entry}
    (hinv : Inv s) (hmem : e ∈ s.table) (hid : e.id = id) (v : Nat) (now : Int) (w : Bool) (sg : List Sig) :
    Tracks { s with table := update s.table e.tok ⟨v, some now, w⟩, sigs := sg } (some (v, now)) id := by
  refine ⟨fun e' he' hid' => ?_, fun h => absurd (hid ▸ hinv.idLt e hmem) (Nat.not_lt.mpr h)⟩
  rcases mem_update_of_nodup hinv.toks hmem he' with rfl | ⟨ha, hne⟩
  · exact ⟨rfl, rfl⟩
  · exact absurd (Lemmas.KeyedList.eq_of_key_eq Entry.id hinv.ids ha hmem (hid'.trans hid.symm)) hne

/-- `delivered_fresh` from any state that meets the table invariant, `prev` being what was last delivered to `id`. -/
theorem run_fresh (id : Nat) (evs : List Ev) : ∀ (s : State) (prev : Option (Nat × Int)),
    Inv s → Tracks s prev id → judgeFresh id prev (run s evs).2 = true := by
  induction evs with
  | nil => intro s prev _ _; rfl
  | cons ev evs ih =>
    intro s prev hinv htr
    have hinv' := step_inv s ev hinv
    rw [isRun.cons]
    rcases step_cases s ev with ⟨_, c⟩ | ⟨_, c⟩ | @⟨e, _, seq, now, _, sg, c⟩ | ⟨_, c⟩ | ⟨c⟩
    · rw [c.step_eq] at hinv' ⊢
      rw [judgeFresh_skip id prev _ _ rfl]
      exact ih _ prev hinv' ⟨htr.1, fun h => htr.2 (Nat.le_of_succ_le h)⟩
    · rw [c.step_eq] at hinv' ⊢
      rw [judgeFresh_skip id prev _ _ rfl]
      refine ih _ prev hinv' ⟨Lemmas.KeyedList.forall_mem_append_one htr.1 fun hid => ?_, fun h => htr.2 (Nat.le_of_succ_le h)⟩
      -- `id` is issued only now, so nothing was delivered to it
      rw [htr.2 (Nat.le_of_eq hid)]
    · rw [c.step_eq]
      have hinv2 := fun st => inv_update hinv e.tok st sg
      -- the entry when nothing new is recorded (no sequence number, or one that is not fresh): `prev` stays
      have keep := tracks_update_same hinv htr c.mem ⟨e.st.seq, e.st.last, false⟩ (fun _ => ⟨rfl, rfl⟩) sg
      by_cases hid : e.id = id
      · cases seq with
        | none =>
          simp only [wantBeNotified, hid, if_true, List.singleton_append, judgeFresh]
          exact ih _ prev (hinv2 _) keep
        | some v =>
          simp only [wantBeNotified]
          cases hv : validSeq e.st.seq v e.st.last now with
          | true =>
            simp only [if_true, hid, List.singleton_append, judgeFresh]
            have hnew := tracks_update_new hinv c.mem hid v now false sg
            cases prev with
            | none => exact ih _ _ (hinv2 _) hnew
            | some p =>
              obtain ⟨hseq, hlast⟩ := htr.1 e c.mem hid
              dsimp only
              rw [← validSeq_eq_rfc, ← hseq, ← hlast, hv, Bool.true_and]
              exact ih _ _ (hinv2 _) hnew
          | false =>
            simp only [Bool.false_eq_true, if_false, List.nil_append]
            exact ih _ prev (hinv2 _) keep
      · -- a message for another observation: `id`'s entry and stream are unaffected
        rw [judgeFresh_skip id prev _ _ (not_isCb_other hid ..)]
        exact ih _ prev (hinv2 _) (tracks_update_same hinv htr c.mem _ (fun h => absurd h hid) sg)
    · rw [c.step_eq] at hinv' ⊢
      rw [judgeFresh_skip id prev _ _ (not_isCb_of_quiet c.out_quiet id)]
      exact ih _ prev hinv' (tracks_remove htr _ _)
    · rw [c.step_eq] at hinv' ⊢
      rw [judgeFresh_skip id prev _ _ (not_isCb_of_quiet c.out_quiet id)]
      exact ih _ prev hinv' ⟨htr.1, htr.2⟩

/-- From the initial state: every registration's callback stream is fresh, for every history. -/
theorem delivered_fresh (id : Nat) (evs : List Ev) : judgeFresh id none (run {} evs).2 = true :=
  run_fresh id evs {} none inv_init ⟨by simp, fun _ => rfl⟩

/-- In every history, once the entry of registration `id` was removed (`cancelled id`: by `Cancel`, or by the clean-up of a
    failed or not-supported registration) its callback is never invoked again, whatever arrives later.  A registration
    that failed without an entry to remove is the subject of `silent_after_failure`. -/
theorem silent_after_cancel (id : Nat) (evs : List Ev) : judgeSilent id false (run {} evs).2 = true := by
  rw [judgeSilent_eq]
  exact run_silentBy (I := fun s _ => Inv s)
    (fun s ev _ hinv => ⟨step_inv s ev hinv, hinv, fun o _ hm hc => by
      rcases ends_true hm with rfl | ⟨hf, _⟩
      · exact absurd rfl hc
      · exact absurd hf Bool.false_ne_true⟩)
    evs {} false inv_init (fun h => nomatch h)

/-- the calls of a history are consistent when `regDone` / `regAbort` / `cancel` name the token their registration
    was entered with (`toks` = tokens of the `reg` calls so far; the k-th `reg` call gets identity k).  The real API
    cannot produce anything else: these are the continuations of one `NewObservation` call / the `Cancel` method of the
    object it returned. -/
def consistent : List Nat → List Ev → Bool
  | _, [] => true
  | toks, .reg tok :: r => consistent (toks ++ [tok]) r
  | toks, .arrive _ _ _ _ _ :: r => consistent toks r
  | toks, .regDone tok id :: r => (toks[id]? == some tok) && consistent toks r
  | toks, .regAbort tok id :: r => (toks[id]? == some tok) && consistent toks r
  | toks, .cancel tok id :: r => (toks[id]? == some tok) && consistent toks r

/-- every table entry sits under the token its identity registered with -/
def TokOK (s : State) (toks : List Nat) : Prop :=
  toks.length = s.nextId ∧ ∀ e ∈ s.table, toks[e.id]? = some e.tok

theorem tokOK_remove {s : State} {toks : List Nat} (h : TokOK s toks) (tok : Nat) (sg : List Sig) :
    TokOK { s with table := remove s.table tok, sigs := sg } toks :=
  ⟨h.1, fun e he => h.2 e (mem_remove.mp he).1⟩

theorem tokOK_update {s : State} {toks : List Nat} (h : TokOK s toks) (tok : Nat) (st : ObsState) (sg : List Sig) :
    TokOK { s with table := update s.table tok st, sigs := sg } toks :=
  ⟨h.1, forall_update (P := fun i t => toks[i]? = some t) h.2 tok st⟩

/-- a step keeps every entry under the token its identity registered with -/
theorem step_tokOK {s : State} {toks : List Nat} (h : TokOK s toks) (ev : Ev) :
    TokOK (step s ev).1 (match ev with | .reg tok => toks ++ [tok] | _ => toks) := by
  have hold : ∀ e ∈ s.table, ∀ tok, (toks ++ [tok])[e.id]? = some e.tok := fun e he tok => by
    rw [List.getElem?_append_left (List.getElem?_eq_some_iff.mp (h.2 e he)).1]; exact h.2 e he
  rcases step_cases s ev with ⟨tok, c⟩ | ⟨tok, c⟩ | ⟨_, c⟩ | ⟨_, c⟩ | ⟨c⟩
  · rw [c.step_eq, c.ev_eq]
    exact ⟨by simp [h.1], fun e he => hold e he tok⟩
  · rw [c.step_eq, c.ev_eq]
    exact ⟨by simp [h.1], Lemmas.KeyedList.forall_mem_append_one (fun e he => hold e he tok) (by simp [← h.1])⟩
  · rw [c.step_eq, c.ev_eq]
    exact tokOK_update h _ _ _
  · rcases c.ev_eq with rfl | rfl | rfl <;> exact c.step_eq ▸ tokOK_remove h _ _
  · rcases c.ev_eq with ⟨_, _, _, _, _, rfl⟩ | ⟨_, _, rfl⟩ <;> exact c.step_eq ▸ ⟨h.1, h.2⟩

theorem consistent_tail {toks : List Nat} {ev : Ev} {evs : List Ev} : consistent toks (ev :: evs) = true →
    consistent (match ev with | .reg tok => toks ++ [tok] | _ => toks) evs = true := by
  intro h
  cases ev with
  | reg | arrive => exact h
  | _ => exact ((Bool.and_eq_true _ _).mp h).2

/-- The entry of `id`, if it still has one, sits under the token `id` registered with: removing that token leaves `id`
    `Gone`. -/
theorem gone_remove_of_tokOK {s : State} {toks : List Nat} {id tok : Nat} (ht : TokOK s toks) (hc : toks[id]? = some tok)
    (sg : List Sig) : Gone { s with table := remove s.table tok, sigs := sg } id := by
  constructor
  · intro e he hid
    obtain ⟨hm, hne⟩ := mem_remove.mp he
    have := ht.2 e hm
    rw [hid, hc] at this
    exact hne (Option.some.inj this).symm
  · simp only; rw [← ht.1]; exact (List.getElem?_eq_some_iff.mp hc).1

/-- In a consistent history `regErr id` is only reported by a step that leaves `id` out of the table: the refused `reg`
    never entered it, a failing `regDone` / `regAbort` cleans up under `id`'s own token. -/
theorem regErr_gone {s : State} {toks : List Nat} {id : Nat} {ev : Ev} {evs : List Ev} (hinv : Inv s)
    (ht : TokOK s toks) (hc : consistent toks (ev :: evs) = true) (h : Obs.regErr id ∈ (step s ev).2) :
    Gone (step s ev).1 id := by
  rcases step_cases s ev with ⟨_, c⟩ | ⟨_, c⟩ | ⟨_, c⟩ | ⟨tok, c⟩ | ⟨c⟩
  · rw [c.step_eq] at h ⊢
    obtain rfl : id = s.nextId := Obs.regErr.inj (List.mem_singleton.mp h)
    exact ⟨fun e he => Nat.ne_of_lt (hinv.idLt e he), Nat.lt_succ_self _⟩
  · rw [c.step_eq] at h
    exact Obs.noConfusion (List.mem_singleton.mp h)
  · rw [c.step_eq] at h
    split at h
    · exact Obs.noConfusion (List.mem_singleton.mp h)
    · exact absurd h List.not_mem_nil
  · rw [c.step_eq] at h ⊢
    obtain rfl := c.of_regErr id h
    have hc : toks[id]? = some tok := by
      rcases c.ev_eq with rfl | rfl | rfl <;> exact eq_of_beq ((Bool.and_eq_true _ _).mp hc).1
    exact gone_remove_of_tokOK ht hc _
  · rw [c.step_eq] at h
    exact absurd h (c.no_regErr id)

/-- In every history whose calls refer to their own tokens, once the registration call of
    `id` reported an error — token in use, refused by the peer (code other than 2.05/2.03), context ended or
    connection closed while waiting — or its clean-up took effect, its callback is never invoked again. -/
theorem silent_after_failure (id : Nat) (evs : List Ev) (h : consistent [] evs = true) :
    judgeSilentF id false (run {} evs).2 = true := by
  rw [judgeSilentF_eq]
  refine run_silentBy (I := fun s evs => Inv s ∧ ∃ toks, TokOK s toks ∧ consistent toks evs = true) ?_
    evs {} false ⟨inv_init, [], ⟨rfl, by simp⟩, h⟩ (fun h => nomatch h)
  rintro s ev evs ⟨hinv, toks, ht, hc⟩
  refine ⟨⟨step_inv s ev hinv, _, step_tokOK ht ev, consistent_tail hc⟩, hinv, fun o ho hm hne => ?_⟩
  rcases ends_true hm with rfl | ⟨_, rfl⟩
  · exact absurd rfl hne
  · exact regErr_gone hinv ht hc ho

/-- why the consistency hypothesis is needed: a `regDone` that names a foreign token reports the failure of
    registration 0 but cleans up under the wrong key, and the callback of 0 is invoked afterwards (the model's
    `cleanUp` is by token, like the code's; the real API never pairs a call with a foreign token). -/
example : judgeSilentF 0 false (run {} [.reg 7, .arrive 7 132 (some 5) 0 1, .regDone 9 0, .arrive 7 69 (some 6) 1 2]).2 = false := by
  decide
example : consistent [] [.reg 7, .arrive 7 132 (some 5) 0 1, .regDone 9 0, .arrive 7 69 (some 6) 1 2] = false := by decide
/-- the consistent version of that history: registration 0 is refused with 4.04 and stays silent -/
example : (run {} [.reg 7, .arrive 7 132 (some 5) 0 1, .regDone 7 0, .arrive 7 69 (some 6) 1 2]).2
    = [.registered 0 7, .cb 0 7 (some 5) 0 1, .regErr 0, .cancelled 0, .toDefault 7 2] := by decide

theorem run_own_token (evs : List Ev) : ∀ (s : State) (regs : List (Nat × Nat)),
    (∀ e ∈ s.table, (e.id, e.tok) ∈ regs) → judgeOwnToken regs (run s evs).2 = true := by
  induction evs with
  | nil => intro s regs _; rfl
  | cons ev evs ih =>
    intro s regs hr
    rw [isRun.cons]
    rcases step_cases s ev with ⟨_, c⟩ | ⟨_, c⟩ | ⟨e, c⟩ | ⟨_, c⟩ | ⟨c⟩
    · rw [c.step_eq]
      exact ih _ regs hr
    · rw [c.step_eq]
      exact ih _ _ (Lemmas.KeyedList.forall_mem_append_one (fun e he => List.mem_cons_of_mem _ (hr e he))
        List.mem_cons_self)
    · rw [c.step_eq]
      have hr2 := forall_update (P := fun i t => (i, t) ∈ regs) hr e.tok
      split
      · -- the callback invoked is that of the entry under the message's token
        simp only [List.singleton_append, judgeOwnToken]
        rw [List.contains_iff_mem.mpr (hr e c.mem), Bool.true_and]
        exact ih _ regs (hr2 _)
      · exact ih _ regs (hr2 _)
    · rw [c.step_eq, judgeOwnToken_skip regs _ c.out_quiet]
      exact ih _ regs fun e he => hr e (mem_remove.mp he).1
    · rw [c.step_eq, judgeOwnToken_skip regs _ c.out_quiet]
      exact ih _ regs hr

/-- In every history a callback is only ever invoked with messages that carry the token its
    registration was entered with. -/
theorem own_token_only (evs : List Ev) : judgeOwnToken [] (run {} evs).2 = true :=
  run_own_token evs {} [] (by simp)

/-- The registration call reports success iff the first-response signal `g` it takes carries 2.05 or 2.03 (69 and 67 as
    `class * 32 + detail`).  That `g` is what the first message for the registration left: `first_response_decides`. -/
theorem register_only_205_203 (s : State) (tok id : Nat) (g : Sig)
    (h : s.sigs.find? (fun x => x.id == id) = some g) :
    (Obs.regOk id ∈ (step s (.regDone tok id)).2) ↔ (g.code = 69 ∨ g.code = 67) := by
  have hc : okCodes.contains g.code = true ↔ (g.code = 69 ∨ g.code = 67) := by simp [okCodes]
  rw [← hc]
  simp only [step, h]
  -- the branch of a refused code reports `regErr id` (and `cancelled`); the two of an accepted code begin with `regOk id`
  cases okCodes.contains g.code <;> cases g.notSupported <;> cases lookup s.table tok <;> simp

/-- A message handled for a registration produces the signal it waits for iff it is the first one (`waiting`). -/
theorem first_response_decides (s : State) (tok code : Nat) (seq : Option Nat) (now : Int) (tag : Nat) (e : Entry)
    (h : lookup s.table tok = some e) :
    (step s (.arrive tok code seq now tag)).1.sigs =
      (if e.st.waiting then s.sigs ++ [⟨e.id, code, seq.isNone⟩] else s.sigs) := by
  simp [step, h]

/-! Non-vacuity: one observation (token 5) is registered and confirmed by its first notification (seq 10); seq 12 one
    second later is delivered; the late seq 11 and the repeated seq 12 are withheld; a second registration with the same
    token is refused and leaves the first alone; after `Cancel` a further notification goes to the default handler. -/
example : (run {} [.reg 5, .arrive 5 69 (some 10) 0 1, .regDone 5 0, .arrive 5 69 (some 12) 1000000000 2,
      .arrive 5 69 (some 11) 2000000000 3, .arrive 5 69 (some 12) 3000000000 4, .reg 5, .cancel 5 0,
      .arrive 5 69 (some 13) 4000000000 5]).2
    = [.registered 0 5, .cb 0 5 (some 10) 0 1, .regOk 0, .cb 0 5 (some 12) 1000000000 2, .regErr 1, .cancelled 0,
       .toDefault 5 5] := by decide

end CoapVerif.Props.C08

section Audit
open CoapVerif.Props.C08
#print axioms validSeq_iff
#print axioms validSeq_eq_rfc
#print axioms monotone_versions
#print axioms no_dup_within_window
#print axioms tracks_remove
#print axioms tracks_update_same
#print axioms tracks_update_new
#print axioms CoapVerif.Lemmas.Observe.judgeFresh_skip
#print axioms run_fresh
#print axioms delivered_fresh
#print axioms silent_after_cancel
#print axioms tokOK_remove
#print axioms tokOK_update
#print axioms step_tokOK
#print axioms consistent_tail
#print axioms gone_remove_of_tokOK
#print axioms regErr_gone
#print axioms silent_after_failure
#print axioms CoapVerif.Lemmas.Observe.judgeOwnToken_skip
#print axioms run_own_token
#print axioms own_token_only
#print axioms register_only_205_203
#print axioms first_response_decides
end Audit
