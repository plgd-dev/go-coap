import CoapVerif.Model.FramingOpts
import CoapVerif.Lemmas.FramingOpts
import CoapVerif.Spec.FramingOpts
import CoapVerif.Lemmas.FramingSpec
/-!
# C07 — "... delivers exactly the sent messages, each once, **complete** and in order": the options

Statement (properties.jsonl): for every sequence of messages and every way the byte stream is cut into reads (single
bytes, cuts inside headers, several messages in one read), a stream-transport connection delivers exactly the sent
messages, each once, complete and in order.  [...]

`Props/C07.lean` states it for code, token and payload; it imports this file, and its segmentation independence is the one
proved here with the options forgotten.  Here the delivered message carries its option list
(`Model/FramingOpts.lean`: `walkOptsO` = what `Options.Unmarshal` appends, `keeps` = `Option.Unmarshal` does not skip,
`defsFor` = the table `DecodeWithHeader` selects, `procO`/`runO`), and the clause the judge runs
(`Spec/FramingOpts.lean: due` — every option whose number no RFC defines or whose length the defining RFC allows must
be handed over) is proved of the model.

The full statement (in words; it is not stated in Lean): for the ordinary codes, the messages `(runO max cs).out` and
`(Spec.FramingOpts.expectedO max cs.flatten).1` agree one by one in code, token, payload and in their due options
(`opts.filter due`).  Proved here: segmentation independence with the options, `runO_erase` (forgetting the options `runO`
is `run`, so every theorem of `Props/C07.lean` speaks about `runO`), and the per-option-area part
(`runO_due_options_meet_spec_partial` = `walkOptsO_due`); **missing**: the lifting through the frame header (that
`frame.drop h.len` is the area `Spec.FramingOpts.parseFrameO` walks; `Lemmas.FramingSpec.frame_parts` says where it stands)
and through `proc_eq_split`.  The check runs the model and the specification's judge on every generated stream, so a
disagreement there shows as a correspondence / judge failure.
-/
namespace CoapVerif.Props.C07Opts
open CoapVerif CoapVerif.Model.Framing CoapVerif.Model.FramingOpts CoapVerif.Lemmas.Framing CoapVerif.Lemmas.FramingOpts

/-- **Segmentation independence, options included**: for every way of cutting the byte stream into reads, the messages
    delivered — code, token, option list, payload — and the open/closed outcome are those of a single read. -/
theorem runO_chunk_independent (max : Nat) (cs : List Bytes) :
    (runO max cs).obs = (runO max [cs.flatten]).obs := by
  have e : initO = procO max [] [] := by rw [procO_eq]; rfl
  show (cs.foldl (feedO max) initO).obs = (procO max ([] ++ cs.flatten) []).obs
  rw [e]
  exact foldl_feedO_procO max cs [] []

theorem runO_same_stream (max : Nat) (cs ds : List Bytes) (h : cs.flatten = ds.flatten) :
    (runO max cs).obs = (runO max ds).obs := by
  rw [runO_chunk_independent max cs, runO_chunk_independent max ds, h]

/-- Forgetting the options, the run with options is the run of `Props/C07.lean`: `run_delivers_sent`,
    `oversize_closes`, `run_meets_spec` all speak about the messages `runO` delivers. -/
theorem runO_erase (max : Nat) (cs : List Bytes) : (runO max cs).erase = run max cs :=
  (List.foldl_hom StO.erase fun s c => (feedO_erase max s c).symm).symm

/-- every entry of the library's table for ordinary codes has a known format and a length range that contains the
    range of the RFC that defines the number; `hi < 2^32` because `keeps` compares the length as the `uint32` the code casts
    it to (`len % 4294967296`) -/
def tableAdmits (defs : Defs) : Bool :=
  defs.all (fun e =>
    e.2.2.2 ≠ Generated.OptionDefs.fmtUnknown &&
    match Spec.FramingOpts.rfcRange e.1 with
    | some (lo, hi) => e.2.1 ≤ lo && hi ≤ e.2.2.1 && hi < 4294967296
    | none => false)

theorem table_admits_rfc_lengths : tableAdmits Generated.OptionDefs.coapOptionDefs = true := by decide

/-- **Complete**: `Option.Unmarshal` keeps every option that is due, whenever the table admits the RFC lengths. -/
theorem due_kept_of (defs : Defs) (ht : tableAdmits defs = true) (id : Nat) (v : Bytes)
    (hd : Spec.FramingOpts.due (id, v) = true) : keeps defs id v.length = true := by
  unfold Spec.FramingOpts.due at hd
  simp only [Bool.and_eq_true, decide_eq_true_eq] at hd
  obtain ⟨h0, hr⟩ := hd
  unfold keeps
  simp only [Bool.and_eq_true, decide_eq_true_eq]
  refine ⟨h0, ?_⟩
  cases hl : lookup defs id with
  | none => rfl
  | some e =>
    obtain ⟨lo, hi, fmt⟩ := e
    have hm := lookup_mem hl
    unfold tableAdmits at ht
    rw [List.all_eq_true] at ht
    have := ht _ hm
    simp only [Bool.and_eq_true, decide_eq_true_eq] at this
    obtain ⟨hf, hrange⟩ := this
    cases hrr : Spec.FramingOpts.rfcRange id with
    | none => simp [hrr] at hrange
    | some p =>
      obtain ⟨lo', hi'⟩ := p
      simp only [hrr, Bool.and_eq_true, decide_eq_true_eq] at hrange hr
      -- a due length is at most `hi' < 2^32`: the `uint32` cast in `keeps` is the identity; the rest is two `≤` chains
      have hmod : v.length % 4294967296 = v.length := Nat.mod_eq_of_lt (by omega)
      simp only [hmod, Bool.and_eq_true, decide_eq_true_eq]
      exact ⟨⟨hf, by omega⟩, by omega⟩

theorem due_kept (id : Nat) (v : Bytes) (hd : Spec.FramingOpts.due (id, v) = true) :
    keeps Generated.OptionDefs.coapOptionDefs id v.length = true :=
  due_kept_of _ table_admits_rfc_lengths id v hd

/-- **Complete** (option areas of ordinary codes, the regenerated `CoapOptionDefs`). -/
theorem walkOptsO_due (prev : Nat) (bs : Model.Framing.Bytes) :
    (walkOptsO Generated.OptionDefs.coapOptionDefs prev bs).filter Spec.FramingOpts.due
      = (Spec.FramingOpts.optsOf (bs.length + 1) prev bs).filter Spec.FramingOpts.due :=
  walkOptsO_due_of _ due_kept prev bs _ (Nat.lt_succ_self _)

/-- The part of the full statement (header comment) that is proved: per option area.  Code 1 (GET) stands for the ordinary
    codes: `defsFor` selects `coapOptionDefs` for every code that is not a signal. -/
theorem runO_due_options_meet_spec_partial (prev : Nat) (bs : Model.Framing.Bytes) :
    (walkOptsO (defsFor 1) prev bs).filter Spec.FramingOpts.due
      = (Spec.FramingOpts.optsOf (bs.length + 1) prev bs).filter Spec.FramingOpts.due :=
  walkOptsO_due prev bs

/-! Non-vacuity: a GET, token `a1`, Uri-Path "x", Hop-Limit 7 (RFC 8768, number 16: even, not in the library's table),
    frame `41 01 a1 b1 78 51 07`; cut inside the header and inside the option. -/
theorem ex_area : walkOptsO Generated.OptionDefs.coapOptionDefs 0 [0xb1, 0x78, 0x51, 0x07] = [(11, [0x78]), (16, [0x07])] := by
  simp [walkOptsO, parseExt, keeps, lookup, Generated.OptionDefs.coapOptionDefs, Generated.OptionDefs.fmtUnknown,
    Generated.TcpFraming.extError, Generated.TcpFraming.extByteCode, Generated.TcpFraming.extWordCode]
example : Spec.FramingOpts.expectedO 1152 [0x41, 0x01, 0xa1, 0xb1, 0x78, 0x51, 0x07]
    = ([⟨1, [0xa1], [(11, [0x78]), (16, [0x07])], []⟩], .open_) := by decide
example : Spec.FramingOpts.due (16, [0x07]) = true ∧ Spec.FramingOpts.due (16, [7, 7]) = false
    ∧ Spec.FramingOpts.due (65000, []) = true ∧ Spec.FramingOpts.due (12, [1, 2, 3]) = false := by decide
example : keeps Generated.OptionDefs.coapOptionDefs 16 1 = true ∧ keeps Generated.OptionDefs.coapOptionDefs 12 3 = false := by decide
example : (runO 1152 [[0x41], [0x01, 0xa1, 0xb1], [0x78, 0x51], [0x07]]).obs
    = (runO 1152 [[0x41, 0x01, 0xa1, 0xb1, 0x78, 0x51, 0x07]]).obs := runO_same_stream _ _ _ rfl

end CoapVerif.Props.C07Opts

section Audit
open CoapVerif.Props.C07Opts
#print axioms runO_chunk_independent
#print axioms runO_same_stream
#print axioms runO_erase
#print axioms table_admits_rfc_lengths
#print axioms due_kept_of
#print axioms due_kept
#print axioms walkOptsO_due
#print axioms runO_due_options_meet_spec_partial
#print axioms ex_area
#print axioms CoapVerif.Lemmas.FramingOpts.foldl_feedO_closed
#print axioms CoapVerif.Lemmas.FramingOpts.foldl_feedO_procO
#print axioms CoapVerif.Lemmas.FramingOpts.feedO_erase
#print axioms CoapVerif.Lemmas.FramingOpts.lookup_mem
#print axioms CoapVerif.Lemmas.FramingOpts.walkOptsO_due_of
#print axioms CoapVerif.Lemmas.FramingOpts.procO_append
#print axioms CoapVerif.Lemmas.FramingOpts.procO_erase
#print axioms CoapVerif.Model.FramingOpts.decodeFrameO_erase
end Audit
