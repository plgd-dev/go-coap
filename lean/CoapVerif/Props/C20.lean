import CoapVerif.Lemmas.BigEndian
import CoapVerif.Lemmas.Bits
import CoapVerif.Lemmas.KeyedList
import CoapVerif.Lemmas.NoResponse
/-!
# C20 — No-Response suppression follows RFC 7967 for every value and code

Statement (properties.jsonl): for every No-Response option value a request can carry and every
response code, a handler's attempt to set a response through the response writer is refused exactly
when RFC 7967 marks that response class as not of interest (bit value 2 for 2.xx, 8 for 4.xx, 16 for
5.xx) and accepted otherwise.  Consequently a suppressed response is never put on the wire (a
confirmable request still gets its bare acknowledgement) and a response of a class that was not
suppressed is never dropped.

The theorems quantify over all naturals `code` and `v` (no enumeration).  The model's class switch is
regenerated from the AST of `IsNoResponseCode` on every run.
-/
namespace CoapVerif.Props.C20
open CoapVerif CoapVerif.Model.NoResponse CoapVerif.Generated.NoResponse
open CoapVerif.Spec.NoResponse (Transport ReqType Sent Wire suppressed supOf expected judge expectedCalls judgeCalls)
open CoapVerif.Lemmas.NoResponse CoapVerif.Lemmas

/-- The predicate equals the RFC 7967 class rule for **every** code and **every** option value. -/
theorem isNoResponse_eq_spec (code v : Nat) : isNoResponse code v = suppressed code v := by
  unfold isNoResponse classBit suppressed
  simp only [classShift, classBits, Nat.shiftRight_eq_div_pow]
  have e : (2 : Nat) ^ 5 = 32 := by decide
  rw [e]
  -- the arms of the generated `classBits` (classes 2, 4, 5 with bits 2 = 2^1, 8 = 2^3, 16 = 2^4), then the switch's default
  by_cases h2 : code / 32 = 2
  · have := and_two_pow_ne_zero v 1
    simp [List.lookup, h2] at this ⊢; exact this
  · by_cases h4 : code / 32 = 4
    · have := and_two_pow_ne_zero v 3
      simp [List.lookup, h4] at this ⊢; exact this
    · by_cases h5 : code / 32 = 5
      · have := and_two_pow_ne_zero v 4
        simp [List.lookup, h5] at this ⊢; exact this
      · have b2 : (code / 32 == 2) = false := by simp [h2]
        have b4 : (code / 32 == 4) = false := by simp [h4]
        have b5 : (code / 32 == 5) = false := by simp [h5]
        simp [List.lookup, b2, b4, b5]

/-- Only the five low bits of the option value matter (in fact only bits 1, 3 and 4). -/
theorem only_low_bits_matter (code v : Nat) : isNoResponse code v = isNoResponse code (v % 32) := by
  rw [isNoResponse_eq_spec, isNoResponse_eq_spec]
  unfold suppressed
  have t : ∀ i, i < 5 → (v % 32).testBit i = v.testBit i := by
    intro i hi
    have : (v % 2 ^ 5).testBit i = (decide (i < 5) && v.testBit i) := Nat.testBit_mod_two_pow v 5 i
    simpa [hi] using this
  rw [t 1 (by decide), t 3 (by decide), t 4 (by decide)]

/-- `SetResponse` is refused exactly when the request carries a No-Response value that suppresses the class. -/
theorem setResponse_refused_iff (noResp : Option Nat) (code : Nat) :
    setResponseAccepted noResp code = !supOf noResp code := by
  unfold setResponseAccepted supOf
  cases noResp with
  | none => rfl
  | some v => simp only [isNoResponse_eq_spec]

/-- Other options do not matter: whatever options precede or follow it in the request (in particular options with
    higher numbers: Request-Tag 292, OCF 2049/2053, vendor options), the response writer reads the request's
    No-Response option (number 258, RFC 7967 §2). -/
theorem noRespOption_anywhere (pre post : List (Nat × List UInt8)) (v : List UInt8) (h : ∀ o ∈ pre, o.1 ≠ 258) :
    noRespOption (pre ++ (258, v) :: post) = some v := by
  simp [noRespOption, List.find?_append, KeyedList.find?_absent Prod.fst h]

/-- … and a response is refused exactly when that option's value suppresses its class. -/
theorem request_options_position_irrelevant (pre post : List (Nat × List UInt8)) (v : List UInt8) (code : Nat)
    (h : ∀ o ∈ pre, o.1 ≠ 258) :
    setResponseAccepted (noResponseValue (noRespOption (pre ++ (258, v) :: post))) code
      = !suppressed code (decodeUint32 v) := by
  rw [noRespOption_anywhere pre post v h]
  simp [noResponseValue, setResponseAccepted, isNoResponse_eq_spec]

theorem no_option_never_refused (opts : List (Nat × List UInt8)) (code : Nat) (h : ∀ o ∈ opts, o.1 ≠ 258) :
    setResponseAccepted (noResponseValue (noRespOption opts)) code = true := by
  simp [noRespOption, KeyedList.find?_absent Prod.fst h, noResponseValue, setResponseAccepted]

/-- The option value the response writer reads is below 2^32, being the big-endian value of at most four bytes: the model's
    `Nat` loses nothing against the code's `uint32`. -/
theorem decodeUint32_lt (bs : List UInt8) : decodeUint32 bs < 2 ^ 32 :=
  Nat.lt_of_lt_of_le (Lemmas.BigEndian.be_lt (bs.take 4))
    (Nat.pow_le_pow_right (by decide) (List.length_take_le 4 bs) : 256 ^ (bs.take 4).length ≤ 256 ^ 4)

/-- facts read from `net/responsewriter/responseWriter.go` on every run: the response writer takes a snapshot of the
    request's No-Response value when it is constructed (so nothing a handler does to its request object afterwards can
    change what is suppressed) and finds the option by a lookup over the whole list (`noRespOption`, not the last slot). -/
theorem writer_snapshots_whole_list_lookup :
    Generated.NoResponse.readAtConstruction = true ∧ Generated.NoResponse.lookupOverWholeList = true := by decide

/-- What reaches the wire conforms to the property for every transport, request type, option value and code. -/
theorem serve_conforms (tr : Transport) (rt : ReqType) (noResp : Option Nat) (code : Nat) :
    judge tr rt noResp code (serve tr rt noResp code) = true := by
  rw [serve_eq, setResponse_refused_iff]
  unfold judge expected
  cases supOf noResp code
  · exact wire_some_judged tr rt code
  · exact wire_none_judged tr rt

/-- A suppressed response is never put on the wire (a confirmable datagram request gets exactly its bare ACK). -/
theorem suppressed_not_sent (tr : Transport) (rt : ReqType) (v code : Nat) (h : suppressed code v = true) :
    (serve tr rt (some v) code).2 = (if tr = .udp ∧ rt = .con then [⟨"ack", 0, "req", false⟩] else []) := by
  have hacc : setResponseAccepted (some v) code = false := by
    rw [setResponse_refused_iff]; exact congrArg (!·) h
  rw [serve_eq, hacc]
  exact wire_none tr rt

/-- A response of a class that was not suppressed is never dropped: exactly one message with its code and token. -/
theorem unsuppressed_sent (tr : Transport) (rt : ReqType) (noResp : Option Nat) (code : Nat)
    (h : ∀ v, noResp = some v → suppressed code v = false) :
    ∃ s, (serve tr rt noResp code).2 = [s] ∧ s.code = code ∧ s.token = true := by
  have hacc : setResponseAccepted noResp code = true := by
    rw [setResponse_refused_iff]
    cases noResp with
    | none => rfl
    | some v => exact congrArg (!·) (h v rfl)
  obtain ⟨s, hs, hc, ht, _⟩ := wire_some tr rt code
  rw [serve_eq, hacc]
  exact ⟨s, hs, hc, ht⟩

/-! Non-vacuity: concrete instances (4.08 Request Entity Incomplete with value 8; 2.31 Continue, absent from `noresponse.go`'s list `resp2XXCodes`; a 5.xx code). -/
example : isNoResponse 136 8 = true ∧ isNoResponse 95 2 = true ∧ isNoResponse 165 16 = true ∧ isNoResponse 69 24 = false := by decide
example : serve .udp .con (some 2) 69 = (false, [⟨"ack", 0, "req", false⟩]) := by decide
example : serve .udp .non (some 26) 132 = (false, []) := by decide
example : serve .tcp .non (some 2) 132 = (true, [⟨"-", 132, "-", true⟩]) := by decide

/-! ### Several `SetResponse` calls in one handler (any number, any codes) -/

theorem serve_eq_wire (tr : Transport) (rt : ReqType) (noResp : Option Nat) (code : Nat) :
    (serve tr rt noResp code).2 = wire tr rt (afterCalls noResp [code]) := by
  rw [serve_eq]
  rfl

/-- the message after the calls carries the code of the last call that was not refused: both sides are the first accepted
    call of the reversed list -/
theorem afterCalls_eq_lastAccepted (noResp : Option Nat) (cs : List Nat) :
    afterCalls noResp cs = (cs.filter (setResponseAccepted noResp)).getLast? := by
  rw [afterCalls, ← List.foldr_reverse, foldr_find, ← List.head?_filter, List.filter_reverse, List.head?_reverse]

/-- For every transport, request type, option value and every sequence of `SetResponse` calls of a
    handler: each call is refused exactly when RFC 7967 suppresses its class, and the wire carries the response of the last
    call that was not refused (an accepted response is not dropped by a later refused call), else the suppression outcome. -/
theorem serveCalls_conforms (tr : Transport) (rt : ReqType) (noResp : Option Nat) (cs : List Nat) :
    judgeCalls tr rt noResp cs (serveCalls tr rt noResp cs) = true := by
  have hfun : setResponseAccepted noResp = fun c => !supOf noResp c := by
    funext c; rw [setResponse_refused_iff]
  unfold judgeCalls serveCalls expectedCalls
  rw [afterCalls_eq_lastAccepted, hfun]
  simp only [beq_self_eq_true, Bool.true_and]
  cases (cs.filter (fun c => !supOf noResp c)).getLast? with
  | none => exact wire_none_judged tr rt
  | some c => exact wire_some_judged tr rt c

/-- If the handler's response `c1` was accepted, a later call with a suppressed code `c2`
    changes nothing on the wire. -/
theorem accepted_survives_refusal (tr : Transport) (rt : ReqType) (noResp : Option Nat) (pre : List Nat) (c2 : Nat)
    (h2 : supOf noResp c2 = true) :
    (serveCalls tr rt noResp (pre ++ [c2])).2 = (serveCalls tr rt noResp pre).2 := by
  have hacc : setResponseAccepted noResp c2 = false := by rw [setResponse_refused_iff]; simp [h2]
  simp [serveCalls, afterCalls, List.foldl_append, hacc]

example : serveCalls .udp .con (some 16) [69, 160] = ([true, false], [⟨"ack", 69, "req", true⟩]) := by decide
example : serveCalls .tcp .non (some 2) [69, 132, 68] = ([false, true, false], [⟨"-", 132, "-", true⟩]) := by decide

end CoapVerif.Props.C20

section Audit
open CoapVerif.Props.C20
#print axioms CoapVerif.Lemmas.and_two_pow_ne_zero
#print axioms isNoResponse_eq_spec
#print axioms only_low_bits_matter
#print axioms setResponse_refused_iff
#print axioms noRespOption_anywhere
#print axioms request_options_position_irrelevant
#print axioms no_option_never_refused
#print axioms decodeUint32_lt
#print axioms writer_snapshots_whole_list_lookup
#print axioms serve_conforms
#print axioms suppressed_not_sent
#print axioms unsuppressed_sent
#print axioms serve_eq_wire
#print axioms afterCalls_eq_lastAccepted
#print axioms serveCalls_conforms
#print axioms accepted_survives_refusal
end Audit
