import CoapVerif.Spec.DedupOpts
import CoapVerif.Model.DedupRecode
import CoapVerif.Model.Dedup
/-!
C05: "… Each duplicate is instead answered with a reply of the same code, token, **options** and payload as the first one …"

The history model (`Model/Dedup.lean`) keeps the reply itself in the response cache; the code keeps its encoding and decodes
it again for every duplicate, with the option table `CoapOptionDefs` (`Model/DedupRecode.lean`: `served`).  This file proves
that the difference cannot be seen on a reply whose options are legal by their RFCs (`Spec/DedupOpts.lean`):

* `table_admits_rfc_lengths` — every entry of the regenerated table admits every length its RFC allows (and an entry for a
  number no RFC assigns admits every length): the obligation the table has to meet, decided on the regenerated table;
* `admitted_survives` / `recode_legal` — for **any** table that meets it and any legal reply, `recode defs d = d`;
* `served_reply_is_first_reply` — what `processResponse` puts into the cache for a handler whose options are legal comes out
  of the cache unchanged, so `dup_reply_equal` of Props/C05.lean (stated on the model that caches the reply itself) is the
  statement about the code for such replies — by this reading, not by a theorem: `served` is no part of `Model.Dedup.recv`.

Not covered (stated, not proved): replies with an option of an *illegal* length for a number the table knows (e.g. an ETag of
9 bytes) — the first copy gets the option, the duplicates do not, on the unchanged code; see docs/notes/C05.md (seed C05-V,
"Open, on the unchanged tree").  The harness behaviours `ox` / `oxc` (`Model.Dedup.electiveOpts`, `mixedOpts`) carry a
Request-Tag of 20 bytes, where RFC 9175 allows 0–8: their replies are not `legalReply`, and no theorem of this file speaks of
them (the regenerated table has no entry for 292 and lets the option through).  The round trip of everything but the
table-driven skip is C01's theorem, taken as given here.
-/
namespace CoapVerif.Props.C05Opts
open CoapVerif CoapVerif.Spec.Dedup CoapVerif.Spec.DedupOpts CoapVerif.Model.DedupRecode CoapVerif.Model.Dedup

/-- A table entry `(number, MinLen, MaxLen, ValueFormat)` admits what the RFC allows for its number (every length, if no RFC
    assigns the number), and its value format is not `ValueUnknown` (0; the 2 of the example tables below is `ValueOpaque`), for
    which `Option.Unmarshal` skips the option whatever its length. -/
def entryAdmits (e : Nat × Nat × Nat × Nat) : Bool :=
  e.2.2.2 != 0 &&
  match rfcLen.find? (fun r => r.1 == e.1) with
  | some r => e.2.1 ≤ r.2.1 && r.2.2 ≤ e.2.2.1
  | none => e.2.1 == 0 && maxWireLen ≤ e.2.2.1

def admits (defs : List (Nat × Nat × Nat × Nat)) : Bool := defs.all entryAdmits

/-- The table the decoder on the cache path uses today meets the obligation: every entry admits what the RFC allows. -/
theorem table_admits_rfc_lengths : admits Generated.OptionDefs.coapOptionDefs = true := by decide

theorem admitted_survives (defs : List (Nat × Nat × Nat × Nat)) (h : admits defs = true) (o : Nat × List UInt8)
    (ho : legalOpt o = true) : survives defs o = true := by
  unfold survives
  split
  · rename_i e he
    have hmem : e ∈ defs := List.mem_of_find?_eq_some he
    have hid : (e.1 == o.1) = true := by simpa using List.find?_some he
    have hid' : e.1 = o.1 := by simpa using hid
    have ha : entryAdmits e = true := by
      unfold admits at h
      rw [List.all_eq_true] at h
      exact h e hmem
    unfold entryAdmits at ha
    unfold legalOpt at ho
    rw [← hid'] at ho
    simp only [Bool.and_eq_true] at ha
    obtain ⟨hf, hr⟩ := ha
    split at hr
    · rename_i r hr'
      rw [hr'] at ho
      simp only [Bool.and_eq_true, decide_eq_true_eq] at hr ho
      simp only [Bool.and_eq_true, decide_eq_true_eq, hf, true_and]
      omega
    · rename_i hr'
      rw [hr'] at ho
      simp only [Bool.and_eq_true, decide_eq_true_eq, beq_iff_eq] at hr ho
      simp only [Bool.and_eq_true, decide_eq_true_eq, hf, true_and]
      omega
  · rfl

/-- For any table that admits the RFC lengths, a legal reply comes out of the cache as it went in. -/
theorem recode_legal (defs : List (Nat × Nat × Nat × Nat)) (h : admits defs = true) (d : Dgram)
    (hd : legalReply d = true) : recode defs d = d := by
  unfold recode
  have : d.opts.filter (survives defs) = d.opts := by
    rw [List.filter_eq_self]
    intro o ho
    unfold legalReply at hd
    rw [List.all_eq_true] at hd
    exact admitted_survives defs h o (hd o ho)
  rw [this]

theorem served_legal (d : Dgram) (hd : legalReply d = true) : served d = d :=
  recode_legal _ table_admits_rfc_lengths d hd

/-- `processResponse` puts the handler's options (or none: the bare acknowledgement) into the reply. -/
theorem respond_opts (ec : Bool) (typ : RType) (mid : Nat) (tok : List UInt8) (w : Option Wr) (m : Nat) (r : Dgram) (c : Bool)
    (h : (respond ec typ mid tok w m).2 = some (r, c)) : r.opts = (w.map (·.opts)).getD [] := by
  unfold respond at h
  cases w with
  | none => cases typ <;> simp at h; rw [← h.1]; rfl
  | some w =>
    cases typ <;> simp only [] at h <;> split at h <;> simp at h <;> (rw [← h.1]; rfl)

/-- The reply `processResponse` caches for a handler whose options are legal is served to every duplicate unchanged. -/
theorem served_reply_is_first_reply (ec : Bool) (typ : RType) (mid : Nat) (tok : List UInt8) (w : Option Wr) (m : Nat)
    (r : Dgram) (c : Bool) (hw : ∀ w', w = some w' → w'.opts.all legalOpt = true)
    (h : (respond ec typ mid tok w m).2 = some (r, c)) : served r = r := by
  apply served_legal
  unfold legalReply
  rw [respond_opts ec typ mid tok w m r c h]
  cases w with
  | none => rfl
  | some w' => exact hw w' rfl

theorem all_insertOpt (p : Nat × List UInt8 → Bool) (o : Nat × List UInt8) (l : List (Nat × List UInt8)) :
    (insertOpt o l).all p = (p o && l.all p) := by
  induction l with
  | nil => simp [insertOpt]
  | cons q r ih =>
    unfold insertOpt
    split
    · simp only [List.all_cons, ih]
      cases p q <;> cases p o <;> simp
    · simp only [List.all_cons]

/-- The harness behaviour `ov-<id>-<len>` with a length that is legal for the number: the reply is legal, whatever number and
    length, so every duplicate gets it unchanged. -/
theorem ov_reply_served_unchanged (id len n : Nat) (ec : Bool) (typ : RType) (mid : Nat) (tok : List UInt8) (m : Nat)
    (r : Dgram) (c : Bool) (hl : legalOpt (id, seqBytes len 0x21) = true)
    (h : (respond ec typ mid tok (handlerWr (.ov id len) n) m).2 = some (r, c)) : served r = r := by
  apply served_reply_is_first_reply ec typ mid tok _ m r c _ h
  intro w' hw
  simp only [handlerWr, Option.some.injEq] at hw
  rw [← hw]
  simp only [all_insertOpt, hl, Bool.true_and]
  decide

/-! Non-vacuity: the 4.01-style freshness challenge (Echo, 16 bytes) is legal and survives today's
table; with the two RFC 9175 rows transposed (Echo 1–8, Request-Tag 0–40) the table does not admit the RFC lengths and the
Echo option is gone from the reply a duplicate gets. -/
example : legalReply ⟨.ack, 69, 77, [0xbe], insertOpt (252, seqBytes 16 0x21) [(12, [])], [0x31]⟩ = true := by decide
example : served ⟨.ack, 69, 77, [0xbe], insertOpt (252, seqBytes 16 0x21) [(12, [])], [0x31]⟩
    = ⟨.ack, 69, 77, [0xbe], [(12, []), (252, seqBytes 16 0x21)], [0x31]⟩ := by decide
example : admits [(4, 1, 8, 2), (252, 1, 40, 2), (292, 0, 8, 2)] = true := by decide
example : admits [(4, 1, 8, 2), (252, 1, 8, 2), (292, 0, 40, 2)] = false := by decide
example : (recode [(4, 1, 8, 2), (252, 1, 8, 2), (292, 0, 40, 2)]
    ⟨.ack, 69, 77, [0xbe], [(12, []), (252, seqBytes 16 0x21)], [0x31]⟩).opts = [(12, [])] := by decide
/-- An illegal length for a number the table knows is dropped today (ETag, 9 bytes): outside the hypothesis of `served_legal`. -/
example : legalOpt (4, seqBytes 9 0x21) = false ∧
    (served ⟨.ack, 69, 77, [0xbe], [(4, seqBytes 9 0x21), (12, [])], [0x31]⟩).opts = [(12, [])] := by decide

end CoapVerif.Props.C05Opts

section Audit
open CoapVerif.Props.C05Opts
#print axioms table_admits_rfc_lengths
#print axioms admitted_survives
#print axioms recode_legal
#print axioms served_legal
#print axioms respond_opts
#print axioms served_reply_is_first_reply
#print axioms all_insertOpt
#print axioms ov_reply_served_unchanged
end Audit
