import CoapVerif.Model.Runner
import CoapVerif.Lemmas.KeyedList
/-!
# C18 / C09 / C13 — the housekeeping runner calls every live registration exactly once per period

"Closed at the first housekeeping tick after such a period" (C18), the datagram server's completion of a closed peer's
shutdown on its next sweep (C09) and the expiry sweeps of every table (C13) presuppose that the runner which drives the
ticks (`pkg/runner/periodic` when shared through `options.WithPeriodicRunner`, the default goroutine-per-registration
runner otherwise) calls every registered function once per period, drops a registration only after it has answered "no",
and keeps a registration that is made while a tick is running.  Model: `Model/Runner.lean`; tie X: `harness/c18`
`TestC18Runner` drives the real runners under synctest with register / finish / nested-register / tick histories.
The parameter `b` of every theorem is the model's `callsAtReg`: `true` for the default runner, which calls a function
once when it is registered, `false` for the shared ticker.
-/
namespace CoapVerif.Props.C18Runner
open CoapVerif.Model.Runner

/-- ids are distinct, among the live registrations and the ones about to be born -/
structure Inv (s : List Reg) : Prop where
  ids_nodup : (ids s).Nodup
  nest_nodup : (nestIds s).Nodup
  disjoint : ∀ a ∈ ids s, a ∉ nestIds s

/-- what the callers guarantee: every registration is a new function (fresh id); a function is asked to register another
    one only once per call -/
def Fresh (s : List Reg) : Op → Prop
  | .reg k => k ∉ ids s ∧ k ∉ nestIds s
  | .nest k j => j ∉ ids s ∧ j ∉ nestIds s ∧ ∀ r ∈ s, r.id = k → r.nest = none
  | .fin _ => True
  | .tick => True

def FreshOps (b : Bool) (s : List Reg) : List Op → Prop
  | [] => True
  | o :: r => Fresh s o ∧ FreshOps b (step b s o).1 r

theorem ids_map (f : Reg → Reg) (hf : ∀ x, (f x).id = x.id) (s : List Reg) : ids (s.map f) = ids s :=
  Lemmas.KeyedList.map_key_map Reg.id hf s

theorem nestIds_map (f : Reg → Reg) (hf : ∀ x, (f x).nest = x.nest) (s : List Reg) : nestIds (s.map f) = nestIds s := by
  simp only [nestIds, List.filterMap_map]
  exact congrArg (List.filterMap · s) (funext hf)

theorem ids_map_fin (s : List Reg) (k : Nat) :
    ids (s.map (fun x => if x.id = k then { x with finishing := true } else x)) = ids s :=
  ids_map _ (fun x => by split <;> rfl) s

theorem nestIds_map_fin (s : List Reg) (k : Nat) :
    nestIds (s.map (fun x => if x.id = k then { x with finishing := true } else x)) = nestIds s :=
  nestIds_map _ (fun x => by split <;> rfl) s

theorem ids_map_nest (s : List Reg) (k j : Nat) :
    ids (s.map (fun x => if x.id = k then { x with nest := some j } else x)) = ids s :=
  ids_map _ (fun x => by split <;> rfl) s

theorem nest_map_nest (k j : Nat) (x : Reg) :
    (if x.id = k then { x with nest := some j } else x).nest = if x.id = k then some j else x.nest := by
  split <;> rfl

theorem mem_nestIds_map_nest (s : List Reg) (k j a : Nat)
    (h : a ∈ nestIds (s.map (fun x => if x.id = k then { x with nest := some j } else x))) : a ∈ nestIds s ∨ a = j := by
  simp only [nestIds, List.filterMap_map, List.mem_filterMap, Function.comp, nest_map_nest] at h ⊢
  obtain ⟨x, hx, e⟩ := h
  by_cases hk : x.id = k
  · rw [if_pos hk] at e; exact .inr (Option.some.inj e).symm
  · rw [if_neg hk] at e; exact .inl ⟨x, hx, e⟩

/-- Two registrations with different ids register different functions after `nest k j` as before: the one with id `k`
    registers the fresh `j`, the others what they did. -/
theorem nestIds_map_nest_nodup (s : List Reg) (k j : Nat) (hi : (ids s).Nodup) (hn : (nestIds s).Nodup)
    (hj : j ∉ nestIds s) :
    (nestIds (s.map (fun x => if x.id = k then { x with nest := some j } else x))).Nodup := by
  have old {x : Reg} {v : Nat} (hx : x ∈ s) (e : x.nest = some v) : v ≠ j :=
    fun ev => hj (List.mem_filterMap.mpr ⟨x, hx, ev ▸ e⟩)
  simp only [nestIds, List.filterMap_map] at hn ⊢
  refine List.pairwise_filterMap.mpr (((List.pairwise_map.mp hi).and (List.pairwise_filterMap.mp hn)).imp_of_mem ?_)
  intro x y hx hy ⟨hid, hne⟩ v hv w hw
  simp only [Function.comp, nest_map_nest] at hv hw
  by_cases hxk : x.id = k
  · rw [if_pos hxk] at hv
    rw [if_neg fun hyk => hid (hxk.trans hyk.symm)] at hw
    exact Option.some.inj hv ▸ (old hy hw).symm
  · rw [if_neg hxk] at hv
    by_cases hyk : y.id = k
    · rw [if_pos hyk] at hw; exact Option.some.inj hw ▸ old hx hv
    · rw [if_neg hyk] at hw; exact hne v hv w hw

theorem ids_survivors_sublist (s : List Reg) : (ids (survivors s)).Sublist (ids s) := by
  rw [survivors, ids_map (fun r => { r with nest := none }) (fun _ => rfl)]
  exact List.filter_sublist.map _

theorem survivor_origin (t : List Reg) (k : Nat) (h : k ∈ ids (survivors t)) : ∃ z ∈ t, z.id = k ∧ z.finishing = false := by
  simp only [ids, survivors, List.mem_map, List.mem_filter] at h
  obtain ⟨y, ⟨z, ⟨hz, hf⟩, rfl⟩, rfl⟩ := h
  exact ⟨z, hz, rfl, by simpa using hf⟩

theorem nestIds_map_none {α : Type} (f : α → Reg) (hf : ∀ x, (f x).nest = none) (l : List α) : nestIds (l.map f) = [] := by
  simp only [nestIds, List.filterMap_map]
  exact List.filterMap_eq_nil_iff.mpr fun x _ => hf x

theorem nestIds_survivors (s : List Reg) : nestIds (survivors s) = [] :=
  nestIds_map_none _ (fun _ => rfl) _

theorem nestIds_born (l : List Nat) : nestIds (l.map (fun j => ({ id := j } : Reg))) = [] :=
  nestIds_map_none _ (fun _ => rfl) l

theorem ids_born (l : List Nat) : ids (l.map (fun j => ({ id := j } : Reg))) = l := by
  simp [ids, Function.comp_def]

theorem nestIds_append (a b : List Reg) : nestIds (a ++ b) = nestIds a ++ nestIds b := by
  simp [nestIds, List.filterMap_append]

theorem ids_append (a b : List Reg) : ids (a ++ b) = ids a ++ ids b := by
  simp [ids]

theorem inv_iff {s : List Reg} : Inv s ↔ (ids s ++ nestIds s).Nodup := by
  rw [List.nodup_append]
  exact ⟨fun h => ⟨h.ids_nodup, h.nest_nodup, fun a ha c hc e => h.disjoint a ha (e ▸ hc)⟩,
         fun ⟨hi, hn, hd⟩ => ⟨hi, hn, fun a ha hc => hd a ha a hc rfl⟩⟩

theorem step_inv (b : Bool) (s : List Reg) (o : Op) (h : Inv s) (hf : Fresh s o) : Inv (step b s o).1 := by
  cases o with
  | reg k =>
    have hk : k ∉ ids s ∧ k ∉ nestIds s := hf
    rw [inv_iff] at h ⊢
    have e : ids (s ++ [{ id := k }]) ++ nestIds (s ++ [{ id := k }]) = ids s ++ k :: nestIds s := by
      simp [ids, nestIds]
    rw [step, e, List.perm_middle.nodup_iff, List.nodup_cons, List.mem_append]
    exact ⟨fun hm => hm.elim hk.1 hk.2, h⟩
  | fin k =>
    rw [inv_iff] at h ⊢
    rwa [step, ids_map_fin, nestIds_map_fin]
  | nest k j =>
    have hj : j ∉ ids s ∧ j ∉ nestIds s ∧ ∀ r ∈ s, r.id = k → r.nest = none := hf
    refine ⟨by simpa [step, ids_map_nest] using h.ids_nodup,
            nestIds_map_nest_nodup s k j h.ids_nodup h.nest_nodup hj.2.1, ?_⟩
    intro a ha hm
    rw [step, ids_map_nest] at ha
    rcases mem_nestIds_map_nest s k j a hm with hm | hm
    · exact h.disjoint a ha hm
    · exact hj.1 (hm ▸ ha)
  | tick =>
    -- the new state's ids are a sublist of the old ids followed by the old pending ones; nothing is pending
    rw [inv_iff] at h ⊢
    rw [step, ids_append, ids_born, nestIds_append, nestIds_survivors, nestIds_born, List.append_nil, List.append_nil]
    exact h.sublist ((ids_survivors_sublist s).append (List.Sublist.refl _))

theorem run_inv (b : Bool) (ops : List Op) : ∀ s, Inv s → FreshOps b s ops → Inv (run b s ops).1 := by
  induction ops with
  | nil => intro s h _; simpa [run] using h
  | cons o r ih =>
    intro s h hf
    have := ih (step b s o).1 (step_inv b s o h hf.1) hf.2
    simpa [run] using this

/-- Every live registration is called exactly once per period: in every reachable state (any history of fresh
    registrations, finishes, nested registrations and ticks) the calls of a tick — by the model's definition the ids of the
    live registrations (plus, for the runner that calls at registration, the ones born in this tick) — hold no function
    twice. -/
theorem tick_calls_every_live_once (b : Bool) (ops : List Op) (s : List Reg) (h : Inv s) (hf : FreshOps b s ops) :
    let s' := (run b s ops).1
    (step b s' .tick).2 = ids s' ++ (if b then nestIds s' else []) ∧ (step b s' .tick).2.Nodup := by
  have hi := run_inv b ops s h hf
  refine ⟨rfl, ?_⟩
  simp only [step]
  cases b with
  | false => simpa using hi.ids_nodup
  | true =>
    simp only [if_true]
    exact inv_iff.mp hi

/-- A registration that was not told to finish survives every step: no other registration, finish, nested registration or
    tick removes or replaces it (seeded change C09-H: a later registration took the key of a live one). -/
theorem live_survives (b : Bool) (s : List Reg) (o : Op) (x : Reg) (hx : x ∈ s) (hnf : x.finishing = false)
    (ho : o ≠ .fin x.id) : ∃ y ∈ (step b s o).1, y.id = x.id ∧ y.finishing = false := by
  cases o with
  | reg k => exact ⟨x, by simp [step, hx], rfl, hnf⟩
  | fin k =>
    have hk : x.id ≠ k := fun h => ho (by rw [h])
    exact ⟨_, List.mem_map_of_mem hx, by rw [if_neg hk]; exact ⟨rfl, hnf⟩⟩
  | nest k j => exact ⟨_, List.mem_map_of_mem hx, by split <;> exact ⟨rfl, hnf⟩⟩
  | tick =>
    refine ⟨{ x with nest := none }, ?_, rfl, hnf⟩
    simp only [step, survivors, List.mem_append, List.mem_map, List.mem_filter]
    exact Or.inl ⟨x, ⟨hx, by simp [hnf]⟩, rfl⟩

/-- A function registered while a tick is running is live afterwards (seeded change C13-G: the filtered list installed at
    the end of a tick dropped it). -/
theorem born_in_tick_is_live (b : Bool) (s : List Reg) (x : Reg) (j : Nat) (hx : x ∈ s) (hn : x.nest = some j) :
    ∃ y ∈ (step b s .tick).1, y.id = j ∧ y.finishing = false := by
  refine ⟨{ id := j }, ?_, rfl, rfl⟩
  simp only [step, List.mem_append, List.mem_map]
  right
  exact ⟨j, by simp only [nestIds, List.mem_filterMap]; exact ⟨x, hx, hn⟩, rfl⟩

/-- A function that answered "no" is no longer registered after the tick in which it answers; a tick calls registered
    functions only (`tick_calls_every_live_once`), so it is not called again unless it is registered again. -/
theorem finished_not_called_again (b : Bool) (s : List Reg) (k : Nat) (h : Inv s) (hk : k ∈ ids s) :
    k ∉ ids ((step b (step b s (.fin k)).1 .tick).1) := by
  have hd : k ∉ nestIds s := h.disjoint k hk
  simp only [step, ids_append, ids_born, nestIds_map_fin, List.mem_append, not_or]
  refine ⟨?_, hd⟩
  intro hm
  obtain ⟨z, hz, hid, hfin⟩ := survivor_origin _ k hm
  simp only [List.mem_map] at hz
  obtain ⟨w, _, rfl⟩ := hz
  by_cases hw : w.id = k
  · simp [hw] at hfin
  · simp [hw] at hid

example : (run false [] [.reg 1, .reg 2, .tick, .fin 1, .tick, .reg 3, .tick]).2 = [[], [], [1, 2], [], [1, 2], [], [2, 3]] := by decide
example : (run true [] [.reg 1, .tick, .fin 1, .tick, .tick]).2 = [[1], [1], [], [1], []] := by decide
-- a function finishes and another one registers a third in the same tick: the third is called from the next tick on
example : (run false [] [.reg 1, .reg 2, .fin 1, .nest 2 3, .tick, .tick]).2 = [[], [], [], [], [1, 2], [2, 3]] := by decide
example : Inv [] := inv_iff.mpr List.nodup_nil

end CoapVerif.Props.C18Runner

section Audit
open CoapVerif.Props.C18Runner
#print axioms ids_map
#print axioms nestIds_map
#print axioms ids_map_fin
#print axioms nestIds_map_fin
#print axioms ids_map_nest
#print axioms nest_map_nest
#print axioms mem_nestIds_map_nest
#print axioms nestIds_map_nest_nodup
#print axioms ids_survivors_sublist
#print axioms survivor_origin
#print axioms nestIds_map_none
#print axioms nestIds_survivors
#print axioms nestIds_born
#print axioms ids_born
#print axioms nestIds_append
#print axioms ids_append
#print axioms inv_iff
#print axioms step_inv
#print axioms run_inv
#print axioms tick_calls_every_live_once
#print axioms live_survives
#print axioms born_in_tick_is_live
#print axioms finished_not_called_again
end Audit
