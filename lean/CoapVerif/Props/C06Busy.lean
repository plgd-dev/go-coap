import CoapVerif.Spec.Retransmit
import CoapVerif.Spec.RetransmitBusy
import CoapVerif.Props.C06Judge
/-!
# C06 — histories in which the application keeps the connection busy (the situation of seeded change C06-W)

Statement (properties.jsonl): … If any one copy reaches the peer and the matching acknowledgement/response gets back before
the attempts are exhausted, the request call succeeds with that response; exhaustion of the attempts or a reset never
produces a successful response.

`Spec.RetransmitBusy.busyJudge` judges histories with `hold` / `release` (a handler of the application that does not return
while the peer keeps sending: more than ReceivedMessageQueueSize messages in front of the application).  Proved here:

* `busy_judge_plain` — on a history without holds it IS `Spec.Retransmit.judge` (every step, every state);
* `model_history_accepted_busy` — hence it accepts every history of the model (`Props/C06Judge.model_history_accepted`);
* `release_owes_the_response`, `release_owes_the_separate_response` — the clause these histories add, for every
  configuration and every state of the judge, at the level of one release step (`stepRelease`) with exactly one message
  waiting: if that message is a piggybacked / separate response for a live request whose attempts are not exhausted when the
  application lets go, a release step that shows no return of that request is never `.ok`.  Longer queues of waiting
  messages, and `busyJudge` on whole histories with holds, are covered by the examples of the last section only.

Not proved: the model (`Model.RetransmitKinds`) has no `hold`; histories with holds are judged on the
real code only (`drv_c06 model` prints `n/a`), as for the other judged-only entrances (`sendf`, `wreq`, `obs`).  What is
missing is a model of the loop over the received messages (queue of 16, `TryToReplaceLoop`) and the simulation for it.
-/
namespace CoapVerif.Props.C06Busy
open CoapVerif.Spec.Retransmit
open CoapVerif.Spec.RetransmitBusy

theorem stepB_plain (c : Cfg) (b : BState) (hb : b.held = false) (st : Step) :
    stepB c b (lift st) = ({ b with j := (stepJ c b.j st).1 }, (stepJ c b.j st).2) := by
  simp [stepB, lift, hb]

theorem judgeFromB_plain (c : Cfg) (h : List Step) : ∀ (b : BState), b.held = false →
    judgeFromB c b (h.map lift) = judgeFrom c b.j h := by
  induction h with
  | nil => intro b _; simp [judgeFromB, judgeFrom]
  | cons st rest ih =>
    intro b hb
    simp only [List.map_cons, judgeFromB, judgeFrom, stepB_plain c b hb st]
    generalize stepJ c b.j st = x
    obtain ⟨j', v⟩ := x
    cases v with
    | ok => exact ih _ hb
    | _ => rfl

/-- A history without holds is judged exactly as by the judge of `Spec.Retransmit`. -/
theorem busy_judge_plain (c : Cfg) (h : List Step) : busyJudge c (h.map lift) = judge c h :=
  judgeFromB_plain c h {} rfl

/-- … so the judge with holds accepts every history of the model, for every parameter triple and every list of events. -/
theorem model_history_accepted_busy (P : CoapVerif.Model.Retransmit.Params) (evs : List CoapVerif.Model.RetransmitKinds.XEv) :
    busyJudge (CoapVerif.Model.RetransmitHistory.cfgOf P) ((CoapVerif.Model.RetransmitHistory.history P evs).map lift) = .ok := by
  rw [busy_judge_plain]; exact CoapVerif.Props.C06Judge.model_history_accepted P evs

/-! ## a response that arrived during the hold is owed at the release

"If … the matching acknowledgement/response gets back before the attempts are exhausted, the request call succeeds with that
response" — with the application in the way: the response arrived during the hold; when the application lets go the request
is live (not cancelled, not returned, deadline not passed) and its attempts are not exhausted.  Then a release step that
does not show the return of that request is never accepted — for every configuration, every state of the judge, whatever
else the step shows.  Stated for `stepRelease` with that response as the one waiting message. -/

theorem not_shown (rets : List Ret) (d : Nat × Res × Bool) (hno : ∀ x ∈ rets, x.id ≠ d.1) :
    shown rets d = false := by
  simp only [shown, List.any_eq_false, Bool.and_eq_true, beq_iff_eq, not_and]
  intro x hx h; exact absurd h (hno x hx)

/-- A waiting message that makes a success of request `id` due, and a release step without a return of `id`: rejected. -/
theorem release_owes (c : Cfg) (s : JState) (e : Ev) (id : Nat)
    (hd : ((applyEv c s e).2.map (·.1)) = some id)
    (txs : List Tx) (rets : List Ret) (hno : ∀ x ∈ rets, x.id ≠ id) :
    (stepRelease c s [e] txs rets).2 ≠ .ok := by
  unfold stepRelease
  simp only [settle]
  generalize applyEv c s e = a at hd
  obtain ⟨s1, due⟩ := a
  cases due with
  | none => simp at hd
  | some d =>
    simp only [Option.map_some, Option.some.injEq] at hd
    simp only [Option.toList, List.append_nil]
    generalize foldV (checkTx c) s1 txs = a
    obtain ⟨s2, v⟩ := a
    cases v <;> simp only [] <;> try (intro hx; cases hx)
    generalize foldV checkRet s2 rets = b
    obtain ⟨s3, v⟩ := b
    cases v <;> simp only [] <;> try (intro hx; cases hx)
    have hns : shown rets d = false := not_shown rets d (by rw [hd]; exact hno)
    simp only [List.find?, hns, Bool.not_false]
    cases d.2.2 <;> simp

theorem pig_in_time_is_due (c : Cfg) (s : JState) (id tag : Nat) (r : Rec)
    (hr : getRec s id = some r) (hc : r.count ≠ 0) (hk : r.kind = .req) (hs : r.stopped = false) (hi : r.inTime = false)
    (hne : notExhausted c s.now r = true) (hl : live s.now r = true) :
    ((applyEv c s (.recvMid id (.pig tag))).2.map (·.1)) = some id := by
  cases hh : (r.resps ++ [tag]) with
  | nil => simp at hh
  | cons h t => simp [applyEv, hr, hc, hk, hs, hi, hne, hl, acknowledges, hh]

theorem resp_in_time_is_due (c : Cfg) (s : JState) (id tag : Nat) (con : Bool) (r : Rec)
    (hr : getRec s id = some r) (hc : r.count ≠ 0) (hk : r.kind = .req) (hs : r.stopped = false) (hi : r.inTime = false)
    (hne : notExhausted c s.now r = true) (hl : live s.now r = true) :
    ((applyEv c s (.resp id con tag)).2.map (·.1)) = some id := by
  cases hh : (r.resps ++ [tag]) with
  | nil => simp at hh
  | cons h t => simp [applyEv, hr, hc, hk, hs, hi, hne, hl, hh]

/-- **A piggybacked response that arrived while the application held the endpoint is owed when it lets go.** -/
theorem release_owes_the_response (c : Cfg) (s : JState) (id tag : Nat) (r : Rec)
    (hr : getRec s id = some r) (hc : r.count ≠ 0) (hk : r.kind = .req) (hs : r.stopped = false) (hi : r.inTime = false)
    (hne : notExhausted c s.now r = true) (hl : live s.now r = true)
    (txs : List Tx) (rets : List Ret) (hno : ∀ x ∈ rets, x.id ≠ id) :
    (stepRelease c s [.recvMid id (.pig tag)] txs rets).2 ≠ .ok :=
  release_owes c s _ id (pig_in_time_is_due c s id tag r hr hc hk hs hi hne hl) txs rets hno

/-- … and so is a separate response (confirmable or not), the implicit acknowledgement of RFC 7252 §5.2.2. -/
theorem release_owes_the_separate_response (c : Cfg) (s : JState) (id tag : Nat) (con : Bool) (r : Rec)
    (hr : getRec s id = some r) (hc : r.count ≠ 0) (hk : r.kind = .req) (hs : r.stopped = false) (hi : r.inTime = false)
    (hne : notExhausted c s.now r = true) (hl : live s.now r = true)
    (txs : List Tx) (rets : List Ret) (hno : ∀ x ∈ rets, x.id ≠ id) :
    (stepRelease c s [.resp id con tag] txs rets).2 ≠ .ok :=
  release_owes c s _ id (resp_in_time_is_due c s id tag con r hr hc hk hs hi hne hl) txs rets hno

/-! ## the situation of C06-W, concretely (non-vacuity)

ACK_TIMEOUT 1000, MAX_RETRANSMIT 2, NSTART 1: a request, the application holds the endpoint, the piggybacked response
arrives, the application lets go. -/
def cfgEx : Cfg := ⟨1000, 2, 1⟩

/-- what the code shows with a full queue AND a blocked reader (the response is taken up at the release) -/
example : busyJudge cfgEx
    [⟨.ev (.send 0 none), [⟨0, 0, true⟩], []⟩, ⟨.hold, [], []⟩, ⟨.ev (.recvMid 0 (.pig 7)), [], []⟩,
     ⟨.release, [], [⟨0, .ok 7, 0⟩]⟩] = .ok := by decide

/-- … and with a reader that got through (the waiting call takes the reading over: the response is returned during the hold) -/
example : busyJudge cfgEx
    [⟨.ev (.send 0 none), [⟨0, 0, true⟩], []⟩, ⟨.hold, [], []⟩, ⟨.ev (.recvMid 0 (.pig 7)), [], [⟨0, .ok 7, 0⟩]⟩,
     ⟨.release, [], []⟩] = .ok := by decide

/-- the response was acknowledged and thrown away: nothing at the release — rejected -/
example : busyJudge cfgEx
    [⟨.ev (.send 0 none), [⟨0, 0, true⟩], []⟩, ⟨.hold, [], []⟩, ⟨.ev (.recvMid 0 (.pig 7)), [], []⟩,
     ⟨.release, [], []⟩] = .noSuccess := by decide

/-- a copy that still goes out during the hold (the response waits before a blocked reader) is no `copyAfterStop` -/
example : busyJudge cfgEx
    [⟨.ev (.send 0 none), [⟨0, 0, true⟩], []⟩, ⟨.hold, [], []⟩, ⟨.ev (.recvMid 0 (.pig 7)), [], []⟩,
     ⟨.ev (.sleep 1001), [], []⟩, ⟨.ev (.tick 0), [⟨0, 1001, true⟩], []⟩,
     ⟨.release, [], [⟨0, .ok 7, 1001⟩]⟩, ⟨.ev (.sleep 1001), [], []⟩, ⟨.ev (.tick 0), [], []⟩] = .ok := by decide

/-- … but a copy after the release is -/
example : busyJudge cfgEx
    [⟨.ev (.send 0 none), [⟨0, 0, true⟩], []⟩, ⟨.hold, [], []⟩, ⟨.ev (.recvMid 0 .ack), [], []⟩,
     ⟨.release, [], []⟩, ⟨.ev (.sleep 1001), [], []⟩, ⟨.ev (.tick 0), [⟨0, 1001, true⟩], []⟩] = .copyAfterStop := by decide

/-- a success during the hold without any response having arrived stays spurious -/
example : busyJudge cfgEx
    [⟨.ev (.send 0 none), [⟨0, 0, true⟩], []⟩, ⟨.hold, [], []⟩, ⟨.ev (.recvMid 0 .ack), [], [⟨0, .ok 7, 0⟩]⟩] = .spuriousSuccess := by decide

end CoapVerif.Props.C06Busy

section Audit
open CoapVerif.Props.C06Busy
#print axioms stepB_plain
#print axioms judgeFromB_plain
#print axioms busy_judge_plain
#print axioms model_history_accepted_busy
#print axioms not_shown
#print axioms release_owes
#print axioms pig_in_time_is_due
#print axioms resp_in_time_is_due
#print axioms release_owes_the_response
#print axioms release_owes_the_separate_response
end Audit
