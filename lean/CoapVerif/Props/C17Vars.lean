import CoapVerif.Go.Basic
import CoapVerif.Model.Router
import CoapVerif.Model.RouterNested
import CoapVerif.Spec.Router
import CoapVerif.Spec.RouterPrefer
import CoapVerif.Lemmas.RouterDispatch
import CoapVerif.Lemmas.RouterPrefer
import CoapVerif.Lemmas.RouterPreferSpec
import CoapVerif.Props.C17Nested
/-!
# C17 — WHICH substrings: the variables are those of the leftmost-first decomposition

Statement (properties.jsonl, C17): "… The route variables passed to the handler equal the corresponding substrings of the
path …".  `Props/C17.lean: vars_are_substrings` proves that the variables are the words of SOME decomposition of the path
along the template.  When the template is ambiguous there are several; Go's `regexp` documentation fixes the one
`FindStringSubmatchIndex` reports (leftmost-first: first alternative, greedy = one more round, lazy = stop, earlier
choices outweigh later ones).  `Spec/RouterPrefer.lean` writes that choice down declaratively (`Chosen`: the decomposition
preferred to every decomposition, compared variable by variable from the left, each variable by the preference order of
its own pattern over parse trees).  Here:

* `backtracking_order_is_preference_order` — the model's backtracking search lists its results in strictly decreasing
  preference, and lists every parse;
* `vars_are_the_preferred_decomposition`, `vars_are_the_preferred_decomposition_spec`, `dispatch_vars_preferred` — the variables `extractRouteParams` / `ServeCOAP`
  hand over are those of the `Chosen` decomposition, for every template of the supported subset and every path;
* `preferred_decomposition_unique` — there is only one;
* `vars_positions` — each value is `path[x:y]` for the cumulated lengths of the literals and values before it;
* `delimited_templates_are_unambiguous`, `delimited_decomposition_is_chosen` — when every variable is followed by a
  literal starting with a character its pattern excludes, the path has one decomposition only;
* `judge_chosen_exact`, `judge_parse_enumeration_exact`, `judge_preference_exact` — the judge's executable forms decide
  the declarative ones.
-/
namespace CoapVerif.Props.C17Vars
open CoapVerif CoapVerif.Model.Router CoapVerif.Lemmas.Router
open CoapVerif.Spec.Router (Lang TplMatches Seg PTree IsParse Better BetterEq WordPref LexPref Chosen chosen parsesOf betterB
  decomps Delimited segments)

/-- The model's backtracking matcher, with each result labelled by the choices that led to it (`msT`; forgetting the labels
    gives `ms` on the compiled pattern): every label is a parse tree of the consumed prefix, every parse tree of every
    prefix occurs, and an earlier result is strictly preferred (`Better`) to every later one. -/
theorem backtracking_order_is_preference_order (p : Pat) (σ : St) :
    (msT p σ).map (·.2) = ms p.toRe σ ∧
    (∀ r ∈ msT p σ, ∃ w, IsParse p r.1 w ∧ σ.rem = w ++ r.2.rem) ∧
    (∀ t w rest, IsParse p t w → σ.rem = w ++ rest → ∃ r ∈ msT p σ, r.1 = t ∧ r.2.rem = rest) ∧
    (msT p σ).Pairwise (fun x y => Better p x.1 y.1) := by
  refine ⟨msT_snd p σ, ?_, ?_, msT_sorted p σ⟩
  · intro r hr
    obtain ⟨w, hw, hrem, _, _⟩ := msT_sound p σ r hr
    exact ⟨w, hw, hrem⟩
  · intro t w rest ht hrem
    exact ⟨_, msT_complete ht hrem, rfl, rfl⟩

/-- greedy `a*` on `aab`: first two rounds, then one, then none — lazy `a*?` the other way round -/
example : (msT (.star (.chr 'a') true) ⟨0, ['a', 'a', 'b'], []⟩).map (·.2.pos) = [2, 1, 0] := by decide +kernel
example : (msT (.star (.chr 'a') false) ⟨0, ['a', 'a', 'b'], []⟩).map (·.2.pos) = [0, 1, 2] := by decide +kernel
/-- `a|ab` on `ab`: the first alternative first, although it consumes less -/
example : (msT (.alt (.chr 'a') (.cat (.chr 'a') (.chr 'b'))) ⟨0, ['a', 'b'], []⟩).map (·.2.pos) = [1, 2] := by decide +kernel

/-- When a route's expression matches, the variables `extractRouteParams` stores are the words of THE decomposition of
    the path that the leftmost-first rule prefers to every other decomposition (`Chosen`), for every template the router
    accepts and every path. -/
theorem vars_are_the_preferred_decomposition (tpl : Str) (rx : RouteRegexp) (h : newRouteRegexp tpl = .ok rx) (path : Str)
    (rp : RouteParams) (hm : matchString rx.regexp path = true) :
    ∃ parts trailing b, parseTemplate tpl = .ok (parts, trailing) ∧
      Chosen (toSegs parts trailing) path b ∧ b.map (·.1) = rx.varsN ∧
      extractRouteParams rx path rp = .ok { rp with vars := some (bindAll b (rp.vars.getD [])) } := by
  obtain ⟨parts, trailing, hp, hrx⟩ := newRouteRegexp_ok h
  subst hrx
  obtain ⟨b, hb, hn, he⟩ := extractRouteParams_chosen parts trailing tpl path hm
  exact ⟨parts, trailing, b, hp, hb, hn, he rp⟩

/-- The same with the template read by the specification alone (`segments`: its own one-pass cut
    of the text, a bare `{name}` = one or more non-slash characters) — this is the `Chosen` the judge computes. -/
theorem vars_are_the_preferred_decomposition_spec (tpl : Str) (rx : RouteRegexp) (h : newRouteRegexp tpl = .ok rx) (path : Str)
    (rp : RouteParams) (hm : matchString rx.regexp path = true) :
    ∃ segs b, segments tpl = .ok segs ∧ Chosen segs path b ∧ chosen segs path = some b ∧ b.map (·.1) = rx.varsN ∧
      extractRouteParams rx path rp = .ok { rp with vars := some (bindAll b (rp.vars.getD [])) } := by
  obtain ⟨parts, trailing, b, hp, hb, hn, he⟩ := vars_are_the_preferred_decomposition tpl rx h path rp hm
  obtain ⟨segs, hs, hse⟩ := segments_of_accepted h hp
  have hc := (chosen_segsEq hse path b).2 hb
  exact ⟨segs, b, hs, hc, (chosen_iff segs path b).2 hc, hn, he⟩

theorem preferred_decomposition_unique (segs : List Seg) (path : Str) (b b' : List (Str × Str))
    (h : Chosen segs path b) (h' : Chosen segs path b') : b = b' := chosen_unique h h'

/-- `ServeCOAP`, for every table whose routes were compiled from their keys, every iteration order of the map and every
    path: a route handler receives exactly the variables of the preferred decomposition of THIS path along the dispatched
    pattern. -/
theorem dispatch_vars_preferred (mws : List String) (dflt : Option Handler) (z order : List (Str × Route))
    (hz : ∀ e ∈ z, RouteOK e) (hperm : order.Perm z) (path : Option Str) :
    match serveWith mws dflt order path with
    | .invoked _ (some pat) rp _ =>
        ∃ parts trailing b, parseTemplate pat = .ok (parts, trailing) ∧
          Chosen (toSegs parts trailing) (filterPath (path.getD [])) b ∧
          rp = ⟨filterPath (path.getD []), some (bindAll b []), pat⟩
    | _ => True := by
  rw [C17Nested.serveWith_is_fresh]
  rcases serve_cases mws dflt hz hperm path with ⟨e, parts, trailing, b, h⟩ | ⟨_, hs⟩
  · rw [h.out]
    exact ⟨parts, trailing, b, h.cut, h.chosen, rfl⟩
  · rw [hs]
    cases dflt <;> trivial

/-- The j-th value is `path[x:y]`, where `x` is the total length of the literals and values before it and
    `y - x` its own length (`spans`), and literals and values re-assemble the path (`TplMatches`, part of `Chosen`). -/
theorem vars_positions (parts : List CPart) (trailing path : Str) (b : List (Str × Str))
    (h : Chosen (toSegs parts trailing) path b) (j : Nat) (hj : j < parts.length) :
    ∃ (x y : Nat) (v : Str), (spans 0 parts b)[j]? = some (x, y) ∧ (b.map (·.2))[j]? = some v ∧
      x ≤ y ∧ y ≤ path.length ∧ v = (path.drop x).take (y - x) := by
  obtain ⟨x, y, v, hx, hv, hs⟩ := spans_slice parts trailing path b h.1 [] j hj
  simp only [List.length_nil, List.nil_append] at hx hs
  refine ⟨x, y, v, hx, hv, ?_⟩
  simp only [goSlice] at hs
  split at hs
  · rename_i hc
    simp only [Except.ok.injEq, Int.toNat_natCast] at hs
    exact ⟨by omega, by omega, hs.symm⟩
  · cases hs

/-! ## Ambiguous templates: what the rule says -/
section Examples
open CoapVerif.Spec.Router (segmentPat)
def aOrAb : Pat := .alt (.chr 'a') (.cat (.chr 'a') (.chr 'b'))
def abOrA : Pat := .alt (.cat (.chr 'a') (.chr 'b')) (.chr 'a')
def bOpt : Pat := Pat.quest (.chr 'b') true

/-- `/{x}-{y}` on `/p-q-r`: two bare variables in one segment, the first takes as much as it can -/
example : chosen [.lit ['/'], .var ['x'] segmentPat, .lit ['-'], .var ['y'] segmentPat, .lit []] ['/', 'p', '-', 'q', '-', 'r'] =
    some [(['x'], ['p', '-', 'q']), (['y'], ['r'])] := by decide +kernel
/-- `/{x:.+?}-{y:.*}` on `/p-q-r`: a lazy first variable takes as little as it can -/
example : chosen [.lit ['/'], .var ['x'] (Pat.plus Pat.dot false), .lit ['-'], .var ['y'] (.star Pat.dot true), .lit []]
    ['/', 'p', '-', 'q', '-', 'r'] = some [(['x'], ['p']), (['y'], ['q', '-', 'r'])] := by decide +kernel
/-- `/{a:a|ab}{b:b?}c` on `/abc`: the first alternative that lets the rest match, not the longest … -/
example : chosen [.lit ['/'], .var ['a'] aOrAb, .var ['b'] bOpt, .lit ['c']] ['/', 'a', 'b', 'c'] =
    some [(['a'], ['a']), (['b'], ['b'])] := by decide +kernel
/-- … and `/{a:ab|a}{b:b?}c` the other way round -/
example : chosen [.lit ['/'], .var ['a'] abOrA, .var ['b'] bOpt, .lit ['c']] ['/', 'a', 'b', 'c'] =
    some [(['a'], ['a', 'b']), (['b'], [])] := by decide +kernel
/-- there really are two decompositions to choose from -/
example : (decomps [.lit ['/'], .var ['a'] aOrAb, .var ['b'] bOpt, .lit ['c']] ['/', 'a', 'b', 'c']).length = 2 := by decide +kernel
/-- the model computes the same for `/{a:a|ab}{b:b?}c` (the non-vacuity instance of `vars_are_the_preferred_decomposition`) -/
example : (match newRouteRegexp ['/', '{', 'a', ':', 'a', '|', 'a', 'b', '}', '{', 'b', ':', 'b', '?', '}', 'c'] with
    | .ok rx => (match extractRouteParams rx ['/', 'a', 'b', 'c'] {} with | .ok rp => rp.vars | .error _ => none)
    | .error _ => none) = some [(['a'], ['a']), (['b'], ['b'])] := by decide +kernel
end Examples

/-! ## Delimited templates: one decomposition only -/

/-- When every variable (but a last one) is followed by a literal whose first character no word of the variable's
    pattern contains — `/a/{x}/b/{y:[0-9]+}`: `{x}` cannot contain the `/` that follows — the path has at most ONE
    decomposition: the substrings are determined by the template alone, no preference rule is needed. -/
theorem delimited_templates_are_unambiguous (segs : List Seg) (w : Str) (b b' : List (Str × Str))
    (hd : Delimited segs) (h : TplMatches segs w b) (h' : TplMatches segs w b') : b = b' :=
  delimited_unique segs w b b' hd h h'

theorem delimited_decomposition_is_chosen (segs : List Seg) (w : Str) (b : List (Str × Str))
    (hd : Delimited segs) (h : TplMatches segs w b) : Chosen segs w b := by
  refine ⟨h, ?_⟩
  intro b' hb'
  rw [delimited_unique segs w b' b hd hb' h]
  exact lexPref_refl segs b

/-- `/a/{x}/b/{y:[0-9]+}` is delimited (`{x}` = non-slash characters, followed by `/`; `{y}` is last) -/
example : Delimited [.lit "/a/".toList, .var ['x'] CoapVerif.Spec.Router.segmentPat, .lit "/b/".toList,
    .var ['y'] (Pat.plus (.cls false [.range '0' '9']) true), .lit []] := by
  exact ⟨fun v hv hm => absurd (lang_plus_cls hv '/' hm) (by decide), trivial⟩

/-! ## The judge's executable forms decide the declarative ones -/

/-- The judge's `chosen` (enumerate the decompositions, keep the one preferred to all) returns exactly THE decomposition
    `Chosen` describes. -/
theorem judge_chosen_exact (segs : List Seg) (path : Str) (b : List (Str × Str)) :
    chosen segs path = some b ↔ Chosen segs path b := chosen_iff segs path b

theorem judge_parse_enumeration_exact (p : Pat) (t : PTree) (w : Str) : t ∈ parsesOf p w ↔ IsParse p t w :=
  mem_parsesOf p t w

theorem judge_preference_exact (p : Pat) (t t' : PTree) : betterB p t t' = true ↔ Better p t t' := betterB_iff p t t'

end CoapVerif.Props.C17Vars

section Audit
open CoapVerif.Props.C17Vars
#print axioms backtracking_order_is_preference_order
#print axioms vars_are_the_preferred_decomposition
#print axioms vars_are_the_preferred_decomposition_spec
#print axioms preferred_decomposition_unique
#print axioms dispatch_vars_preferred
#print axioms vars_positions
#print axioms delimited_templates_are_unambiguous
#print axioms delimited_decomposition_is_chosen
#print axioms judge_chosen_exact
#print axioms judge_parse_enumeration_exact
#print axioms judge_preference_exact
end Audit
