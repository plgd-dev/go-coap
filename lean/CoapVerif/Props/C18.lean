import CoapVerif.Lemmas.Monitor
/-!
# C18 — Inactivity and keep-alive monitors close exactly the dead connections

Statement (properties.jsonl): a connection guarded by an inactivity monitor is closed by the monitor only if
no message was received from the peer for a full configured period, and it is closed at the first
housekeeping tick after such a period.  With keep-alive, the connection is closed only after more than the
configured number of consecutive pings went unanswered; any answered ping or other received message resets the
count, and a late answer to an earlier ping is not credited to a later one.

Model: `Model/Monitor.lean` (comparison operators, "Notify resets the counter" and the datagram server's
look-ahead are regenerated from the AST of /repo).  Histories are arbitrary lists of
{message received, pong received, tick at time t, tick at time t at which nothing can be sent, datagram-server look-up}
events with arbitrary times.

Reading of "more than the configured number": with `maxRetries = n` the monitor makes at most `n` ping attempts in a
row; the connection is closed at the `(n+1)`-th consecutive idle firing, i.e. after `n` ping attempts went unanswered
(that is what `v > maxRetries` in `OnInactive` implements).  A *firing* is a housekeeping tick later than
`lastActivity + period`; `OnInactive` does not touch `lastActivity`, so once the period has elapsed EVERY further tick
is a firing: consecutive pings are spaced by the housekeeping interval, not by the period, and a ping whose send fails
counts like one that was sent.  Nothing here (and nothing in the property) says how long a ping is given to be
answered; see observation O4 in `Findings/C18.lean` and docs/notes/C18.md.

The datagram server's per-datagram expiry check uses `now + look-ahead` (10 ms): see `datagram_close_bound_partial` and
`Findings/C18.lean` (witness: a peer can be closed although it was silent for less than a period).
-/
namespace CoapVerif.Props.C18
open CoapVerif CoapVerif.Model.Monitor CoapVerif.Generated.Monitor
open CoapVerif.Spec.Monitor (Ev Out lastMsg streak)

theorem run_append (cfg : Cfg) (s : St) (a b : List Ev) :
    run cfg s (a ++ b) = ((run cfg (run cfg s a).1 b).1, (run cfg s a).2 ++ (run cfg (run cfg s a).1 b).2) :=
  (Lemmas.Monitor.isRun cfg).append a b s

theorem run_closed (cfg : Cfg) (s : St) (evs : List Ev) (h : s.closed = true) : run cfg s evs = (s, []) := by
  induction evs with
  | nil => rfl
  | cons e es ih => simp [run, step, h, ih]

theorem step_closed_mono (cfg : Cfg) (s : St) (e : Ev) (h : (step cfg s e).1.closed = false) : s.closed = false := by
  cases hc : s.closed with
  | false => rfl
  | true => simp [step, hc] at h

theorem run_closed_mono (cfg : Cfg) (s : St) (evs : List Ev) (h : (run cfg s evs).1.closed = false) :
    s.closed = false := by
  cases hc : s.closed with
  | false => rfl
  | true => rw [run_closed cfg s evs hc] at h; simp [hc] at h

/-- While the connection is open, `last` is the time of the latest message and — with keep-alive — the failure
    counter is the number of consecutive idle firings since that message (all histories, server look-ups included). -/
theorem run_track (cfg : Cfg) (hp : cfg.period ≠ 0) (evs : List Ev) : ∀ (s : St),
    (run cfg s evs).1.closed = false →
      (run cfg s evs).1.last = lastMsg s.last evs ∧
      (cfg.maxRetries.isSome = true → (run cfg s evs).1.fails = streak cfg.period s.last s.fails evs) := by
  induction evs with
  | nil => intro s _; exact ⟨rfl, fun _ => rfl⟩
  | cons e es ih =>
    intro s hopen
    have hs : s.closed = false := run_closed_mono cfg s (e :: es) hopen
    simp only [run] at hopen ⊢
    obtain ⟨g1, g2⟩ := Lemmas.Monitor.step_track cfg hp s e hs (run_closed_mono cfg _ es hopen)
    obtain ⟨h1, h2⟩ := ih (step cfg s e).1 hopen
    rw [Lemmas.Monitor.lastMsg_cons, Lemmas.Monitor.streak_cons, ← g1]
    exact ⟨h1, fun hk => by rw [h2 hk, g2 hk]⟩

/-- a housekeeping tick; `fail` = nothing can be sent at that moment -/
def tickEv (fail : Bool) (t : Int) : Ev := if fail then .tickFail t else .tick t

theorem step_tickEv (cfg : Cfg) (s : St) (fail : Bool) (t : Int) (hs : s.closed = false) :
    step cfg s (tickEv fail t) = check cfg s t (!fail) := by
  cases fail
  · exact Lemmas.Monitor.step_tick cfg s t hs
  · exact Lemmas.Monitor.step_tickFail cfg s t hs

/-- Plain inactivity monitor: if the tick at time `t` closes the connection,
    then more than a full period has passed since the latest message from the peer (every earlier history, with or
    without server look-ups; either kind of tick). -/
theorem closed_only_if_silent_for_period (cfg : Cfg) (t0 : Int) (pre : List Ev) (t : Int) (fail : Bool)
    (hm : cfg.maxRetries = none)
    (hopen : (run cfg (init t0) pre).1.closed = false)
    (hclose : Out.close ∈ (step cfg (run cfg (init t0) pre).1 (tickEv fail t)).2) :
    cfg.period ≠ 0 ∧ t > lastMsg t0 pre + cfg.period := by
  rw [step_tickEv _ _ _ _ hopen] at hclose
  obtain ⟨hp, hf⟩ := Lemmas.Monitor.check_out_fired hclose
  rw [(run_track cfg hp pre (init t0) hopen).1] at hf
  exact ⟨hp, hf⟩

/-- An open, plainly monitored connection is closed by the first tick that
    comes more than a period after the latest message. -/
theorem closed_at_first_tick_after_period (cfg : Cfg) (t0 : Int) (pre : List Ev) (t : Int) (fail : Bool)
    (hm : cfg.maxRetries = none) (hp : cfg.period ≠ 0)
    (hopen : (run cfg (init t0) pre).1.closed = false)
    (hidle : t > lastMsg t0 pre + cfg.period) :
    step cfg (run cfg (init t0) pre).1 (tickEv fail t) = ({ (run cfg (init t0) pre).1 with closed := true }, [.close]) := by
  have hf : t > (run cfg (init t0) pre).1.last + cfg.period := by
    rw [(run_track cfg hp pre (init t0) hopen).1]; exact hidle
  rw [step_tickEv _ _ _ _ hopen, Lemmas.Monitor.check_fires_plain _ _ _ _ hp hf hm]

/-- A tick inside the period does nothing at all (no ping, no close). -/
theorem tick_within_period_noop (cfg : Cfg) (s : St) (t : Int) (h : ¬ t > s.last + cfg.period) :
    step cfg s (.tick t) = (s, []) := by
  cases hc : s.closed with
  | true => simp [step, hc]
  | false => rw [Lemmas.Monitor.step_tick cfg s t hc, Lemmas.Monitor.check_quiet cfg s t true fun hf => h hf.2]

/-- With keep-alive (`maxRetries = n`), the tick (of either kind) that
    closes the connection is an idle firing that was preceded by at least `n` consecutive idle firings since the latest
    message from the peer.  Each of those made one ping attempt (`firing_attempts_one_ping`: a ping was sent, or its
    send failed) and none was answered — an answer is a message and would have reset the streak.  Nothing is said
    about the time between the firings: see O4. -/
theorem keepalive_close_needs_unanswered_run (cfg : Cfg) (n : Nat) (t0 : Int) (pre : List Ev) (t : Int) (fail : Bool)
    (hm : cfg.maxRetries = some n)
    (hopen : (run cfg (init t0) pre).1.closed = false)
    (hclose : Out.close ∈ (step cfg (run cfg (init t0) pre).1 (tickEv fail t)).2) :
    cfg.period ≠ 0 ∧ t > lastMsg t0 pre + cfg.period ∧ streak cfg.period t0 0 pre ≥ n := by
  rw [step_tickEv _ _ _ _ hopen] at hclose
  obtain ⟨hp, hf⟩ := Lemmas.Monitor.check_out_fired hclose
  -- the check fired, so it was `OnInactive`, which closes only above the limit
  rw [Lemmas.Monitor.check_fires_keepalive _ _ _ _ hp hf hm] at hclose
  have hv := Lemmas.Monitor.close_of_onInactive hclose
  obtain ⟨hl, hk⟩ := run_track cfg hp pre (init t0) hopen
  rw [hl] at hf
  rw [hk (by rw [hm]; rfl)] at hv
  exact ⟨hp, hf, Nat.le_of_lt_succ hv⟩

/-- Each idle firing below the limit sends exactly one new ping, after cancelling the superseded one. -/
theorem firing_sends_one_ping (n : Nat) (s : St) (h : ¬ s.fails + 1 > n) :
    (onInactive n s).2 = (match s.cancelSet with | some g => [Out.cancelPing g] | none => []) ++ [Out.ping (s.gen + 1)] := by
  rw [Lemmas.Monitor.onInactive_within n s true h]; rfl

/-- the same when the send fails: one attempt (`pingFailed`), the generation still advances, nothing is left to cancel -/
theorem firing_attempts_one_ping (n : Nat) (s : St) (h : ¬ s.fails + 1 > n) :
    (onInactive n s false).2 = (match s.cancelSet with | some g => [Out.cancelPing g] | none => []) ++ [Out.pingFailed (s.gen + 1)] := by
  rw [Lemmas.Monitor.onInactive_within n s false h]; rfl

/-- Any message from the peer — a pong or anything else — resets the count of unanswered pings. -/
theorem answered_resets (cfg : Cfg) (n : Nat) (s : St) (hm : cfg.maxRetries = some n) (hs : s.closed = false) :
    (∀ t, (step cfg s (.recv t)).1.fails = 0) ∧ (∀ g t, (step cfg s (.pong g t)).1.fails = 0) := by
  have hk : cfg.maxRetries.isSome = true := by rw [hm]; rfl
  refine ⟨fun t => ?_, fun g t => ?_⟩
  · rw [Lemmas.Monitor.step_recv cfg s t hs]; exact Lemmas.Monitor.notify_fails cfg s t hk
  · exact (Lemmas.Monitor.step_pong cfg s g t hs).2 hk

/-- The answer to a ping that has been superseded (its handler was cancelled when the next
    ping was sent) never reaches the pong callback of the newer ping: all it does is what every received message does
    (`notify`: it refreshes `lastActivity` and — since fix F14 — resets the counter, because it proves the peer alive).
    "Superseded" is the hypothesis `hg`; that every generation but the newest satisfies it in every reachable state is not
    proved (`pending_is_newest` speaks of the state right after one `OnInactive`). -/
theorem late_pong_not_credited (cfg : Cfg) (s : St) (g : Nat) (t : Int) (hs : s.closed = false)
    (hg : s.pending ≠ some g) : step cfg s (.pong g t) = (notify cfg s t, []) := by
  have : (notify cfg s t).pending ≠ some g := by simpa [notify] using hg
  simp [step, hs, this]

/-- Right after `OnInactive` nothing is pending or the ping just sent is: sending a new ping unregisters the previous one. -/
theorem pending_is_newest (n : Nat) (s : St) : (onInactive n s).1.pending = none ∨
    (onInactive n s).1.pending = some (onInactive n s).1.gen := by
  by_cases h : s.fails + 1 > n
  · rw [Lemmas.Monitor.onInactive_over n s true h]; exact .inl rfl
  · rw [Lemmas.Monitor.onInactive_within n s true h]; exact .inr rfl

/-- Partial, datagram server: a known peer's connection can be closed on the arrival of its own
    datagram only when that datagram comes later than `period − look-ahead` after the previous message. The full
    statement (`> period`) is false of the code: see `Findings/C18.lean`. -/
theorem datagram_close_bound_partial (cfg : Cfg) (s : St) (t : Int) (hs : s.closed = false)
    (hclose : Out.close ∈ (step cfg s (.datagram t)).2) :
    t + serverLookaheadNs > s.last + cfg.period := by
  rw [Lemmas.Monitor.step_datagram cfg s t hs] at hclose
  exact (Lemmas.Monitor.check_out_fired hclose).2

/-! Non-vacuity: period 100, plain monitor — closed by the tick at 301 after the last message at 200; keep-alive with
    one retry — ping at 101, message at 150 resets, ping again at 251, closed at 252. -/
example : (run ⟨100, none⟩ (init 0) [.recv 50, .tick 120, .recv 200, .tick 300, .tick 301]).2 = [.close] := by decide
example : (run ⟨100, some 1⟩ (init 0) [.tick 101, .recv 150, .tick 251, .tick 252]).2
    = [.ping 1, .cancelPing 1, .ping 2, .cancelPing 2, .close] := by decide

/-! ### servers: the per-connection theorems apply to every accepted connection -/

theorem modifyAt_eq (f : St → St) : ∀ (i : Nat) (ss : List St), modifyAt f i ss = ss.modify i f
  | _, [] => by simp [modifyAt]
  | 0, _ :: _ => rfl
  | i + 1, s :: r => by rw [modifyAt, modifyAt_eq f i r, List.modify_succ_cons]

theorem modifyAt_length (f : St → St) (i : Nat) (ss : List St) : (modifyAt f i ss).length = ss.length := by
  rw [modifyAt_eq, List.length_modify]

theorem modifyAt_get (f : St → St) (i j : Nat) (ss : List St) :
    (modifyAt f i ss)[j]? = if j = i then ss[j]?.map f else ss[j]? := by
  rw [modifyAt_eq, List.getElem?_modify]; split <;> rename_i h <;> simp [h, eq_comm]

theorem srvStep_proj (cfg : Cfg) (ss : List St) (ev : SrvEv) (i : Nat) :
    (srvStep cfg ss ev)[i]? = ss[i]?.map (fun s => (run cfg s (projEv i ev)).1) := by
  cases ev with
  | conn j e =>
    simp only [srvStep, projEv, modifyAt_get]
    by_cases h : i = j
    · subst h; simp [run]
    · have h' : ¬ j = i := fun x => h x.symm
      simp [h, h', run]
  | tickAll t => simp [srvStep, projEv, run]

/-- Refinement: whatever happens on the other connections of a server and however the server's ticks interleave with
    them, the monitor state of the `i`-th accepted connection is the state the single-connection model reaches on what
    that connection saw: its own messages and every server tick.  All single-connection theorems above therefore hold
    for every connection of a server. -/
theorem server_conn_is_single_conn (cfg : Cfg) (evs : List SrvEv) : ∀ (ss : List St) (i : Nat),
    (srvRun cfg ss evs)[i]? = ss[i]?.map (fun s => (run cfg s (proj i evs)).1) := by
  induction evs with
  | nil => intro ss i; simp [srvRun, proj, run]
  | cons ev r ih =>
    intro ss i
    have h := ih (srvStep cfg ss ev) i
    simp only [srvRun, List.foldl_cons] at h ⊢
    rw [h, srvStep_proj]
    cases hs : ss[i]? with
    | none => simp
    | some s =>
      simp only [Option.map_some, proj, List.flatMap_cons]
      rw [run_append]

theorem srvRun_length (cfg : Cfg) (evs : List SrvEv) : ∀ ss : List St, (srvRun cfg ss evs).length = ss.length :=
  fun ss => List.foldlRecOn (motive := fun t : List St => t.length = ss.length) evs _ rfl fun t ht ev _ => by
    rw [← ht]; cases ev <;> simp [srvStep, modifyAt_length]

/-- The "talkative" peer of the server-level runs: a message processed at the very time of a tick keeps that tick from
    closing the connection. -/
theorem talkative_survives_tick (cfg : Cfg) (s : St) (t : Int) (hp : 0 ≤ cfg.period) :
    ((run cfg s [.recv t, .tick t]).1).closed = s.closed := by
  cases hc : s.closed with
  | true => simp [run, step, hc]
  | false =>
    have e := Lemmas.Monitor.step_recv cfg s t hc
    -- the tick finds `lastActivity = t`
    have q : check cfg (notify cfg s t) t = (notify cfg s t, []) :=
      Lemmas.Monitor.check_quiet _ _ _ _ fun h => by have : t > t + cfg.period := h.2; omega
    simp only [run, e, Lemmas.Monitor.step_tick cfg (notify cfg s t) t hc, q]
    exact hc

-- three connections: the first is last heard from at 50, the second never, the third before every tick; the tick at 120
-- closes the second, the tick at 240 the first
example : ((srvRun ⟨100, none⟩ [init 0, init 0, init 0]
      [.conn 0 (.recv 50), .conn 2 (.recv 120), .tickAll 120, .conn 2 (.recv 240), .tickAll 240]).map (·.closed))
    = [true, true, false] := by decide
example : proj 0 [.conn 0 (.recv 50), .conn 2 (.recv 120), .tickAll 120] = [.recv 50, .tick 120] := by decide

end CoapVerif.Props.C18

section Audit
open CoapVerif.Props.C18
#print axioms run_append
#print axioms run_closed
#print axioms step_closed_mono
#print axioms run_closed_mono
#print axioms run_track
#print axioms step_tickEv
#print axioms closed_only_if_silent_for_period
#print axioms closed_at_first_tick_after_period
#print axioms tick_within_period_noop
#print axioms keepalive_close_needs_unanswered_run
#print axioms firing_sends_one_ping
#print axioms firing_attempts_one_ping
#print axioms answered_resets
#print axioms late_pong_not_credited
#print axioms pending_is_newest
#print axioms datagram_close_bound_partial
#print axioms modifyAt_eq
#print axioms modifyAt_length
#print axioms modifyAt_get
#print axioms srvStep_proj
#print axioms server_conn_is_single_conn
#print axioms srvRun_length
#print axioms talkative_survives_tick
end Audit
