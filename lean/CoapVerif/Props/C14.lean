import CoapVerif.Generated.SyncShape
import CoapVerif.Generated.SyncCallSites
import CoapVerif.Spec.SeqMap
import CoapVerif.Model.SyncMap
import CoapVerif.Model.Cache
import CoapVerif.Model.SyncSystem
import CoapVerif.Lemmas.SyncMap
/-!
# C14 — concurrent map and expiring cache are linearizable

Statement (properties.jsonl): under every interleaving of concurrent calls, the shared map and the expiring cache behave
like a sequential map in which each operation takes effect atomically at some instant between its call and its return.
In particular, among concurrent store-if-absent calls on an absent (or expired) key exactly one reports having stored
and all others observe that value, callbacks run against the value actually in the map, and the expiry sweep never
removes or replaces an entry that has not expired.

How the theorems fit together
* `shape_agrees`, `no_access_outside_lock`, `one_locked_section` tie the step model to today's source: the critical-section
  structure of every method of `sync.Map` and `cache.Cache` is re-read from the AST on every run (Generated/SyncShape.lean).
* `atomic_steps_linearizable` (and its special case `single_section_linearizable`) is the generic theorem over **all
  programs and all schedules**; `step_refines` discharges its hypothesis for the model (it contains the per-method
  refinements, stated one by one after it); `all_linearizable` is the conclusion for the map and the cache.
* `loadOrStore_one_winner`, `callbacks_see_current_value`, `sweep_only_expired`, `range_weak_spec` are the particular
  clauses of the statement; `judge_sound` says the executable judge used on the real code accepts only linearizable histories.

`Range` and `CheckExpirations` release the lock between iterations; they are *not* atomic and the specification says
precisely what they are instead (a sequence of atomic observations / of atomic removals of expired entries) — see
`range_weak_spec`, `sweep_only_expired` and `Spec/SeqMap.lean`.
-/
namespace CoapVerif.Props.C14
open CoapVerif.Spec.SeqMap CoapVerif.Model.SyncMap CoapVerif.Model.Cache CoapVerif.Model.SyncSystem
open CoapVerif.Lemmas.SyncMap
open CoapVerif.Generated.SyncShape (Lock Prim Section mapMethods cacheMethods outsideLock)

/-- The step structure written next to the model equals the one extracted from the source, method by method. -/
theorem shape_agrees : mapShapes = mapMethods ∧ cacheShapes = cacheMethods := by decide +kernel

/-- The Go map is never touched while no lock is held. -/
theorem no_access_outside_lock : outsideLock = [] := by decide +kernel

/-- methods of `Cache` call methods of the embedded `Map`: one table in which the callee names resolve -/
def methodTable : List (String × List Section) := cacheMethods.map (fun e => ("Cache." ++ e.1, e.2)) ++ mapMethods

/-- Every method except the two iterating ones executes exactly one locked section (following calls of other methods: `4` bounds
    the depth of such calls, and a deeper chain would give `none`, not a smaller count). -/
theorem one_locked_section :
    ∀ n ∈ ["Store", "Load", "LoadOrStore", "Replace", "Delete", "LoadAndDelete", "LoadAndDeleteAll", "CopyData", "Length",
           "Range2", "StoreWithFunc", "LoadWithFunc", "LoadOrStoreWithFunc", "ReplaceWithFunc", "DeleteWithFunc",
           "LoadAndDeleteWithFunc", "Cache.LoadOrStore", "Cache.Load"],
      lockedSections methodTable 4 n = some 1 := by decide +kernel

/-- If every atomic step of an implementation is either invisible or exactly one atomic transition of the pending
    specification operation (and the returning step a completing one), then the history of **every schedule of every
    program** is linearizable.  (`R` relates implementation and specification states, `A` a running call and the pending
    specification operation.) -/
theorem atomic_steps_linearizable {δ P L : Type} (I : Impl δ P L) (R : δ → State → Prop) (A : L → Op → Prop)
    (Ok : P → Prop) (hstart : ∀ p, Ok p → A (I.start p) (I.view p)) (hstep : StepOK I R A)
    (d0 : δ) (s0 : State) (h0 : R d0 s0) (progs : Nat → List P) (hok : ∀ t, ∀ p ∈ progs t, Ok p) (sched : List Nat) :
    Linearizable s0 (history I d0 (fun t => .idle (progs t)) sched) :=
  lin_of_atomic_steps I R A Ok hstart hstep sched d0 s0 _ _ h0 (fun t => ⟨rfl, hok t⟩)

/-- An operation that is one atomic step equal to its specification operation linearizes at that step, for every
    interleaving and history. -/
theorem single_section_linearizable {δ P L : Type} (I : Impl δ P L) (R : δ → State → Prop)
    (hsingle : ∀ p d s, R d s → ∃ d' r s', I.step (I.start p) d = (d', .inr r) ∧
      (s', Outcome.done r) ∈ fires (I.view p) s ∧ R d' s')
    (d0 : δ) (s0 : State) (h0 : R d0 s0) (progs : Nat → List P) (sched : List Nat) :
    Linearizable s0 (history I d0 (fun t => .idle (progs t)) sched) := by
  apply atomic_steps_linearizable I R (fun l op => ∃ p, l = I.start p ∧ op = I.view p) (fun _ => True)
    (fun p _ => ⟨p, rfl, rfl⟩) ?_ d0 s0 h0 progs (fun _ _ _ => trivial)
  intro l op d s hA hR
  obtain ⟨p, rfl, rfl⟩ := hA
  obtain ⟨d', r, s', he, hf, hR'⟩ := hsingle p d s hR
  rw [he]
  exact ⟨s', hf, hR'⟩

/-- Every atomic step of the model of `sync.Map` + `cache.Cache` is invisible or one atomic transition of the sequential map. -/
theorem step_refines : StepOK impl R A := impl_stepOK

/-- all single-section methods of `Map` at once (`LoadAndDeleteAll`, which also detaches the map object, is part of
    `step_refines`): the effect of the critical section is the specification's transition on the canonical form, and
    unique keys are preserved -/
theorem map_method_refines (op : Op) (m m' : Entries) (r : Res) (s : State) (hs : s.m = canon m)
    (h : mapSection op m = some (m', r)) (hnd : NoDupKeys m) (hne : op ≠ .loadAndDeleteAll) :
    ({ s with m := canon m' }, Outcome.done r) ∈ fires op s ∧ NoDupKeys m' :=
  mapSection_refines op m m' r s hs h hnd hne

/-! Method by method.  For `Store`, `Delete`, `Load` and `Length` the statement is the commutation of the update or look-up with
    `canon`, from which the refinement of the section is read off (`Lemmas.SyncMap.mapSection_spec`). -/

theorem store_refines (k : Nat) (v : Val) (m : Entries) : canon (mset k v m) = sput k v (canon m) := canon_mset k v m
theorem delete_refines (k : Nat) (m : Entries) (h : NoDupKeys m) : canon (merase k m) = sdel k (canon m) := canon_merase k m h
theorem load_refines (k : Nat) (m : Entries) : sget k (canon m) = mget k m := sget_canon k m
theorem length_refines (m : Entries) (h : NoDupKeys m) : (canon m).length = m.length := length_canon m h

theorem loadOrStore_refines (k : Nat) (v : Val) (m m' : Entries) (r : Res) (s : State) (hs : s.m = canon m)
    (h : mapSection (.loadOrStore k v) m = some (m', r)) (hnd : NoDupKeys m) :
    ({ s with m := canon m' }, Outcome.done r) ∈ fires (.loadOrStore k v) s :=
  (mapSection_refines _ m m' r s hs h hnd (by simp)).1

theorem replaceWithFunc_refines (k : Nat) (f : RFn) (m m' : Entries) (r : Res) (s : State) (hs : s.m = canon m)
    (h : mapSection (.replaceWithFunc k f) m = some (m', r)) (hnd : NoDupKeys m) :
    ({ s with m := canon m' }, Outcome.done r) ∈ fires (.replaceWithFunc k f) s :=
  (mapSection_refines _ m m' r s hs h hnd (by simp)).1

theorem cacheLoadOrStore_refines (k : Nat) (e : Val) (m : Entries) (s : State) (hs : s.m = canon m) (hnd : NoDupKeys m) :
    ({ s with m := canon (cacheLoadOrStoreSection k e s.now m).1 }, Outcome.done (cacheLoadOrStoreSection k e s.now m).2)
      ∈ fires (.cacheLoadOrStore k e) s :=
  (Lemmas.SyncMap.cacheLoadOrStore_refines k e m s hs hnd).1

theorem cacheLoad_refines (k : Nat) (m : Entries) (s : State) (hs : s.m = canon m) :
    (s, Outcome.done (cacheLoadSection k s.now m)) ∈ fires (.cacheLoad k) s :=
  Lemmas.SyncMap.cacheLoad_refines k m s hs

/-- **The map and the cache are linearizable**: for all programs (any number of threads, any operations of the whole
    API of `Map` and `Cache`, any oracle for Go's iteration order) and all schedules, the history is linearizable with
    respect to the sequential map — `Range` / `CheckExpirations` being specified as sequences of atomic observations /
    removals, and `LoadAndDeleteAll` as detaching the map (Spec/SeqMap.lean). -/
theorem all_linearizable (progs : Nat → List Call) (sched : List Nat) :
    Linearizable init (history impl { data := [], now := 0 } (fun t => .idle (progs t)) sched) :=
  atomic_steps_linearizable impl R A (fun _ => True) (fun c _ => A_start c) step_refines _ init
    ⟨rfl, by simp [NoDupKeys, keys]⟩ progs (fun _ _ _ => trivial) sched

/-- Among concurrent `LoadOrStore(k, ·)` calls on an absent key — in every schedule of every program whose other calls are
    `Load`, `Length`, `CopyData`, `LoadOrStore` or a `Store` under another key (`KeepsKey`: a syntactic test for "does not remove
    or overwrite `k`") — exactly one call reports having stored (the first to take effect) and all others report `loaded` with
    exactly that value. -/
theorem loadOrStore_one_winner (k : Nat) (progs : Nat → List Call) (hk : ∀ t, ∀ c ∈ progs t, KeepsKey k c)
    (d0 : MState) (h0 : mget k d0.data = none) (sched : List Nat) :
    let rs := losResults k (history impl d0 (fun t => .idle (progs t)) sched)
    rs = [] ∨ ∃ w rest, rs = Res.stored w false :: rest ∧ ∀ r ∈ rest, r = Res.stored w true :=
  (congrArg (Winner · _) h0).mp (one_winner_aux k sched d0 _ (fun t => ⟨rfl, hk t⟩))

/-- The same for the cache (`Cache.LoadOrStore`), as a statement about its atomic section: on an absent **or expired**
    key the caller's element is stored and `loaded = false`; on a live entry nothing changes, the caller observes that
    entry and `loaded = true` (unless it passed the very element that is stored). -/
theorem cacheLoadOrStore_one_winner (k : Nat) (e : Val) (now : Nat) (m : Entries) :
    let r := cacheLoadOrStoreSection k e now m
    ((mget k m = none ∨ ∃ o, mget k m = some o ∧ o.expired now = true) →
        r.2 = .stored e false ∧ mget k r.1 = some e) ∧
    (∀ o, mget k m = some o → o.expired now = false →
        r.2 = .stored o (o != e) ∧ mget k r.1 = some o) := by
  intro r
  constructor
  · intro h
    rcases h with h | ⟨o, h, hx⟩
    · simp [r, cacheLoadOrStoreSection, h, mget_mset]
    · simp [r, cacheLoadOrStoreSection, h, hx, mget_mset]
  · intro o h hx
    simp [r, cacheLoadOrStoreSection, h, hx, mget_mset]

/-- what a callback of a `…WithFunc` method was called with, as reported in the result -/
def cbArg : Res → Option (Option Val)
  | .optCb _ a => some a
  | .storedCb _ _ a => some a
  | _ => none

/-- Callbacks run against the value actually in the map: the argument the callback receives is the entry of the key in
    the very critical section in which the method's own read/modify/write happens (`none` = the callback that takes no
    argument — `createFunc` — or no callback ran), and what is written back is computed from that same value.  That the
    callbacks of the source run inside that section is `shape_agrees` (`.cb` within the `.w` / `.r` section of each method). -/
theorem callbacks_see_current_value (m : Entries) (k d : Nat) (v : Val) (f : RFn) :
    mapSection (.loadWithFunc k d) m = some (m, .optCb ((mget k m).map (·.add d)) (mget k m)) ∧
    mapSection (.replaceWithFunc k f) m = some (msetOpt k (applyR f (mget k m)) m, .optCb (mget k m) (mget k m)) ∧
    mapSection (.deleteWithFunc k) m = some (merase k m, .optCb none (mget k m)) ∧
    mapSection (.loadAndDeleteWithFunc k d) m = some (merase k m, .optCb ((mget k m).map (·.add d)) (mget k m)) ∧
    (∀ o, mget k m = some o → mapSection (.loadOrStoreWithFunc k d v) m = some (m, .storedCb (o.add d) true (some o))) ∧
    (mget k m = none → mapSection (.loadOrStoreWithFunc k d v) m = some (mset k v m, .storedCb v false none)) := by
  refine ⟨rfl, rfl, rfl, rfl, ?_, ?_⟩
  · intro o h; simp [mapSection, h]
  · intro h; simp [mapSection, h]

/-- … and it stays that value while the callback runs: whatever the callback of `LoadWithFunc` reads under its key itself is
    what it was called with (`Spec.SeqMap.cbCurrent`, the harness operation `lwfr`): the section leaves the map as it found it and the
    argument is the entry of the key in it. -/
theorem callback_reread_is_argument (m m' : Entries) (k d : Nat) (r : Res) (a : Option Val)
    (h : mapSection (.loadWithFunc k d) m = some (m', r)) (ha : cbArg r = some a) :
    cbCurrent a (mget k m') = true := by
  cases h
  simp only [cbArg, Option.some.injEq] at ha
  subst ha
  simp [cbCurrent]

/-- the time a running sweep judges expiry against -/
def sweepTime (l : L) (d : MState) : Option Nat :=
  match l with
  | .sweepStart t _ => some (t.getD d.now)
  | .sweepIter t _ _ _ => some t
  | .sweepExpire t _ _ _ _ _ => some t
  | _ => none

/-- The sweep never removes or replaces an entry that has not expired: whatever step a running `CheckExpirations` takes,
    in whatever state the other threads have left the map, every key keeps its entry unless that entry is expired at
    the sweep's time — and then it is removed, never replaced.  The clock is not touched.

    "The sweep's time" `t` is the `now` **argument** of `CheckExpirations(now)` (`sweepTime`, fixed for the whole call by
    `sweepTime_is_argument`): the value the caller passed (`sweep:<t>` in histories) or, for `sweep`, the clock value read when
    the call starts.  It need not be the clock: with `now` ahead of the clock the sweep removes entries that are not yet
    expired *by the clock* (a `Cache.Load` just before still returns them — see the example below); this is what
    `Element.IsExpired(now)` means and it is linearizable; whether a caller should pass such a time is not a question about
    the cache (`udp/server.getConn` passes `time.Now()+10ms`, noted in docs/notes/C14.md). -/
theorem sweep_only_expired (l : L) (d : MState) (t : Nat) (ht : sweepTime l d = some t) (hnd : NoDupKeys d.data) :
    let d' := (step l d).1
    d'.now = d.now ∧ ∀ k, mget k d'.data = mget k d.data ∨
      (∃ e, mget k d.data = some e ∧ e.expired t = true ∧ mget k d'.data = none) := by
  cases l <;> simp only [sweepTime, reduceCtorEq] at ht
  case sweepStart t0 oracle =>
    cases ha : advance oracle (iterData d d.gen) <;> simp [step, sweepStep, ha]
  case sweepIter t' acc oracle g =>
    cases ha : advance oracle (iterData d g) <;> simp [step, sweepStep, ha]
  case sweepExpire t' k' e acc cs g =>
    simp only [Option.some.injEq] at ht
    subst ht
    simp only [step, expireSection_eq]
    -- the write-locked section: nothing changes, or `k'` is removed and was expired
    split
    next hx =>
      refine ⟨trivial, fun k => ?_⟩
      rw [mget_merase _ _ _ hnd]
      by_cases hk : k = k'
      · subst hk; exact Or.inr ⟨e, hx.1, hx.2, if_pos rfl⟩
      · exact Or.inl (if_neg hk)
    next => exact ⟨trivial, fun _ => Or.inl rfl⟩

/-- The time a sweep judges expiry against is fixed when the call starts — the argument the caller passed, else the clock
    value at the first step — and never changes afterwards, whatever the clock does. -/
theorem sweepTime_is_argument (c : Call) (t0 : Option Nat) (hc : c.op = .sweep t0) (d : MState) :
    sweepTime (start c) d = some (t0.getD d.now) ∧
    ∀ (l : L) (d1 : MState) (t : Nat), sweepTime l d1 = some t →
      ∀ l', (step l d1).2 = .inl l' → ∀ d2 : MState, sweepTime l' d2 = some t := by
  constructor
  · simp [start, hc, sweepTime]
  · intro l d1 t ht l' hl' d2
    -- a read-locked step that goes on has visited an entry and carries its time along
    have visit : ∀ (t' : Nat) (acc : List Val) (oracle : List Nat) (g : Nat),
        (sweepStep t' acc oracle g d1).2 = .inl l' → sweepTime l' d2 = some t' := by
      intro t' acc oracle g hl'
      unfold sweepStep at hl'
      cases ha : advance oracle (iterData d1 g) with
      | none => simp [ha] at hl'
      | some x =>
        obtain ⟨c', e, cs⟩ := x
        simp only [ha, Sum.inl.injEq] at hl'
        subst hl'
        unfold sweepAfterVisit
        split <;> rfl
    cases l <;> simp only [sweepTime, reduceCtorEq, Option.some.injEq] at ht
    case sweepStart t1 oracle => exact ht ▸ visit _ _ _ _ hl'
    case sweepIter t1 acc oracle g => exact ht ▸ visit _ _ _ _ hl'
    case sweepExpire t1 k e acc cs g =>
      simp only [step, Sum.inl.injEq] at hl'
      subst hl'
      simp [sweepTime, ht]

/-- What `Range` guarantees although it is not atomic: every step leaves the map alone, and each pair handed to the
    callback is the entry that key has, at the instant of that step, in the map object the iteration runs on — which is the
    shared map itself as long as no `LoadAndDeleteAll` has replaced it since the `Range` began (`g = d.gen`).  Steps
    happen one by one inside the call, in the order of the report.  Nothing is promised about keys inserted or deleted
    by others meanwhile. -/
theorem range_weak_spec (stop : Option Nat) (acc : Entries) (oracle : List Nat) (g : Nat) (d : MState) :
    (step (.range stop acc oracle g) d).1 = d ∧
    (match (step (.range stop acc oracle g) d).2 with
     | .inr r => r = .visits acc
     | .inl (.range stop' acc' _ g') => stop' = stop ∧ g' = g ∧ ∃ c v, acc' = acc ++ [(c, v)] ∧ mget c (iterData d g) = some v
     | .inl (.rangeStop acc') => ∃ c v, acc' = acc ++ [(c, v)] ∧ mget c (iterData d g) = some v
     | .inl _ => False) ∧
    (g = d.gen → iterData d g = d.data) ∧ mapOf (absState d) g = canon (iterData d g) := by
  refine ⟨?_, ?_, fun h => by rw [h]; exact iterData_cur d, mapOf_abs d g⟩
  · simp only [step, rangeStep]
    cases advance oracle (iterData d g) with
    | none => rfl
    | some x => obtain ⟨c, v, cs⟩ := x; simp only; split <;> rfl
  · simp only [step, rangeStep]
    cases ha : advance oracle (iterData d g) with
    | none => rfl
    | some x =>
      obtain ⟨c, v, cs⟩ := x
      have hm := advance_some ha
      simp only
      by_cases hstop : stop = some (acc ++ [(c, v)]).length
      · rw [if_pos hstop]
        exact ⟨c, v, rfl, hm⟩
      · rw [if_neg hstop]
        exact ⟨rfl, rfl, c, v, rfl, hm⟩

def rangeAlone : Nat → L → MState → Option Res
  | 0, _, _ => none
  | n + 1, l, d =>
    match step l d with
    | (_, .inr r) => some r
    | (d', .inl l') => rangeAlone n l' d'

/-- When nobody interferes (`rangeAlone`: the steps of one `Range` and nothing else), `Range` (here: iterating in the order in
    which the entries are listed) reports exactly the entries of the map, each once. -/
theorem range_sequential_complete (m : Entries) (now : Nat) (h : NoDupKeys m) :
    rangeAlone (m.length + 1) (.rangeStart none (m.map (·.1))) { data := m, now := now } = some (.visits m) := by
  have hit : iterData { data := m, now := now } 0 = m := rfl
  have key : ∀ (t acc : Entries), acc ++ t = m →
      rangeAlone (t.length + 1) (.range none acc (t.map (·.1)) 0) { data := m, now := now } = some (.visits m) := by
    intro t
    induction t with
    | nil =>
      intro acc hacc
      simp only [List.append_nil] at hacc
      simp [rangeAlone, step, rangeStep, advance, hacc]
    | cons e t' ih =>
      intro acc hacc
      obtain ⟨k, v⟩ := e
      have hmem : (k, v) ∈ m := by rw [← hacc]; simp
      have hg := mget_of_mem h hmem
      have hrec := ih (acc ++ [(k, v)]) (by rw [← hacc]; simp)
      have hs : step (.range none acc (k :: t'.map (·.1)) 0) { data := m, now := now }
          = ({ data := m, now := now }, .inl (.range none (acc ++ [(k, v)]) (t'.map (·.1)) 0)) := by
        simp [step, rangeStep, hit, advance, hg]
      simp only [List.length_cons, List.map_cons]
      rw [rangeAlone, hs]
      exact hrec
  have h0 := key m [] rfl
  cases m with
  | nil => simp [rangeAlone, step, rangeStep, advance]
  | cons e t =>
    simp only [List.length_cons, List.map_cons] at h0 ⊢
    rw [rangeAlone] at h0 ⊢
    exact h0

/-! ### The callers use the atomic forms

The theorems above are about the methods of `Map` and `Cache`.  A caller inherits them only if it uses the atomic form: a
store-if-absent wrapper has to be **one** `LoadOrStore` call, and a value that is only valid while it is in the map (a pooled
message: `BlockWise.Do` deletes its entry when it returns and the request then goes back to the pool and is reset) has to be
read **inside the callback of `LoadWithFunc`**, under the map's lock.  The extractor lists every call on a field holding a map or
cache in the client connections, the block-wise layer, the observation table, the limiter and the multicast tables
(Generated/SyncCallSites.lean, regenerated on every run); the obligations are decided over that list. -/

section CallSites
open CoapVerif.Generated.SyncCallSites

/-- the calls a function makes on one field: (method, deferred) in source order -/
def callsOf (fn field : String) : List (String × Bool) :=
  (calls.filter (fun c => c.fn == fn && c.field == field)).map (fun c => (c.method, c.deferred))

/-- what runs under the map's lock in the (first) call of `method` that `fn` makes on `field` -/
def insideOf (fn field method : String) : List String :=
  ((calls.find? (fun c => c.fn == fn && c.field == field && c.method == method)).map (·.inside)).getD []

/-- the one place where a look-up and a later removal in the same function are deliberate: the block-wise receive path works on
    the entry under the entry's own guard (a semaphore inside the value), not under the map's lock -/
def checkThenActExceptions : List (String × String) := [("BlockWise.processReceivedMessage", "receivingMessagesCache")]

/-- no function looks a key up with a plain `Load` and later `Store`s or `Delete`s on the same field (check-then-act in two
    critical sections: a store-if-absent must be one `LoadOrStore`, a removal that wants the value one `LoadAndDelete`) -/
def noCheckThenAct : Bool :=
  calls.all (fun c1 => calls.all (fun c2 =>
    !(c1.file == c2.file && c1.fn == c2.fn && c1.field == c2.field && c1.method == "Load" &&
      (c2.method == "Store" || c2.method == "Delete") && !checkThenActExceptions.contains (c1.fn, c1.field))))

def kindOf (field : String) : String := ((fieldKinds.find? (fun k => k.2.1 == field)).map (·.2.2)).getD "unknown"

/-- look-ups on an expiring cache that deliberately use the embedded plain map's `LoadWithFunc` (which knows nothing about
    expiry): they read a pooled request under the lock; `getSendingMessageCode` tests the expiry itself inside the callback -/
def expiryBlindLookups : List (String × String) :=
  [("BlockWise.getSendingMessageCode", "sendingMessagesCache"), ("BlockWise.continueSendingMessage", "sendingMessagesCache"),
   ("BlockWise.getSentRequest", "sendingMessagesCache")]

/-- `cache.Cache` embeds the plain `Map`; a method of the embedded map called on a cache value bypasses the cache's expiry
    semantics (a store-if-absent through `LoadOrStoreWithFunc` never replaces an expired entry, `Store` overwrites a live
    one).  On a field that is a cache only the cache's own methods are called — `Load`, `LoadOrStore`, `CheckExpirations` —
    and `Delete`, which has nothing to do with expiry; the deliberate exceptions are listed. -/
def cachesUseCacheMethods : Bool :=
  calls.all (fun c => kindOf c.field != "cache" ||
    ["Load", "LoadOrStore", "CheckExpirations", "Delete"].contains c.method ||
    (c.method == "LoadWithFunc" && expiryBlindLookups.contains (c.fn, c.field)))

/-- fields whose values are pooled messages owned by whoever put them there (the owner deletes the entry and then releases the message) -/
def pooledFields : List String := ["sendingMessagesCache", "multicastRequests"]

/-- such values are never handed out of the lock: the only ways these fields are used -/
def pooledReadUnderLock : Bool :=
  calls.all (fun c => !pooledFields.contains c.field ||
    ["LoadWithFunc", "LoadOrStore", "Store", "Delete", "CheckExpirations"].contains c.method)

/-- The callers rely on the atomicity the way it is proved:
* no check-then-act (`Load` … `Store` / `Delete`) on any of the tables; pooled messages are read under the lock only; on the
  expiring caches only the cache's own (expiry-aware) methods are used, with the listed deliberate exceptions;
* an observation is removed from its table by exactly one `LoadAndDelete` (one winner among concurrent `Cancel`s); the block-wise
  reassembly entry is registered by exactly one `Cache.LoadOrStore` (an expired, unswept entry is replaced);
* the datagram connection's response cache: `Store` is exactly one `LoadOrStore`, `Load` one `Load` (the element is an
  immutable byte slice);
* block-wise `Do` registers its request with one `LoadOrStore` and removes it with a deferred `Delete`; `getSentRequest`
  copies the request (acquire, code, token, options, type) and `getSendingMessageCode` reads its code inside `LoadWithFunc`;
* an observation is registered with one `LoadOrStore`; the limiter's per-path bookkeeping is done inside
  `LoadOrStoreWithFunc` / `ReplaceWithFunc`. -/
theorem callers_use_atomic_forms :
    noCheckThenAct = true ∧ pooledReadUnderLock = true ∧ cachesUseCacheMethods = true ∧
    fieldKinds.map (fun k => (k.2.1, k.2.2)) =
      [("c", "cache"), ("tokenHandlerContainer", "map"), ("midHandlerContainer", "map"), ("tokenHandlerContainer", "map"),
       ("sendingMessagesCache", "cache"), ("receivingMessagesCache", "cache"), ("observations", "map"), ("endpointQueues", "map"),
       ("multicastHandler", "map"), ("multicastRequests", "map")] ∧
    callsOf "Handler.pullOutObservation" "observations" = [("LoadAndDelete", false)] ∧
    callsOf "BlockWise.getCachedReceivedMessage" "receivingMessagesCache" = [("LoadOrStore", false)] ∧
    callsOf "messageCache.Store" "c" = [("LoadOrStore", false)] ∧
    callsOf "messageCache.Load" "c" = [("Load", false)] ∧
    callsOf "BlockWise.Do" "sendingMessagesCache" = [("LoadOrStore", false), ("Delete", true)] ∧
    callsOf "BlockWise.getSentRequest" "sendingMessagesCache" = [("LoadWithFunc", false)] ∧
    ["AcquireMessage", "SetCode", "Code", "SetToken", "Token", "ResetOptionsTo", "Options", "SetType", "Type"].all
      (insideOf "BlockWise.getSentRequest" "sendingMessagesCache" "LoadWithFunc").contains = true ∧
    callsOf "BlockWise.getSendingMessageCode" "sendingMessagesCache" = [("LoadWithFunc", false)] ∧
    (insideOf "BlockWise.getSendingMessageCode" "sendingMessagesCache" "LoadWithFunc").contains "Code" = true ∧
    callsOf "Handler.NewObservation" "observations" = [("LoadOrStore", false)] ∧
    callsOf "LimitParallelRequests.acquireEndpoint" "endpointQueues" = [("LoadOrStoreWithFunc", false)] ∧
    callsOf "LimitParallelRequests.cancelEndpoint" "endpointQueues" = [("ReplaceWithFunc", false)] ∧
    callsOf "LimitParallelRequests.releaseEndpoint" "endpointQueues" = [("ReplaceWithFunc", false)] := by
  -- only the few plain `Load`s have to be paired with the `Store`s and `Delete`s, not every call with every call
  have hpairs : noCheckThenAct = true :=
    (all_all_guarded calls calls (fun c1 c2 => c1.file == c2.file && c1.fn == c2.fn && c1.field == c2.field)
      (fun c => c.method == "Load") (fun c => checkThenActExceptions.contains (c.fn, c.field))
      (fun c => c.method == "Store" || c.method == "Delete")).trans (by decide +kernel)
  exact ⟨hpairs, by decide +kernel⟩

end CallSites

/-! ### The judge -/

/-- The executable judge that the check runs on the histories of the real code accepts only linearizable histories. -/
theorem judge_sound (H : List Ev) (h : judge H = true) : Linearizable init H := Lemmas.SyncMap.judge_sound H h

/-! ### Non-vacuity: concrete programs and schedules -/

/-- two threads race `LoadOrStore` on the absent key 1, a third reads (below: the schedule `[1, 2, 0]`) -/
def exProgs : Nat → List Call
  | 0 => [⟨.loadOrStore 1 ⟨5, 0⟩, []⟩]
  | 1 => [⟨.loadOrStore 1 ⟨7, 0⟩, []⟩]
  | 2 => [⟨.load 1, []⟩]
  | _ => []

example : history impl { data := [], now := 0 } (fun t => .idle (exProgs t)) [1, 2, 0] =
    [.call 1 (.loadOrStore 1 ⟨7, 0⟩), .ret 1 (.stored ⟨7, 0⟩ false), .call 2 (.load 1), .ret 2 (.opt (some ⟨7, 0⟩)),
     .call 0 (.loadOrStore 1 ⟨5, 0⟩), .ret 0 (.stored ⟨7, 0⟩ true)] := by decide +kernel

example : losResults 1 (history impl { data := [], now := 0 } (fun t => .idle (exProgs t)) [1, 2, 0]) =
    [.stored ⟨7, 0⟩ false, .stored ⟨7, 0⟩ true] := by decide +kernel

example : ∀ t, ∀ c ∈ exProgs t, KeepsKey 1 c := by
  intro t c hc
  match t with
  | 0 | 1 | 2 => simp [exProgs] at hc; subst hc; simp [KeepsKey]
  | n + 3 => simp [exProgs] at hc

/-- the F8 scenario: entry 5 (expired at time 10) is seen by the sweep, replaced by the fresh 7 by another thread, and the
    sweep's removal, conditional since repair F8, then leaves 7 alone -/
def exSweep : Nat → List Call
  | 0 => [⟨.sweep none, [1]⟩]
  | 1 => [⟨.cacheLoadOrStore 1 ⟨7, 100⟩, []⟩]
  | _ => []

example : finalState impl { data := [(1, ⟨5, 3⟩)], now := 10 } (fun t => .idle (exSweep t)) [0, 1, 0, 0] = { data := [(1, ⟨7, 100⟩)], now := 10 } := by decide +kernel
example : finalState impl { data := [(1, ⟨5, 3⟩)], now := 10 } (fun t => .idle (exSweep t)) [0, 0, 0, 1] = { data := [(1, ⟨7, 100⟩)], now := 10 } := by decide +kernel
example : sweepTime (.sweepExpire 10 1 ⟨5, 3⟩ [] [] 0) { data := [(1, ⟨5, 3⟩)], now := 10 } = some 10 ∧ (⟨5, 3⟩ : Val).expired 10 = true := by decide +kernel

/-- a sweep whose `now` is **ahead of the clock** (clock 10, `CheckExpirations(50)`): entry 5 (valid until 20) is not expired
    by the clock — `Cache.Load` returns it — and is removed by the sweep; the history is linearizable, and the removal is
    what `sweep_only_expired` allows (expired at the sweep's own time 50) -/
def exAhead : Nat → List Call
  | 0 => [⟨.cacheLoad 1, []⟩, ⟨.sweep (some 50), [1]⟩, ⟨.cacheLoad 1, []⟩]
  | _ => []

example : history impl { data := [(1, ⟨5, 20⟩)], now := 10 } (fun t => .idle (exAhead t)) [0, 0, 0, 0, 0] =
    [.call 0 (.cacheLoad 1), .ret 0 (.opt (some ⟨5, 20⟩)), .call 0 (.sweep (some 50)), .ret 0 .unit,
     .call 0 (.cacheLoad 1), .ret 0 (.opt none)] := by decide +kernel
example : (⟨5, 20⟩ : Val).expired 10 = false ∧ (⟨5, 20⟩ : Val).expired 50 = true := by decide +kernel

/-- a sweep whose `now` is **behind the clock** (clock 30, `CheckExpirations(15)`): entry 5 (valid until 20) is expired by the
    clock (`Cache.Load` hides it) but not at the sweep's time, so the sweep leaves it in the map -/
def exBehind : Nat → List Call
  | 0 => [⟨.sweep (some 15), [1]⟩, ⟨.cacheLoad 1, []⟩, ⟨.load 1, []⟩]
  | _ => []

example : history impl { data := [(1, ⟨5, 20⟩)], now := 30 } (fun t => .idle (exBehind t)) [0, 0, 0, 0] =
    [.call 0 (.sweep (some 15)), .ret 0 .unit, .call 0 (.cacheLoad 1), .ret 0 (.opt none),
     .call 0 (.load 1), .ret 0 (.opt (some ⟨5, 20⟩))] := by decide +kernel

/-- a history that is NOT linearizable (both racing calls report "stored", F7) is rejected by the judge; with the second call
    reporting `loaded` it is accepted -/
example : judge [.call 0 (.loadOrStore 1 ⟨5, 0⟩), .call 1 (.loadOrStore 1 ⟨7, 0⟩), .ret 0 (.stored ⟨5, 0⟩ false),
    .ret 1 (.stored ⟨7, 0⟩ false)] = false := by decide +kernel
example : judge [.call 0 (.loadOrStore 1 ⟨5, 0⟩), .call 1 (.loadOrStore 1 ⟨7, 0⟩), .ret 0 (.stored ⟨5, 0⟩ false),
    .ret 1 (.stored ⟨5, 0⟩ true)] = true := by decide +kernel

end CoapVerif.Props.C14

section Audit
open CoapVerif.Props.C14
#print axioms shape_agrees
#print axioms no_access_outside_lock
#print axioms one_locked_section
#print axioms atomic_steps_linearizable
#print axioms single_section_linearizable
#print axioms step_refines
#print axioms map_method_refines
#print axioms store_refines
#print axioms delete_refines
#print axioms load_refines
#print axioms length_refines
#print axioms loadOrStore_refines
#print axioms replaceWithFunc_refines
#print axioms cacheLoadOrStore_refines
#print axioms cacheLoad_refines
#print axioms all_linearizable
#print axioms loadOrStore_one_winner
#print axioms cacheLoadOrStore_one_winner
#print axioms callbacks_see_current_value
#print axioms callback_reread_is_argument
#print axioms sweep_only_expired
#print axioms sweepTime_is_argument
#print axioms range_weak_spec
#print axioms range_sequential_complete
#print axioms callers_use_atomic_forms
#print axioms judge_sound
end Audit
