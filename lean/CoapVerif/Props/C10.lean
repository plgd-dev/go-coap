import CoapVerif.Model.Server
import CoapVerif.Lemmas.Server
/-!
# C10 — Servers stay up and peers stay isolated under arbitrary input   (**partial**)

Statement (properties.jsonl): a server keeps serving for every sequence of well-formed and malformed datagrams, frames
and connection attempts from any number of peers: it never crashes, deadlocks or stops accepting, and messages from one
remote address are handled by one logical connection per (remote, local) address pair in arrival order.  Garbage,
oversize messages, stalled handshakes or the closure of one peer never change what other peers receive, and responses
to a discovery request are delivered only to the receiver registered for their token, each with the connection of the
peer that sent it.

What is proved (datagram server dispatch, `Model/Server.lean`):
* `key_normalisation` — multicast and unspecified local addresses collapse, concrete ones are kept apart (`key_eq_spec`: the
  model's key is the specification's `specKey`);
* `one_conn_per_key` — in every reachable state the peer table holds at most one live connection per key (read off
  `keys_nodup`: no two positions of the table share a key);
* `in_arrival_order` — a well-formed datagram that reaches an existing connection is appended to what that connection
  has seen and to no other (one step of the dispatch; the order along a whole history is not stated as a theorem);
* `non_interference` — what the connections of a remote address see (and whether they are closed) is the same as if the
  datagrams, connection attempts and closures of all *other* remote addresses had never happened — for every history,
  well-formed or not;
* `table_meets_spec` — on a listener bound to one address the peer table holds exactly the peers `Spec.Server.liveSpec`
  names, for every history;
* `discovery_routing` — a response reaches the receiver of a discovery iff its token is registered, together with the
  connection it arrived on; otherwise the default handler.  Over the registration table (`dstep`): a start under a
  running discovery's token is refused and changes nothing (`refused_start_changes_nothing`), a running discovery stays
  registered whatever other calls do (`owner_stable`), so responses with its token reach its receiver
  (`discovery_delivery`) and others the default handler (`unregistered_to_default`).

The other parts of C10: `Props/C10Streams` (the stream / DTLS servers: who is served, the connection registry),
`Props/C10Accept` (failing `Accept` calls), `Props/C10Tokens` (discovery tokens under the code's key), `Props/C10Wiring`
(the options' appliers).

Not modelled (hence partial): crash/deadlock freedom of the real process, handshakes and their time-outs on the stream/DTLS
servers, the pause after a failed `Accept` (`Props/C10Accept` has the accept loop without time), goroutine scheduling —
these are observed by the loopback harness (servers under fuzz peers), which is evidence, not proof.
-/
namespace CoapVerif.Props.C10
open CoapVerif CoapVerif.Model.Server CoapVerif.Spec.Server CoapVerif.Lemmas.Server

theorem key_normalisation (a b : Nat) :
    normLocal (.multicast a) = normLocal (.multicast b) ∧ normLocal (.multicast a) = normLocal .unspecified ∧
    (normLocal (.concrete a) = normLocal (.concrete b) ↔ a = b) ∧ normLocal (.concrete a) ≠ normLocal .unspecified := by
  simp [normLocal]

theorem key_eq_spec (d : Dgram) : (d.remote, normLocal d.loc) = specKey d := by
  cases d with
  | mk r l w t tok => cases l <;> rfl

def OneConnPerKey (s : State) : Prop := ∀ c1 ∈ s.conns, ∀ c2 ∈ s.conns, c1.key = c2.key → c1 = c2

/-- Everything `step` can do: nothing, a datagram seen by the connection it was looked up to, that connection closed, a new
    entry under a key that was not found, a closed entry that never lived - each for the event's own remote address. -/
theorem step_cases (P : State → Prop) (s : State) (ev : Ev) (keep : P s)
    (see : ∀ c tag, c ∈ s.conns → c.key.1 = evRemote ev →
      P { s with conns := s.conns.map (fun x => if x.key == c.key then { x with seen := x.seen ++ [tag] } else x) })
    (close : ∀ c, c ∈ s.conns → c.key.1 = evRemote ev →
      P { conns := s.conns.filter (fun x => x.key != c.key), closed := s.closed ++ [c] })
    (add : ∀ loc seen, lookupKey s.conns (evRemote ev) loc = none →
      P { s with conns := s.conns ++ [{ key := (evRemote ev, normLocal loc), seen := seen }] })
    (drop : ∀ k : Key, k.1 = evRemote ev → P { s with closed := s.closed ++ [{ key := k }] }) : P (step s ev) := by
  cases ev with
  | dgram d =>
    simp only [step]
    cases hl : lookupKey s.conns d.remote d.loc with
    | some c =>
      obtain ⟨hm, hr⟩ := lookupKey_some hl
      cases d.wellFormed
      · exact close c hm hr
      · exact see c d.tag hm hr
    | none =>
      cases d.wellFormed
      · exact drop _ rfl
      · exact add d.loc _ hl
  | newConn r lis =>
    simp only [step]
    cases hl : lookupKey s.conns r lis with
    | some c => exact keep
    | none => exact add lis _ hl
  | closePeer r loc =>
    simp only [step]
    cases hl : lookupKey s.conns r loc with
    | some c => exact close c (lookupKey_some hl).1 (lookupKey_some hl).2
    | none => exact keep

/-- No two entries of the peer table, at whatever positions, have the same key. -/
theorem keys_nodup (evs : List Ev) : ((run {} evs).conns.map Conn.key).Nodup :=
  List.foldlRecOn evs step (motive := fun s => (s.conns.map Conn.key).Nodup) List.nodup_nil fun s h ev _ =>
    step_cases (fun s => (s.conns.map Conn.key).Nodup) s ev (keep := h)
      (see := fun c tag _ _ => Lemmas.KeyedList.nodup_map Conn.key (fun x => by split <;> rfl) h)
      (close := fun c _ _ => h.sublist (List.filter_sublist.map _))
      -- an entry with the exact key would have been found
      (add := fun loc seen hl => Lemmas.KeyedList.nodup_append_one Conn.key h (lookupKey_none hl))
      (drop := fun _ _ => h)

theorem one_conn_per_key (evs : List Ev) : OneConnPerKey (run {} evs) :=
  fun _ h1 _ h2 => Lemmas.KeyedList.eq_of_key_eq Conn.key (keys_nodup evs) h1 h2

/-- an event of another remote address leaves `B`'s connections alone -/
theorem step_other (B : Nat) (s : State) (ev : Ev) (h : evRemote ev ≠ B) : view (step s ev) B = view s B := by
  apply step_cases (fun s' => view s' B = view s B) s ev
  case keep => rfl
  case see =>
    intro c tag _ hr
    have hc : c.key.1 ≠ B := hr ▸ h
    simp only [view]
    rw [part_map B _ _ (by intro x; split <;> rfl)]
    -- none of `B`'s connections is the one updated
    refine congrArg _ ((List.map_congr_left fun x hx => ?_).trans (List.map_id _))
    exact if_neg fun e => hc ((congrArg Prod.fst (eq_of_beq e)).symm.trans (mem_part.mp hx).2)
  case close =>
    intro c _ hr
    simp only [view]
    rw [part_filter_other _ (hr ▸ h), part_append_other _ (hr ▸ h)]
  case add =>
    intro loc seen _
    simp only [view]
    rw [part_append_other _ h]
  case drop =>
    intro k hk
    simp only [view]
    rw [part_append_other _ (hk ▸ h)]

/-- an event of `B` itself acts on `B`'s part only: states that agree on `B` agree afterwards -/
theorem step_same (B : Nat) (s1 s2 : State) (ev : Ev) (hr : evRemote ev = B) (h : view s1 B = view s2 B) :
    view (step s1 ev) B = view (step s2 ev) B := by
  simp only [view, Prod.mk.injEq] at h
  obtain ⟨hcl, hc⟩ := h
  have hlook : ∀ loc, lookupKey s1.conns B loc = lookupKey s2.conns B loc := by
    intro loc; rw [← lookupKey_part B s1.conns, ← lookupKey_part B s2.conns, hc]
  cases ev with
  | dgram d =>
    simp only [evRemote] at hr
    subst hr
    simp only [step, hlook]
    cases hl : lookupKey s2.conns d.remote d.loc with
    | some c =>
      simp only []
      split
      · simp only [view]
        rw [part_map _ _ _ (by intro x; split <;> rfl), part_map _ _ _ (by intro x; split <;> rfl), hc, hcl]
      · simp only [view]
        rw [part_filter, part_filter, part_append, part_append, hc, hcl]
    | none =>
      simp only []
      split
      · simp only [view]; rw [part_append, part_append, hc, hcl]
      · simp only [view]; rw [part_append, part_append, hc, hcl]
  | newConn r lis =>
    simp only [evRemote] at hr
    subst hr
    simp only [step, hlook]
    cases hl : lookupKey s2.conns r lis with
    | some c => simp only [view, hc, hcl]
    | none => simp only [view]; rw [part_append, part_append, hc, hcl]
  | closePeer r loc =>
    simp only [evRemote] at hr
    subst hr
    simp only [step, hlook]
    cases hl : lookupKey s2.conns r loc with
    | some c => simp only [view]; rw [part_filter, part_filter, part_append, part_append, hc, hcl]
    | none => simp only [view, hc, hcl]

theorem run_view (B : Nat) (evs : List Ev) : ∀ (s1 s2 : State), view s1 B = view s2 B →
    view (run s1 evs) B = view (run s2 (evs.filter (fun e => evRemote e == B))) B := by
  induction evs with
  | nil => intro s1 s2 h; exact h
  | cons e es ih =>
    intro s1 s2 h
    by_cases hr : evRemote e = B
    · have : (evRemote e == B) = true := by simpa using hr
      simp only [run, List.foldl_cons, List.filter_cons, this, if_true]
      exact ih _ _ (step_same B s1 s2 e hr h)
    · have : (evRemote e == B) = false := by simpa using hr
      simp only [run, List.foldl_cons, List.filter_cons, this, Bool.false_eq_true, if_false]
      apply ih
      rw [step_other B s1 e hr]; exact h

/-- For every history and every remote address `B`, what `B`'s connections have seen and which of
    them are closed is exactly what results from `B`'s own datagrams, connection attempts and closures alone. -/
theorem non_interference (B : Nat) (evs : List Ev) :
    view (run {} evs) B = view (run {} (evs.filter (fun e => evRemote e == B))) B :=
  run_view B evs {} {} rfl

/-! Non-vacuity: peer 1 sends three datagrams (one to a multicast group), peer 2 sends garbage in between and gets closed. -/
example : view (run {} [.dgram ⟨1, .concrete 9, true, 10, 0⟩, .dgram ⟨2, .unspecified, false, 20, 0⟩,
    .dgram ⟨1, .concrete 9, true, 11, 0⟩, .dgram ⟨2, .unspecified, true, 21, 0⟩, .dgram ⟨2, .unspecified, false, 22, 0⟩,
    .dgram ⟨1, .multicast 7, true, 12, 0⟩]) 1
    = ([], [⟨(1, some 9), [10, 11]⟩, ⟨(1, none), [12]⟩]) := by decide +kernel

/-- A well-formed datagram that reaches an existing connection is appended to what that connection
    has seen (and to no other connection). -/
theorem in_arrival_order (s : State) (d : Dgram) (c : Conn) (hw : d.wellFormed = true)
    (hl : lookupKey s.conns d.remote d.loc = some c) (h1 : OneConnPerKey s) :
    (step s (.dgram d)).conns = s.conns.map (fun x => if x = c then { x with seen := x.seen ++ [d.tag] } else x) := by
  simp only [step, hl, hw, if_true]
  apply List.map_congr_left
  intro x hx
  have hc := (lookupKey_some hl).1
  by_cases hk : x.key = c.key
  · have : x = c := h1 x hx c hc hk
    subst this; simp
  · have h2 : x ≠ c := fun e => hk (by rw [e])
    have : (x.key == c.key) = false := by simpa using hk
    simp [this, h2]

/-! ### the peer table of one listener address meets its specification -/

/-- the model's event for a specification event on a listener bound to the concrete address `a` -/
def onAddr (a : Nat) : SEv → Ev
  | .dgram r wf => .dgram ⟨r, .concrete a, wf, 0, 0⟩
  | .newConn r => .newConn r (.concrete a)
  | .closePeer r => .closePeer r (.concrete a)

/-- The keys of the peer table are the live peers of the specification, each under the listener's address, in the same
    order.  An equation: the proofs rewrite with it. -/
def TableInv (a : Nat) (s : State) (live : List Nat) : Prop :=
  s.conns.map (·.key) = live.map (fun r => (r, some a))

theorem table_lookup {a : Nat} {s : State} {live : List Nat} (h : TableInv a s live) (r : Nat) :
    (r ∈ live → ∃ c, lookupKey s.conns r (.concrete a) = some c ∧ c.key = (r, some a)) ∧
    (r ∉ live → lookupKey s.conns r (.concrete a) = none) := by
  constructor
  · intro hr
    obtain ⟨c, hc, hk⟩ := Lemmas.KeyedList.find?_of_mem_keys Conn.key (l := s.conns) (k := (r, some a)) (by
      rw [h]; exact List.mem_map.mpr ⟨r, hr, rfl⟩)
    exact ⟨c, by simp [lookupKey, find, normLocal, hc], hk⟩
  · intro hr
    have h1 : find s.conns (r, some a) = none :=
      Lemmas.KeyedList.find?_of_not_mem_keys Conn.key (by rw [h]; simpa using hr)
    have h2 : find s.conns (r, none) = none := Lemmas.KeyedList.find?_of_not_mem_keys Conn.key (by rw [h]; simp)
    simp [lookupKey, normLocal, h1, h2]

theorem table_filter {a : Nat} {s : State} {live : List Nat} (h : TableInv a s live) (r : Nat) :
    (s.conns.filter (fun x => x.key != (r, some a))).map (·.key) = (live.filter (· != r)).map (fun r => (r, some a)) := by
  have e1 : (s.conns.filter (fun x => x.key != (r, some a))).map (·.key)
      = (s.conns.map (·.key)).filter (fun k => k != (r, some a)) := by
    rw [List.filter_map]; rfl
  rw [e1, h, List.filter_map]
  congr 1
  apply List.filter_congr
  intro x _
  show ((x, some a) != (r, some a)) = (x != r)
  rw [Bool.eq_iff_iff, bne_iff_ne, bne_iff_ne, Ne, Prod.mk.injEq, and_iff_left rfl]

theorem table_step (a : Nat) (s : State) (live : List Nat) (ev : SEv) (h : TableInv a s live) :
    TableInv a (step s (onAddr a ev)) (liveStep live ev) := by
  cases ev with
  | dgram r wf =>
    simp only [onAddr, step, liveStep]
    by_cases hr : r ∈ live
    · obtain ⟨c, hl, hk⟩ := (table_lookup h r).1 hr
      simp only [hl]
      cases wf with
      | true =>
        have hc : live.contains r = true := by simpa using hr
        simp only [if_true, hc]
        exact (Lemmas.KeyedList.map_key_map Conn.key (fun x => by split <;> rfl) _).trans h
      | false =>
        simp only [Bool.false_eq_true, if_false]
        rw [hk]; exact table_filter h r
    · have hl := (table_lookup h r).2 hr
      simp only [hl]
      cases wf with
      | true =>
        have hc : live.contains r = false := by simpa using hr
        simp only [if_true, hc, Bool.false_eq_true, if_false]
        simpa [TableInv, normLocal] using h
      | false =>
        simp only [Bool.false_eq_true, if_false]
        rw [List.filter_bne_eq_self_of_not_mem hr]; exact h
  | newConn r =>
    simp only [onAddr, step, liveStep]
    by_cases hr : r ∈ live
    · obtain ⟨c, hl, _⟩ := (table_lookup h r).1 hr
      have hc : live.contains r = true := by simpa using hr
      simp only [hl, hc, if_true]; exact h
    · have hl := (table_lookup h r).2 hr
      have hc : live.contains r = false := by simpa using hr
      simp only [hl, hc, Bool.false_eq_true, if_false]
      simpa [TableInv, normLocal] using h
  | closePeer r =>
    simp only [onAddr, step, liveStep]
    by_cases hr : r ∈ live
    · obtain ⟨c, hl, hk⟩ := (table_lookup h r).1 hr
      simp only [hl]
      rw [hk]; exact table_filter h r
    · have hl := (table_lookup h r).2 hr
      simp only [hl]
      rw [List.filter_bne_eq_self_of_not_mem hr]; exact h

/-- On a listener bound to one concrete address, after every history of well-formed and malformed
    datagrams, server-initiated connections and closes from any peers, the peers that have an entry in the model's peer
    table are exactly those the specification names (latest event a well-formed datagram or a server-initiated
    connection), each once, in the order their entries were created.  (`Spec.Server.liveSpec` is also the judge of the
    `table` correspondence runs against the real server.) -/
theorem table_meets_spec (a : Nat) (evs : List SEv) :
    (run {} (evs.map (onAddr a))).conns.map (·.key.1) = liveSpec evs := by
  have key : TableInv a (run {} (evs.map (onAddr a))) (liveSpec evs) := by
    rw [run, List.foldl_map]
    exact List.foldl_rel (r := TableInv a) rfl fun e _ s live h => table_step a s live e h
  simpa only [List.map_map, Function.comp_def, List.map_id'] using congrArg (List.map Prod.fst) key

example : liveSpec [.dgram 1 true, .dgram 2 true, .dgram 1 false, .dgram 1 true, .newConn 3, .dgram 3 false, .closePeer 2, .dgram 9 false]
    = [1] := by decide +kernel

/-! ### discovery: a response is routed by its token, and a running discovery keeps its receiver whatever other calls do -/

theorem discovery_routing (registered : List Nat) (r : Resp) :
    (route registered r = .toReceiver r.token r.conn r.tag ↔ r.token ∈ registered) ∧
    (route registered r = .toDefault r.conn r.tag ↔ r.token ∉ registered) := by
  unfold route
  by_cases hm : r.token ∈ registered
  · simp [hm]
  · simp [hm]

/-- at most one registered discovery per token -/
def UniqueTok (s : List (Nat × Nat)) : Prop := s.Pairwise (fun a b => a.2 ≠ b.2)

theorem dstep_start (s : List (Nat × Nat)) (id tok : Nat) :
    dstep s (.start id tok) = if s.any (fun e => e.2 == tok) then (s, .refused) else (s ++ [(id, tok)], .registered) := rfl
theorem dstep_finish (s : List (Nat × Nat)) (id : Nat) : dstep s (.finish id) = (s.filter (fun e => e.1 != id), .done) := rfl
theorem dstep_resp (s : List (Nat × Nat)) (r : Resp) :
    dstep s (.resp r) = match s.find? (fun e => e.2 == r.token) with
      | some e => (s, .toReceiverOf e.1 r.conn r.tag)
      | none => (s, .toDefault r.conn r.tag) := rfl

theorem dstep_unique (s : List (Nat × Nat)) (ev : DEv) (h : UniqueTok s) : UniqueTok (dstep s ev).1 := by
  cases ev with
  | start id tok =>
    rw [dstep_start]
    split
    · exact h
    · rename_i ha
      exact List.pairwise_map.1 (Lemmas.KeyedList.nodup_append_one Prod.snd (List.pairwise_map.2 h) fun a ha' e =>
        ha (List.any_eq_true.mpr ⟨a, ha', beq_iff_eq.mpr e⟩))
  | finish id => exact List.Pairwise.filter _ h
  | resp r => rw [dstep_resp]; split <;> exact h

/-- A refused call changes nothing: a `DiscoveryRequest` whose token belongs to a running discovery is refused and
    the registration table is left exactly as it was. -/
theorem refused_start_changes_nothing (s : List (Nat × Nat)) (id id' tok : Nat) (hm : (id, tok) ∈ s) :
    dstep s (.start id' tok) = (s, .refused) := by
  rw [dstep_start, if_pos (List.any_eq_true.mpr ⟨(id, tok), hm, beq_self_eq_true tok⟩)]

/-- The registration of a running discovery is stable: whatever other discoveries start (also with the same
    token), finish or receive in the meantime, as long as discovery `id` itself has not finished it stays registered. -/
theorem owner_stable (evs : List DEv) : ∀ (s : List (Nat × Nat)) (id tok : Nat), UniqueTok s → (id, tok) ∈ s →
    (∀ ev ∈ evs, ev ≠ .finish id) → UniqueTok (drun s evs) ∧ (id, tok) ∈ drun s evs := by
  intro s id tok hu hm hne
  refine List.foldlRecOn evs _ (motive := fun s => UniqueTok s ∧ (id, tok) ∈ s) ⟨hu, hm⟩ fun s ⟨hu, hm⟩ ev hev =>
    ⟨dstep_unique s ev hu, ?_⟩
  cases ev with
  | start id' tok' =>
    rw [dstep_start]
    split
    · exact hm
    · exact List.mem_append_left _ hm
  | finish id' =>
    rw [dstep_finish]
    exact List.mem_filter.mpr ⟨hm, bne_iff_ne.mpr fun e => hne _ hev (e ▸ rfl)⟩
  | resp r => rw [dstep_resp]; split <;> exact hm

/-- Responses go to the receiver registered for their token (the conclusion of C10's last clause): after any
    history in which discovery `id` (token `tok`) registered and has not finished, a response carrying `tok` is handed to
    the receiver of `id`, with the connection of the peer that sent it.  (A response whose token no running discovery
    registered goes to the server's ordinary handler: `unregistered_to_default`.) -/
theorem discovery_delivery (evs : List DEv) (s : List (Nat × Nat)) (id tok : Nat) (r : Resp) (hu : UniqueTok s)
    (hm : (id, tok) ∈ s) (hne : ∀ ev ∈ evs, ev ≠ .finish id) (ht : r.token = tok) :
    (dstep (drun s evs) (.resp r)).2 = .toReceiverOf id r.conn r.tag := by
  obtain ⟨hu', hm'⟩ := owner_stable evs s id tok hu hm hne
  rw [dstep_resp, ht, Lemmas.KeyedList.find?_of_mem Prod.snd (List.pairwise_map.2 hu') hm']

theorem unregistered_to_default (s : List (Nat × Nat)) (r : Resp) (h : ∀ e ∈ s, e.2 ≠ r.token) :
    (dstep s (.resp r)).2 = .toDefault r.conn r.tag := by
  rw [dstep_resp, Lemmas.KeyedList.find?_absent Prod.snd h]

/-- Non-vacuity: discovery 1 (token 7) runs; discovery 2 with the same token is refused and ends; the response with token 7
    still reaches receiver 1; a response with token 8 goes to the default handler; after discovery 1 ends so does token 7. -/
example : dtrace [] [.start 1 7, .start 2 7, .finish 2, .resp ⟨7, 40, 0⟩, .resp ⟨8, 41, 1⟩, .finish 1, .resp ⟨7, 40, 2⟩]
    = [.registered, .refused, .done, .toReceiverOf 1 40 0, .toDefault 41 1, .done, .toDefault 40 2] := by decide +kernel

end CoapVerif.Props.C10

section Audit
open CoapVerif.Props.C10
#print axioms key_normalisation
#print axioms key_eq_spec
#print axioms step_cases
#print axioms keys_nodup
#print axioms one_conn_per_key
#print axioms step_other
#print axioms step_same
#print axioms run_view
#print axioms non_interference
#print axioms in_arrival_order
#print axioms table_lookup
#print axioms table_filter
#print axioms table_step
#print axioms table_meets_spec
#print axioms discovery_routing
#print axioms dstep_start
#print axioms dstep_finish
#print axioms dstep_resp
#print axioms dstep_unique
#print axioms refused_start_changes_nothing
#print axioms owner_stable
#print axioms discovery_delivery
#print axioms unregistered_to_default
end Audit
