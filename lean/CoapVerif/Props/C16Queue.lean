import CoapVerif.Model.LimiterQueueSlice
/-!
# C16 — the per-path waiter queue is a Go slice: what the model's list stands for, at any length

Statement (properties.jsonl): … **Requests waiting for the same path are admitted in arrival order, a cancelled waiter neither
takes nor gives away a slot it does not own**, and once all calls have returned the limiter is idle again …

`Model/Limiter.lean` keeps the waiters of a path as a list (`Ep.queue`): an arrival that finds the path full does
`queue ++ [id]`, a release takes the head (`h :: t ↦ t`), a cancelled waiter is erased.  The code keeps a slice
`orderedRequest []chan struct{}`: `append`, `q[1:]`, `slices.Delete`.  The theorems of `Props/C16.lean` quantify over event
lists of any length, so over queues of any length — but they are about the list.  This file proves that the list IS the
contents of the slice, whatever its length and whatever the capacity and the history of its backing array
(`Model/LimiterQueueSlice.lean`):

* `append_refines`, `pop_refines`, `delete_refines` (bundle `slice_queue_refines_list`) — each slice operation of the reviewed
  code acts on the contents exactly as the model's list operation does; `pop_cap` records that a pop lowers the capacity
  together with the length (which is why only a burst of more than 64 waiters, drained, ever has a large and sparsely
  used array).
* `shrinkCopy_contents` — a step that moves the queue to a smaller array keeps the refinement if it copies into a slice of the
  queue's LENGTH.
* `copy_into_empty_copies_nothing`, `shrinkIntoEmpty_contents`, `seeded_shrink_loses_waiters` — the seeded shape C16-W
  (`if cap >= 64 && len <= cap/4`: `make(…, 0, cap/2)` then `copy`; hence the 64, `/ 4` and `/ 2` of `shrinkCopy` and
  `shrinkIntoEmpty`) does not: when it fires the contents become empty; concretely a burst of 65 waiters
  drained by 44 pops has 21 waiters in an array of 84 cells, and the step leaves none.  `below_threshold_unchanged`: with an array
  of fewer than 64 cells the step is the identity — histories with a handful of waiters cannot tell the difference, which is
  why the generated set contains bursts of waiters on one path at the sizes around which the array grows (checks/c16.py,
  `BURSTS_QUICK`, `BURSTS_THOROUGH`).

On the real code the situation is executed, not assumed: harness/c16 `burst` / the fixed burst histories, judged by
Spec/Limiter.lean (leak, endpoint-limit, fifo) and checked for trace inclusion in the model.
-/
namespace CoapVerif.Props.C16Queue
open CoapVerif.Model.LimiterQueueSlice CoapVerif.Model.LimiterQueueSlice.GoSlice

def Holds (q : GoSlice) (l : List Nat) : Prop := q.WF ∧ q.contents = l

theorem length_contents {q : GoSlice} (wf : q.WF) : q.contents.length = q.len := List.length_take_of_le wf

theorem take_set_succ (cells : List Nat) (n x : Nat) (h : n < cells.length) :
    (cells.set n x).take (n + 1) = cells.take n ++ [x] := by
  rw [List.take_succ_eq_append_getElem (by rw [List.length_set]; exact h), List.getElem_set_self,
    List.take_set_of_le (Nat.le_refl n)]

/-- `append(q, x)` (`acquireEndpoint`, path full) is `queue ++ [id]` -/
theorem append_refines (q : GoSlice) (l : List Nat) (x : Nat) (h : Holds q l) : Holds (q.append x) (l ++ [x]) := by
  obtain ⟨wf, hc⟩ := h
  unfold GoSlice.append
  by_cases hlt : q.len < q.cells.length
  · simp only [hlt, if_true]
    refine ⟨?_, ?_⟩
    · simp only [WF, List.length_set]; omega
    · simp only [contents]; rw [take_set_succ _ _ _ hlt]; rw [← hc]; rfl
  · simp only [hlt, if_false]
    have hlen := length_contents wf
    refine ⟨?_, ?_⟩
    · simp only [WF, List.length_append, List.length_cons, List.length_replicate, hlen]; omega
    · have e : ∀ R : List Nat, q.contents ++ x :: R = (q.contents ++ [x]) ++ R := by intro R; simp
      show List.take (q.len + 1) (q.contents ++ x :: List.replicate (grown q.cells.length - (q.len + 1)) 0) = l ++ [x]
      rw [e, List.take_append_of_le_length (by simp [hlen]), List.take_of_length_le (by simp [hlen]), hc]

/-- `q[1:]` (`releaseEndpoint` hands the slot to the first waiter) is `h :: t ↦ t` -/
theorem pop_refines (q : GoSlice) (h : Nat) (t : List Nat) (hq : Holds q (h :: t)) : Holds q.pop t := by
  obtain ⟨wf, hc⟩ := hq
  refine ⟨?_, ?_⟩
  · show q.len - 1 ≤ q.cells.tail.length
    rw [List.length_tail]; exact Nat.sub_le_sub_right wf 1
  · -- `len - 1` cells of the array behind its first are the `len` cells without their first
    show q.cells.tail.take (q.len - 1) = t
    rw [← List.drop_one, ← List.drop_take, List.drop_one, show q.cells.take q.len = h :: t from hc]; rfl

/-- a pop lowers the capacity together with the length: the array of a burst stays as large as the burst made it only in the
    part behind the queue -/
theorem pop_cap (q : GoSlice) : q.pop.cap = q.cap - 1 := by simp [pop, cap]

theorem pop_len (q : GoSlice) : q.pop.len = q.len - 1 := rfl

/-- `slices.Delete(q, i, i+1)` (`cancelEndpoint` withdraws a queued waiter) removes the `i`-th waiter and nothing else; the
    capacity is unchanged -/
theorem delete_refines (q : GoSlice) (l : List Nat) (i : Nat) (h : Holds q l) : Holds (q.delete i) (l.eraseIdx i) := by
  obtain ⟨wf, hc⟩ := h
  have hlen := length_contents wf
  unfold WF at wf
  unfold GoSlice.delete
  by_cases hi : i < q.len
  · simp only [hi, if_true]
    have hel : (q.contents.eraseIdx i).length = q.len - 1 := by rw [List.length_eraseIdx]; simp [hlen, hi]
    refine ⟨?_, ?_⟩
    · simp only [WF, List.length_append, hel, List.length_cons, List.length_drop]; omega
    · show List.take (q.len - 1) (q.contents.eraseIdx i ++ 0 :: q.cells.drop q.len) = l.eraseIdx i
      rw [List.take_append_of_le_length (by omega), List.take_of_length_le (by omega), hc]
  · simp only [hi, if_false]
    refine ⟨wf, ?_⟩
    rw [hc, List.eraseIdx_of_length_le]
    rw [← hc, hlen]; omega

theorem delete_cap (q : GoSlice) (i : Nat) (wf : q.WF) : (q.delete i).cap = q.cap := by
  unfold WF at wf
  unfold GoSlice.delete
  by_cases hi : i < q.len
  · simp only [hi, if_true, cap, List.length_append, List.length_cons, List.length_drop, List.length_eraseIdx,
      length_contents wf]
    omega
  · simp [hi]

/-- The three operations the reviewed code performs on `orderedRequest` refine the three operations of the model's `Ep.queue`,
    for queues of any length in arrays of any capacity.  That these are the operations of `epRegister`, `epRelease` and
    `epCancel` is by reading: `Model/Limiter.lean` is not imported here, and its `erase id` is `eraseIdx` at the waiter's
    position because a request is queued at most once (the queue is `waitingFor`, a sublist of the duplicate-free arrivals:
    `InvEp`, `InvBase.nodup` in `Lemmas/Limiter.lean`), which no theorem states in that form. -/
theorem slice_queue_refines_list (q : GoSlice) (l : List Nat) (h : Holds q l) :
    (∀ x, Holds (q.append x) (l ++ [x])) ∧
    (∀ hd t, l = hd :: t → Holds q.pop t) ∧
    (∀ i, Holds (q.delete i) (l.eraseIdx i)) :=
  ⟨fun x => append_refines q l x h, fun hd t e => pop_refines q hd t (e ▸ h), fun i => delete_refines q l i h⟩

theorem empty_holds : Holds GoSlice.empty [] := ⟨by simp [WF, GoSlice.empty], rfl⟩

/-- non-vacuity: three waiters, the middle one withdrawn, the first admitted -/
example : ((((GoSlice.empty.append 5).append 6).append 7).delete 1).pop.contents = [7] := by decide

theorem copy_into_empty_copies_nothing (c : Nat) (q : GoSlice) : (copyFrom (make 0 c) q).contents = [] := by
  simp [copyFrom, make, contents]

/-- moving the queue to a smaller array keeps every waiter when the new slice is made with the queue's length -/
theorem shrinkCopy_contents (q : GoSlice) (m : Nat) (wf : q.WF) : (shrinkCopy q m).contents = q.contents := by
  unfold WF at wf
  unfold shrinkCopy
  split
  · rfl
  · simp only [copyFrom, make, contents, Nat.min_self]
    rw [List.take_append_of_le_length (by simp only [List.length_take]; omega)]
    rw [List.take_take, Nat.min_self]

/-- the seeded step: whenever it fires, no waiter is left in the queue -/
theorem shrinkIntoEmpty_contents (q : GoSlice) (m : Nat) :
    (shrinkIntoEmpty q m).contents = if q.cells.length < m ∨ q.len > q.cells.length / 4 then q.contents else [] := by
  unfold shrinkIntoEmpty
  split
  · rfl
  · exact copy_into_empty_copies_nothing _ q

/-- below the threshold the seeded step is the identity: no history with an array of fewer than 64 cells can tell it from the
    reviewed code -/
theorem below_threshold_unchanged (q : GoSlice) (m : Nat) (h : q.cap < m) : shrinkIntoEmpty q m = q := by
  unfold shrinkIntoEmpty; simp only [cap] at h; simp [h]

/-- 65 requests queue up behind the holder (the array grows to 128 cells), 44 completions hand the path on: 21 waiters in an
    array of 84 cells — at most a quarter used, at least 64 cells.  The reviewed code keeps them; the seeded step leaves none. -/
def drained65 : GoSlice := popN (burst GoSlice.empty 1 65) 44

theorem seeded_shrink_loses_waiters :
    drained65.len = 21 ∧ drained65.cap = 84 ∧
    (keep drained65).contents = List.range' 45 21 ∧
    (shrinkCopy drained65 64).contents = List.range' 45 21 ∧
    (shrinkIntoEmpty drained65 64).contents = [] := by
  decide +kernel

set_option maxRecDepth 200000 in
/-- … and a burst of 64 never reaches the threshold once a waiter has been popped -/
example : (burst GoSlice.empty 1 64).cap = 64 ∧ (popN (burst GoSlice.empty 1 64) 1).cap = 63 := by decide +kernel

end CoapVerif.Props.C16Queue

section Audit
open CoapVerif.Props.C16Queue
#print axioms length_contents
#print axioms take_set_succ
#print axioms append_refines
#print axioms pop_refines
#print axioms pop_cap
#print axioms pop_len
#print axioms delete_refines
#print axioms delete_cap
#print axioms slice_queue_refines_list
#print axioms empty_holds
#print axioms copy_into_empty_copies_nothing
#print axioms shrinkCopy_contents
#print axioms shrinkIntoEmpty_contents
#print axioms below_threshold_unchanged
#print axioms seeded_shrink_loses_waiters
end Audit
