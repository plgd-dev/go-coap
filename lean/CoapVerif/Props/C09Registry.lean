import CoapVerif.Model.ConnRegistry
/-!
# C09 — stopping a stream / DTLS server ends every accepted connection, whatever a connection's `Close()` reports

Statement (properties.jsonl, C09): "… Closing a connection or stopping a server is idempotent and safe while operations are
in flight: it completes the connection's done signal and runs every registered on-close callback exactly once."

For the servers that keep their accepted connections in `pkg/connections` the done signal of a connection is completed by
its reader (`Session.Run` → `shutdown`) once the transport is closed (`done_completes`, Props/C09.lean); what closes the
transports after `Stop()` is `Connections.Close()`.  This file proves that this step reaches EVERY registered connection for
every number of connections, every order and every pattern of connections whose `Close()` reports an error — and that the
shape which leaves the loop at the first reported error does not (seeded change C09-V).

Tie: `Generated.BlockingWaits.registryCloseVisitsAll` (harness/cmd/extract/gen_c09_waits.go: the loop of
`Connections.Close` contains no return / break / goto / continue / panic); the cases `case tcp|dtls srvstop k<N>f|h stop` run
the real servers over transports whose `Close()` releases the connection and reports an error.
-/
namespace CoapVerif.Props.C09Registry
open CoapVerif.Model.ConnRegistry

theorem closeAll_eq_map (cs : List Conn) : closeAll cs = cs.map (·.close.1) := by
  induction cs with
  | nil => rfl
  | cons c cs ih => simp [closeAll, ih]

theorem closeAll_length (cs : List Conn) : (closeAll cs).length = cs.length := by
  rw [closeAll_eq_map, List.length_map]

theorem closeAll_closes_every (cs : List Conn) : ∀ c ∈ closeAll cs, c.opened = false := by
  rw [closeAll_eq_map]
  intro c h
  obtain ⟨d, _, rfl⟩ := List.mem_map.mp h
  rfl

theorem closeAll_no_reader_left (cs : List Conn) : readersLeft (closeAll cs) = 0 := by
  unfold readersLeft
  rw [List.length_eq_zero_iff, List.filter_eq_nil_iff]
  intro c h
  simp [closeAll_closes_every cs c h]

/-- the shape of the source is the one whose loop nothing leaves early -/
theorem registry_loop_visits_all : CoapVerif.Generated.BlockingWaits.registryCloseVisitsAll = true := by decide

/-- Stop ends every accepted connection: for every snapshot of the registry — any number of connections, any order,
any of them reporting an error from `Close()` — no reader is left after the registry was closed, so `Serve` returns. -/
theorem stop_ends_every_connection (cs : List Conn) : serveReturns cs = true := by
  simp [serveReturns, registryClose, registry_loop_visits_all, closeAll_no_reader_left]

/-- non-vacuity: three open connections, the first and the third report an error -/
example : serveReturns [⟨true, true⟩, ⟨true, false⟩, ⟨true, true⟩] = true := by decide

/-- What the early-return shape does: a connection that is open behind one whose `Close()` reports an error stays open —
for every prefix and suffix. -/
theorem early_return_leaves_open (pre post : List Conn) (f c : Conn) (hf : f.closeFails = true)
    (hpre : ∀ p ∈ pre, p.closeFails = false) :
    c ∈ closeUntilError (pre ++ f :: c :: post) := by
  induction pre with
  | nil => simp [closeUntilError, Conn.close, hf]
  | cons p ps ih =>
    have hp : p.closeFails = false := hpre p (List.mem_cons_self ..)
    have ih' := ih (fun q hq => hpre q (List.mem_cons_of_mem _ hq))
    simp only [List.cons_append, closeUntilError, Conn.close, hp]
    exact List.mem_cons_of_mem _ ih'

/-- … and then `Serve` does not return: a reader is left in its `Read`, for every such registry. -/
theorem early_return_serve_hangs (pre post : List Conn) (f c : Conn) (hf : f.closeFails = true) (hc : c.opened = true)
    (hpre : ∀ p ∈ pre, p.closeFails = false) :
    0 < readersLeft (closeUntilError (pre ++ f :: c :: post)) := by
  unfold readersLeft
  exact List.length_pos_of_mem (List.mem_filter.mpr ⟨early_return_leaves_open pre post f c hf hpre, by simp [hc]⟩)

theorem early_return_serve_hangs_witness :
    readersLeft (closeUntilError [⟨true, true⟩, ⟨true, false⟩]) = 1 := by decide

end CoapVerif.Props.C09Registry

section Audit
open CoapVerif.Props.C09Registry
#print axioms closeAll_eq_map
#print axioms closeAll_length
#print axioms closeAll_closes_every
#print axioms closeAll_no_reader_left
#print axioms registry_loop_visits_all
#print axioms stop_ends_every_connection
#print axioms early_return_leaves_open
#print axioms early_return_serve_hangs
#print axioms early_return_serve_hangs_witness
end Audit
