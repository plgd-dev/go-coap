import CoapVerif.Go.Basic
import CoapVerif.Model.PoolRetry
import CoapVerif.Spec.Wire
import CoapVerif.Lemmas.OptionEncode
import CoapVerif.Lemmas.OptionRoundTrip
import CoapVerif.Lemmas.CoderEncode
import CoapVerif.Lemmas.CoderRoundTrip
import CoapVerif.Lemmas.PoolRetry
/-!
# C01 — Wire codecs are exact inverses on every well-formed message (UDP and TCP)

Statement (properties.jsonl): for every CoAP message that satisfies the wire-format preconditions
(token of 0-8 bytes, options in ascending number order with non-zero numbers, registry-legal value
lengths and at most 65804 value bytes, code 0-255, and for datagram framing a valid type and 16-bit
message ID), encoding it with the datagram or the stream coder and decoding the result yields an
equal message and consumes exactly the bytes produced.  The size reported in advance equals the
number of bytes the encoder writes, and encoding into a too-small buffer fails by reporting that
same size without touching memory beyond the buffer.  Anything outside the preconditions (oversized
token, invalid type or message ID) is refused with an error rather than silently truncated.

* Preconditions = `Spec.Wire.WF` (decidable); RFC encoders = `Spec.Wire.encUdp` / `encTcp` (no buffers).
* Models = `Model/{OptionCodec,UdpCoder,TcpCoder,PoolMessage,PoolRetry}.lean`: the Go code statement by statement,
  destination buffers as contents with bounds-checked writes (`Err.panic` = the Go runtime would panic),
  constants and option tables from `Generated/` (regenerated from /repo on every run).
* All theorems quantify over every message, every buffer (contents and length) and every option
  capacity; nothing is enumerated.
* The last sentence of the statement is FALSE of the current code for message types 4..255 (DESIGN §6-F15,
  known finding, witness in `Findings/C01.lean`); `udp_rejects_partial` proves the part that holds.
-/
namespace CoapVerif.Props.C01
open CoapVerif CoapVerif.Model CoapVerif.Model.OptionCodec CoapVerif.Model.PoolMessage
open CoapVerif.Generated.Codec CoapVerif.Generated.OptionDefs
open CoapVerif.Spec.Wire
open CoapVerif.Lemmas.OptionCodec CoapVerif.Lemmas.OptionEncode CoapVerif.Lemmas.OptionRoundTrip
open CoapVerif.Lemmas.CoderDecode CoapVerif.Lemmas.CoderEncode CoapVerif.Lemmas.CoderRoundTrip CoapVerif.Lemmas.PoolRetry
open CoapVerif.Lemmas.LengthClasses CoapVerif.Lemmas.WireSpec

/-! ## Tie: the tables the code consults are the registries of the specification -/

/-- `message.CoapOptionDefs` (regenerated) = RFC 7252 Table 4 (+ RFC 7641/7959/7967), and no entry has
format `ValueUnknown`. -/
theorem registry_eq_rfc : regOf coapOptionDefs = rfcRegistry ∧ noUnknown coapOptionDefs = true :=
  ⟨coap_regOf, coap_noUnknown⟩

/-- The four signalling tables of `message/tcpOptions.go` = RFC 8323 §5.3–5.6. -/
theorem signal_registries_eq_rfc :
    regOf tcpSignalCSMOptionDefs = csmRegistry ∧ regOf tcpSignalPingPongOptionDefs = pingPongRegistry ∧
    regOf tcpSignalReleaseOptionDefs = releaseRegistry ∧ regOf tcpSignalAbortOptionDefs = abortRegistry :=
  ⟨csm_regOf, pingpong_regOf, release_regOf, abort_regOf⟩

/-- `DecodeWithHeader` selects the table by the RFC 8323 signalling code, for every code. -/
theorem signal_table_selection (code : Nat) : regOf (TcpCoder.defsFor code) = registryFor .tcp code :=
  defsFor_regOf code

/-! ## Option delta/length nibble + extension -/

/-- `parseExtOpt` inverts the extension encoding in all three classes (0–12 / 13–268 / 269–65804). -/
theorem ext_codec_roundtrip (v : Nat) (h : v ≤ 65804) (r : Bytes) :
    nib v < 15 ∧ parseExtOpt (ext v ++ r) (nib v) = .ok ((ext v).length, v) := by
  refine ⟨nib_lt v, ?_⟩
  rw [parseExtOpt_eq, (decExt_iff (nib_lt v)).mpr ⟨h, rfl, rfl⟩]
  simp

/-- `marshalOptionHeader` into a large-enough buffer writes the RFC header (first byte with both
nibbles, then the two extensions) and nothing else. -/
theorem optHeader_roundtrip (d l : Nat) (hd : d ≤ 65804) (hl : l ≤ 65804) (buf : Bytes)
    (hfit : 1 + (ext d).length + (ext l).length ≤ buf.length) :
    marshalOptionHeader buf (d : Int) (l : Int) =
      .ok (1 + (ext d).length + (ext l).length, false,
        UInt8.ofNat (nib d * 16 + nib l) :: (ext d ++ ext l) ++ buf.drop (1 + (ext d).length + (ext l).length)) ∧
    (UInt8.ofNat (nib d * 16 + nib l)).toNat / 16 = nib d ∧ (UInt8.ofNat (nib d * 16 + nib l)).toNat % 16 = nib l := by
  have hh := hdrB_nat d l hd hl
  have hlen : (hdrB (d : Int) (l : Int)).length = 1 + (ext d).length + (ext l).length := by
    rw [hh]; simp; omega
  refine ⟨?_, nibbles_toNat (Nat.lt_succ_of_lt (nib_lt d)) (Nat.lt_succ_of_lt (nib_lt l))⟩
  rw [← hlen, ← hh]
  exact (header_writes (d : Int) (l : Int)).fits (hlen ▸ hfit)

/-! ## Two-pass `Options.Marshal` sharing one code path -/

/-- For every option list and every buffer: `Options.Marshal` never panics, never changes the length of
the buffer, returns the same length the nil-buffer (sizing) pass returns, reports "too small" exactly
when the buffer is shorter than that, and otherwise has written exactly `optsB` at the front. -/
theorem options_marshal_contract (os : List Opt) (buf : Bytes) :
    optionsMarshal none os = .ok ((optsB 0 os).length, true, []) ∧
    ∃ w, optionsMarshal (some buf) os = .ok ((optsB 0 os).length, decide (buf.length < (optsB 0 os).length), w) ∧
      w.length = buf.length ∧ ((optsB 0 os).length ≤ buf.length → w = optsB 0 os ++ buf.drop (optsB 0 os).length) :=
  ⟨optionsMarshal_nil os, (options_writes os).explicit buf⟩

/-- On ascending lists with expressible deltas and lengths the bytes written are the RFC 7252 §3.1 bytes. -/
theorem options_marshal_eq_spec (reg : List (Nat × Nat × Nat)) (os : List Opt) (h : optsWF reg 0 os = true) :
    optsB 0 os = encOpts 0 os :=
  optsB_eq_encOpts reg os 0 h

/-- `Options.Unmarshal ∘ Options.Marshal = id`: marshal into any large-enough buffer, unmarshal what was written, with any
capacity ≥ the number of options. -/
theorem options_unmarshal_marshal (defs : Defs) (hu : noUnknown defs = true) (os : List Opt)
    (hwf : optsWF (regOf defs) 0 os = true) (buf : Bytes) (hfit : (encOpts 0 os).length ≤ buf.length)
    (cap : Nat) (hc : os.length ≤ cap) :
    ∃ w, optionsMarshal (some buf) os = .ok ((encOpts 0 os).length, false, w) ∧
      w = encOpts 0 os ++ buf.drop (encOpts 0 os).length ∧
      optionsUnmarshal defs cap 0 (w.take (encOpts 0 os).length) = .ok (os, (encOpts 0 os).length) := by
  have hw := (options_writes os).fits (options_marshal_eq_spec _ os hwf ▸ hfit)
  rw [options_marshal_eq_spec _ os hwf] at hw
  refine ⟨_, hw, rfl, ?_⟩
  rw [List.take_left' rfl]
  rw [optionsUnmarshal_eq]
  have := decLoop_encOpts defs hu os [] cap 0 0 hwf (by omega)
  simp only [encPayload, List.isEmpty_nil, ↓reduceIte, List.append_nil] at this
  rw [this]
  simp

/-! ## Both coders on a well-formed message -/

/-- The RFC encoder for a coder of the model: `Spec.Wire.enc (framingOf c)`. -/
def wireOf : Coder → Msg → Bytes
  | .udp => encUdp
  | .tcp => encTcp

/-- `Encode`: the size check first, then exactly the RFC bytes at the front. -/
theorem encode_spec (c : Coder) (m : Msg) (h : WF (framingOf c) m = true) (buf : Bytes) :
    c.encode m buf =
      if buf.length < (wireOf c m).length then .ok ⟨(wireOf c m).length, true, buf⟩
      else .ok ⟨(wireOf c m).length, false, wireOf c m ++ buf.drop (wireOf c m).length⟩ := by
  cases c with
  | udp =>
    obtain ⟨hmid, htyp, htk, hcd⟩ := udp_valid_of_WF m h
    simp only [wireOf, ← udpB_eq_spec m h]
    exact udp_encode_eq m hmid htyp hcd htk buf
  | tcp =>
    obtain ⟨htk, hcode, -⟩ := WF_tcp.mp h
    simp only [wireOf, ← tcpB_eq_spec m h]
    exact tcp_encode_eq m htk (by omega) buf

theorem size_spec (c : Coder) (m : Msg) (h : WF (framingOf c) m = true) : c.size m = .ok (wireOf c m).length := by
  cases c with
  | udp =>
    obtain ⟨_, _, htk, _⟩ := udp_valid_of_WF m h
    exact (udp_size m htk).trans (by rw [udpB_eq_spec m h]; rfl)
  | tcp =>
    -- `Size` = `Encode(m, nil)`
    have : 0 < (encTcp m).length := by unfold encTcp; simp
    show TcpCoder.size m = _
    unfold TcpCoder.size
    rw [show TcpCoder.encode m [] = _ from encode_spec .tcp m h []]
    simp [wireOf, this, bind, Except.bind]

theorem decode_encode (c : Coder) (m : Msg) (h : WF (framingOf c) m = true) (cap : Nat) (hc : m.options.length ≤ cap) :
    c.decode cap (wireOf c m) = .ok (canon (framingOf c) m, (wireOf c m).length) := by
  cases c with
  | udp => exact (udp_decode_eq cap _).trans (framed_encUdp m h cap hc)
  | tcp => exact (tcp_decode_eq cap _).trans (framed_encTcp m h cap hc)

/-! ## Datagram coder -/

theorem udp_size_eq (m : Msg) (h : WF .udp m = true) : UdpCoder.size m = .ok (encUdp m).length :=
  size_spec .udp m h

/-- Buffer at least `size`: no panic, returns `(size, nil)`, the buffer then starts with exactly the RFC
encoding and everything behind it is untouched. -/
theorem udp_encode_eq_spec (m : Msg) (h : WF .udp m = true) (buf : Bytes) (hfit : (encUdp m).length ≤ buf.length) :
    UdpCoder.encode m buf = .ok ⟨(encUdp m).length, false, encUdp m ++ buf.drop (encUdp m).length⟩ :=
  (encode_spec .udp m h buf).trans (if_neg (Nat.not_lt.mpr hfit))

/-- Every buffer shorter than `size` (contents and length arbitrary): returns `(size, ErrTooSmall)`, never
panics, and the buffer is returned exactly as it was — nothing is written, inside or outside. -/
theorem udp_encode_small (m : Msg) (h : WF .udp m = true) (buf : Bytes) (hc : buf.length < (encUdp m).length) :
    UdpCoder.encode m buf = .ok ⟨(encUdp m).length, true, buf⟩ :=
  (encode_spec .udp m h buf).trans (if_pos hc)

theorem udp_decode_encode (m : Msg) (h : WF .udp m = true) (cap : Nat) (hc : m.options.length ≤ cap) :
    UdpCoder.decode cap (encUdp m) = .ok (canon .udp m, (encUdp m).length) :=
  decode_encode .udp m h cap hc

/-- End to end through the real call sequence: `Size`, `Encode` into a buffer of that size, `Decode`. -/
theorem udp_roundtrip (m : Msg) (h : WF .udp m = true) (buf : Bytes) (hb : buf.length = (encUdp m).length) :
    ∃ r, UdpCoder.encode m buf = .ok r ∧ r.tooSmall = false ∧
      UdpCoder.decode m.options.length (r.buf.take r.n) = .ok (m, r.n) := by
  refine ⟨_, udp_encode_eq_spec m h buf (by omega), rfl, ?_⟩
  simp only [List.take_left' rfl]
  exact udp_decode_encode m h _ (Nat.le_refl _)

/-- PARTIAL (known finding F15).  Full statement of the property: a message with token longer than 8
bytes, code above 255, type outside 0..3 or message ID outside 0..65535 is refused with an error, for every
buffer.  Proved: the same with type outside 0..255 — `message.ValidateType` admits 4..255 and the encoder then
keeps only two bits (see `Findings/C01.lean` for the witness that the full statement is false).  The code
clause holds since the fix of F27 (`Encode` refuses `m.Code > 0xff`; `codes.Code` is a `uint16`). -/
theorem udp_rejects_partial (m : Msg) (buf : Bytes)
    (h : m.token.length > 8 ∨ m.code > 255 ∨ m.typ < 0 ∨ m.typ > 255 ∨ m.mid < 0 ∨ m.mid > 65535) :
    ∃ e, UdpCoder.encode m buf = .error e ∧ e ≠ .panic := by
  unfold UdpCoder.encode
  by_cases hm : UdpCoder.validateMID m.mid = true
  · by_cases ht : UdpCoder.validateType m.typ = true
    · by_cases hc : m.code > 255
      · exact ⟨.badCode, by simp [hm, ht, hc], by decide⟩
      · -- the three guards passed, so it is the token, which `Size` refuses
        have htk : m.token.length > 8 := by
          have := (validateMID_iff _).mp hm
          have := (validateType_iff _).mp ht
          omega
        have hs : UdpCoder.size m = .error .badToken := by
          unfold UdpCoder.size; simp [maxTokenSize, htk]
        exact ⟨.badToken, by simp [hm, ht, hc, hs], by decide⟩
    · exact ⟨.badType, by simp [hm, ht], by decide⟩
  · exact ⟨.badMID, by simp [hm], by decide⟩

/-! ## Stream coder -/

/-- All four length classes 0–12 / 13–268 / 269–65804 / 65805+: `getHeader` is the RFC 8323 §3.2 length
nibble and extended length (thresholds and bases from the regenerated constants), and the decoder's
extended-length parser inverts it. -/
theorem tcp_header_classes (l : Nat) (h : l < messageMaxLen) (r : Bytes) :
    TcpCoder.getHeader l = (lenNib l, extLen l) ∧
    tcpExt (lenNib l) (extLen l ++ r) = .ok (l, r, 1 + (extLen l).length) ∧
    (l ≤ 12 → lenNib l = l ∧ extLen l = []) ∧
    (13 ≤ l ∧ l ≤ 268 → lenNib l = 13 ∧ (extLen l).length = 1) ∧
    (269 ≤ l ∧ l ≤ 65804 → lenNib l = 14 ∧ (extLen l).length = 2) ∧
    (65805 ≤ l → lenNib l = 15 ∧ (extLen l).length = 4) := by
  refine ⟨getHeader_eq l h, tcpExt_extLen l (by simp [messageMaxLen] at h; omega) r, ?_⟩
  -- in the class of `l` the case lemma gives nibble and extension; the other three classes are excluded by their bounds
  rcases lenNib_extLen_cases l with ⟨_, hn, he⟩ | ⟨_, _, hn, he⟩ | ⟨_, _, hn, he⟩ | ⟨_, hn, he⟩ <;>
    refine ⟨fun _ => ?_, fun _ => ?_, fun _ => ?_, fun _ => ?_⟩ <;> first | exact ⟨hn, he ▸ rfl⟩ | omega

/-- `Size` (= `Encode(m, nil)`) is the length of the RFC encoding. -/
theorem tcp_size_eq (m : Msg) (h : WF .tcp m = true) : TcpCoder.size m = .ok (encTcp m).length :=
  size_spec .tcp m h

theorem tcp_encode_eq_spec (m : Msg) (h : WF .tcp m = true) (buf : Bytes) (hfit : (encTcp m).length ≤ buf.length) :
    TcpCoder.encode m buf = .ok ⟨(encTcp m).length, false, encTcp m ++ buf.drop (encTcp m).length⟩ :=
  (encode_spec .tcp m h buf).trans (if_neg (Nat.not_lt.mpr hfit))

theorem tcp_encode_small (m : Msg) (h : WF .tcp m = true) (buf : Bytes) (hc : buf.length < (encTcp m).length) :
    TcpCoder.encode m buf = .ok ⟨(encTcp m).length, true, buf⟩ :=
  (encode_spec .tcp m h buf).trans (if_pos hc)

/-- Header pre-parse of an encoded frame (followed by anything): consumes exactly the header bytes, declares
exactly the frame length, returns code and token. -/
theorem tcp_decodeHeader_encode (m : Msg) (h : WF .tcp m = true) (rest : Bytes) :
    TcpCoder.decodeHeader (encTcp m ++ rest) =
      .ok ⟨m.token, (encTcp m).length - (encBody m).length, (encTcp m).length, m.code⟩ := by
  obtain ⟨htk, hcode, -, hb⟩ := WF_tcp.mp h
  rw [tcp_decodeHeader_eq, tcpHdr_encTcp m htk hcode hb rest, encTcp_length, Nat.add_sub_cancel]

theorem tcp_decode_encode (m : Msg) (h : WF .tcp m = true) (cap : Nat) (hc : m.options.length ≤ cap) :
    TcpCoder.decode cap (encTcp m) = .ok (canon .tcp m, (encTcp m).length) :=
  decode_encode .tcp m h cap hc

/-- An oversized token or a code above 255 is refused by `Encode` and `Size` (= `Encode(m, nil)`), for every buffer. -/
theorem tcp_rejects (m : Msg) (buf : Bytes) (h : m.token.length > 8 ∨ m.code > 255) :
    (∃ e, TcpCoder.encode m buf = .error e ∧ e ≠ .panic) ∧ (∃ e, TcpCoder.size m = .error e ∧ e ≠ .panic) := by
  have key : ∀ b : Bytes, ∃ e, TcpCoder.encode m b = .error e ∧ e ≠ .panic := by
    intro b
    unfold TcpCoder.encode
    by_cases htk : m.token.length > 8
    · exact ⟨.badToken, by simp [maxTokenSize, htk], by decide⟩
    · have hc : m.code > 255 := by omega
      exact ⟨.badCode, by simp [maxTokenSize, htk, hc], by decide⟩
  refine ⟨key buf, ?_⟩
  obtain ⟨e, he, hne⟩ := key []
  exact ⟨e, by unfold TcpCoder.size; simp [he, bind, Except.bind], hne⟩

/-! ## Pooled marshal / unmarshal -/

/-- `MarshalWithEncoder` produces exactly the RFC encoding (scratch buffer grown as needed). -/
theorem pool_marshal (c : Coder) (r : PoolMsg) (h : WF (framingOf c) r.msg = true) :
    ∃ r', marshalWithEncoder c r = .ok (wireOf c r.msg, r') := by
  unfold marshalWithEncoder
  simp only [bind, Except.bind, size_spec c r.msg h, encode_spec c r.msg h]
  have hfit : ¬ (if r.bufferMarshal.length < (wireOf c r.msg).length then
      grow r.bufferMarshal ((wireOf c r.msg).length - r.bufferMarshal.length) else r.bufferMarshal).length <
        (wireOf c r.msg).length := by
    split
    · simp [grow]; omega
    · omega
  rw [if_neg hfit]
  simp [sliceTo]

/-- The message's own receive buffer after the copy is exactly the caller's data. -/
theorem pool_copy (bu data : Bytes) :
    sliceTo (goCopy (if bu.length < data.length then grow bu (data.length - bu.length) else bu) data) data.length = .ok data :=
  unmarshal_copy bu data

/-- Pooled round trip: whatever the state of the receiving message (any option capacity, including 0,
any scratch-buffer contents), unmarshalling the marshalled bytes yields the message and consumes all bytes. -/
theorem pool_roundtrip (c : Coder) (src dst : PoolMsg) (h : WF (framingOf c) src.msg = true) :
    ∃ src' dst', marshalWithEncoder c src = .ok (wireOf c src.msg, src') ∧
      unmarshalWithDecoder c dst (wireOf c src.msg) = .ok ((wireOf c src.msg).length, dst') ∧
      dst'.msg = canon (framingOf c) src.msg ∧ dst'.bufferUnmarshal = wireOf c src.msg := by
  obtain ⟨src', hs⟩ := pool_marshal c src h
  obtain ⟨cap', hne, he⟩ := unmarshalWithDecoder_eq c dst (wireOf c src.msg)
  -- the capacity the retry loop ends with decodes as one that holds all options does
  rw [decode_cap_indep c cap' (max (wireOf c src.msg).length src.msg.options.length) _ hne
    (decode_big_cap c _ _ (Nat.le_max_left _ _)), decode_encode c src.msg h _ (Nat.le_max_right _ _)] at he
  exact ⟨src', _, hs, he, rfl, rfl⟩

/-! ## Non-vacuity: a message with all three extension classes, a payload and an 8-byte token -/

def exMsg : Msg :=
  ⟨1, 0xBEEF, 0x45, [1, 2, 3, 4, 5, 6, 7, 8],
   [⟨11, [0x61]⟩, ⟨11, []⟩, ⟨30, List.replicate 13 7⟩, ⟨2000, List.replicate 269 9⟩, ⟨65535, [1]⟩], [0xCA, 0xFE]⟩

example : WF .udp exMsg = true ∧ WF .tcp exMsg = true := by decide +kernel
example : (encUdp exMsg).length = 312 ∧ (encTcp exMsg).length = 312 := by decide +kernel
example : UdpCoder.decode 5 (encUdp exMsg) = .ok (exMsg, (encUdp exMsg).length) :=
  udp_decode_encode exMsg (by decide +kernel) 5 (by decide)
example : UdpCoder.encode exMsg (List.replicate 100 0) = .ok ⟨(encUdp exMsg).length, true, List.replicate 100 0⟩ :=
  udp_encode_small exMsg (by decide +kernel) (List.replicate 100 0) (by decide +kernel)
example : TcpCoder.getHeader 65805 = (15, [0, 0, 0, 0]) ∧ TcpCoder.getHeader 268 = (13, [255]) := by decide
example : ∃ e, UdpCoder.encode { exMsg with mid := 65536 } [] = .error e ∧ e ≠ .panic :=
  udp_rejects_partial _ _ (by decide)
example : ∃ e, UdpCoder.encode { exMsg with code := 300 } [] = .error e ∧ e ≠ .panic :=
  udp_rejects_partial _ _ (by decide)

end CoapVerif.Props.C01

section Audit
open CoapVerif.Props.C01
#print axioms registry_eq_rfc
#print axioms signal_registries_eq_rfc
#print axioms signal_table_selection
#print axioms ext_codec_roundtrip
#print axioms optHeader_roundtrip
#print axioms options_marshal_contract
#print axioms options_marshal_eq_spec
#print axioms options_unmarshal_marshal
#print axioms udp_size_eq
#print axioms udp_encode_eq_spec
#print axioms udp_encode_small
#print axioms udp_decode_encode
#print axioms udp_roundtrip
#print axioms udp_rejects_partial
#print axioms tcp_header_classes
#print axioms tcp_size_eq
#print axioms tcp_encode_eq_spec
#print axioms tcp_encode_small
#print axioms tcp_decodeHeader_encode
#print axioms tcp_decode_encode
#print axioms tcp_rejects
#print axioms encode_spec
#print axioms size_spec
#print axioms decode_encode
#print axioms pool_marshal
#print axioms pool_copy
#print axioms pool_roundtrip
end Audit
