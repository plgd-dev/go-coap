import CoapVerif.Props.C15
import CoapVerif.Lemmas.PoolOptionsReceiveModel
/-!
# C15 — a received message that is edited afterwards

Statement (properties.jsonl, the clause this file is about): "… values byte-exact and unaffected by later edits or
internal buffer growth."

Situation: a message taken from the pool, a datagram unmarshalled into it (`Msg.receive`: its option values are
sub-slices of the message's unmarshal buffer), then **any** history of option-editing operations on it — a handler or
proxy that annotates a received request before passing it on.  The values the message arrived with live in a buffer
of their own; the values stored later go to the value buffer, which grows on demand (in place inside its own block,
or into a fresh block — every growth policy).  Theorems: the list after `receive` is the list on the wire
(`receive_refines`); every later history refines the sorted-multiset reference started from that list
(`received_then_edited`); and as long as the message is not reset, every value it arrived with still reads the same
bytes (`received_values_stable`) — no edit and no growth of the value buffer reaches the unmarshal buffer.
-/
namespace CoapVerif.Props.C15Receive
open CoapVerif.Model.Options CoapVerif.Spec.SortedMultiset
open CoapVerif.Lemmas.SortedMultiset CoapVerif.Lemmas.OptionsModel CoapVerif.Lemmas.OptionValuesModel
open CoapVerif.Lemmas.PoolOptionsModel CoapVerif.Lemmas.PoolOptionsReceiveModel

/-- Unmarshalling a datagram into a message from the pool never panics, re-establishes the
invariant (the received values count as stored: they lie inside their buffer and outside the value buffer), the list a
reader sees is exactly the list on the wire, and the value buffer is the message's original one, unused. -/
theorem receive_refines (dc : Nat → Nat) {r : Msg} (hinv : MsgInv r) (inp : List Item) (hs : Sorted inp) :
    ∃ r1, Msg.receive dc r inp = .ok r1 ∧ MsgInv r1 ∧ items r1.mem r1.opts = inp ∧ r1.vb = r.orig ∧
      ∀ x ∈ r1.opts.toList, x.2.bid ≠ r1.vb.bid ∧ x.2.bid ≠ r1.orig.bid := by
  obtain ⟨r0, h0, hinv0, _, hvb0, _⟩ := msg_reset_spec hinv
  obtain ⟨w1, w2⟩ := wire_layout r0.mem inp []
  simp only [List.nil_append, List.length_nil] at w1 w2
  have hlenV : (wireViews r0.mem.length 0 inp).length = inp.length := by
    have := congrArg List.length w1
    rwa [mapVal, List.length_map] at this
  let arr := recvArr dc r0.opts.arr inp.length (inp.length + 1)
  have htl : (⟨wireViews r0.mem.length 0 inp ++ arr.drop inp.length, inp.length⟩ : Options View).toList
      = wireViews r0.mem.length 0 inp := by
    unfold Options.toList
    simp only
    rw [← hlenV, List.take_left]
  refine ⟨{ r0 with mem := r0.mem ++ [wireBytes inp],
                    opts := ⟨wireViews r0.mem.length 0 inp ++ arr.drop inp.length, inp.length⟩ }, ?_, ?_, ?_, ?_, ?_⟩
  · unfold Msg.receive
    rw [h0]
    rfl
  · -- the heap only grew by the unmarshal buffer: what concerns the two value buffers carries over
    have hk := keeps_append r0.vb r0.vb [wireBytes inp] (m := r0.mem) (Or.inl rfl)
    have hmoved := hinv0.of_keeps hk (sliceIn_of_keeps hk hinv0.vbIn)
    refine ⟨?_, ?_, hmoved.vbIn, ?_, hmoved.origIn, hmoved.vbBid, hmoved.origBid⟩
    · show inp.length ≤ (wireViews r0.mem.length 0 inp ++ arr.drop inp.length).length
      rw [List.length_append, hlenV]; omega
    · show Sorted (Options.toList _)
      rw [htl]
      have := (mapVal_sorted (r0.mem ++ [wireBytes inp]).read (l := wireViews r0.mem.length 0 inp))
      rw [w1] at this
      exact this.mp hs
    · intro x hx
      rw [htl] at hx
      obtain ⟨a, b⟩ := w2 x hx
      refine ⟨Or.inr ?_, below_of_bid_ne ?_⟩
      · rw [a, size_append_new]; exact b
      · rw [a]; exact Nat.ne_of_gt hinv0.vbBid
  · show mapVal _ (Options.toList _) = inp
    rw [htl]; exact w1
  · exact hvb0
  · intro x hx
    rw [htl] at hx
    obtain ⟨a, _⟩ := w2 x hx
    exact ⟨by rw [a]; exact Nat.ne_of_gt hinv0.vbBid, by rw [a]; exact Nat.ne_of_gt hinv0.origBid⟩

/-- For every message state, every datagram (its options in wire order), every restart
policy of the decoder's option array, every history of editing operations afterwards and every growth policy of the
option slice and of the value buffer: no runtime panic, and the list a reader sees equals the sorted-multiset
reference folded over the history **starting from the list on the wire** — the values the message arrived with
included, byte-exact. -/
theorem received_then_edited (dc g : Nat → Nat) (gb : Nat → Nat → Nat) (ops : List Msg.Op) {r : Msg} (hinv : MsgInv r)
    (inp : List Item) (hs : Sorted inp) :
    ∃ r1 r', Msg.receive dc r inp = .ok r1 ∧ Msg.run g gb r1 ops = .ok r' ∧ MsgInv r' ∧
      items r'.mem r'.opts = ops.foldl specStep inp ∧ Sorted (items r'.mem r'.opts) := by
  obtain ⟨r1, h1, hinv1, hit, _, _⟩ := receive_refines dc hinv inp hs
  obtain ⟨r', h2, hinv', h3, h4⟩ := CoapVerif.Props.C15.history_refines g gb ops hinv1
  exact ⟨r1, r', h1, h2, hinv', by rw [h3, hit], h4⟩

/-- Until the message is reset, every value it arrived with still reads the bytes that
were on the wire: neither a later edit nor any growth of the value buffer writes into the unmarshal buffer. -/
theorem received_values_stable (dc g : Nat → Nat) (gb : Nat → Nat → Nat) (ops : List Msg.Op) {r : Msg} (hinv : MsgInv r)
    (inp : List Item) (hs : Sorted inp) (hnr : Spec.OptionOp.Op.reset ∉ ops) :
    ∃ r1 r', Msg.receive dc r inp = .ok r1 ∧ Msg.run g gb r1 ops = .ok r' ∧
      mapVal r'.mem.read r1.opts.toList = inp := by
  obtain ⟨r1, h1, hinv1, hit, _, _⟩ := receive_refines dc hinv inp hs
  obtain ⟨r', h2, h3⟩ := CoapVerif.Props.C15.values_stable g gb ops hinv1 hnr
  refine ⟨r1, r', h1, h2, ?_⟩
  rw [← hit]
  unfold items
  exact mapVal_congr (fun x hx => (h3 x hx).1)

/-! ## Non-vacuity -/
section Examples
def exG (c : Nat) : Nat := 2 * c + 1
def exGb (c need : Nat) : Nat := max (2 * c) need
def exDc (c : Nat) : Nat := if c = 0 then 16 else 2 * c
/-- GET /ab?c=d as it arrives -/
def exWire : List Item := [(11, [97, 98]), (15, [99, 61, 100])]

example : Sorted exWire := by unfold Sorted exWire; decide

/-- received into a new message whose option array is too small (capacity 1): the decoder restarts with a larger one -/
example : (Msg.receive exDc (Msg.new [] 1) exWire).map (fun r => (Msg.items r, r.opts.cap, r.vb.len))
    = .ok (exWire, 2, 256) := by decide +kernel

/-- a message whose value buffer has 4 bytes (the theorems hold for every size; `NewMessage` has 256) -/
def exSmall : Msg := ⟨[List.replicate 4 0], Options.make 4, ⟨0, 0, 4⟩, ⟨0, 0, 4⟩⟩

/-- `exWire` received into `exSmall`, then a 6-byte query is added (the value buffer must grow: its block is full, so
into a fresh block): the values it arrived with are intact, the new value sits behind them -/
example : ((Msg.receive exDc exSmall exWire).bind
      (fun r => Msg.run exG exGb r [.addQuery [120, 120, 120, 120, 120, 120]])).map Msg.items
    = .ok (exWire ++ [(15, [120, 120, 120, 120, 120, 120])]) := by decide +kernel
end Examples

section Audit
#print axioms receive_refines
#print axioms received_then_edited
#print axioms received_values_stable
end Audit

end CoapVerif.Props.C15Receive
