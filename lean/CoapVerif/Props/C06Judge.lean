import CoapVerif.Go.Basic
import CoapVerif.Model.Retransmit
import CoapVerif.Model.RetransmitKinds
import CoapVerif.Model.RetransmitHistory
import CoapVerif.Spec.Retransmit
import CoapVerif.Lemmas.Retransmit
import CoapVerif.Lemmas.RetransmitJudge
/-!
# C06 — the specification's judge accepts every history of the model

Statement (properties.jsonl): a confirmable request issued through the client API is transmitted once and then re-sent
only while it is unacknowledged: at most MAX_RETRANSMIT further copies, the k-th copy no earlier than k × ACK_TIMEOUT after
the first, every copy byte-identical, and no copy after an acknowledgement, a reset, the caller's cancellation or the return
of the call.  If any one copy reaches the peer and the matching acknowledgement/response gets back before the attempts are
exhausted, the request call succeeds with that response; exhaustion of the attempts or a reset never produces a successful
response.

`Spec.Retransmit.judge` is these words as an executable check of an observed history; the check runs it on what the real
code does.  This file proves that it accepts **every** history of the model — `Model.RetransmitKinds`, i.e. the request
machinery of `Model.Retransmit` (about which Props/C06.lean and Props/C06Window.lean speak) together with the confirmable
messages that are not requests of `Conn.Do`: `Conn.Ping` / `AsyncPing` and `Conn.WriteMessage` of a confirmable response or
notification (own pending entry, no NSTART slot).  For every parameter triple (ACK_TIMEOUT, MAX_RETRANSMIT, NSTART) — no
well-formedness condition is needed, 0 included — and every list of events: calls of the three kinds with or without
deadline, time passing, housekeeping passes with any clock, acknowledgements / resets / piggybacked and separate responses
at any point (early, late, duplicate, for unknown IDs), cancellations and deadlines firing, edits of the caller's message.

So "the judge found nothing on N histories of the implementation that the model reproduces" is backed by "the judge finds
nothing on any history of the model": every clause of the judge (`Verdict`) is a theorem about the model.

The proof (Lemmas/RetransmitJudge.lean) is a simulation: the judge's record of a message ID is tied to the model's call,
pending entry and transmission count of that ID (`RelReq`, `RelX`, invariant `R`); each event keeps the tie and makes the
judge's step return `ok` (`step_*`).  It reduces with the regenerated shape facts of `Generated/Retransmit.lean`
(`judge_tie_shape` below) and stops checking if the code changes them.
-/
namespace CoapVerif.Props.C06Judge
open CoapVerif CoapVerif.Model.Retransmit CoapVerif.Model.RetransmitKinds CoapVerif.Model.RetransmitHistory
open CoapVerif.Lemmas.Retransmit CoapVerif.Lemmas.RetransmitJudge CoapVerif.Generated.Retransmit
open CoapVerif.Spec.Retransmit (judge judgeFrom stepJ Verdict Step JState getRec)

/-- The regenerated facts about `midElement.IsExpired` / `Retransmit`, `checkMidHandlerContainer` and the token handler of
    `doInternal` that the simulation reduces with. -/
theorem judge_tie_shape :
    expiredWhenGE = true ∧ exhaustionWaitsLastTimeout = true ∧ lastCopyAddend = 1 ∧ retransmitAddend = 1 ∧
    dropsInPassOfLastCopy = false ∧ responseWakesWriter = true := by decide

theorem tie_init (P : Params) : R P Model.RetransmitKinds.init {} where
  inv := inv_init P
  now := rfl
  nd := by simp
  xpid := by simp [Model.RetransmitKinds.init]
  xown := by intro e he; cases he
  rel := fun _ => ⟨rfl, rfl⟩

/-- **One event.**  Whatever the event, the judge accepts the step the model emits, and the tie holds afterwards. -/
theorem step_accepted {P : Params} {s : XState} {js : JState} (h : R P s js) (e : XEv) : StepOk P s js e := by
  cases e with
  | send id msg dl => exact step_send h id msg dl
  | ping id dl => exact step_ping h id dl
  | wcon id dl => exact step_wcon h id dl
  | advance d => exact step_advance h d
  | tick a => exact step_tick h a
  | «mut» id msg => exact step_mut h id msg
  | cancel id why =>
    by_cases hx : isX s id = true
    · exact step_xcancel h id why hx
    · exact step_cancel_base h id why (by simpa using hx)
  | resp id tag =>
    by_cases hsk : (isX s id || queued s.base id) = true
    · exact step_resp_skipped h id tag hsk
    · simp only [Bool.or_eq_true, not_or, Bool.not_eq_true] at hsk
      exact step_resp_base h id tag hsk.1 hsk.2
  | recvMid id k =>
    by_cases hx : isX s id = true
    · exact step_xrecv h id k hx
    · have hx' : isX s id = false := by simpa using hx
      cases k with
      | pig tag =>
        cases hq : queued s.base id with
        | true => exact step_pig_skipped h id tag hx' hq
        | false =>
          cases hp : findP s.base.pend id with
          | some e0 => exact step_pig_pending h id tag hx' hq hp
          | none => exact step_pig_idle h id tag hx' hq hp
      | ack | rst =>
        cases hp : findP s.base.pend id with
        | some e0 => exact step_recv_pending h id _ hx' (by intro tag hk; cases hk) hp
        | none => exact step_recv_idle h id _ hx' (by intro tag hk; cases hk) hp

theorem history_accepted_from {P : Params} : ∀ (evs : List XEv) (s : XState) (js : JState), R P s js →
    judgeFrom (cfgOf P) js (historyFrom P s evs) = .ok
  | [], _, _, _ => rfl
  | e :: r, s, js, h => by
    obtain ⟨js', hstep, hR⟩ := step_accepted h e
    simp only [historyFrom, judgeFrom, hstep]
    exact history_accepted_from r _ js' hR

/-- **The judge accepts every history of the model**: for every parameter triple and every list of events. -/
theorem model_history_accepted (P : Params) (evs : List XEv) : judge (cfgOf P) (history P evs) = .ok :=
  history_accepted_from evs _ _ (tie_init P)

/-- … in particular for the parameters the extractor reads from `DefaultConfig`. -/
theorem model_history_accepted_defaults (evs : List XEv) :
    judge (cfgOf ⟨defaultAckTimeoutNs, defaultMaxRetransmit, defaultNStart⟩)
      (history ⟨defaultAckTimeoutNs, defaultMaxRetransmit, defaultNStart⟩ evs) = .ok :=
  model_history_accepted _ evs

/-! ## clause by clause

The judge reports the first clause that fails; acceptance says that none does.  Spelled out, one statement per clause of
`Spec.Retransmit.Verdict`, for every history of the model (requests, pings and confirmable non-request writes alike). -/

/-- at most `1 + MAX_RETRANSMIT` transmissions of any exchange -/
theorem never_too_many (P : Params) (evs : List XEv) : judge (cfgOf P) (history P evs) ≠ .tooMany := by
  rw [model_history_accepted]; decide
/-- the k-th copy not earlier than `k × ACK_TIMEOUT` after the first -/
theorem never_too_early (P : Params) (evs : List XEv) : judge (cfgOf P) (history P evs) ≠ .tooEarly := by
  rw [model_history_accepted]; decide
/-- every copy byte-identical to the first (unless the caller edited a queued request: precondition of the API) -/
theorem never_not_identical (P : Params) (evs : List XEv) : judge (cfgOf P) (history P evs) ≠ .notIdentical := by
  rw [model_history_accepted]; decide
/-- no copy after an acknowledgement, a reset, a response, the caller's cancellation or the return of the call -/
theorem never_copy_after_stop (P : Params) (evs : List XEv) : judge (cfgOf P) (history P evs) ≠ .copyAfterStop := by
  rw [model_history_accepted]; decide
/-- every transmission and every return belongs to a call that was made -/
theorem never_unknown_request (P : Params) (evs : List XEv) : judge (cfgOf P) (history P evs) ≠ .unknownRequest := by
  rw [model_history_accepted]; decide
/-- a call returns at most once -/
theorem never_double_return (P : Params) (evs : List XEv) : judge (cfgOf P) (history P evs) ≠ .doubleReturn := by
  rw [model_history_accepted]; decide
/-- a successful return carries a response (a completion: an acknowledgement) that really came back: neither exhaustion nor
    a reset produces success -/
theorem never_spurious_success (P : Params) (evs : List XEv) : judge (cfgOf P) (history P evs) ≠ .spuriousSuccess := by
  rw [model_history_accepted]; decide
/-- the matching acknowledgement / response that gets back before the attempts are exhausted completes the call in that
    step (unless the caller gave up first) … -/
theorem never_no_success (P : Params) (evs : List XEv) : judge (cfgOf P) (history P evs) ≠ .noSuccess := by
  rw [model_history_accepted]; decide
/-- … also in the window of the last copy, whatever housekeeping passes ran in it (F30) -/
theorem never_no_success_last_window (P : Params) (evs : List XEv) : judge (cfgOf P) (history P evs) ≠ .lastWindow := by
  rw [model_history_accepted]; decide
/-- never more than NSTART requests outstanding (pings and non-request writes take no slot) -/
theorem never_nstart_exceeded (P : Params) (evs : List XEv) : judge (cfgOf P) (history P evs) ≠ .nstart := by
  rw [model_history_accepted]; decide

/-! ## the request machinery inside the extended model is the model of Props/C06.lean

Every state the extended model reaches has, as its `base`, a state `Model.Retransmit.run P evs'` for some list of events
of the request machinery: all theorems of Props/C06.lean and Props/C06Window.lean hold of it. -/

theorem base_step (P : Params) (s : XState) (e : XEv) :
    (Model.RetransmitKinds.step P s e).1.base = s.base ∨ ∃ e', (Model.RetransmitKinds.step P s e).1.base = Model.Retransmit.step P s.base e' := by
  cases e with
  | send id msg dl =>
    by_cases hk : known s id = true
    · left; simp [Model.RetransmitKinds.step, hk]
    · right; exact ⟨.send id msg (dl.map (· + s.base.now)), by simp [Model.RetransmitKinds.step, hk, liftBase, Model.Retransmit.step]⟩
  | ping id dl => left; simp only [Model.RetransmitKinds.step, xsend]; split <;> rfl
  | wcon id dl => left; simp only [Model.RetransmitKinds.step, xsend]; split <;> rfl
  | advance d => right; exact ⟨.advance d, rfl⟩
  | tick a => right; exact ⟨.tick a, rfl⟩
  | «mut» id msg => right; exact ⟨.mut id msg, rfl⟩
  | cancel id why =>
    by_cases hx : isX s id = true
    · left
      simp only [Model.RetransmitKinds.step, hx, if_true, xcancel]
      split
      · split <;> rfl
      · rfl
    · right; exact ⟨.cancel id why, by simp [Model.RetransmitKinds.step, hx, liftBase, Model.Retransmit.step]⟩
  | resp id tag =>
    by_cases hsk : (isX s id || queued s.base id) = true
    · left; simp [Model.RetransmitKinds.step, hsk]
    · right; exact ⟨.resp id tag, by simp [Model.RetransmitKinds.step, hsk, liftBase, Model.Retransmit.step]⟩
  | recvMid id k =>
    by_cases hx : isX s id = true
    · left
      simp only [Model.RetransmitKinds.step, hx, if_true, xrecv]
      split <;> rfl
    · cases k with
      | ack => right; exact ⟨.recvMid id .ack, by simp [Model.RetransmitKinds.step, hx, liftBase, Model.Retransmit.step]⟩
      | rst => right; exact ⟨.recvMid id .rst, by simp [Model.RetransmitKinds.step, hx, liftBase, Model.Retransmit.step]⟩
      | pig tag =>
        by_cases hq : queued s.base id = true
        · left; simp [Model.RetransmitKinds.step, hx, hq]
        · right; exact ⟨.recvMid id (.pig tag), by simp [Model.RetransmitKinds.step, hx, hq, liftBase, Model.Retransmit.step]⟩

theorem base_reachable (P : Params) : ∀ (evs : List XEv) (s : XState), (∃ bevs, s.base = Model.Retransmit.run P bevs) →
    ∃ bevs, (Model.RetransmitKinds.runFrom P s evs).1.base = Model.Retransmit.run P bevs
  | [], s, h => h
  | e :: r, s, ⟨bevs, hb⟩ => by
    simp only [Model.RetransmitKinds.runFrom]
    apply base_reachable P r
    rcases base_step P s e with h | ⟨e', h⟩
    · exact ⟨bevs, by rw [h, hb]⟩
    · refine ⟨bevs ++ [e'], ?_⟩
      rw [h, hb]
      simp [Model.Retransmit.run, Model.Retransmit.runFrom, List.foldl_append]

/-- The requests of any run of the extended model are a run of `Model.Retransmit`. -/
theorem base_is_a_run (P : Params) (evs : List XEv) :
    ∃ bevs, (Model.RetransmitKinds.runFrom P Model.RetransmitKinds.init evs).1.base = Model.Retransmit.run P bevs :=
  base_reachable P evs _ ⟨[], rfl⟩

/-! ## non-vacuity (ACK_TIMEOUT 10, MAX_RETRANSMIT 2, NSTART 1) -/

def P0 : Params := ⟨10, 2, 1⟩

open CoapVerif.Spec.Retransmit in
/-- the histories are not trivial: a request holds the only slot and is retransmitted; a ping and a confirmable
    notification go out beside it without a slot and are retransmitted in the same pass; the pong (Reset) completes the ping,
    an acknowledgement the write, a piggybacked response the request (transmissions and returns of each step) -/
example : (history P0 [.send 0 7 none, .ping 1 none, .wcon 2 (some 100), .advance 11, .tick 0, .recvMid 1 .rst,
      .recvMid 2 .ack, .recvMid 0 (.pig 5)]).map (fun st => (st.txs, st.rets)) =
    [([⟨0, 0, true⟩], []), ([⟨1, 0, true⟩], []), ([⟨2, 0, true⟩], []), ([], []),
     ([⟨0, 11, true⟩, ⟨1, 11, true⟩, ⟨2, 11, true⟩], []),
     ([], [⟨1, .acked, 11⟩]), ([], [⟨2, .acked, 11⟩]), ([], [⟨0, .ok 5, 11⟩])] := by decide

open CoapVerif.Spec.Retransmit in
/-- … and the judge is not trivially satisfied: the same kind of observations with one copy of the ping too many, a copy of
    the write after its acknowledgement, a pong that does not complete the ping, a completion out of nothing, or a copy that
    comes too early are rejected -/
example : judge (cfgOf P0) [⟨.ping 1 none, [⟨1, 0, true⟩], []⟩, ⟨.sleep 11, [], []⟩, ⟨.tick 0, [⟨1, 11, true⟩], []⟩,
      ⟨.sleep 10, [], []⟩, ⟨.tick 0, [⟨1, 21, true⟩], []⟩, ⟨.sleep 10, [], []⟩, ⟨.tick 0, [⟨1, 31, true⟩], []⟩] = .tooMany ∧
    judge (cfgOf P0) [⟨.wcon 2 none, [⟨2, 0, true⟩], []⟩, ⟨.recvMid 2 .ack, [], [⟨2, .acked, 0⟩]⟩, ⟨.sleep 11, [], []⟩,
      ⟨.tick 0, [⟨2, 11, true⟩], []⟩] = .copyAfterStop ∧
    judge (cfgOf P0) [⟨.ping 1 none, [⟨1, 0, true⟩], []⟩, ⟨.recvMid 1 .rst, [], []⟩] = .noSuccess ∧
    judge (cfgOf P0) [⟨.ping 1 none, [⟨1, 0, true⟩], []⟩, ⟨.sleep 5, [], [⟨1, .acked, 5⟩]⟩] = .spuriousSuccess ∧
    judge (cfgOf P0) [⟨.send 0 none, [⟨0, 0, true⟩], []⟩, ⟨.sleep 9, [], []⟩, ⟨.tick 0, [⟨0, 9, true⟩], []⟩] = .tooEarly := by
  decide

end CoapVerif.Props.C06Judge

section Audit
open CoapVerif.Props.C06Judge
#print axioms judge_tie_shape
#print axioms tie_init
#print axioms step_accepted
#print axioms history_accepted_from
#print axioms model_history_accepted
#print axioms model_history_accepted_defaults
#print axioms never_too_many
#print axioms never_too_early
#print axioms never_not_identical
#print axioms never_copy_after_stop
#print axioms never_unknown_request
#print axioms never_double_return
#print axioms never_spurious_success
#print axioms never_no_success
#print axioms never_no_success_last_window
#print axioms never_nstart_exceeded
#print axioms base_step
#print axioms base_reachable
#print axioms base_is_a_run
end Audit
