import CoapVerif.Model.ServerTokenKeys
import CoapVerif.Lemmas.KeyedList
/-!
# C10 — the tokens of discovery requests under the key the code uses

Statement (properties.jsonl, C10, last clause): "… responses to a discovery request are delivered only to the receiver
registered for their token, each with the connection of the peer that sent it."

The discovery tables are keyed by `message.Token.Hash()`.  Statements, for ALL histories of discovery calls and arriving
messages (any number of either, tokens of any length):

* `delivered_carries_own_token` - with the token as the key, a receiver is handed a message only if the message carries the
  token that receiver's call registered, and it is handed the connection the message arrived on; a message whose token
  no running discovery registered goes to the server's handler (`foreign_token_to_default`);
* `keyed_agrees` - the tables keyed by `key token` behave exactly like that on every history whose tokens have pairwise
  different keys (`InjOn`).  That hypothesis cannot be dropped and is NOT a theorem of the real key for all tokens (a 64-bit
  key cannot separate the 1 + 2^8 + … + 2^64 tokens of length 0..8); the check evaluates it with the real `Token.Hash()` on the
  tokens of every generated `discover tok` line (output field `keys`); C03 takes its hash as a parameter under the same
  hypothesis (`Props/C03.HashInj`), and no theorem is about the CRC itself; `keyed_delivery` is
  `delivered_carries_own_token` for the keyed table under that hypothesis;
* section `DoesNotHold`: with a key that forgets the token's length (`packKey`) a message that carries ANOTHER token is handed
  to a receiver, and the peer that sent it is not served by the server's handler.
-/
namespace CoapVerif.Props.C10Tokens
open CoapVerif.Model.ServerTokenKeys
open CoapVerif.Model.Server (DOut)
open CoapVerif.Lemmas.KeyedList (any_congr_mem find_congr_mem forall_mem_append_one find?_some find?_absent)

/-- `key` separates the tokens that satisfy `P` -/
def InjOn (key : Token → Nat) (P : Token → Prop) : Prop := ∀ a b, P a → P b → key a = key b → a = b

theorem kstep_eq_tstep (key : Token → Nat) (P : Token → Prop) (hi : InjOn key P) (s : List (Nat × Token)) (e : KEv)
    (hs : ∀ x ∈ s, P x.2) (he : ∀ t ∈ evToks e, P t) : kstep key s e = tstep s e := by
  -- on the tokens in the table, comparing keys is comparing tokens
  have hkey : ∀ t, P t → ∀ x ∈ s, (key x.2 == key t) = (x.2 == t) := fun t ht x hx => by
    by_cases h : x.2 = t
    · simp [h]
    · have : key x.2 ≠ key t := fun hk => h (hi _ _ (hs x hx) ht hk)
      rw [beq_false_of_ne this, beq_false_of_ne h]
  cases e with
  | start id tok =>
    simp only [kstep, tstep, any_congr_mem s _ _ (hkey tok (he tok (by simp [evToks])))]
  | finish id => rfl
  | msg r =>
    simp only [kstep, tstep, find_congr_mem s _ _ (hkey r.token (he r.token (by simp [evToks])))]

theorem tstep_toks (P : Token → Prop) (s : List (Nat × Token)) (e : KEv) (hs : ∀ x ∈ s, P x.2) (he : ∀ t ∈ evToks e, P t) :
    ∀ x ∈ (tstep s e).1, P x.2 := by
  cases e with
  | start id tok =>
    simp only [tstep]
    split
    · exact hs
    · exact forall_mem_append_one hs (he tok (by simp [evToks]))
  | finish id =>
    intro x hx
    exact hs x (List.mem_filter.mp hx).1
  | msg r =>
    simp only [tstep]
    split <;> exact hs

/-- the keyed tables are the token tables on every history whose tokens the key separates -/
theorem keyed_agrees (key : Token → Nat) (P : Token → Prop) (hi : InjOn key P) (evs : List KEv) :
    ∀ (s : List (Nat × Token)), (∀ x ∈ s, P x.2) → (∀ e ∈ evs, ∀ t ∈ evToks e, P t) → ktrace key s evs = ttrace s evs := by
  induction evs with
  | nil => intro s _ _; rfl
  | cons e es ih =>
    intro s hs he
    have h1 := kstep_eq_tstep key P hi s e hs (he e (by simp))
    simp only [ktrace, ttrace, h1]
    congr 1
    exact ih _ (tstep_toks P s e hs (he e (by simp))) (fun e' he' => he e' (by simp [he']))

/-- a receiver found for a message was registered with the message's token (that ids are handed out once is not needed) -/
theorem delivered_carries_own_token (s : List (Nat × Token)) (r : KResp) (id conn tag : Nat)
    (h : (tstep s (.msg r)).2 = .toReceiverOf id conn tag) : (id, r.token) ∈ s ∧ conn = r.conn ∧ tag = r.tag := by
  simp only [tstep] at h
  split at h
  · rename_i e hf
    obtain ⟨hm, ht⟩ := find?_some Prod.snd hf
    injection h with h1 h2 h3
    refine ⟨?_, h2.symm, h3.symm⟩
    rw [← h1, ← ht]
    exact hm
  · cases h

/-- a message whose token no running discovery registered goes to the server's handler, with its own connection -/
theorem foreign_token_to_default (s : List (Nat × Token)) (r : KResp) (h : ∀ e ∈ s, e.2 ≠ r.token) :
    (tstep s (.msg r)).2 = .toDefault r.conn r.tag := by
  simp only [tstep, find?_absent Prod.snd h]

/-- the delivery statement for the table as the code keys it (one step, through `kstep_eq_tstep`) -/
theorem keyed_delivery (key : Token → Nat) (P : Token → Prop) (hi : InjOn key P) (s : List (Nat × Token)) (r : KResp)
    (hs : ∀ x ∈ s, P x.2) (hr : P r.token) (id conn tag : Nat)
    (h : (kstep key s (.msg r)).2 = .toReceiverOf id conn tag) : (id, r.token) ∈ s ∧ conn = r.conn ∧ tag = r.tag := by
  rw [kstep_eq_tstep key P hi s (.msg r) hs (by intro t ht; simp [evToks] at ht; subst ht; exact hr)] at h
  exact delivered_carries_own_token s r id conn tag h

/-- non-vacuity: a discovery with token 00 ab cd ef open; its answer reaches it, the message with token ab cd ef (another
    peer's request) reaches the server's handler -/
example : ttrace [] [.start 0 [0, 0xAB, 0xCD, 0xEF], .msg ⟨[0, 0xAB, 0xCD, 0xEF], 0, 0⟩, .msg ⟨[0xAB, 0xCD, 0xEF], 100, 2⟩, .finish 0]
    = [.registered, .toReceiverOf 0 0 0, .toDefault 100 2, .done] := by decide +kernel

example : ttrace [] (lineEvents [([0], []), ([0xA1, 0xB2], [0xA1, 0xB2, 0])])
    = [.registered, .registered, .toReceiverOf 0 0 0, .toDefault 0 1, .toReceiverOf 1 1 0, .toDefault 1 1,
       .toDefault 100 2, .toDefault 101 2, .done, .done] := by decide +kernel

section DoesNotHold
/-- the key of seeded change C10-V: the token 00 ab cd ef and the token ab cd ef get one key … -/
theorem packKey_forgets_length : packKey [0, 0xAB, 0xCD, 0xEF] = packKey [0xAB, 0xCD, 0xEF] ∧ packKey [0] = packKey [] := by decide +kernel

/-- … so the well-behaved peer's message (connection 100, token ab cd ef) is handed to the receiver of the discovery that
    registered 00 ab cd ef, and the server's handler never sees it -/
theorem packKey_misdelivers :
    ktrace packKey [] [.start 0 [0, 0xAB, 0xCD, 0xEF], .msg ⟨[0xAB, 0xCD, 0xEF], 100, 2⟩]
      = [.registered, .toReceiverOf 0 100 2]
    ∧ ttrace [] [.start 0 [0, 0xAB, 0xCD, 0xEF], .msg ⟨[0xAB, 0xCD, 0xEF], 100, 2⟩] = [.registered, .toDefault 100 2] := by decide +kernel

theorem packKey_not_injective : ¬ InjOn packKey (fun _ => True) := by
  intro h
  have := h [0] [] trivial trivial (by decide)
  cases this
end DoesNotHold

end CoapVerif.Props.C10Tokens

section Audit
open CoapVerif.Props.C10Tokens
#print axioms kstep_eq_tstep
#print axioms tstep_toks
#print axioms keyed_agrees
#print axioms delivered_carries_own_token
#print axioms foreign_token_to_default
#print axioms keyed_delivery
#print axioms packKey_forgets_length
#print axioms packKey_misdelivers
#print axioms packKey_not_injective
end Audit
