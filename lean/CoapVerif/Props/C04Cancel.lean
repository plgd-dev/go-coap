import CoapVerif.Model.BlockwiseCancel
/-!
# C04, a call that is cancelled — what `cancel` changes and what it leaves

C04 — "Block-wise transfer delivers the exact body exactly once, or fails" (properties.jsonl C04: "… Duplicated, stale,
out-of-order or foreign-token blocks never corrupt, truncate or extend a body … An exchange that cannot complete ends with
an error or timeout").  The operation `cancel` of the line protocol (`Model/BlockwiseCancel.lean`, `World.cancel`: the
application abandons a pending call, typically one without deadline) — what it changes and what it leaves.

The receiver-side theorems of Props/C04.lean over `Endpoint.run` (`once`, `complete_eq`, `no_partial_as_complete`) speak of
ARBITRARY arrival sequences at one endpoint, and therefore hold unchanged for histories that contain cancellations:
`cancel_frame` shows that a cancellation does not touch any reassembly entry.
PARTIAL: the system-level statements of Props/C04.lean over `World.run` quantify over `Op`, which has no `cancel`
constructor; `cancel_eq_deadline_now` reduces a cancellation to the `sleep` operation for a single pending call whose
deadline is the present moment; the general case (several pending calls, a call without deadline: the reassembly entry then
lives `cfg.expiration` instead of until the deadline) is not restated for `World.run`.
-/
namespace CoapVerif.Model.Blockwise

/-- cancelling touches the caller's registration only: the peer, the network, the clock and every reassembly of A stay -/
theorem cancel_frame (w : World) (tok : Nat) :
    (w.cancel tok).1.b = w.b ∧ (w.cancel tok).1.queue = w.queue ∧ (w.cancel tok).1.hist = w.hist ∧
    (w.cancel tok).1.now = w.now ∧ (w.cancel tok).1.a.receiving = w.a.receiving ∧
    (∀ k, k ≠ tok → (w.cancel tok).1.a.sending k = w.a.sending k) := by
  unfold World.cancel
  split
  · refine ⟨rfl, rfl, rfl, rfl, rfl, ?_⟩
    intro k hk
    simp [doFinish, Cache.put, hk]
  · exact ⟨rfl, rfl, rfl, rfl, rfl, fun _ _ => rfl⟩

/-- … and it is what the arrival of the deadline does to a call that has one (`World.sleep` with no time passing), when
    that call is the only one pending: same registration removed, same event -/
theorem cancel_eq_deadline_now (w : World) (tok : Nat) (h : w.pending = [⟨tok, some w.now⟩]) :
    w.cancel tok = w.sleep 0 := by
  unfold World.cancel World.sleep
  simp [h]

/-- non-vacuity: a pending call without deadline is cancelled, its registration goes, the error is reported -/
example :
    let ep : Endpoint := { szx := 0, maxSize := 80, expiration := 3000 }
    let w : World := { a := ep, b := ep, appB := fun _ => none }
    let w1 := (w.startDo { code := 1, tok := 7 }).1
    (w1.a.sending 7).isSome = true ∧ w1.pending = [⟨7, none⟩] ∧
    ((w1.cancel 7).1.a.sending 7).isSome = false ∧ (w1.cancel 7).1.pending = [] ∧ (w1.cancel 7).2.length = 1 := by
  decide

section Audit
#print axioms cancel_frame
#print axioms cancel_eq_deadline_now
end Audit

end CoapVerif.Model.Blockwise
