import CoapVerif.Props.C14
/-!
# C14 — the `onLoad` callback of `LoadOrStoreWithFunc` runs on the element that is currently in the map

Statement (properties.jsonl): … callbacks run against the value actually in the map …

`LoadOrStoreWithFunc` runs its callbacks under the WRITE lock.  With values that are plain data a callback applied to a stale
VALUE is invisible in any history (every history is linearizable: the result only has to be explained by SOME instant between
call and return).  What a user such as the parallel-request limiter relies on is stronger and is a statement about the moment
the callback runs: its argument IS the element stored under the key at that moment (the limiter keeps per-path counters in the
element; a callback that runs on an element which is no longer in the map counts on an orphan — seeded change C16-U).

On the real code this is the harness operation `loswfr` (kind `mapcb`): the callback records its argument and, through the
overlay-only `VerifPeek`, the element in the map while it runs; the judge clause is `Spec.SeqMap.cbCurrent` (verdict
`violates callbacks-see-current-value`).  On the model the two are equal in every state, hence for every schedule:
-/
namespace CoapVerif.Props.C14Current
open CoapVerif.Spec.SeqMap CoapVerif.Model.SyncMap CoapVerif.Model.Cache CoapVerif.Model.SyncSystem CoapVerif.Props.C14

/-- The critical section of `LoadOrStoreWithFunc`: when the `onLoad` callback runs (it reports its argument `a`), `a` is the
    entry of the key in the map the section runs on, and the section leaves the map as it is — what the callback would read
    under its key while it runs (`m`), and right after it (`m'`), is its argument. -/
theorem onload_callback_runs_on_current_element (m m' : Entries) (k d : Nat) (v : Val) (r : Res) (a : Val)
    (h : mapSection (.loadOrStoreWithFunc k d v) m = some (m', r)) (ha : cbArg r = some (some a)) :
    cbCurrent (some a) (mget k m) = true ∧ cbCurrent (some a) (mget k m') = true ∧ m' = m := by
  cases hk : mget k m with
  | none =>
    simp only [mapSection, hk, Option.some.injEq, Prod.mk.injEq] at h
    obtain ⟨_, hr⟩ := h
    subst hr
    simp [cbArg] at ha
  | some o =>
    simp only [mapSection, hk, Option.some.injEq, Prod.mk.injEq] at h
    obtain ⟨hm, hr⟩ := h
    subst hr hm
    simp only [cbArg, Option.some.injEq] at ha
    subst ha
    simp [cbCurrent, hk]

/-- … for every schedule: in whatever state `s` the other threads have left the object (any program, any schedule so far), a
    thread whose next call is `LoadOrStoreWithFunc` completes it in ONE scheduled step, and if its callback ran, the callback's
    argument is the entry of the key in that very state and the map is unchanged by the step. -/
theorem loswf_every_schedule (s : MState) (ths : Nat → TSt Call L) (t k d : Nat) (v : Val) (orc : List Nat) (rest : List Call)
    (ht : ths t = .idle (⟨.loadOrStoreWithFunc k d v, orc⟩ :: rest)) :
    ∃ r, (sched1 impl s ths t).2.2 = [.call t (.loadOrStoreWithFunc k d v), .ret t r] ∧
      ∀ a, cbArg r = some (some a) → mget k s.data = some a ∧ (sched1 impl s ths t).1.data = s.data := by
  cases hk : mget k s.data with
  | none =>
    refine ⟨.storedCb v false none, ?_, ?_⟩
    · simp [sched1, ht, impl, start, step, view, mapSection, hk]
    · intro a ha; simp [cbArg] at ha
  | some o =>
    refine ⟨.storedCb (o.add d) true (some o), ?_, ?_⟩
    · simp [sched1, ht, impl, start, step, view, mapSection, hk]
    · intro a ha
      simp only [cbArg, Option.some.injEq] at ha
      subst ha
      simp [sched1, ht, impl, start, step, mapSection, hk]

/-- non-vacuity: key 1 holds 5; the callback is called with 5, which is what the map holds -/
example : mapSection (.loadOrStoreWithFunc 1 100 ⟨9, 0⟩) [(1, ⟨5, 0⟩)] = some ([(1, ⟨5, 0⟩)], .storedCb ⟨105, 0⟩ true (some ⟨5, 0⟩)) ∧
    cbCurrent (some ⟨5, 0⟩) (mget 1 [(1, ⟨5, 0⟩)]) = true := by decide +kernel

/-- what the judge rejects (observed under seeded C16-U: `r0:a=105/true/cb=5/now=nil` — the entry was deleted between the
    look-up and the callback) -/
example : cbCurrent (some ⟨5, 0⟩) none = false := by decide +kernel

end CoapVerif.Props.C14Current

section Audit
open CoapVerif.Props.C14Current
#print axioms onload_callback_runs_on_current_element
#print axioms loswf_every_schedule
end Audit
