import CoapVerif.Props.C19
import CoapVerif.Model.BlockOptXfer
import CoapVerif.Spec.BlockOptXfer
/-!
# C19 inside a transfer — the whole 20-bit range of the block number is usable

"… encoding accepts every triple with exponent 0-7 and a 20-bit block number … Values or arguments outside that domain are
refused with an error instead of being wrapped or truncated" — read at the place where the codec is USED: the block-wise layer
(`Handle` for downloads, `Do` and `WriteMessage` for uploads; `Model/BlockOptXfer.lean`) asked for block `num` of a body.

* `xfer_serves_domain` — every block whose number fits 20 bits, of every body below 4 GiB that needs more than one block, on
  every entrance, with every exponent 0..7 (BERT: every maximum message size of at least 1024): the model produces exactly the
  block the RFC names (`Spec.BlockOptXfer.expect`: value `num·16 + M·8 + szx`, length, M iff bytes follow).  In particular
  the last block of a body of exactly 2^20 blocks (number 0xfffff) is produced — nothing inside the domain is refused.
* `xfer_refuses_unwritable` — a block whose number does not fit 20 bits is never produced, on no entrance.
* `xfer_model_eq_spec_serve` / `xfer_model_eq_spec_refuse` — the same two facts in the judge's words.

All sizes are unbounded naturals; nothing is enumerated (the eight exponents are a case split).
-/
namespace CoapVerif.Props.C19Xfer
open CoapVerif CoapVerif.Model.BlockOpt CoapVerif.Model.BlockOptXfer CoapVerif.Generated.Blockwise CoapVerif.Props.C19

theorem unit_eq {s : Nat} (h : s ≤ 7) : unit s = Spec.BlockOptXfer.unit s := by
  unfold unit Spec.BlockOptXfer.unit
  rw [size_pow2, Spec.BlockOpt.size]
  by_cases h7 : s < 7
  · rw [if_pos h7, if_pos h7, Int.toNat_natCast]
  · rw [if_neg h7, if_neg h7, if_pos (by omega)]; rfl

theorem bufLen_eq {s : Nat} (mx : Nat) (h : s ≤ 7) : bufLen s mx = Spec.BlockOptXfer.blockLen s mx := by
  unfold bufLen Spec.BlockOptXfer.blockLen
  by_cases h7 : s < 7
  · rw [buffer_fixed s mx h7, Int.toNat_natCast]; simp [h7]
  · have : s = 7 := by omega
    subst this
    have := (bert_buffer_multiple mx).1
    rw [this]; simp only [Nat.lt_irrefl, if_false]; omega

theorem getSzx_self (s : Nat) : getSzx s s = s := by simp [getSzx]

theorem spec_unit_pos (s : Nat) : 0 < Spec.BlockOptXfer.unit s := by
  unfold Spec.BlockOptXfer.unit; split
  · exact Nat.two_pow_pos _
  · omega

/-- `createSendingMessage` on a request for block `n` (value `n·16 + M·8 + s`): the block that starts at `q` units — `q = n`,
    or `n` plus the acknowledged buffer on the upload path — is produced with its RFC value when `q` fits 20 bits … -/
theorem createSending_block {b1 skip m : Bool} {s mx body n q : Nat} (hs : s ≤ 7) (hn : n < 2 ^ 20)
    (hq : n * Spec.BlockOptXfer.unit s + (if b1 && skip then Spec.BlockOptXfer.blockLen s mx else 0) = q * Spec.BlockOptXfer.unit s)
    (hq20 : q < 2 ^ 20) (hoff : q * Spec.BlockOptXfer.unit s < body) (hbody : body < 4294967296) :
    createSending b1 s mx body (n * 16 + (if m then 8 else 0) + s) skip
      = .block (q * 16 + (if q * Spec.BlockOptXfer.unit s + min (Spec.BlockOptXfer.blockLen s mx) (body - q * Spec.BlockOptXfer.unit s) < body then 8 else 0) + s)
               (min (Spec.BlockOptXfer.blockLen s mx) (body - q * Spec.BlockOptXfer.unit s)) := by
  unfold createSending
  rw [decode_value m hs hn]
  simp only [getSzx_self, unit_eq hs, bufLen_eq mx hs, hq]
  have hU := spec_unit_pos s
  generalize hUe : Spec.BlockOptXfer.unit s = U at *
  generalize Spec.BlockOptXfer.blockLen s mx = B at *
  generalize hoe : q * U = off at *
  have hdiv : off / U = q := by rw [← hoe]; exact Nat.mul_div_cancel _ hU
  have h1 : ¬ (B ≠ 0 ∧ min B (body - off) < B ∧ off + min B (body - off) ≠ body) := by omega
  have h2 : ¬ body ≥ 4294967296 := by omega
  simp only [h1, h2, if_false, hdiv]
  rw [encode_total s (q : Int) _ hs (by omega) (by omega)]
  simp only [Int.toNat_natCast]
  by_cases h3 : off + min B (body - off) < body
  · have : off + min B (body - off) ≠ body := by omega
    simp [h3, this]
  · have : off + min B (body - off) = body := by omega
    simp [this]

/-- … and refused (never produced) when it does not -/
theorem createSending_refuses {b1 skip m : Bool} {s mx body n q : Nat} (hs : s ≤ 7) (hn : n < 2 ^ 20)
    (hq : n * Spec.BlockOptXfer.unit s + (if b1 && skip then Spec.BlockOptXfer.blockLen s mx else 0) = q * Spec.BlockOptXfer.unit s)
    (hq20 : 2 ^ 20 ≤ q) :
    ∃ e, createSending b1 s mx body (n * 16 + (if m then 8 else 0) + s) skip = .refused e := by
  unfold createSending
  rw [decode_value m hs hn]
  simp only [getSzx_self, unit_eq hs, bufLen_eq mx hs, hq]
  have hU := spec_unit_pos s
  have hdiv : q * Spec.BlockOptXfer.unit s / Spec.BlockOptXfer.unit s = q := Nat.mul_div_cancel _ hU
  rw [hdiv]
  split
  · exact ⟨_, rfl⟩
  · split
    · exact ⟨_, rfl⟩
    · obtain ⟨e, he⟩ := encode_rejects s (q : Int) (decide (q * Spec.BlockOptXfer.unit s + min (Spec.BlockOptXfer.blockLen s mx) (body - q * Spec.BlockOptXfer.unit s) ≠ body)) (by omega)
      simp only [he]
      exact ⟨_, rfl⟩

/-- the number of units in one buffer (`bufferSize / Size`): 1 below BERT, `maxMsg / 1024` for BERT -/
def unitsPerBlock (s mx : Nat) : Nat := Spec.BlockOptXfer.blockLen s mx / Spec.BlockOptXfer.unit s

theorem blockLen_units (s mx : Nat) : Spec.BlockOptXfer.blockLen s mx = unitsPerBlock s mx * Spec.BlockOptXfer.unit s := by
  unfold unitsPerBlock Spec.BlockOptXfer.blockLen Spec.BlockOptXfer.unit
  split
  · rw [Nat.div_self (Nat.two_pow_pos _)]; omega
  · omega

theorem ackValue_eq {s mx num : Nat} (hs : s ≤ 7) (hk : unitsPerBlock s mx ≠ 0) (hle : unitsPerBlock s mx ≤ num)
    (hlt : num - unitsPerBlock s mx < 2 ^ 20) :
    ackValue s mx num = some ((num - unitsPerBlock s mx) * 16 + 8 + s) := by
  unfold ackValue
  simp only [unit_eq hs, bufLen_eq mx hs]
  have h1 : ¬ (Spec.BlockOptXfer.blockLen s mx / Spec.BlockOptXfer.unit s = 0 ∨ num < Spec.BlockOptXfer.blockLen s mx / Spec.BlockOptXfer.unit s) := by
    unfold unitsPerBlock at hk hle; omega
  simp only [h1, if_false]
  rw [encode_total s _ true hs (by omega) (by unfold unitsPerBlock at hlt; omega)]
  simp [unitsPerBlock]

/-- **Nothing inside the domain is refused.**  Every block `num < 2^20` that lies inside a body of more than one block and less
    than 4 GiB is produced, on every entrance, with the value and length the RFC names (for `ul` / `wm` and `num > 0`: whenever
    the peer can acknowledge the block before it, i.e. `num` is not inside the first BERT buffer). -/
theorem xfer_serves_domain (way : Way) {s mx body num : Nat} (hs : s ≤ 7)
    (hB : Spec.BlockOptXfer.blockLen s mx ≠ 0) (hbody : Spec.BlockOptXfer.unit s < body) (h32 : body < 4294967296)
    (hnum : num < 2 ^ 20) (hin : num * Spec.BlockOptXfer.unit s < body)
    (hack : way = .dl ∨ num = 0 ∨ unitsPerBlock s mx ≤ num)
    -- `Do` sends the first block with M = 1 unconditionally (DESIGN §6 O2 when the whole body is in it): bodies beyond one buffer
    (hO2 : way = .ul → num = 0 → Spec.BlockOptXfer.blockLen s mx < body) :
    xfer way s mx body num
      = .block (num * 16 + (if num * Spec.BlockOptXfer.unit s + min (Spec.BlockOptXfer.blockLen s mx) (body - num * Spec.BlockOptXfer.unit s) < body then 8 else 0) + s)
               (min (Spec.BlockOptXfer.blockLen s mx) (body - num * Spec.BlockOptXfer.unit s)) := by
  have hU := spec_unit_pos s
  have hk : unitsPerBlock s mx ≠ 0 := by
    intro h; have := blockLen_units s mx; rw [h] at this; omega
  unfold xfer
  have h1 : ¬ s > szxBERT := by simp [szxBERT]; omega
  have h2 : ¬ body ≤ unit s := by rw [unit_eq hs]; omega
  simp only [h1, h2, if_false]
  have hstart : encodeBlock s 0 true = .ok (8 + s) := by
    rw [encode_total s 0 true hs (by omega) (by omega)]; simp
  rw [hstart]
  simp only []
  have hfirst : ∀ b1, createSending b1 s mx body (8 + s) false
      = .block ((if min (Spec.BlockOptXfer.blockLen s mx) body < body then 8 else 0) + s) (min (Spec.BlockOptXfer.blockLen s mx) body) := by
    intro b1
    have := @createSending_block b1 false true s mx body 0 0 hs (by omega) (by simp) (by omega) (by omega) h32
    simpa using this
  have hlater : num ≠ 0 → way ≠ .dl →
      (match ackValue s mx num with
        | none => Res.skip
        | some a => createSending true s mx body a true)
      = .block (num * 16 + (if num * Spec.BlockOptXfer.unit s + min (Spec.BlockOptXfer.blockLen s mx) (body - num * Spec.BlockOptXfer.unit s) < body then 8 else 0) + s)
               (min (Spec.BlockOptXfer.blockLen s mx) (body - num * Spec.BlockOptXfer.unit s)) := by
    intro h0 hw
    have hle := (hack.resolve_left hw).resolve_left h0
    rw [ackValue_eq hs hk hle (by omega)]
    simp only []
    have h := @createSending_block true true true s mx body (num - unitsPerBlock s mx) num hs (by omega)
      (by simp only [Bool.and_self, if_true]; rw [blockLen_units s mx, ← Nat.add_mul]; congr 1; omega) hnum hin h32
    simp only [↓reduceIte] at h
    exact h
  cases way with
  | dl =>
    simp only [hfirst false]
    by_cases h0 : num = 0
    · subst h0; simp
    · simp only [h0, if_false]
      have := @createSending_block false true false s mx body num num hs hnum (by simp) hnum hin h32
      simp only [Bool.false_eq_true, if_false, Nat.add_zero] at this
      exact this
  | ul =>
    have h3 : ¬ body ≥ 4294967296 := by omega
    simp only [h3, if_false]
    by_cases h0 : num = 0
    · subst h0
      have := hO2 rfl rfl
      simp only [if_true, bufLen_eq mx hs]
      have e2 : 0 * Spec.BlockOptXfer.unit s + min (Spec.BlockOptXfer.blockLen s mx) (body - 0 * Spec.BlockOptXfer.unit s) < body := by
        simp; omega
      simp only [e2, if_true]
      simp
    · simp only [h0, if_false]
      exact hlater h0 Way.noConfusion
  | wm =>
    simp only [hfirst true]
    by_cases h0 : num = 0
    · subst h0; simp
    · simp only [h0, if_false]
      exact hlater h0 Way.noConfusion

/-- **Refused, not wrapped.**  A block whose number does not fit 20 bits is never produced, on no entrance, for no body. -/
theorem xfer_refuses_unwritable (way : Way) {s mx body num : Nat} (hs : s ≤ 7) (hnum : 2 ^ 20 ≤ num) :
    ∀ v l, xfer way s mx body num ≠ .block v l := by
  intro v l
  have hU := spec_unit_pos s
  have h0 : num ≠ 0 := by omega
  -- the request for such a block cannot even be decoded
  have hdl : ∃ e, createSending false s mx body (num * 16 + s) true = .refused e := by
    unfold createSending
    obtain ⟨e, he⟩ := decode_rejects (num * 16 + s) (by omega)
    simp only [he]; exact ⟨_, rfl⟩
  -- … and the block after an acknowledged one is numbered from its offset
  have hlater : ∀ r, r = (match ackValue s mx num with
        | none => Res.skip
        | some a => createSending true s mx body a true) → r ≠ .block v l := by
    intro r hr
    by_cases hk : unitsPerBlock s mx ≠ 0 ∧ unitsPerBlock s mx ≤ num ∧ num - unitsPerBlock s mx < 2 ^ 20
    · obtain ⟨hk0, hle, hlt⟩ := hk
      rw [ackValue_eq hs hk0 hle hlt] at hr
      simp only [] at hr
      obtain ⟨e, he⟩ := @createSending_refuses true true true s mx body (num - unitsPerBlock s mx) num hs hlt
        (by simp only [Bool.and_self, if_true]; rw [blockLen_units s mx, ← Nat.add_mul]; congr 1; omega) hnum
      simp only [↓reduceIte] at he
      rw [he] at hr; rw [hr]; intro h; cases h
    · -- no acknowledgement leads there
      have : ackValue s mx num = none := by
        unfold ackValue
        simp only [unit_eq hs, bufLen_eq mx hs]
        by_cases hc : Spec.BlockOptXfer.blockLen s mx / Spec.BlockOptXfer.unit s = 0 ∨ num < Spec.BlockOptXfer.blockLen s mx / Spec.BlockOptXfer.unit s
        · simp only [hc, if_true]
        · simp only [hc, if_false]
          obtain ⟨e, he⟩ := encode_rejects s ((num - Spec.BlockOptXfer.blockLen s mx / Spec.BlockOptXfer.unit s : Nat) : Int) true
            (by unfold unitsPerBlock at hk; omega)
          simp only [he]
      rw [this] at hr; rw [hr]; intro h; cases h
  unfold xfer
  split
  · intro h; cases h
  · split
    · intro h; cases h
    · rw [encode_total s 0 true hs (by omega) (by omega)]
      simp only []
      cases way with
      | dl =>
        simp only []
        obtain ⟨e, he⟩ := hdl
        split
        · rw [he]; intro h; cases h
        · rename_i r hr
          intro h; rw [h] at hr; exact hr _ _ rfl
      | ul =>
        simp only []
        split
        · intro h; cases h
        · exact hlater _ rfl
      | wm =>
        simp only []
        split
        · exact hlater _ rfl
        · rename_i r hr
          intro h; rw [h] at hr; exact hr _ _ rfl

/-- How `expect` judges: not at all, a number beyond 20 bits, or a block inside a body of more than one block. -/
theorem expect_cases (s mx body num : Nat) :
    Spec.BlockOptXfer.expect s mx body num = .unjudged ∨
    (s ≤ 7 ∧ 2 ^ 20 ≤ num ∧ Spec.BlockOptXfer.expect s mx body num = .refuse) ∨
    (s ≤ 7 ∧ Spec.BlockOptXfer.blockLen s mx ≠ 0 ∧ Spec.BlockOptXfer.blockLen s mx < body ∧
      Spec.BlockOptXfer.unit s < body ∧ num < 2 ^ 20 ∧ num * Spec.BlockOptXfer.unit s < body ∧
      ∃ v l, l = min (Spec.BlockOptXfer.blockLen s mx) (body - num * Spec.BlockOptXfer.unit s) ∧
        v = num * 16 + (if num * Spec.BlockOptXfer.unit s + l < body then 8 else 0) + s ∧
        (Spec.BlockOptXfer.expect s mx body num = .serve v l ∨
          Spec.BlockOptXfer.expect s mx body num = .serveOrRefuse v l)) := by
  unfold Spec.BlockOptXfer.expect
  by_cases hs : s > 7
  · exact .inl (if_pos hs)
  rw [if_neg hs]
  by_cases h1 : body ≤ Spec.BlockOptXfer.unit s ∨ body ≤ Spec.BlockOptXfer.blockLen s mx ∨ Spec.BlockOptXfer.blockLen s mx = 0
  · exact .inl (if_pos h1)
  rw [if_neg h1]
  by_cases h2 : 2 ^ 20 ≤ num
  · exact .inr (.inl ⟨by omega, h2, if_pos h2⟩)
  rw [if_neg h2]
  by_cases h3 : body ≤ num * Spec.BlockOptXfer.unit s
  · exact .inl (if_pos h3)
  rw [if_neg h3]
  refine .inr (.inr ⟨by omega, by omega, by omega, by omega, by omega, by omega, _, _, rfl, rfl, ?_⟩)
  have : s ≤ 7 ∧ (0 : Int) ≤ (num : Int) ∧ (num : Int) < 2 ^ 20 := ⟨by omega, by omega, by omega⟩
  simp only [Spec.BlockOpt.encode, this, and_self, if_true]
  split
  · exact .inl (by simp)
  · exact .inr (by simp)

/-- In the judge's words: where the specification says `serve` or `serveOrRefuse` (below 4 GiB), the model produces that block —
    on the upload entrances under `hack` as in `xfer_serves_domain`: the peer can acknowledge the block before it. -/
theorem xfer_model_eq_spec_serve (way : Way) {s mx body num v l : Nat} (h32 : body < 4294967296)
    (hv : Spec.BlockOptXfer.expect s mx body num = .serve v l ∨ Spec.BlockOptXfer.expect s mx body num = .serveOrRefuse v l)
    (hack : way = .dl ∨ num = 0 ∨ unitsPerBlock s mx ≤ num) :
    xfer way s mx body num = .block v l := by
  rcases expect_cases s mx body num with h | ⟨_, _, h⟩ | ⟨hs, hB, hBb, hU, hn, hin, h⟩
  · rw [h] at hv; rcases hv with hv | hv <;> cases hv
  · rw [h] at hv; rcases hv with hv | hv <;> cases hv
  · obtain ⟨v', l', rfl, rfl, h⟩ := h
    rw [xfer_serves_domain way hs hB hU h32 hn hin hack (fun _ _ => hBb)]
    rcases h with h | h <;> rcases hv with hv | hv <;> cases h.symm.trans hv <;> rfl

/-- … and where it says `refuse`, the model produces no block. -/
theorem xfer_model_eq_spec_refuse (way : Way) {s mx body num : Nat}
    (hv : Spec.BlockOptXfer.expect s mx body num = .refuse) : ∀ v l, xfer way s mx body num ≠ .block v l := by
  rcases expect_cases s mx body num with h | ⟨hs, h2, _⟩ | ⟨_, _, _, _, _, _, h⟩
  · cases h.symm.trans hv
  · exact xfer_refuses_unwritable way hs h2
  · obtain ⟨_, _, _, _, h | h⟩ := h <;> cases h.symm.trans hv

/-! Non-vacuity: the edge itself — the last block (number 0xfffff) of a body of exactly 2^20 blocks, on all three entrances, with
the smallest exponent, the largest and BERT; one byte more and the block that follows cannot be numbered. -/
example : xfer .dl 0 1152 16777216 1048575 = .block 16777200 16 := by decide
example : xfer .ul 0 1152 16777216 1048575 = .block 16777200 16 := by decide
example : xfer .wm 6 1152 1073741824 1048575 = .block 16777206 1024 := by decide
example : xfer .ul 7 4096 1073741824 1048572 = .block 16777159 4096 := by decide
example : Spec.BlockOptXfer.expect 0 1152 16777216 1048575 = .serve 16777200 16 := by decide
example : xfer .ul 0 1152 16777217 1048576 = .refused (some .exceedLimit) := by decide
example : Spec.BlockOptXfer.expect 0 1152 16777217 1048576 = .refuse := by decide

end CoapVerif.Props.C19Xfer

section Audit
open CoapVerif.Props.C19Xfer
#print axioms unit_eq
#print axioms getSzx_self
#print axioms spec_unit_pos
#print axioms blockLen_units
#print axioms bufLen_eq
#print axioms createSending_block
#print axioms createSending_refuses
#print axioms ackValue_eq
#print axioms xfer_serves_domain
#print axioms xfer_refuses_unwritable
#print axioms expect_cases
#print axioms xfer_model_eq_spec_serve
#print axioms xfer_model_eq_spec_refuse
end Audit
