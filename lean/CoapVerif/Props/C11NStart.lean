import CoapVerif.Model.Reader
import CoapVerif.Model.ReaderPrograms
import CoapVerif.Model.ReaderNStart
import CoapVerif.Lemmas.Reader
import CoapVerif.Lemmas.ReaderPrograms
import CoapVerif.Props.C11
/-!
# C11 — NSTART slots and the reader loop

> "A handler or callback may itself issue blocking requests on the same connection, to any nesting depth, without stalling
> the connection: processing of later incoming messages (including the awaited response) continues while it waits."
> (properties.jsonl, C11)

`udp/client/conn.go` counts outstanding interactions (RFC 7252 §4.7, NSTART): `prepareWriteMessage` waits for a slot
(`acquireOutstandingInteraction`) before a confirmable request is written.  A handler that waits there waits *on the loop
goroutine*.  Everything below is stated over the regenerated `Generated.WaitShape` (fact `nstartWaitPreceded`: the source calls
`TryToReplaceLoop` before the semaphore wait), so that the module builds for both shapes of the source:

* Source with the hand-over (F41 repaired, /repo a2d1ac6) — the full statement.  `nstart_handlers_wf`: every handler built from
  nested `Do` (confirmable, non-confirmable, own endpoint) and one-way confirmable writes, at every NSTART, on either transport, is
  well-formed (its first blocking construct is preceded by a replacement request; `do_nstart_wf`, `write_nstart_wf` are the core).
  `nstart_wait_never_keeps_a_queued_message`: for every queue capacity, NSTART, list of such requests (and answers) on the wire and
  every schedule, the current loop is never blocked, and whatever the queue holds its oldest message is taken after finitely many
  steps of the current loop alone — in particular the acknowledgement that frees the slot is reached: no hypothesis about the
  socket reader.
* Both shapes.  `slot_window_*`: while a slot is held the holder performs only `send`, `replace` and `wait (acked k)` — never a
  wait for a *delivered* response, a pong or another semaphore.  `release_after_ack_read`: a holder standing in its acknowledgement
  wait gives the slot back after one step of the socket reader and two of its own — no `loopTake`, no dispatch — once the socket
  reader's hand is free and the acknowledgement is next on the wire.
* Source without the hand-over: `Findings/C11NStart.lean` (`nstart_doProg_not_wf`, `nstart_stall`): the socket reader's hand is
  *not* free for ever, the connection stalls (F41).
-/
namespace CoapVerif.Props.C11NStart
open CoapVerif CoapVerif.Model.Reader CoapVerif.Model.ReaderPrograms CoapVerif.Model.ReaderNStart CoapVerif.Lemmas.Reader
open CoapVerif.Lemmas.ReaderPrograms

/-- one action seen by an observer who tracks "holds an NSTART slot": `none` = an action that must not happen while the slot is
    held (it could need a dispatch from the receive queue, or another semaphore) -/
def stepW : Bool → Act → Option Bool
  | false, .acquire key _ => some (key == nstartKey)
  | false, _ => some false
  | true, .release key => if key == nstartKey then some false else none
  | true, .send _ => some true
  | true, .replace => some true
  | true, .wait (.acked _) _ => some true
  | true, _ => none

/-- the program holds a slot only over `send · replace · wait (acked _)`, and gives it back before it ends; none of the three
    needs a dispatch from the receive queue: the socket reader matches the acknowledgement inline (hence the name) -/
def inlineWindow : Bool → List Act → Bool
  | h, [] => !h
  | h, a :: r => match stepW h a with
    | some h' => inlineWindow h' r
    | none => false

theorem inlineWindow_append (h : Bool) (p q : List Act) (hp : inlineWindow h p = true) (hq : inlineWindow false q = true) :
    inlineWindow h (p ++ q) = true := by
  induction p generalizing h with
  | nil =>
    cases h
    · simpa using hq
    · simp [inlineWindow] at hp
  | cons a r ih =>
    simp only [List.cons_append, inlineWindow] at hp ⊢
    cases hs : stepW h a with
    | none => rw [hs] at hp; cases hp
    | some h' => rw [hs] at hp; exact ih h' hp

theorem inlineWindow_nil (h : Bool) : inlineWindow h [] = !h := rfl

theorem inlineWindow_cons (h : Bool) (a : Act) (r : List Act) :
    inlineWindow h (a :: r) = match stepW h a with
      | some h' => inlineWindow h' r
      | none => false := rfl

theorem inlineWindow_rep (h b : Bool) (p : List Act) : inlineWindow h (rep b ++ p) = inlineWindow h p := by
  cases b <;> cases h <;> rfl

/-- NSTART not limiting (`nstart = 0`, the harness's plain `udp`): the programs are those of `ReaderPrograms` -/
theorem nstart_zero_programs (udp : Bool) (a b c k : Nat) :
    doProgN udp a b c 0 k = doProg udp a b c k ∧ writeProgN udp 0 k = writeProg udp k ∧
    observeProgN udp a b c 0 k = observeProg udp a b c k := by
  simp -implicitDefEqProofs only [doProgN, doProg, writeProgN, writeProg, observeProgN, observeProg, conWrite_zero, List.append_assoc,
    List.cons_append, List.nil_append, and_self]

theorem non_confirmable_independent_of_nstart (udp : Bool) (a b c n k : Nat) :
    doNonProgN udp a b c n k = doNonProg udp a b c k := rfl

theorem stream_has_no_nstart (a b c n k : Nat) : doProgN false a b c n k = doProg false a b c k := by
  simp -implicitDefEqProofs [doProgN, doProg, conWrite_stream, ackPart]

/-- the slot is held exactly over the write and its acknowledgement wait -/
theorem slot_window_conWrite (udp : Bool) (n k : Nat) : inlineWindow false (conWrite udp n k) = true := by
  cases udp
  · rw [conWrite_stream]; rfl
  · cases n <;> simp -implicitDefEqProofs [conWrite, takeSlot, giveSlot, ackPart, inlineWindow_rep, inlineWindow_cons, inlineWindow_nil, stepW]

theorem slot_window_limiterPart (udp : Bool) (fn : String) (a b c : Nat) (ha : a ≠ nstartKey) :
    inlineWindow false (limiterPart udp fn a b c) = true := by
  have ht : (totalKey == nstartKey) = false := rfl
  simp -implicitDefEqProofs [limiterPart, inlineWindow_rep, inlineWindow_cons, inlineWindow_nil, stepW, beq_false_of_ne ha, ht]

theorem slot_window_tail (b1 b2 : Bool) (k : Nat) :
    inlineWindow false (rep b1 ++ [.wait (.delivered k) b2] ++ [.endCall k]) = true := by
  rw [List.append_assoc, inlineWindow_rep]; rfl

/-- any transport, limits, NSTART; endpoint entries are 1 and 100+k, never the NSTART entry -/
theorem slot_window_do (udp : Bool) (a b c n k : Nat) (ha : a ≠ nstartKey) : inlineWindow false (doProgN udp a b c n k) = true := by
  unfold doProgN
  rw [List.append_assoc, List.append_assoc, List.append_assoc, List.append_assoc]
  refine inlineWindow_append _ _ _ (by simp [inlineWindow, stepW]) ?_
  refine inlineWindow_append _ _ _ (slot_window_limiterPart udp _ a b c ha) ?_
  refine inlineWindow_append _ _ _ (slot_window_conWrite udp n k) ?_
  rw [← List.append_assoc]
  exact slot_window_tail _ _ k

theorem slot_window_write (udp : Bool) (n k : Nat) : inlineWindow false (writeProgN udp n k) = true := by
  unfold writeProgN
  rw [List.append_assoc]
  refine inlineWindow_append _ _ _ (by simp [inlineWindow, stepW]) ?_
  exact inlineWindow_append _ _ _ (slot_window_conWrite udp n k) (by simp [inlineWindow, stepW])

theorem slot_window_observe (udp : Bool) (a b c n k : Nat) (ha : a ≠ nstartKey) :
    inlineWindow false (observeProgN udp a b c n k) = true := by
  unfold observeProgN
  rw [List.append_assoc, List.append_assoc, List.append_assoc, List.append_assoc, List.append_assoc]
  refine inlineWindow_append _ _ _ (by simp [inlineWindow, stepW]) ?_
  refine inlineWindow_append _ _ _ (slot_window_limiterPart udp _ a b c ha) ?_
  refine inlineWindow_append _ _ _ (by cases handed udp "Conn.doObserve" "Handler.NewObservation" <;> simp [rep, inlineWindow, stepW]) ?_
  refine inlineWindow_append _ _ _ (slot_window_conWrite udp n k) ?_
  rw [← List.append_assoc]
  exact slot_window_tail _ _ k

/-- non-vacuity: NSTART 1 on the datagram transport — the slot is really taken and given back, and the checker rejects a program
    that keeps the slot until the response has been *dispatched* (a non-confirmable request counted until `doInternal` returns) -/
example : (doProgN true 1 0 0 1 7).contains (.acquire nstartKey 1) = true ∧ (doProgN true 1 0 0 1 7).contains (.release nstartKey) = true ∧
    inlineWindow false [.startCall 7 30000, .acquire nstartKey 1, .send 7, .replace, .wait (.delivered 7) true, .endCall 7] = false := by
  decide +kernel

/-- Giving the slot back needs only the socket reader (either shape of the source; a step lemma: the socket reader's hand is free
    and the acknowledgement — bare, or piggybacked on the datagram transport — is the next message on the wire; that the socket
    reader gets there whatever the queue holds is `nstart_wait_never_keeps_a_queued_message`).  The holder `l` may be any
    goroutine (an application call or a handler on a replaced loop); after one step of the socket reader and two steps of `l`, with
    no `loopTake`, no dispatch and no step of any other handler, the slot is back, nothing was taken from the queue, and `l` goes on
    with the rest of its program. -/
theorem release_after_ack_read (s : State) (l k : Nat) (lp : Loop) (b : Bool) (rest : List Act) (m : Msg) (inbox' : List Msg)
    (hl : s.loops l = some lp) (hpc : lp.pc = .running)
    (hprog : lp.prog = .wait (.acked k) b :: .release nstartKey :: rest)
    (hhand : s.hand = none) (hin : s.inbox = m :: inbox')
    (hm : m.kind = .ack k ∨ (m.kind = .resp k ∧ s.udp = true)) :
    (run s [.feederRead, .handlerStep l, .handlerStep l]).holders = removeOne nstartKey s.holders ∧
    (run s [.feederRead, .handlerStep l, .handlerStep l]).started = s.started ∧
    (run s [.feederRead, .handlerStep l, .handlerStep l]).queue = s.queue ∧
    (∃ lp', (run s [.feederRead, .handlerStep l, .handlerStep l]).loops l = some lp' ∧ lp'.prog = rest) := by
  have f := feederRead_ack s k m inbox' hhand hin hm
  simp only [run, List.foldl]
  generalize step s .feederRead = s1 at f ⊢
  -- the wait ends because `k` is acknowledged, the release cannot block
  rw [step_act (s' := setLoop s1 l { lp with prog := .release nstartKey :: rest }) (by rw [f.loops]; exact hl) hpc hprog (if_pos f.acked),
    step_act (lp := { lp with prog := .release nstartKey :: rest }) (setLoop_self s1 l _) hpc rfl rfl]
  exact ⟨congrArg _ f.holders, f.started, f.queue, _, setLoop_self _ _ _, rfl⟩

/-- non-vacuity: NSTART 1; an application goroutine (loop slot 1) has written a confirmable request and waits for its ACK with
    the slot; the handler of request 1 (on the one and only reader loop 0) waits for the slot; the ACK is next on the wire.  One
    step of the socket reader and two of the application goroutine free the slot, and the handler's next step takes it. -/
def exApp : Loop := { idleLoop with doneClosed := true, pc := .running, prog := doProgN true 1 0 0 1 9 }
def exState : State :=
  run { setLoop (init 16 true [⟨1, .req (doProgN true 1 0 0 1 1)⟩, ⟨101, .ack 9⟩]) 1 exApp with nloops := 2 }
    -- (a step of a blocked goroutine changes nothing, so the counts only have to be large enough for either shape of the source)
    (List.replicate 12 (.handlerStep 1) ++ [.feederRead, .feederPush, .loopTake 0] ++ List.replicate 12 (.handlerStep 0))

example : slotsInUse exState = 1 ∧ holdsSlotInAckWait exState 1 9 = true ∧ waitsForSlot exState 0 = true ∧ exState.hand = none ∧
    slotsInUse (run exState [.feederRead, .handlerStep 1, .handlerStep 1]) = 0 ∧
    holdsSlotInAckWait (run exState ([.feederRead, .handlerStep 1, .handlerStep 1] ++ List.replicate 6 (.handlerStep 0))) 0 1 = true := by
  decide +kernel

/-- With the hand-over before the NSTART wait a nested confirmable `Do` (limiter off) is well-formed on either transport,
    for every NSTART (0 = not limiting) — `doInternal` / `waitForAcknowledge` have their own (decided over today's source) -/
theorem do_nstart_wf (h : nstartWaitPreceded = true) (udp : Bool) (key n k : Nat) :
    waitsPreceded (doProgN udp key 0 0 n k) = true := by
  simp -implicitDefEqProofs [doProgN, waitsPreceded_cons, waitsPreceded_limiterPart, waitsPreceded_conWrite, waitsPreceded_rep, h, ackWait_preceded,
    doInternal_preceded]

theorem write_nstart_wf (h : nstartWaitPreceded = true) (udp : Bool) (n k : Nat) : waitsPreceded (writeProgN udp n k) = true := by
  simp -implicitDefEqProofs [writeProgN, waitsPreceded, waitsPreceded_cons, waitsPreceded_conWrite, h, ackWait_preceded]

theorem doNon_wf (udp : Bool) (key k : Nat) : waitsPreceded (doNonProg udp key 0 0 k) = true := by
  simp -implicitDefEqProofs [doNonProg, waitsPreceded_cons, waitsPreceded_limiterPart, waitsPreceded_rep, doInternal_preceded]

/-- what a handler may do on its own connection (parallel-request limiter off — with it F11 applies) -/
inductive NestedOp
  | con (key k : Nat)     -- blocking `Do`, confirmable request (endpoint entry `key`)
  | non (key k : Nat)     -- blocking `Do`, non-confirmable request
  | write (k : Nat)       -- one-way confirmable `WriteMessage`

def opProg (udp : Bool) (n : Nat) : NestedOp → List Act
  | .con key k => doProgN udp key 0 0 n k
  | .non key k => doNonProgN udp key 0 0 n k
  | .write k => writeProgN udp n k

/-- the handler that performs `ops` one after the other, then returns -/
def handlerOf (udp : Bool) (n : Nat) (ops : List NestedOp) : List Act := (ops.map (opProg udp n)).flatten

theorem nstart_handlers_wf (h : nstartWaitPreceded = true) (udp : Bool) (n : Nat) (ops : List NestedOp) :
    waitsPreceded (handlerOf udp n ops) = true := by
  induction ops with
  | nil => rfl
  | cons o r ih =>
    simp only [handlerOf, List.map_cons, List.flatten_cons]
    refine waitsPreceded_append ?_ ih
    cases o with
    | con key k => exact do_nstart_wf h udp key n k
    | non key k => exact doNon_wf udp key k
    | write k => exact write_nstart_wf h udp n k

/-- The full statement (source with the hand-over): a handler's request that waits for an NSTART slot never keeps a queued
    message from being taken.  For every queue capacity, transport, NSTART `n`, every list of messages on the wire whose requests
    have handlers of the form above (nested requests one after the other, to any depth by way of the requests that arrive
    meanwhile; answers and acknowledgements have no handler) and every schedule: the current loop can always take its next step —
    it is never the goroutine that waits in the semaphore —, it has not left while the connection is open, and, whatever the queue
    and the socket reader's hand hold, the oldest waiting message is taken after finitely many steps of the current loop alone
    (no step of a blocked handler is used); so the socket reader always gets on to the acknowledgement that frees the slot. -/
theorem nstart_wait_never_keeps_a_queued_message (h : nstartWaitPreceded = true) (cap n : Nat) (udp : Bool) (inbox : List Msg)
    (hin : ∀ m ∈ inbox, ∃ ops, progOf m.kind = handlerOf udp n ops) (evs : List Event) :
    (∀ lp, (run (init cap udp inbox) evs).loops (run (init cap udp inbox) evs).current = some lp →
      (lp.pc = .exited → (run (init cap udp inbox) evs).closed = true) ∧
      (lp.pc = .running → ∀ act rest, lp.prog = act :: rest →
        (doAct (run (init cap udp inbox) evs) (run (init cap udp inbox) evs).current lp act rest).isSome = true)) ∧
    ((run (init cap udp inbox) evs).closed = false → ∀ m rest, waiting (run (init cap udp inbox) evs) = m :: rest →
      ∃ j, (advanceN j (run (init cap udp inbox) evs)).started = (run (init cap udp inbox) evs).started ++ [m] ∧
        waiting (advanceN j (run (init cap udp inbox) evs)) = rest) := by
  have hwf : Props.C11.WF inbox := by
    intro m hm
    obtain ⟨ops, ho⟩ := hin m hm
    rw [ho]; exact nstart_handlers_wf h udp n ops
  exact ⟨Props.C11.current_never_blocked cap udp inbox hwf evs,
    fun hopen m rest hw => Props.C11.nested_any_depth cap udp inbox hwf evs hopen m rest hw⟩

/-- non-vacuity: NSTART 1, queue of size 0, two requests whose handlers issue nested confirmable requests (three in all), a further request
    with an empty handler, two acknowledgements behind them — the kind of history that stalls a source without the hand-over
    (`Findings.C11NStart.nstart_stall`) -/
def exInbox : List Msg := [⟨1, .req (handlerOf true 1 [.con 1 1])⟩, ⟨2, .req (handlerOf true 1 [.con 1 2, .write 3])⟩,
  ⟨3, .req (handlerOf true 1 [])⟩, ⟨101, .ack 1⟩, ⟨102, .ack 2⟩]

example (h : nstartWaitPreceded = true) :
    ∀ evs, ∀ lp, (run (init 0 true exInbox) evs).loops (run (init 0 true exInbox) evs).current = some lp → lp.pc = .running →
      ∀ act rest, lp.prog = act :: rest →
        (doAct (run (init 0 true exInbox) evs) (run (init 0 true exInbox) evs).current lp act rest).isSome = true := by
  intro evs lp hlp hr
  refine ((nstart_wait_never_keeps_a_queued_message h 0 1 true _ ?_ evs).1 lp hlp).2 hr
  intro m hm
  simp only [exInbox, List.mem_cons, List.mem_nil_iff, or_false] at hm
  rcases hm with rfl | rfl | rfl | rfl | rfl
  · exact ⟨[.con 1 1], rfl⟩
  · exact ⟨[.con 1 2, .write 3], rfl⟩
  · exact ⟨[], rfl⟩
  · exact ⟨[], rfl⟩
  · exact ⟨[], rfl⟩

end CoapVerif.Props.C11NStart

section Audit
open CoapVerif.Props.C11NStart
#print axioms inlineWindow_append
#print axioms inlineWindow_nil
#print axioms inlineWindow_cons
#print axioms inlineWindow_rep
#print axioms nstart_zero_programs
#print axioms non_confirmable_independent_of_nstart
#print axioms stream_has_no_nstart
#print axioms slot_window_conWrite
#print axioms slot_window_limiterPart
#print axioms slot_window_tail
#print axioms slot_window_do
#print axioms slot_window_write
#print axioms slot_window_observe
#print axioms release_after_ack_read
#print axioms do_nstart_wf
#print axioms write_nstart_wf
#print axioms doNon_wf
#print axioms nstart_handlers_wf
#print axioms nstart_wait_never_keeps_a_queued_message
#print axioms CoapVerif.Lemmas.ReaderPrograms.conWrite_zero
#print axioms CoapVerif.Lemmas.ReaderPrograms.conWrite_stream
#print axioms CoapVerif.Lemmas.Reader.feederRead_ack
end Audit
