import CoapVerif.Go.Basic
import CoapVerif.Model.Router
import CoapVerif.Model.RouterAccess
import CoapVerif.Model.RouterChurn
import CoapVerif.Props.C17
import CoapVerif.Props.C17Access
import CoapVerif.Lemmas.RouterTable
/-!
# C17 — dispatch after a LONG history: only the live registrations count, not how many modifications there were

Statement (properties.jsonl, C17): "For every set of registered patterns and every request path, dispatch invokes exactly one
handler: a registered one whose pattern matches the entire path and for which no other matching pattern is longer, or the
default handler exactly when nothing matches. … never dispatches to a pattern that does not match."

"Registered" is read off the history the way the words say (`Lemmas/RouterTable.liveRev`: the LAST operation that concerned a
pattern decides).  The histories are lists of ANY length and nothing here depends on the number of operations.  The lengths the
check's `churn` runs put between two dispatches — 2^16·k and their neighbours, where a count of the table's modifications kept in
16 bits wraps (seeded change C17-W guards a remembered lookup by such a count) — are ordinary members of the quantifier:

* `dispatch_after_any_history` — after every history, every map order, every path: the handler invoked is the handler of the
  LAST live registration of the dispatched pattern (not of one that was replaced or removed since, however long ago), that
  pattern matches the entire path, no LIVE matching pattern is longer; the default handler (or nothing) only if no live
  pattern matches;
* `untouched_patterns_keep_their_registration` — operations that do not concern a pattern (as many as one likes) leave its
  registration as it was; `churn_leaves_other_patterns_alone` for the runs of Model/RouterChurn;
* `register_then_remove_restores_router`, `churn_even_restores_router`, `churn_does_not_change_dispatch` — a run of 2k
  modifications on fresh patterns (every k) gives back the SAME router, so the dispatch behind it is the
  dispatch in front of it;
* `churnLoop_is_run` — the run as the harness executes it (stop at the first refusal) is, when nothing was refused, `Router.run`
  of the operation list.
-/
namespace CoapVerif.Props.C17Long
open CoapVerif CoapVerif.Model.Router CoapVerif.Lemmas.Router

/-- The invoked handler is the handler of the LAST live registration of the
    dispatched pattern; that pattern matches the entire path; no live matching pattern is longer; the default handler (or no
    handler when there is none) exactly when no live pattern matches.  A route that was removed or replaced — however many
    modifications ago — is never dispatched to. -/
theorem dispatch_after_any_history (ops : List Op) (order : List (Str × Route))
    (hperm : order.Perm (({} : Router).run ops).z) (path : Option Str) :
    match (({} : Router).run ops).serveCOAP order path with
    | .invoked h (some pat) _ _ =>
        liveRev pat ops.reverse = some h ∧ Matches pat (filterPath (path.getD [])) ∧
        ∀ q h', liveRev q ops.reverse = some h' → Matches q (filterPath (path.getD [])) → byteLen q ≤ byteLen pat
    | .invoked h none _ _ =>
        (({} : Router).run ops).defaultHandler = some h ∧
        ∀ q h', liveRev q ops.reverse = some h' → ¬ Matches q (filterPath (path.getD []))
    | .nothing =>
        (({} : Router).run ops).defaultHandler = none ∧
        ∀ q h', liveRev q ops.reverse = some h' → ¬ Matches q (filterPath (path.getD []))
    | .fail _ => False := by
  obtain ⟨hwf, _⟩ := tracks_run ops
  have hadm := CoapVerif.Props.C17.dispatch_spec _ hwf order hperm path
  have hlive : ∀ {P : Str → Prop}, (∀ e ∈ (({} : Router).run ops).z, P e.1) →
      ∀ q h', liveRev q ops.reverse = some h' → P q := by
    intro P hP q h' hl
    obtain ⟨rt, hmem, _⟩ := (live_iff_entry ops q h').1 hl
    exact hP _ hmem
  generalize (({} : Router).run ops).serveCOAP order path = o at hadm ⊢
  cases o with
  | nothing => exact ⟨hadm.2, hlive hadm.1⟩
  | fail f => exact hadm
  | invoked h pat rp run =>
    cases pat with
    | none => exact ⟨hadm.2.1, hlive hadm.1⟩
    | some pat =>
      obtain ⟨hreg, hm, hmax, _⟩ := hadm
      exact ⟨(live_iff_entry ops pat h).2 hreg, hm, hlive hmax⟩

def concerns (q : Str) : Op → Prop
  | .handle p _ => filterPath p = q
  | .handleFunc p _ => filterPath p = q
  | .handleRemove p => filterPath p = q
  | _ => False

theorem liveRev_skip (q : Str) (rev : List Op) : ∀ (l : List Op), (∀ op ∈ l, ¬ concerns q op) →
    liveRev q (l ++ rev) = liveRev q rev := by
  intro l
  induction l with
  | nil => intro _; rfl
  | cons op l ih =>
    intro hl
    have hrest := ih (fun o ho => hl o (List.mem_cons_of_mem _ ho))
    have hop := hl op (List.mem_cons_self ..)
    cases op with
    | handle p h =>
      simp only [concerns] at hop
      cases h with
      | none => simpa [liveRev] using hrest
      | some h => simp only [List.cons_append, liveRev, hop, false_and, if_false]; exact hrest
    | handleFunc p f =>
      simp only [concerns] at hop
      simp only [List.cons_append, liveRev, hop, false_and, if_false]; exact hrest
    | handleRemove p =>
      simp only [concerns] at hop
      simp only [List.cons_append, liveRev, hop, if_false]; exact hrest
    | defaultHandle h => simpa [liveRev] using hrest
    | use m => simpa [liveRev] using hrest

/-- **However many operations follow — if none of them concerns the pattern, its registration is what it was**: still live
    with the same handler, or still gone. -/
theorem untouched_patterns_keep_their_registration (ops extra : List Op) (q : Str)
    (hno : ∀ op ∈ extra, ¬ concerns q op) :
    liveRev q (ops ++ extra).reverse = liveRev q ops.reverse := by
  rw [List.reverse_append]
  exact liveRev_skip q _ _ (fun op hop => hno op (List.mem_reverse.1 hop))

/-- the runs of Model/RouterChurn concern only the patterns `<prefix><j>` -/
theorem churn_leaves_other_patterns_alone (ops : List Op) (pre : Str) (h : Handler) (n : Nat) (q : Str)
    (hq : ∀ j, filterPath (churnPat pre j) ≠ q) :
    liveRev q (ops ++ churnOps pre h n).reverse = liveRev q ops.reverse := by
  apply untouched_patterns_keep_their_registration
  intro op hop
  simp only [churnOps, churnFrom, List.mem_map] at hop
  obtain ⟨i, _, rfl⟩ := hop
  simp only [churnOp]
  split
  · exact hq _
  · exact hq _

/-- … so a route removed before the run is still gone behind it, whatever `n` is -/
theorem removed_stays_removed_through_churn (ops : List Op) (p pre : Str) (h : Handler) (n : Nat)
    (hq : ∀ j, filterPath (churnPat pre j) ≠ filterPath p) :
    (({} : Router).run (ops ++ [.handleRemove p] ++ churnOps pre h n)).getRoute p = none := by
  rw [CoapVerif.Props.C17Access.getRoute_is_the_last_live_registration, churn_leaves_other_patterns_alone _ _ _ _ _ hq]
  simp [liveRev]

/-- `Handle(p, h)` followed by `HandleRemove(p)` for a pattern that is not registered: the router is what it was (also when
    `Handle` refuses the pattern: then `HandleRemove` finds nothing) -/
theorem register_then_remove_restores_router (r : Router) (p : Str) (h : Option Handler)
    (hfresh : zHas r.z (filterPath p) = false) :
    (r.apply (.handle p h)).apply (.handleRemove p) = r := by
  have hrem : r.apply (.handleRemove p) = r := by
    simp [Router.apply, Router.handleRemove, hfresh, okOr]
  cases h with
  | none => simpa [Router.apply, Router.handle, okOr] using hrem
  | some h =>
    simp only [Router.apply, handle_some_eq]
    cases newRouteRegexp (filterPath p) with
    | error e => exact hrem
    | ok rx => simp only [Router.handleRemove, zHas_zSet_self, if_true, okOr, zErase_zSet_fresh _ _ _ hfresh]

theorem churnFrom_pair (pre : Str) (h : Handler) (j k : Nat) :
    churnFrom pre h (2 * j) (2 * (k + 1)) =
      .handle (churnPat pre j) (some h) :: .handleRemove (churnPat pre j) :: churnFrom pre h (2 * (j + 1)) (2 * k) := by
  have e0 : churnOp pre h (2 * j) = .handle (churnPat pre j) (some h) := by
    simp only [churnOp, Nat.mul_mod_right, if_true, Nat.mul_div_cancel_left j (Nat.succ_pos 1)]
  have e1 : churnOp pre h (2 * j + 1) = .handleRemove (churnPat pre j) := by
    have m1 : (2 * j + 1) % 2 = 1 := by omega
    have d1 : (2 * j + 1) / 2 = j := by omega
    simp only [churnOp, m1, d1, Nat.one_ne_zero, if_false]
  rw [churnFrom, show 2 * (k + 1) = 2 * k + 1 + 1 from rfl, List.range'_succ, List.range'_succ, List.map_cons,
    List.map_cons, e0, e1]
  rfl

/-- **A run of 2k modifications on fresh patterns gives back the same router**, for every k. -/
theorem churn_even_restores_router (pre : Str) (h : Handler) (r : Router)
    (hfresh : ∀ j, zHas r.z (filterPath (churnPat pre j)) = false) :
    ∀ (k j : Nat), r.run (churnFrom pre h (2 * j) (2 * k)) = r := by
  intro k
  induction k with
  | zero => intro j; simp [churnFrom, Router.run]
  | succ k ih =>
    intro j
    rw [churnFrom_pair]
    simp only [Router.run, List.foldl_cons]
    have := register_then_remove_restores_router r (churnPat pre j) (some h) (hfresh j)
    rw [this]
    exact ih (j + 1)

/-- … so the dispatch behind the run is the dispatch in front of it: same handler, pattern, variables and chain, for every
    path and every map order -/
theorem churn_does_not_change_dispatch (pre : Str) (h : Handler) (r : Router)
    (hfresh : ∀ j, zHas r.z (filterPath (churnPat pre j)) = false) (k : Nat) (order : List (Str × Route)) (path : Option Str) :
    (r.run (churnOps pre h (2 * k))).serveCOAP order path = r.serveCOAP order path := by
  have := churn_even_restores_router pre h r hfresh k 0
  simp only [churnOps]
  simp only [Nat.mul_zero] at this
  rw [this]

theorem apply_eq_okOr (r : Router) (op : Op) : r.apply op = okOr r (r.answer op) := by
  cases op <;> rfl

theorem churnLoop_is_run (pre : Str) (h : Handler) : ∀ (n i : Nat) (r : Router),
    (churnLoop pre h n i r).2 = none → (churnLoop pre h n i r).1 = r.run (churnFrom pre h i n) := by
  intro n
  induction n with
  | zero => intro i r _; simp [churnLoop, churnFrom, Router.run]
  | succ n ih =>
    intro i r hnone
    simp only [churnLoop] at hnone ⊢
    cases ha : r.answer (churnOp pre h i) with
    | error f => rw [ha] at hnone; simp at hnone
    | ok r' =>
      rw [ha] at hnone
      simp only [] at hnone ⊢
      rw [ih (i + 1) r' hnone]
      simp only [churnFrom, List.range'_succ, List.map_cons, Router.run, List.foldl_cons, apply_eq_okOr, ha, okOr]

/-! ## non-vacuity -/

/-- `/d/{i}` registered and removed, four more modifications: the default handler answers `/d/7` -/
example : (match (({} : Router).run ([.handle ['/', 'd', '/', '{', 'i', '}'] (some (.named "h1")), .handleRemove ['/', 'd', '/', '{', 'i', '}']] ++
      churnOps ['/', 't'] (.named "c") 4)).serveCOAP [] (some ['/', 'd', '/', '7']) with
    | .invoked h pat _ _ => some (h, pat)
    | _ => none) = some (.named "notfound", none) := by decide +kernel

/-- an odd run leaves its last pattern registered, and it is dispatched to -/
example : (match (({} : Router).run (churnOps ['/', 't'] (.named "c") 3)).serveCOAP
      (({} : Router).run (churnOps ['/', 't'] (.named "c") 3)).z (some ['/', 't', '1']) with
    | .invoked h pat _ _ => some (h, pat)
    | _ => none) = some (.named "c", some ['/', 't', '1']) := by decide +kernel

example : (({} : Router).churn ['/', 't'] (.named "c") 4).1 = ({} : Router) := by decide +kernel
example : (({} : Router).churn ['/', '{'] (.named "c") 4).2 = some (0, .err .unbalanced) := by decide +kernel

end CoapVerif.Props.C17Long

section Audit
open CoapVerif.Props.C17Long
#print axioms dispatch_after_any_history
#print axioms untouched_patterns_keep_their_registration
#print axioms churn_leaves_other_patterns_alone
#print axioms removed_stays_removed_through_churn
#print axioms register_then_remove_restores_router
#print axioms churn_even_restores_router
#print axioms churn_does_not_change_dispatch
#print axioms churnLoop_is_run
#print axioms liveRev_skip
#print axioms churnFrom_pair
#print axioms apply_eq_okOr
end Audit
