import CoapVerif.Generated.OptionWiring
import CoapVerif.Lemmas.AsciiString
/-!
# C10 (configurations × transports) — the appliers of every option agree

The properties quantify over "all transports" and "configurations".  An option such as `WithMaxMessageSize`,
`WithKeepAlive`, `WithTransmission` is written into the configuration of a TCP server, a TCP client, a UDP server, a DTLS
server and a UDP client by five separate methods (`options/*.go`).  `Generated/OptionWiring.lean` lists, for every
`…Apply` method, the configuration fields it assigns and the (transport-normalised) value texts, re-read from /repo on
every run.  The obligation: all appliers of one option type write the same fields from the same values - the code is
compared with itself, there is no expectation table; and no applier is empty.  What is evaluated is that consecutive
entries of one type agree and that the list is sorted by type; that this covers any two appliers of one type is the
usual argument about sorted lists and is not proved (`adjAgree_head` is one unfolding of the check).  (What the value *means* for a connection is
the business of the per-property levels that build their connections through the options: C06 `opt`, C07 `cfgsrv`,
C16 `tcpcli/tcpsrv/dtlssrv`, C18 server levels, C20 `srvmux`.)
Second part (`server_connection_wiring`, over `Generated.OptionWiring.connFields`): what `createConn` / `getOrCreateConn` copy
from the server's settings into the configuration of an accepted connection.
-/
namespace CoapVerif.Props.C10Wiring
open CoapVerif.Generated.OptionWiring CoapVerif.Lemmas.AsciiString

/-- consecutive entries of the same option type (the list is sorted by type) have the same assignments -/
def adjAgree : List Applier → Bool
  | a :: b :: r => (a.opt != b.opt || a.assigns == b.assigns) && adjAgree (b :: r)
  | _ => true

def noneEmpty (l : List Applier) : Bool := l.all (fun a => !a.assigns.isEmpty)

/-- sortedness by option type, so that "consecutive" covers all pairs -/
def sortedByOpt : List Applier → Bool
  | a :: b :: r => decide (a.opt ≤ b.opt) && sortedByOpt (b :: r)
  | _ => true

/-- `sortedByOpt` for ASCII type names (Go identifiers), on their bytes: what is evaluated, see `Lemmas/AsciiString` -/
def sortedByOptBytes : List Applier → Bool
  | a :: b :: r => decide (bytesAsChars a.opt ≤ bytesAsChars b.opt) && sortedByOptBytes (b :: r)
  | _ => true

theorem sortedByOpt_of_bytes : ∀ l : List Applier, (l.all fun a => isAscii a.opt) = true → sortedByOptBytes l = true →
    sortedByOpt l = true
  | a :: b :: r, hl, hs => by
    simp only [List.all_cons, Bool.and_eq_true] at hl
    simp only [sortedByOptBytes, Bool.and_eq_true, decide_eq_true_eq] at hs
    simp only [sortedByOpt, Bool.and_eq_true, decide_eq_true_eq]
    exact ⟨(le_iff_of_isAscii hl.1 hl.2.1).2 hs.1, sortedByOpt_of_bytes (b :: r) (by simpa using hl.2) hs.2⟩
  | [_], _, _ | [], _, _ => rfl

theorem option_appliers_agree : adjAgree appliers = true ∧ noneEmpty appliers = true ∧ sortedByOpt appliers = true :=
  ⟨by decide +kernel, by decide, sortedByOpt_of_bytes appliers (by decide +kernel) (by decide +kernel)⟩

theorem adjAgree_head (a b : Applier) (r : List Applier) (h : adjAgree (a :: b :: r) = true) :
    (a.opt != b.opt || a.assigns == b.assigns) = true ∧ adjAgree (b :: r) = true := by
  simpa [adjAgree] using h

/-! Non-vacuity: a slip in one of the five copies is rejected. -/
example : adjAgree [⟨"LimitOpt", "DTLSServerApply", ["LimitEndpoint=o.limit"]⟩, ⟨"LimitOpt", "TCPServerApply", ["LimitEndpoint=o.endpointLimit"]⟩] = false := by decide +kernel
example : adjAgree [⟨"AOpt", "TCPClientApply", ["A=o.a"]⟩, ⟨"AOpt", "UDPClientApply", ["A=o.a"]⟩, ⟨"BOpt", "UDPClientApply", ["B=o.b"]⟩] = true := by decide +kernel

/-! ### the servers' per-connection configuration

What `createConn` (tcp, dtls) / `getOrCreateConn` (udp) write into the configuration of an accepted connection.  Every
field is copied from the server's setting **of the same name**; the only other values are the ones listed in `special`
(the stream connection lives in the server's context and owns its socket; the datagram server wraps the handler for its
discovery receivers).  The two datagram-style servers fill in the same set of fields, and the fields every connection
needs are filled in by all three. -/

def special : List ConnField := [⟨"tcp", "Ctx", "s.ctx"⟩, ⟨"tcp", "CloseSocket", "true"⟩, ⟨"udp", "Handler", "func"⟩]

def sameNamed (l : List ConnField) : Bool := l.all (fun c => c.value == "s.cfg." ++ c.field || special.contains c)

def fieldsOf (sv : String) (l : List ConnField) : List String := (l.filter (·.server == sv)).map (·.field)

def sameSet (a b : List String) : Bool := a.all b.contains && b.all a.contains

/-- the fields asked of all three servers; the selection is this file's, not read from the source -/
def needed : List String := ["BlockwiseSZX", "Errors", "GetToken", "Handler", "MessagePool", "ProcessReceivedMessage", "ReceivedMessageQueueSize"]

theorem server_connection_wiring :
    sameNamed connFields = true ∧ sameSet (fieldsOf "dtls" connFields) (fieldsOf "udp" connFields) = true ∧
    (["tcp", "dtls", "udp"].all fun sv => needed.all fun f => (fieldsOf sv connFields).contains f) = true ∧
    (fieldsOf "tcp" connFields).contains "MaxMessageSize" = true ∧ (fieldsOf "tcp" connFields).contains "Ctx" = true := by decide +kernel

/-! Non-vacuity: a limit copied from the wrong setting, a context that is not the server's. -/
example : sameNamed [⟨"dtls", "LimitClientEndpointParallelRequests", "s.cfg.LimitClientParallelRequests"⟩] = false := by decide +kernel
example : sameNamed [⟨"tcp", "Ctx", "cfg.Ctx"⟩] = false := by decide +kernel

end CoapVerif.Props.C10Wiring

section Audit
open CoapVerif.Props.C10Wiring
#print axioms sortedByOpt_of_bytes
#print axioms option_appliers_agree
#print axioms adjAgree_head
#print axioms server_connection_wiring
end Audit
