import CoapVerif.Model.StreamServer
import CoapVerif.Lemmas.KeyedList
/-!
# C10 on the connection-oriented servers: who is served, and the connection registry under either key

Statement (properties.jsonl, C10): "A server keeps serving for every sequence of well-formed and malformed datagrams, frames
and connection attempts from any number of peers: it never crashes, deadlocks or stops accepting, and messages from one
remote address are handled by one logical connection per (remote, local) address pair in arrival order.  Garbage, oversize
messages, stalled handshakes or the closure of one peer never change what other peers receive, …"

`Model/StreamServer.lean` says which key each server uses; for the stream / DTLS servers' registry the key is a regenerated
fact (`Generated/ConnRegistry.lean`) and the model has both branches.  The theorems are stated for each branch by name
(`.connection`, `.remoteAddr`); it is the driver (`Driver/C10Streams.model`) that runs the model under the regenerated `key`.
Here, for ALL histories of accepted / closed connections, requests, housekeeping passes (no bound on their number or on
the addresses):

* whatever the key - `live_meets_spec`: the connections a tcp/dtls server is serving are exactly the ones that were
  accepted and not closed by their own peer: two connections with equal remote and different local address are two logical
  connections, the arrival or the end of one never ends the other (the registry is not consulted for handling messages).
* registry keyed by the connection (the code since b69b0e7; section `Identity`) - `registry_is_open_set`: the registry
  holds exactly the open connections; hence `every_open_registered`, `registered_iff_open` (a connection is unregistered
  exactly at its own end; no arrival or end of ANOTHER connection changes its registration: `registration_independent`),
  `every_open_visited` (every housekeeping pass visits every open connection and nothing else), `stop_ends_serve` (Stop
  closes every connection and Serve returns) - no restriction on shared remote addresses.
* registry keyed by the remote address only (the code before, F40, and the world of seeded C10-T; after `Identity`) -
  `unshared_registered`, `unshared_visited`, `stop_ends_serve_partial` hold only for connections that never shared their
  remote address with another open connection; section `DoesNotHold` has the concrete witnesses of what fails: only the
  later of two connections is registered, the end of the earlier one unregisters the later one too, an unregistered connection is never visited
  by housekeeping, is not closed by Stop, and `Serve` does not return while its peer keeps it open.
* at the end, the datagram server's session shut down by several clean-up paths (`second_shutdown_is_noop`,
  `shutdown_any_number`).

`out before after e` (`Model/StreamServer`) is what event `e` shows: read off the state after it, for `stop` off the state
before it.
-/
namespace CoapVerif.Props.C10Streams
open CoapVerif.Spec.StreamServer CoapVerif.Model.StreamServer
open CoapVerif.Generated.ConnRegistry (RegKey)

def noStop : Ev → Bool
  | .stop => false
  | _ => true

theorem run_inv {k : RegKey} (P : State → List SpecConn → Prop)
    (hstep : ∀ s t, P s t → ∀ e, noStop e = true → P (step k s e) (openStep t e)) (evs : List Ev) :
    ∀ s t, P s t → evs.all noStop = true → P (run k s evs) (evs.foldl openStep t) :=
  fun _ _ h he => List.foldl_rel h fun e hm s t hst => hstep s t hst e (List.all_eq_true.mp he e hm)

/-- What accepting a connection from remote `r` does to a connection already open: the function `openStep` maps over the
    open connections, under a name (`step_cases` states `openStep` with it, by `rfl`). -/
def mark (r : Nat) (x : SpecConn) : SpecConn := if x.conn.remote == r then { x with shared := true } else x

theorem mark_conn (r : Nat) (x : SpecConn) : (mark r x).conn = x.conn := by
  unfold mark
  split <;> rfl

theorem mark_of_ne {r : Nat} {x : SpecConn} (h : x.conn.remote ≠ r) : mark r x = x :=
  if_neg fun e => h (eq_of_beq e)

structure LiveInv (s : State) (t : List SpecConn) : Prop where
  running : s.stopped = false
  live : s.live = t.map (·.conn)

/-- What an event other than `Stop` does, to the model's state and to the open connections side by side: nothing, a new
    connection accepted, the connection `x` closed by its peer.  `LiveInv` is what makes the two sides take the same
    branch. -/
theorem step_cases {k : RegKey} (P : State → List SpecConn → Prop) {s : State} {t : List SpecConn} (h : LiveInv s t)
    (e : Ev) (he : noStop e = true) (keep : P s t)
    (opn : ∀ c r l, s.live.any (fun x => x.id == c) = false →
      P { s with live := s.live ++ [⟨c, r, l⟩], reg := regStore s.reg (regKeyOf k ⟨c, r, l⟩) c }
        (t.map (mark r) ++ [⟨⟨c, r, l⟩, t.any (fun x => x.conn.remote == r)⟩]))
    (cls : ∀ x ∈ s.live, P { s with live := s.live.filter (fun y => y.id != x.id), reg := regDelete s.reg (regKeyOf k x) }
      (t.filter (fun y => y.conn.id != x.id))) :
    P (step k s e) (openStep t e) := by
  cases e with
  | stop => exact absurd he Bool.false_ne_true
  | req c => exact keep
  | sweep => exact keep
  | opn c r l =>
    have hany : t.any (fun x => x.conn.id == c) = s.live.any (fun x => x.id == c) := by
      rw [h.live, List.any_map]; rfl
    cases hc : s.live.any (fun x => x.id == c) with
    | true =>
      rw [show step k s (.opn c r l) = s from if_pos (by rw [h.running, hc]; rfl),
        show openStep t (.opn c r l) = t from if_pos (hany.trans hc)]
      exact keep
    | false =>
      rw [show step k s (.opn c r l) = _ from if_neg (by rw [h.running, hc]; exact Bool.noConfusion),
        show openStep t (.opn c r l) = _ from if_neg (by rw [hany, hc]; exact Bool.noConfusion)]
      exact opn c r l hc
  | cls c =>
    show P (match s.live.find? (fun x => x.id == c) with | some x => _ | none => s) (t.filter fun x => x.conn.id != c)
    cases hf : s.live.find? (fun x => x.id == c) with
    | some x =>
      obtain ⟨hx, rfl⟩ := Lemmas.KeyedList.find?_some SConn.id hf
      exact cls x hx
    | none =>
      -- no such connection, on either side
      rw [h.live, List.find?_map] at hf
      rw [Lemmas.KeyedList.filter_ne_of_find?_none (fun x : SpecConn => x.conn.id) (Option.map_eq_none_iff.mp hf)]
      exact keep

theorem live_step (k : RegKey) (s : State) (t : List SpecConn) (h : LiveInv s t) (e : Ev) (he : noStop e = true) :
    LiveInv (step k s e) (openStep t e) :=
  step_cases LiveInv h e he h
    (fun c r l _ => ⟨h.running, by
      rw [List.map_append, List.map_map]
      exact congrArg (· ++ _) (h.live.trans (List.map_congr_left fun x _ => (mark_conn r x).symm))⟩)
    (fun x _ => ⟨h.running, by rw [h.live, List.filter_map]; rfl⟩)

/-- Whatever the key: for every history of accepted connections (any remote / local addresses, equal remotes included),
    requests, closures and housekeeping passes: the connections the server is serving are exactly those that were accepted and
    not closed by their own peer. -/
theorem live_meets_spec (k : RegKey) (evs : List Ev) (he : evs.all noStop = true) :
    (run k {} evs).live = (openSpec evs).map (·.conn) :=
  (run_inv LiveInv (live_step k) evs {} [] ⟨rfl, rfl⟩ he).live

example : (run .connection {} [.opn 1 1 1, .opn 2 1 2, .req 1, .cls 2, .opn 3 1 2, .sweep]).live = [⟨1, 1, 1⟩, ⟨3, 1, 2⟩] := by decide +kernel

/-! ### registry keyed by the connection (the code since b69b0e7) -/
section Identity

def idEntry (x : SConn) : Nat × Nat := (x.id, x.id)

/-- the registry is the list of the connections being served -/
theorem reg_step (s : State) (t : List SpecConn) (h : LiveInv s t ∧ s.reg = s.live.map idEntry) (e : Ev)
    (he : noStop e = true) :
    LiveInv (step .connection s e) (openStep t e) ∧ (step .connection s e).reg = (step .connection s e).live.map idEntry := by
  obtain ⟨hl, h⟩ := h
  refine ⟨live_step .connection s t hl e he,
    step_cases (fun s' _ => s'.reg = s'.live.map idEntry) hl e he h (fun c r l hc => ?_) (fun x _ => ?_)⟩
  · show regStore s.reg c c = (s.live ++ _).map idEntry
    rw [List.map_append]
    -- no entry under the new connection's key: `Store` overwrites nothing
    refine congrArg (· ++ _) ((List.filter_eq_self.mpr fun a ha => ?_).trans h)
    rw [h] at ha
    obtain ⟨x, hx, rfl⟩ := List.mem_map.mp ha
    exact bne_iff_ne.mpr fun hxc => Bool.noConfusion (hc.symm.trans (List.any_eq_true.mpr ⟨x, hx, beq_iff_eq.mpr hxc⟩))
  · show regDelete s.reg x.id = _
    rw [h, regDelete, List.filter_map]
    rfl

/-- The registry holds exactly the open connections, for every history -/
theorem registry_is_open_set (evs : List Ev) (he : evs.all noStop = true) :
    (run .connection {} evs).reg = (openSpec evs).map (fun x => (x.conn.id, x.conn.id)) := by
  rw [(run_inv _ reg_step evs {} [] ⟨⟨rfl, rfl⟩, rfl⟩ he).2, live_meets_spec .connection evs he, List.map_map]
  rfl

/-- a connection is registered exactly while it is open: from its acceptance to its own end -/
theorem registered_iff_open (evs : List Ev) (he : evs.all noStop = true) (c : Nat) :
    registered (run .connection {} evs) c = (openSpec evs).any (fun x => x.conn.id == c) := by
  simp only [registered, registry_is_open_set evs he, List.any_map]
  rfl

theorem every_open_registered (evs : List Ev) (he : evs.all noStop = true) (x : SpecConn) (hx : x ∈ openSpec evs) :
    registered (run .connection {} evs) x.conn.id = true := by
  rw [registered_iff_open evs he, List.any_eq_true]
  exact ⟨x, hx, beq_self_eq_true _⟩

/-- the arrival, the requests or the end of ANOTHER connection (and housekeeping) never change a connection's registration:
    only its own acceptance and its own end do -/
theorem registration_independent (evs : List Ev) (e : Ev) (he : (evs ++ [e]).all noStop = true) (c : Nat)
    (hopn : ∀ r l, e ≠ .opn c r l) (hcls : e ≠ .cls c) :
    registered (run .connection {} (evs ++ [e])) c = registered (run .connection {} evs) c := by
  have he' : evs.all noStop = true ∧ noStop e = true := by
    simpa only [List.all_append, Bool.and_eq_true, List.all_cons, List.all_nil, Bool.and_true] using he
  rw [registered_iff_open _ he, registered_iff_open _ he'.1]
  simp only [openSpec, List.foldl_append, List.foldl_cons, List.foldl_nil]
  generalize evs.foldl openStep [] = t
  cases e with
  | stop => exact absurd he'.2 Bool.false_ne_true
  | req _ => rfl
  | sweep => rfl
  | opn c' r l =>
    have hne : (c' == c) = false := beq_false_of_ne fun h => hopn r l (by rw [h])
    show (if t.any (fun x => x.conn.id == c') then t else t.map (mark r) ++ _).any _ = _
    split
    · rfl
    · simp only [List.any_append, List.any_map, List.any_cons, List.any_nil, Function.comp_def, mark_conn, hne, Bool.or_false]
  | cls c' =>
    have hne : c' ≠ c := fun h => hcls (by rw [h])
    show (t.filter _).any _ = _
    rw [List.any_filter]
    congr 1
    funext x
    by_cases hx : x.conn.id = c
    · simp [hx, Ne.symm hne]
    · simp [hx]

/-- every housekeeping pass visits every open connection, and nothing else -/
theorem every_open_visited (evs : List Ev) (he : evs.all noStop = true) :
    out (run .connection {} evs) (step .connection (run .connection {} evs) .sweep) .sweep
      = .visited ((openSpec evs).map (·.conn.id)) := by
  simp only [out, step]
  congr 1
  rw [registry_is_open_set evs he, live_meets_spec .connection evs he, List.map_map]
  show List.filter _ (List.map (fun x => x.conn.id) (openSpec evs)) = _
  rw [List.filter_eq_self]
  intro c hc
  obtain ⟨x, hx, rfl⟩ := List.mem_map.mp hc
  rw [List.any_map, List.any_eq_true]
  exact ⟨x, hx, beq_self_eq_true _⟩

/-- `Stop` closes every open connection and `Serve` returns - for every history -/
theorem stop_ends_serve (evs : List Ev) (he : evs.all noStop = true) :
    out (run .connection {} evs) (step .connection (run .connection {} evs) .stop) .stop = .serveEnded true
    ∧ (step .connection (run .connection {} evs) .stop).live = [] := by
  have hall : ∀ x ∈ (run .connection {} evs).live, registered (run .connection {} evs) x.id = true := by
    intro c hc
    rw [live_meets_spec .connection evs he] at hc
    obtain ⟨x, hx, rfl⟩ := List.mem_map.mp hc
    exact every_open_registered evs he x hx
  refine ⟨?_, ?_⟩
  · simp only [out]
    congr 1
    rw [List.all_eq_true]
    exact hall
  · simp only [step]
    rw [List.filter_eq_nil_iff]
    intro a ha
    simp [hall a ha]

/-! non-vacuity, and the histories of F40 under this key -/
example : (run .connection {} [.opn 1 1 1, .opn 2 1 2]).reg = [(1, 1), (2, 2)] := by decide +kernel
example : out (run .connection {} [.opn 1 1 1, .opn 2 1 2]) (run .connection {} [.opn 1 1 1, .opn 2 1 2]) .sweep = .visited [1, 2] := by decide +kernel
example : (run .connection {} [.opn 1 1 1, .opn 2 1 2, .cls 1]).reg = [(2, 2)] := by decide +kernel
example : out (run .connection {} [.opn 1 1 1, .opn 2 1 2]) (step .connection (run .connection {} [.opn 1 1 1, .opn 2 1 2]) .stop) .stop
    = .serveEnded true := by decide +kernel

end Identity

/-! ### registry keyed by the remote address only (before b69b0e7; seeded C10-T's world) -/

/-- a connection still unshared after another was accepted from remote `r` is the new one, or an old one of another remote -/
theorem unshared_opened {t : List SpecConn} {r : Nat} {n x : SpecConn} (hx : x ∈ t.map (mark r) ++ [n])
    (hsh : x.shared = false) : (x ∈ t ∧ x.conn.remote ≠ r) ∨ x = n := by
  rcases List.mem_append.mp hx with hx | hx
  · obtain ⟨x0, hx0, rfl⟩ := List.mem_map.mp hx
    have hr : x0.conn.remote ≠ r := fun e => by
      rw [mark, if_pos (beq_iff_eq.mpr e)] at hsh
      exact Bool.noConfusion hsh
    rw [mark_of_ne hr]
    exact .inl ⟨hx0, hr⟩
  · exact .inr (List.mem_singleton.mp hx)

/-- The invariant of the registry keyed by the remote address: `LiveInv`, and what holds of the connections that never
    shared their remote address. -/
structure Inv (s : State) (t : List SpecConn) : Prop where
  running : s.stopped = false
  live : s.live = t.map (·.conn)
  reg : ∀ x ∈ t, x.shared = false → (x.conn.remote, x.conn.id) ∈ s.reg
  alone : ∀ x ∈ t, x.shared = false → ∀ y ∈ t, y.conn.remote = x.conn.remote → y = x

theorem inv_step (s : State) (t : List SpecConn) (h : Inv s t) (e : Ev) (he : noStop e = true) :
    Inv (step .remoteAddr s e) (openStep t e) := by
  have hL : LiveInv s t := ⟨h.running, h.live⟩
  have hl := live_step .remoteAddr s t hL e he
  refine ⟨hl.running, hl.live, ?_, ?_⟩
  · refine step_cases (fun s' t' => ∀ x ∈ t', x.shared = false → (x.conn.remote, x.conn.id) ∈ s'.reg) hL e he h.reg
      (fun c r l _ x hx hsh => ?_) (fun x0 hx0 x hx hsh => ?_)
    · rcases unshared_opened hx hsh with ⟨hxt, hr⟩ | rfl
      · exact List.mem_append_left _ (List.mem_filter.mpr ⟨h.reg x hxt hsh, bne_iff_ne.mpr hr⟩)
      · exact List.mem_append_right _ (List.mem_singleton.mpr rfl)
    · -- the connection that ends is not `x`, so (`x` unshared) it has another remote and `Delete` misses `x`'s entry
      obtain ⟨hxt, hxc⟩ := List.mem_filter.mp hx
      rw [h.live] at hx0
      obtain ⟨z, hz, rfl⟩ := List.mem_map.mp hx0
      refine List.mem_filter.mpr ⟨h.reg x hxt hsh, bne_iff_ne.mpr fun heq => ?_⟩
      obtain rfl := h.alone x hxt hsh z hz heq.symm
      exact bne_iff_ne.mp hxc rfl
  · refine step_cases (k := .remoteAddr)
      (fun _ t' => ∀ x ∈ t', x.shared = false → ∀ y ∈ t', y.conn.remote = x.conn.remote → y = x) hL e he h.alone
      (fun c r l _ x hx hsh y hy hyr => ?_)
      (fun _ _ x hx hsh y hy hyr => h.alone x (List.mem_filter.mp hx).1 hsh y (List.mem_filter.mp hy).1 hyr)
    rcases List.mem_append.mp hy with hy | hy
    · obtain ⟨y0, hy0, rfl⟩ := List.mem_map.mp hy
      rw [mark_conn] at hyr
      rcases unshared_opened hx hsh with ⟨hxt, hr⟩ | rfl
      · rw [mark_of_ne (hyr ▸ hr)]
        exact h.alone x hxt hsh y0 hy0 hyr
      · have : t.any (fun x => x.conn.remote == r) = true := List.any_eq_true.mpr ⟨y0, hy0, beq_iff_eq.mpr hyr⟩
        exact Bool.noConfusion (this.symm.trans hsh)
    · obtain rfl := List.mem_singleton.mp hy
      rcases unshared_opened hx hsh with ⟨_, hr⟩ | rfl
      · exact absurd hyr.symm hr
      · rfl

theorem inv_init : Inv {} [] :=
  ⟨rfl, rfl, fun _ hx => absurd hx List.not_mem_nil, fun _ hx => absurd hx List.not_mem_nil⟩

/-- a connection that never shared its remote address with another open connection is in the registry -/
theorem unshared_registered (evs : List Ev) (he : evs.all noStop = true) (x : SpecConn) (hx : x ∈ openSpec evs)
    (hsh : x.shared = false) : registered (run .remoteAddr {} evs) x.conn.id = true := by
  have h := (run_inv Inv inv_step evs {} [] inv_init he).reg x hx hsh
  simp only [registered, List.any_eq_true]
  exact ⟨_, h, beq_self_eq_true _⟩

/-- … and is visited by the housekeeping pass that follows -/
theorem unshared_visited (evs : List Ev) (he : evs.all noStop = true) (x : SpecConn) (hx : x ∈ openSpec evs)
    (hsh : x.shared = false) :
    ∃ ids, out (run .remoteAddr {} evs) (step .remoteAddr (run .remoteAddr {} evs) .sweep) .sweep = .visited ids ∧ x.conn.id ∈ ids := by
  have hi := run_inv Inv inv_step evs {} [] inv_init he
  refine ⟨_, rfl, ?_⟩
  simp only [step, List.mem_filter, List.mem_map]
  refine ⟨⟨_, hi.reg x hx hsh, rfl⟩, ?_⟩
  rw [hi.live, List.any_map, List.any_eq_true]
  exact ⟨x, hx, beq_self_eq_true _⟩

/-- `Stop` ends `Serve` when no open connection ever shared its remote address (partial: see `DoesNotHold`) -/
theorem stop_ends_serve_partial (evs : List Ev) (he : evs.all noStop = true)
    (hall : ∀ x ∈ openSpec evs, x.shared = false) :
    out (run .remoteAddr {} evs) (step .remoteAddr (run .remoteAddr {} evs) .stop) .stop = .serveEnded true := by
  have hi := run_inv Inv inv_step evs {} [] inv_init he
  simp only [out]
  congr 1
  rw [List.all_eq_true]
  intro c hc
  rw [hi.live] at hc
  obtain ⟨x, hx, rfl⟩ := List.mem_map.mp hc
  exact unshared_registered evs he x hx (hall x hx)

/-! non-vacuity: a history with two remotes, a reconnect and a pass -/
example : (run .remoteAddr {} [.opn 1 1 1, .opn 2 2 1, .req 1, .cls 2, .opn 3 2 1, .sweep]).live = [⟨1, 1, 1⟩, ⟨3, 2, 1⟩] := by decide +kernel
example : (openSpec [.opn 1 1 1, .opn 2 2 1, .req 1, .cls 2, .opn 3 2 1, .sweep]).map (·.shared) = [false, false] := by decide +kernel

section DoesNotHold
/-! two connections from remote 1 towards the local addresses 1 and 2 -/
def twoLocals : List Ev := [.opn 1 1 1, .opn 2 1 2]

/-- both are served (this is what the property asks) -/
theorem shadowed_connection_is_served : (run .remoteAddr {} twoLocals).live = [⟨1, 1, 1⟩, ⟨2, 1, 2⟩] := by decide +kernel
/-- only the later one is registered: `Store` overwrote the entry of connection 1 -/
theorem shadowed_connection_not_registered :
    (run .remoteAddr {} twoLocals).reg = [(1, 2)] ∧ registered (run .remoteAddr {} twoLocals) 1 = false := by decide +kernel
/-- the housekeeping pass visits connection 2 only -/
theorem shadowed_connection_not_housekept :
    out (run .remoteAddr {} twoLocals) (run .remoteAddr {} twoLocals) .sweep = .visited [2] := by decide +kernel
/-- when connection 1 ends, `Delete` removes the entry of connection 2: no connection of that remote is registered any more -/
theorem end_of_one_unregisters_the_other :
    (run .remoteAddr {} (twoLocals ++ [.cls 1])).live = [⟨2, 1, 2⟩] ∧ (run .remoteAddr {} (twoLocals ++ [.cls 1])).reg = [] := by decide +kernel
/-- `Stop` does not close connection 1, and `Serve` does not return while its peer keeps it open -/
theorem stop_leaves_shadowed_connection :
    out (run .remoteAddr {} twoLocals) (step .remoteAddr (run .remoteAddr {} twoLocals) .stop) .stop = .serveEnded false
    ∧ (step .remoteAddr (run .remoteAddr {} twoLocals) .stop).live = [⟨1, 1, 1⟩] := by decide +kernel
end DoesNotHold

/-! ### a session that is shut down twice (datagram server: housekeeping pass, next datagram of the peer, Stop)

`udp/server/session.go: shutdown()` pops the OnClose callbacks (so they run once) and cancels the done context
(idempotent).  The three clean-up paths may meet on one closed connection (the pass works on a snapshot of the table): the
second shutdown must change nothing. -/
structure Sess where
  pendingCallbacks : Nat
  ranCallbacks : Nat := 0
  done : Bool := false
  deriving Repr, DecidableEq

def shutdown (s : Sess) : Sess := { pendingCallbacks := 0, ranCallbacks := s.ranCallbacks + s.pendingCallbacks, done := true }

theorem second_shutdown_is_noop (s : Sess) : shutdown (shutdown s) = shutdown s := by
  simp [shutdown]

def shutdownN : Nat → Sess → Sess
  | 0, s => s
  | n + 1, s => shutdown (shutdownN n s)

/-- however many clean-up paths meet on one session: the result is that of one shutdown (callbacks ran once) -/
theorem shutdown_any_number (s : Sess) (n : Nat) : shutdownN (n + 1) s = shutdown s := by
  induction n with
  | zero => rfl
  | succ k ih => rw [shutdownN, ih]; exact second_shutdown_is_noop s

example : shutdown (shutdown ⟨2, 0, false⟩) = ⟨0, 2, true⟩ := by decide +kernel

end CoapVerif.Props.C10Streams

section Audit
open CoapVerif.Props.C10Streams
#print axioms run_inv
#print axioms mark_conn
#print axioms mark_of_ne
#print axioms step_cases
#print axioms live_step
#print axioms live_meets_spec
#print axioms reg_step
#print axioms registry_is_open_set
#print axioms registered_iff_open
#print axioms every_open_registered
#print axioms registration_independent
#print axioms every_open_visited
#print axioms stop_ends_serve
#print axioms unshared_opened
#print axioms inv_step
#print axioms inv_init
#print axioms unshared_registered
#print axioms unshared_visited
#print axioms stop_ends_serve_partial
#print axioms shadowed_connection_is_served
#print axioms shadowed_connection_not_registered
#print axioms shadowed_connection_not_housekept
#print axioms end_of_one_unregisters_the_other
#print axioms stop_leaves_shadowed_connection
#print axioms second_shutdown_is_noop
#print axioms shutdown_any_number
end Audit
