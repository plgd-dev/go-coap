import CoapVerif.Props.C18
/-!
# C18 — the if-half of the keep-alive clause and the bound on the count, at every retry limit

Statement (properties.jsonl): "… With keep-alive, the connection is closed only after more than the configured number of
consecutive pings went unanswered; any answered ping or other received message resets the count …", quantified over
"all retry limits".

`Props/C18.lean` proves the *only-if* half (`keepalive_close_needs_unanswered_run`).  This file proves the other half, the
one the seeded change C18-W breaks (the count kept in the low 16 bits of a word shared with the ping number): a dead peer IS
closed, at exactly the `(maxRetries+1)`-th consecutive idle firing, for EVERY `maxRetries` — there is no bound on `n`
below, the induction is over the history.  (The harness generator's family `far_case` drives the real monitors to retry
limits around 2^8, 2^16 and 2^24.)

The count never exceeds `n + 1` in any history (`fails_le_succ_retries`), so a counter of `w` bits is exact (never wraps)
for every `n` with `n + 1 < 2^w`; Go's `numFails` is a `uint32` and `maxRetries` a `uint32`, so the model's unbounded `Nat`
agrees with the code for every `n ≤ 2^32 − 2`.  (`n = 2^32 − 1`: the code's count wraps to 0 at the 2^32-th firing and
the connection is never closed — observation O5 in docs/notes/C18.md; reaching it takes 2^32 housekeeping ticks.)
-/
namespace CoapVerif.Props.C18Far
open CoapVerif CoapVerif.Model.Monitor CoapVerif.Generated.Monitor CoapVerif.Props.C18 CoapVerif.Lemmas.Monitor
open CoapVerif.Spec.Monitor (Ev Out lastMsg streak)

/-- Every retry limit `n`, every earlier history: once `n` consecutive idle
    firings have happened since the latest message from the peer, the next tick that still finds the peer silent for more
    than the period closes the connection. -/
theorem keepalive_closes_when_run_exceeds (cfg : Cfg) (n : Nat) (t0 : Int) (pre : List Ev) (t : Int) (fail : Bool)
    (hm : cfg.maxRetries = some n) (hp : cfg.period ≠ 0)
    (hopen : (run cfg (init t0) pre).1.closed = false)
    (hidle : t > lastMsg t0 pre + cfg.period) (hk : streak cfg.period t0 0 pre ≥ n) :
    (step cfg (run cfg (init t0) pre).1 (tickEv fail t)).1.closed = true ∧
      Out.close ∈ (step cfg (run cfg (init t0) pre).1 (tickEv fail t)).2 ∧
      (∀ g, Out.ping g ∉ (step cfg (run cfg (init t0) pre).1 (tickEv fail t)).2) := by
  obtain ⟨hl, hf⟩ := run_track cfg hp pre (init t0) hopen
  rw [step_tickEv _ _ _ _ hopen]
  exact check_at_limit cfg n _ t (!fail) hm hp (by rw [hl]; exact hidle) (by rw [hf (by rw [hm]; rfl)]; exact hk)

/-- With fewer than `n` consecutive idle firings so far, an idle tick does not close and the count advances by one (the
    ping attempt it makes: `Props.C18.firing_sends_one_ping`, `firing_attempts_one_ping`). -/
theorem keepalive_pings_below_limit (cfg : Cfg) (n : Nat) (t0 : Int) (pre : List Ev) (t : Int) (fail : Bool)
    (hm : cfg.maxRetries = some n) (hp : cfg.period ≠ 0)
    (hopen : (run cfg (init t0) pre).1.closed = false)
    (hidle : t > lastMsg t0 pre + cfg.period) (hk : streak cfg.period t0 0 pre < n) :
    (step cfg (run cfg (init t0) pre).1 (tickEv fail t)).1.closed = false ∧
      Out.close ∉ (step cfg (run cfg (init t0) pre).1 (tickEv fail t)).2 ∧
      (step cfg (run cfg (init t0) pre).1 (tickEv fail t)).1.fails = streak cfg.period t0 0 pre + 1 := by
  obtain ⟨hl, hf⟩ := run_track cfg hp pre (init t0) hopen
  have hf : (run cfg (init t0) pre).1.fails = streak cfg.period t0 0 pre := hf (by rw [hm]; rfl)
  rw [step_tickEv _ _ _ _ hopen]
  obtain ⟨open1, fails1, _, quiet1⟩ :=
    check_below_limit cfg n _ t (!fail) hm hp hopen (by rw [hl]; exact hidle) (by rw [hf]; exact hk)
  exact ⟨open1, quiet1, by rw [fails1, hf]⟩

def silent (ts : List Int) : List Ev := ts.map Ev.tick

/-- `k` idle ticks in a row with `fails + k ≤ n` leave the connection open; the count is `fails + k`,
    the last activity is untouched (so every further tick is idle too). -/
theorem silent_run_open (cfg : Cfg) (n : Nat) (hm : cfg.maxRetries = some n) (hp : cfg.period ≠ 0) (ts : List Int) :
    ∀ (s : St), s.closed = false → (∀ t ∈ ts, t > s.last + cfg.period) → s.fails + ts.length ≤ n →
      (run cfg s (silent ts)).1.closed = false ∧ (run cfg s (silent ts)).1.fails = s.fails + ts.length ∧
      (run cfg s (silent ts)).1.last = s.last ∧ Out.close ∉ (run cfg s (silent ts)).2 := by
  induction ts with
  | nil => intro s hs _ _; simp [silent, run, hs]
  | cons t ts ih =>
    intro s hs hidle hk
    simp only [List.length_cons] at hk
    obtain ⟨open1, fails1, last1, quiet1⟩ := check_below_limit cfg n s t true hm hp hs (hidle t (by simp)) (by omega)
    have hstep := step_tick cfg s t hs
    have h2 := ih (check cfg s t true).1 open1
      (by intro t' ht'; rw [last1]; exact hidle t' (by simp [ht'])) (by rw [fails1]; omega)
    simp only [silent, List.map_cons, run, hstep] at h2 ⊢
    obtain ⟨open2, fails2, last2, quiet2⟩ := h2
    refine ⟨open2, by rw [fails2, fails1]; simp only [List.length_cons]; omega, by rw [last2, last1], ?_⟩
    intro hmem
    rcases List.mem_append.mp hmem with h | h
    · exact quiet1 h
    · exact quiet2 h

/-- A dead peer is closed at exactly the `(n + 1 − fails)`-th idle tick of a silent stretch —
    `n − fails` ticks that ping and stay open (`silent_run_open`), then the closing one.  Every `n`. -/
theorem silent_run_closes (cfg : Cfg) (n : Nat) (hm : cfg.maxRetries = some n) (hp : cfg.period ≠ 0) (ts : List Int) (t : Int)
    (s : St) (hs : s.closed = false) (hidle : ∀ t' ∈ ts ++ [t], t' > s.last + cfg.period) (hk : s.fails + ts.length = n) :
    (run cfg s (silent ts)).1.closed = false ∧ (run cfg s (silent (ts ++ [t]))).1.closed = true ∧
      Out.close ∈ (run cfg s (silent (ts ++ [t]))).2 := by
  obtain ⟨hopen, hfails, hlast, _⟩ := silent_run_open cfg n hm hp ts s hs (fun t' h => hidle t' (by simp [h])) (by omega)
  refine ⟨hopen, ?_⟩
  have hsplit : silent (ts ++ [t]) = silent ts ++ [Ev.tick t] := by simp [silent]
  have hstep := step_tick cfg (run cfg s (silent ts)).1 t hopen
  obtain ⟨hclosed, hclose, _⟩ := check_at_limit cfg n (run cfg s (silent ts)).1 t true hm hp
    (by rw [hlast]; exact hidle t (by simp)) (by rw [hfails]; omega)
  rw [hsplit, run_append]
  simp only [run, hstep, List.append_nil]
  exact ⟨hclosed, List.mem_append.mpr (Or.inr hclose)⟩

/-- In every history the count of unanswered pings stays within `n + 1`, and within `n` while
    the connection is open — a counter of `w` bits with `n + 1 < 2^w` never wraps. -/
theorem fails_le_succ_retries (cfg : Cfg) (n : Nat) (hm : cfg.maxRetries = some n) (evs : List Ev) :
    ∀ (s : St), (s.closed = false → s.fails ≤ n) → s.fails ≤ n + 1 →
      ((run cfg s evs).1.closed = false → (run cfg s evs).1.fails ≤ n) ∧ (run cfg s evs).1.fails ≤ n + 1 := by
  intro s h1 h2
  have k := ((isRun cfg).induct (Q := fun _ => True) evs
    (fun s hs e _ => ⟨step_fails_bound cfg n hm s hs e, fun _ _ => trivial⟩) s ⟨h1, h2⟩).1
  exact ⟨k.open_le, k.le_succ⟩

/-- from a fresh monitor: the count is at most `maxRetries + 1` after any history -/
theorem fails_bounded_from_init (cfg : Cfg) (n : Nat) (hm : cfg.maxRetries = some n) (t0 : Int) (evs : List Ev) :
    (run cfg (init t0) evs).1.fails ≤ n + 1 :=
  (fails_le_succ_retries cfg n hm evs (init t0) (fun _ => by simp [init]) (by simp [init])).2

/-! Non-vacuity: two retries — pings at the first two idle ticks, closed at the third; a message in between starts the
    count again; and the shape of the far-along cases (`n` idle ticks open, the next one closes) at `n = 5`. -/
example : (run ⟨100, some 2⟩ (init 0) (silent [101, 102, 103])).2
    = [.ping 1, .cancelPing 1, .ping 2, .cancelPing 2, .close] := by decide
example : (run ⟨100, some 2⟩ (init 0) (silent [101, 102] ++ [.recv 150] ++ silent [251, 252])).1.closed = false := by decide
example : (run ⟨100, some 5⟩ (init 0) (silent [101, 102, 103, 104, 105])).1.closed = false ∧
    (run ⟨100, some 5⟩ (init 0) (silent ([101, 102, 103, 104, 105] ++ [106]))).1.closed = true :=
  let h := silent_run_closes ⟨100, some 5⟩ 5 rfl (by decide) [101, 102, 103, 104, 105] 106 (init 0) rfl (by decide) rfl
  ⟨h.1, h.2.1⟩

end CoapVerif.Props.C18Far

section Audit
open CoapVerif.Props.C18Far
#print axioms keepalive_closes_when_run_exceeds
#print axioms keepalive_pings_below_limit
#print axioms silent_run_open
#print axioms silent_run_closes
#print axioms fails_le_succ_retries
#print axioms fails_bounded_from_init
end Audit
