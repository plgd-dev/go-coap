import CoapVerif.Model.TokenGen
import CoapVerif.Props.C03
/-!
# C03 — requests whose token the library chooses

Statement (properties.jsonl, C03): "Whenever any number of requests with distinct tokens are outstanding concurrently on one
connection … every request call that returns successfully returns a response carrying its own token and the content the peer
produced for that request. …"  Mechanism: "random 8-byte tokens by default — message/getToken.go: GetToken".

For a caller that lets the library choose the token the premise *requests with distinct tokens* is the generator's to provide.  This
module proves it for the generator as the code is (`Model.TokenGen`: one read of the random source per token; the length of a read,
`Generated.TokenHash.randomTokenLen`, occurs in no statement), for runs of any length: the tokens handed out are the successive reads
of the source (`draw_eq`), so a history whose requests carry them, with a key function that separates them, satisfies
`DistinctRequests`, the premise of the trace-level theorems of `Props/C03.lean` (`library_requests_are_distinct`).

The hypothesis `SrcFresh` (the reads of the random source returned pairwise different strings) is the one thing the random source is
trusted for; the last example shows that a source which repeats breaks the conclusion (seeded change C03-W makes `GetToken` such a
source: it cuts tokens out of a block it never refills, token k+512 = token k).
-/
namespace CoapVerif.Props.C03Gen
open CoapVerif.Model.TokenGen
open CoapVerif.Model.TokenTable (Event Cfg Caller Msg run)

theorem draw_eq (src : Source) : ∀ (n : Nat) (g : Gen), draw src n g = (List.range n).map fun i => src (g.reads + i)
  | 0, _ => rfl
  | n + 1, g => by
    rw [draw, draw_eq src n, List.range_succ_eq_map, List.map_cons, List.map_map]
    exact congrArg _ (List.map_congr_left fun i _ => congrArg src (by simp [getToken]; omega))

theorem draw_mem (src : Source) (n : Nat) (g : Gen) (t : Token) : t ∈ draw src n g ↔ ∃ i, i < n ∧ t = src (g.reads + i) := by
  simp only [draw_eq, List.mem_map, List.mem_range, eq_comm]

/-- Judge clause fresh-token.  After `n` draws — however many — the token the generator hands out next is none of the `n` handed out before. -/
theorem fresh_token_never_in_use (src : Source) (g : Gen) (n : Nat) (hs : SrcFresh src g.reads (n + 1)) :
    (getToken src (after n g)).1 ∉ draw src n g := by
  intro hm
  obtain ⟨i, hi, h⟩ := (draw_mem src n g _).1 hm
  have := hs n i (by omega) (by omega) (by simpa [getToken, after] using h)
  omega

theorem library_tokens_nodup (src : Source) : ∀ (n : Nat) (g : Gen), SrcFresh src g.reads n → (draw src n g).Nodup := by
  intro n g hs
  rw [draw_eq]
  exact List.pairwise_map.2
    (List.nodup_range.imp_of_mem fun hi hj hne e => hne (hs _ _ (List.mem_range.1 hi) (List.mem_range.1 hj) e))

/-- The library provides the property's premise.  A history (any length, any schedule) whose requests carry, in order, the tokens the
    generator handed out — a fresh source, a key function that separates these tokens — is a history of requests with distinct tokens. -/
theorem library_requests_are_distinct (h : Token → Nat) (src : Source) (g : Gen) (n : Nat) (evs : List Event)
    (htok : CoapVerif.Lemmas.TokenReach.doTokens evs = draw src n g) (hs : SrcFresh src g.reads n)
    (hinj : ∀ a ∈ draw src n g, ∀ b ∈ draw src n g, h a = h b → a = b) : CoapVerif.Props.C03.DistinctRequests h evs := by
  unfold CoapVerif.Props.C03.DistinctRequests
  rw [htok]
  exact ⟨library_tokens_nodup src n g hs, hinj⟩

/-- Judge clause peer-produced, for requests with different tokens (as any two requests of a history with generator tokens have): a
    message that echoes the token of request `c'` (the answer to `c'`, or any later copy of it) is never handed to request `c`. -/
theorem answer_to_another_request_not_held (h : Token → Nat) (cfg : Cfg) (evs : List Event)
    (inj : CoapVerif.Props.C03.HashInj h (CoapVerif.Lemmas.TokenTable.tokensInPlay evs))
    (c c' : Nat) (cl cl' : Caller) (m : Msg)
    (hc : (run h cfg evs).callers c = some cl) (hc' : (run h cfg evs).callers c' = some cl')
    (hne : cl.tok ≠ cl'.tok) (hm : m.tok = cl'.tok) : ¬ CoapVerif.Lemmas.TokenTable.Holds (run h cfg evs) c m :=
  CoapVerif.Props.C03.no_cross_delivery h cfg evs inj c c' cl cl' m hc hc' hne hm

/-- The model's generator makes as many reads per token as the code's.  `readsPerToken` is re-read from the AST of `GetToken` on
    every run by `gen_tokenhash.go`, which fails unless it finds exactly one `rand.Read`, into the token returned, and no
    identifier that outlives the call (trusted). -/
theorem generator_shape_agrees :
    CoapVerif.Generated.TokenHash.readsPerToken = 1 ∧ ∀ src g, (getToken src g).2.reads = g.reads + CoapVerif.Generated.TokenHash.readsPerToken := by
  refine ⟨by decide, ?_⟩
  intro src g
  simp [getToken, CoapVerif.Generated.TokenHash.readsPerToken]

/-- non-vacuity: a source whose k-th read is the number k -/
def countingSource : Source := fun k => [UInt8.ofNat (k / 256), UInt8.ofNat (k % 256), 0, 0, 0, 0, 0, 0]

example : (draw countingSource 3 {}) = [[0, 0, 0, 0, 0, 0, 0, 0], [0, 1, 0, 0, 0, 0, 0, 0], [0, 2, 0, 0, 0, 0, 0, 0]] := by decide
example : (draw countingSource 40 {}).Nodup ∧ (getToken countingSource (after 40 {})).1 ∉ draw countingSource 40 {} := by decide +kernel

/-- a source that starts over after two reads: the third token is the first -/
example : ¬ (draw (fun k => [UInt8.ofNat (k % 2)]) 3 {}).Nodup := by decide

end CoapVerif.Props.C03Gen

section Audit
open CoapVerif.Props.C03Gen
#print axioms draw_eq
#print axioms draw_mem
#print axioms fresh_token_never_in_use
#print axioms library_tokens_nodup
#print axioms library_requests_are_distinct
#print axioms answer_to_another_request_not_held
#print axioms generator_shape_agrees
end Audit
