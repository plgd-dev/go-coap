import CoapVerif.Go.Basic
import CoapVerif.Model.Retransmit
import CoapVerif.Lemmas.Retransmit
import CoapVerif.Lemmas.RetransmitWindow
import CoapVerif.Props.C06
/-!
# C06 — the window of the last copy (defect F30)

Property text: "If any one copy reaches the peer and the matching acknowledgement/response gets back **before the attempts
are exhausted**, the request call succeeds with that response", over "all housekeeping-tick timings relative to
ACK_TIMEOUT".  RFC 7252 §4.2: after its last retransmission the sender still waits for the acknowledgement until the
retransmission timer of that transmission would have expired — the attempts are exhausted at
`start + (MAX_RETRANSMIT+1)·ACK_TIMEOUT`, not at the last send and not at whatever housekeeping pass runs next.

These theorems need `midElement.IsExpired` to report exhaustion only after the last copy's own timeout
(`exhaustionWaitsLastTimeout`, `lastCopyAddend`, regenerated from the AST); before fix F30 the first pass after the last
copy ended the exchange and they do not hold.
-/
namespace CoapVerif.Props.C06
open CoapVerif CoapVerif.Model.Retransmit CoapVerif.Lemmas.Retransmit CoapVerif.Generated.Retransmit

/-- `IsExpired` has the conjunct `now.After(start + ackTimeout·(retransmit + 1))`. -/
theorem window_shape : exhaustionWaitsLastTimeout = true ∧ lastCopyAddend = 1 := by decide

/-- **The full window (F30).**  A request stays pending through any housekeeping passes (and any passage of time)
    as long as every pass runs with a `now` not later than `start + (MAX_RETRANSMIT+1)·ACK_TIMEOUT` — the instant the
    next copy would have been due — and not later than the call's deadline; however many of its copies are out. -/
theorem pending_within_window (P : Params) (evs passes : List Ev) (e : Pend) (he : e ∈ (run P evs).pend)
    (hdl : ∀ d, e.deadline = some d → e.start + (P.maxRetransmit + 1) * P.ackTimeout ≤ d)
    (hp : PassesWithin (e.start + (P.maxRetransmit + 1) * P.ackTimeout) (run P evs).now passes) :
    isPending (run P (evs ++ passes)).pend e.id = true := by
  obtain ⟨e', he', h1, _, _⟩ := pending_through_passes passes (run P evs) e he ((inv_run P evs).pendCount e he).2.1 hdl hp
  have : run P (evs ++ passes) = runFrom P (run P evs) passes := by simp [run, runFrom, List.foldl_append]
  rw [this]
  exact isPending_iff.mpr ⟨e', he', h1⟩

/-- Hence an answer that arrives before exhaustion is reported — whatever passes ran since the last copy — completes
    the call: piggybacked response … -/
theorem answer_within_window_succeeds (P : Params) (evs passes : List Ev) (e : Pend) (tag : Nat)
    (he : e ∈ (run P evs).pend)
    (hdl : ∀ d, e.deadline = some d → e.start + (P.maxRetransmit + 1) * P.ackTimeout ≤ d)
    (hp : PassesWithin (e.start + (P.maxRetransmit + 1) * P.ackTimeout) (run P evs).now passes) :
    ∃ tag', Entry.ret e.id (.ok tag') (run P (evs ++ passes)).now ∈
      (run P ((evs ++ passes) ++ [.recvMid e.id (.pig tag)])).log :=
  ack_in_time_succeeds P _ _ tag (pending_within_window P evs passes e he hdl hp)

/-- … or empty acknowledgement (the writer is woken; `ack_then_response_succeeds` does the rest). -/
theorem ack_within_window_wakes (P : Params) (evs passes : List Ev) (e : Pend)
    (he : e ∈ (run P evs).pend)
    (hdl : ∀ d, e.deadline = some d → e.start + (P.maxRetransmit + 1) * P.ackTimeout ≤ d)
    (hp : PassesWithin (e.start + (P.maxRetransmit + 1) * P.ackTimeout) (run P evs).now passes) :
    ∃ t, Entry.stop e.id t ∈ (run P ((evs ++ passes) ++ [.recvMid e.id .ack])).log :=
  ack_is_stop P _ _ .ack (pending_within_window P evs passes e he hdl hp)

/-! ## non-vacuity (ACK_TIMEOUT 10, MAX_RETRANSMIT 2, NSTART 1) -/

/-- F30: a housekeeping pass runs between the last copy (sent at 21) and the instant the next copy would have been due
    (30): the entry stays; the answer at 29 completes the call; without an answer the pass at 31 reports exhaustion -/
example : (run P0 [.send 0 7 none, .advance 11, .tick 0, .advance 10, .tick 0, .advance 1, .tick 0, .advance 7, .tick 0,
    .recvMid 0 (.pig 3)]).log.reverse =
    [.tx 0 0 0 7, .tx 0 1 11 7, .tx 0 2 21 7, .stop 0 29, .got 0 3, .ret 0 (.ok 3) 29] := by decide
example : isPending (run P0 [.send 0 7 none, .advance 11, .tick 0, .advance 10, .tick 0, .advance 9, .tick 0]).pend 0 = true ∧
    isPending (run P0 [.send 0 7 none, .advance 11, .tick 0, .advance 10, .tick 0, .advance 10, .tick 0]).pend 0 = false := by
  decide

end CoapVerif.Props.C06

section Audit
open CoapVerif.Props.C06
#print axioms window_shape
#print axioms pending_within_window
#print axioms answer_within_window_succeeds
#print axioms ack_within_window_wakes
end Audit
