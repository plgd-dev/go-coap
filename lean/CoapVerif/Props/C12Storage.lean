import CoapVerif.Model.OwnershipStorage
/-!
# C12, the content of a held message does not live in the transport's receive memory

Statement of the property (properties.jsonl, C12): "[…] it is never recycled while the application legitimately holds
it: the content of a response returned from a request call, of a request inside a handler and of a notification inside a
callback stays unchanged until the application releases it or returns. […]"

* `decoded_content_stable` — for an encoded message of ANY length `n` (no bound: the 16-bit boundary, the tcp framing's
  65805, 2^24 … are ordinary members of the domain), decoded as the code does it, and ANY sequence of later receptions
  into the transport's memory, the holder reads what was decoded.  In the model this holds by definition: `unmarshal`
  copies into the message's own buffer (`.own`) at every length, which is the modelling decision the tie below tests;
* `seeded_small_stable` — the seeded shape C12-W behaves the same up to its limit (no message of datagram size tells the two apart);
* `seeded_alias_changes` — beyond the limit (for every `n > limit`; `seeded_alias_changes_at_65536` is the instance
  65536 with limit 65535) there is a receive memory and one later reception of one byte after which the holder reads
  something else.

Tie to the real code: harness/c12 `scn pool decode <coder> <n>` (decode, overwrite the source memory, compare) and
`scn tcp jumbo <n> req|resp` (the real tcp session with pipelined frames) for n = 65535, 65536, 65537, 65804, 65805, 2^17, …;
a difference is the judge's `changed` mark.
-/
namespace CoapVerif.Props.C12Storage
open CoapVerif.Model.OwnershipStorage

/-- Held content is stable, whatever the connection receives afterwards and however long the encoded message was
    (`rfl`: `unmarshal` copies at every length, see the head). -/
theorem decoded_content_stable (rx : Bytes) (n : Nat) (ws : List (Nat × Bytes)) :
    content (writes rx ws) (unmarshal rx n) = content rx (unmarshal rx n) := rfl

theorem seeded_small_stable (limit : Nat) (rx : Bytes) (n : Nat) (h : n ≤ limit) (ws : List (Nat × Bytes)) :
    content (writes rx ws) (unmarshalSeeded limit rx n) = content rx (unmarshalSeeded limit rx n) := by
  have : ¬ n > limit := by omega
  simp [unmarshalSeeded, this, content]

/-- Seeded C12-W: for every length beyond the limit, a held message changes with the next byte the transport receives. -/
theorem seeded_alias_changes (limit n : Nat) (h : n > limit) :
    ∃ (rx : Bytes) (ws : List (Nat × Bytes)), rx.length = n ∧
      content (writes rx ws) (unmarshalSeeded limit rx n) ≠ content rx (unmarshalSeeded limit rx n) := by
  obtain ⟨k, rfl⟩ : ∃ k, n = k + 1 := ⟨n - 1, by omega⟩
  refine ⟨List.replicate (k + 1) 0, [(0, [1])], by simp, ?_⟩
  simp only [unmarshalSeeded, h, if_true, content, writes, write]
  simp [List.replicate_succ]

theorem seeded_alias_changes_at_65536 :
    ∃ (rx : Bytes) (ws : List (Nat × Bytes)), rx.length = 65536 ∧
      content (writes rx ws) (unmarshalSeeded 65535 rx 65536) ≠ content rx (unmarshalSeeded 65535 rx 65536) :=
  seeded_alias_changes 65535 65536 (by omega)

-- two receptions into a memory of five bytes: the own copy keeps what was decoded; the seeded shape aliases beyond its
-- limit 3 and reads the new bytes, at the limit it copies
example : content (writes [1, 2, 3, 4, 5] [(0, [9, 9]), (3, [7, 7, 7])]) (unmarshal [1, 2, 3, 4, 5] 4) = [1, 2, 3, 4] := by decide +kernel
example : writes [1, 2, 3, 4, 5] [(0, [9, 9]), (3, [7, 7, 7])] = [9, 9, 3, 7, 7, 7] := by decide +kernel
example : content (writes [1, 2, 3, 4, 5] [(0, [9, 9])]) (unmarshalSeeded 3 [1, 2, 3, 4, 5] 4) = [9, 9, 3, 4] := by decide +kernel
example : content (writes [1, 2, 3, 4, 5] [(0, [9, 9])]) (unmarshalSeeded 3 [1, 2, 3, 4, 5] 3) = [1, 2, 3] := by decide +kernel

end CoapVerif.Props.C12Storage

section Audit
open CoapVerif.Props.C12Storage
#print axioms decoded_content_stable
#print axioms seeded_small_stable
#print axioms seeded_alias_changes
#print axioms seeded_alias_changes_at_65536
end Audit
