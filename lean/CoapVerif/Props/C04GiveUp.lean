import CoapVerif.Model.BlockwiseGiveUp
import CoapVerif.Lemmas.Run
/-!
# C04 at the end of a call — no access of the layer to the caller's body after `Do` has returned

C04 — "Block-wise transfer delivers the exact body exactly once, or fails" (properties.jsonl C04: "… a block-wise exchange
that completes hands the receiving application exactly the bytes the sending application supplied …").

What the atomic `doFinish` / `handleS` steps of `Model/Blockwise.lean` rest on at the END of a call.
When `Do` has returned, the request and its body belong to the application again (it retries with the same
`io.ReadSeeker`); a continuation of the abandoned upload that was being handled at that moment must not seek / read in
that body any more — otherwise the retry, an exchange that completes, sends bytes from wherever the stale access left the
position.  `Model/BlockwiseGiveUp.lean` is the two-thread model (continuation inside `LoadWithFunc`, `Do` ending with
`Delete`, the table's RW lock) whose shape is read from the regenerated `SyncShape` / `SyncCallSites` facts.

* `table_shape` — the four facts hold for the tree the files were regenerated from (fails when the callback of
  `LoadWithFunc` leaves the read-locked section, when `Delete` is not one write-locked section, when `Do` no longer ends with
  the deferred `Delete`, when `continueSendingMessage` builds its block outside the callback).  The first two are the
  parameters of the model (`codeShape`); the other two are what its threads have built in (the caller's last step is `Delete`,
  the continuation's accesses are steps inside its section).
* `no_layer_access_after_do_returns` — for EVERY schedule of the two threads, with the regenerated shape, no access of the
  layer to the caller's body happens after `Do` has returned (invariant `Inv`: a reader inside its section excludes the
  writer; a continuation that found the entry and has not finished its callback keeps the caller in front of `Delete`).
* `stale_access_after_return_without_the_lock`, `stale_access_when_delete_is_not_exclusive` — the two ways the shape can
  be lost each have a schedule with such an access (the first: between two accesses of the retry itself — the run
  harness/c04 `TestC04GiveUp` drives on the real code and judges by the delivered body).
Scope: one continuation and one call; the callback's accesses are two (Seek, Read); the `getSentRequest` /
`getSendingMessageCode` callbacks read code / token / options of the request and are covered by the same shape facts only as
far as `continuationReadsInsideCallback`'s sibling entries of `SyncCallSites` go (C14 / C12 own those obligations).
-/
namespace CoapVerif.Model.BlockwiseGiveUp

theorem table_shape :
    cbUnderReadLock = true ∧ deleteUnderWriteLock = true ∧ doEndsWithDelete = true ∧ continuationReadsInsideCallback = true := by
  decide

def locked : Shape := { held := true, excl := true }

/-- a reader inside its section excludes the writer; a continuation between its two accesses (`c3`), or about to make the
    first (`c2`, entry found), keeps the caller in front of its `Lock` (`d0`); `c2u`, the callback outside the lock, does not occur -/
def Inv (s : St) : Bool :=
  (!(s.rlocked locked) || !s.wlocked) &&
  (!(s.cont == .c3) || s.caller == .d0) &&
  (!(s.cont == .c2 && s.found) || s.caller == .d0) &&
  !(s.cont == .c2u)

theorem step_inv (s : St) (t : Thread) (h : Inv s = true) :
    Inv (step locked s t).1 = true ∧ touchedAfterReturn (step locked s t).2 = false := by
  obtain ⟨c, f, d⟩ := s
  cases c <;> cases f <;> cases d <;> cases t <;> revert h <;> decide

theorem isRun (sh : Shape) : Lemmas.Run.IsRun (step sh) (run sh) := ⟨fun _ => rfl, fun _ _ _ => rfl⟩

theorem run_inv (ts : List Thread) (s : St) (h : Inv s = true) :
    Inv (run locked s ts).1 = true ∧ touchedAfterReturn (run locked s ts).2 = false :=
  ((isRun locked).induct ts (fun s h t _ => ⟨(step_inv s t h).1, List.any_eq_false.mp (step_inv s t h).2⟩) s h).imp_right
    List.any_eq_false.mpr

theorem codeShape_locked : codeShape = locked := by
  simp only [codeShape, locked, table_shape.1, table_shape.2.1]

theorem no_layer_access_after_do_returns (ts : List Thread) :
    touchedAfterReturn (run codeShape {} ts).2 = false := by
  rw [codeShape_locked]
  exact (run_inv ts {} (by decide)).2

open Thread in
/-- the stale access is the ninth step: the callback, outside the lock, seeks in the body between the Seek and the Read of the
    application's retry -/
theorem stale_access_after_return_without_the_lock :
    let ts := [cont, cont, cont, caller, caller, caller, caller, caller, cont, caller]
    touchedAfterReturn (run { held := false, excl := true } {} ts).2 = true ∧
    interleavedWithOwner (run { held := false, excl := true } {} ts).2 = true := by
  decide

open Thread in
/-- the stale access is the last step: the callback's Read, after `Delete` went through beside the reader and `Do` returned -/
theorem stale_access_when_delete_is_not_exclusive :
    touchedAfterReturn (run { held := true, excl := false } {} [cont, cont, cont, caller, caller, caller, caller, cont]).2 = true := by
  decide

-- non-vacuity: under the lock the continuation that found the entry finishes both accesses before `Do` can return
open Thread in
example : (run locked {} [cont, cont, cont, caller, caller, cont, cont, caller, caller, caller, caller, caller, caller]).2
    = [.layer false, .layer false, .owner, .owner] := by decide

section Audit
#print axioms table_shape
#print axioms step_inv
#print axioms isRun
#print axioms run_inv
#print axioms codeShape_locked
#print axioms no_layer_access_after_do_returns
#print axioms stale_access_after_return_without_the_lock
#print axioms stale_access_when_delete_is_not_exclusive
end Audit
end CoapVerif.Model.BlockwiseGiveUp
