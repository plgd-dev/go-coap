import CoapVerif.Go.Basic
import CoapVerif.Model.Blockwise
import CoapVerif.Model.BlockwiseObserve
import CoapVerif.Model.BlockwiseObserveRun
import CoapVerif.Lemmas.Blockwise
import CoapVerif.Lemmas.BlockwiseObserve
import CoapVerif.Lemmas.BlockwiseConserv
import CoapVerif.Lemmas.BlockwiseConservSys
import CoapVerif.Props.C04
/-!
# C04, conservativity — what the driver executes is what the theorems of `Props/C04.lean` are about

`Driver/C04.lean` runs every history through the observe-aware model (`handleO` / `OWorld`, `Model/BlockwiseObserve.lean`,
`Model/BlockwiseObserveRun.lean`); the headline theorems of `Props/C04.lean` are about the plain model (`handle` / `World`,
`Model/Blockwise.lean`).  This module proves the link (`Lemmas/BlockwiseConserv.lean`, `Lemmas/BlockwiseConservSys.lean`):

* `handleO_eq_handle` — one `Handle` call, every state / time / application / message, with the EXACT side conditions;
  `table_changes_the_result` shows that the condition on the observation table cannot be dropped (the fallback of
  `getSentRequest` is real behaviour: a block-wise response whose request is only known to the observation table is
  accepted, the plain model refuses it);
* `runO_eq_run`, `oworld_run_eq_world_run` — every list of arrivals / every script of operations;
* the headline theorems restated for the O-system: `once_O`, `reassembly_prefix_O`, `complete_eq_O`,
  `no_partial_as_complete_O`, `system_safe_O`.

Where the Observe branch IS involved (observe responses, tokens with an entry in the observation table, fresh keys) the
statements of `Props/C04Observe.lean` apply instead.
-/
namespace CoapVerif.Props.C04Conserv
open CoapVerif CoapVerif.Model.Blockwise CoapVerif.Model.BlockOpt CoapVerif.Generated.BlockwiseXfer
open CoapVerif.Model.BlockwiseObserve CoapVerif.Lemmas.Blockwise CoapVerif.Lemmas.BlockwiseObserve
open CoapVerif.Lemmas.BlockwiseConserv CoapVerif.Lemmas.BlockwiseConservSys

/-- For EVERY endpoint state, observation table, scripted fresh token, time, application and
    message: if (1) the message is not an observe response, (2) the application does not answer with an observe response
    (`AppPlain`; such a response, cut into blocks, is not stored by `startSendingMessage`), and (3) for the token of the
    message (`StepPlain`): the sending slot is occupied or the observation table has no entry for the token (`getSentRequest`
    falls back to the table exactly when the slot is empty), the paired request carries no Observe option (the follow-up
    requests get `Remove(Observe)`), and paired request and held reassembly message carry the token of their key (the
    `bytes.Equal` deletion and the slot `startSendingMessage` writes) — then `handleO` does exactly what `handle` does, on
    the same state type (the embedding is the identity), and draws no token. -/
theorem handleO_eq_handle (ep : Endpoint) (outside : Outside) (fresh : Nat) (now : Int) (r : Msg) (app : App)
    (hno : isObserveResponse r = false) (hp : StepPlain ep outside r.tok) (happ : AppPlain app) :
    handleO ep outside fresh now r app = ((handle ep now r app).1, (handle ep now r app).2, false) :=
  Lemmas.BlockwiseConserv.handleO_eq_handle ep outside fresh now r app hno hp happ

/-- the hypotheses are satisfiable (empty caches, empty table, the middle block of the 40-byte upload) … -/
example : isObserveResponse (exBlk 1 true) = false ∧ StepPlain exEp (fun _ => none) (exBlk 1 true).tok ∧ AppPlain (fun _ => none) :=
  ⟨by decide, ⟨fun _ => rfl, (by intro e he; cases he), (by intro e he; cases he)⟩, (by intro d x hx; cases hx)⟩

/-- … and a step is not trivial: the first block of the upload is acknowledged with 2.31 -/
example : (handleO exEp (fun _ => none) 900 0 (exBlk 0 true) (fun _ => none)).2.1.reply.map (·.code) = some codeContinue := by decide +kernel

/-- The condition on the observation table is exact in this sense: with the sending slot of the
    token EMPTY and an entry for the token in the table, a block-wise response WITHOUT Observe option (first block, `more`)
    is paired with the table's request by the code (and by `handleO`: the reply is a follow-up GET) while the plain model
    refuses it with 4.08. -/
theorem table_changes_the_result :
    ∃ (ep : Endpoint) (outside : Outside) (r : Msg), isObserveResponse r = false ∧ ep.sending r.tok = none ∧
      (outside r.tok).isSome = true ∧
      (handleO ep outside 900 0 r (fun _ => none)).2.1.reply.map (·.code) = some codeGET ∧
      (handle ep 0 r (fun _ => none)).2.reply.map (·.code) = some codeRequestEntityIncomplete :=
  ⟨{ szx := 0, maxSize := 64, expiration := 1000 }, fun t => if t = 7 then some { code := 1, tok := 7, other := [(11, [99])] } else none,
   downloadBlock { code := 69, tok := 7, other := [(12, [42])], body := exBody } 0 64 0, by decide, rfl, by decide, by decide, by decide⟩

/-! ## runs of one endpoint -/

/-- For every list of arrivals (any order, duplicates, gaps, sweeps, any scripted tokens) none of which is an
    observe response or carries a token that has an entry in the observation table, from a state on which the Observe branch
    never ran (`PlainEp`: cached messages carry the token of their key, no cached request / response has an Observe option),
    with an application that never answers with an Observe option: the observe-aware run IS the plain run — same final state,
    same deliveries — and the final state is again `PlainEp`. -/
theorem runO_eq_run (app : App) (outside : Outside) (happ : AppNoObs app) (as : List ArrivalO) (ep : Endpoint)
    (hp : PlainEp ep) (hq : ∀ a ∈ as, Quiet outside a) :
    runO app outside ep as = Endpoint.run app ep (as.map forget) ∧ PlainEp (runO app outside ep as).1 :=
  Lemmas.BlockwiseConserv.runO_eq_run app outside happ as ep hp hq

theorem plainEp_exEp : PlainEp exEp := ⟨(by intro k e he; cases he), (by intro k e he; cases he)⟩

example : PlainEp exEp ∧ AppNoObs (fun _ => none) ∧
    (∀ a ∈ [ArrivalO.msg 0 (exBlk 0 true) 900, .msg 1 (exBlk 1 true) 901, .sweep 2, .msg 4 (exBlk 2 false) 902], Quiet (fun _ => none) a) :=
  by
  refine ⟨plainEp_exEp, (by intro d x hx; cases hx), ?_⟩
  intro a ha
  simp only [List.mem_cons, List.mem_nil_iff, or_false] at ha
  rcases ha with h | h | h | h <;> subst h
  · exact ⟨by decide, rfl⟩
  · exact ⟨by decide, rfl⟩
  · trivial
  · exact ⟨by decide, rfl⟩

example : (runO (fun _ => none) (fun _ => none) exEp
    [.msg 0 (exBlk 0 true) 900, .msg 1 (exBlk 1 true) 901, .sweep 2, .msg 4 (exBlk 2 false) 902]).2.map (·.body) = [exBody] := by decide +kernel

theorem mem_forget {as : List ArrivalO} {now : Int} {r : Msg} (h : Arrival.msg now r ∈ as.map forget) :
    ∃ f, ArrivalO.msg now r f ∈ as := by
  rw [List.mem_map] at h
  obtain ⟨a, ha, he⟩ := h
  cases a with
  | msg n r' f =>
    simp only [forget] at he
    injection he with h1 h2
    subst h1 h2
    exact ⟨f, ha⟩
  | sweep n => simp [forget] at he

/-- number of messages the observe-aware run hands to the application while handling arrivals that carry token `tok` -/
def deliveredForO (app : App) (outside : Outside) (tok : Nat) : Endpoint → List ArrivalO → Nat
  | _, [] => 0
  | ep, a :: as =>
    (match a with
     | .msg _ r _ => if r.tok = tok then (stepO app outside ep a).2.length else 0
     | .sweep _ => 0) + deliveredForO app outside tok (stepO app outside ep a).1 as

theorem deliveredForO_eq (app : App) (outside : Outside) (happ : AppNoObs app) (tok : Nat) (as : List ArrivalO) :
    ∀ (ep : Endpoint), PlainEp ep → (∀ a ∈ as, Quiet outside a) →
      deliveredForO app outside tok ep as = deliveredFor app tok ep (as.map forget) := by
  induction as with
  | nil => intro ep _ _; rfl
  | cons a as ih =>
    intro ep hp hq
    obtain ⟨hstep, hpl⟩ := stepO_eq_step app outside happ hp (hq a List.mem_cons_self)
    have hrec := ih (stepO app outside ep a).1 hpl (fun a' ha' => hq a' (List.mem_cons_of_mem _ ha'))
    simp only [deliveredForO, deliveredFor, List.map]
    rw [hrec, hstep]
    cases a <;> rfl

/-- `once` for the observe-aware run: for every list of Observe-free arrivals (no hypothesis on their blocks), the
    number of messages handed to the application on behalf of a token, plus one if bytes are still held for it, never exceeds
    the number of its arrivals that can start a body plus one if bytes were held at the beginning. -/
theorem once_O (app : App) (outside : Outside) (happ : AppNoObs app) (tok : Nat) (htok : tok ≠ 0) (ep : Endpoint)
    (as : List ArrivalO) (hp : PlainEp ep) (hq : ∀ a ∈ as, Quiet outside a) :
    deliveredForO app outside tok ep as + heldNe ((runO app outside ep as).1.receiving tok) ≤
      heldNe (ep.receiving tok) + startsFor tok (as.map forget) := by
  rw [deliveredForO_eq app outside happ tok as ep hp hq, (runO_eq_run app outside happ as ep hp hq).1]
  exact Props.C04.once app tok htok ep (as.map forget)

example : deliveredForO (fun _ => none) (fun _ => none) 7 exEp
    [.msg 0 (exBlk 0 true) 900, .msg 1 (exBlk 1 true) 901, .msg 4 (exBlk 2 false) 902, .msg 5 (exBlk 2 false) 903] = 1 := by decide +kernel

/-- the invariant of `reassembly_prefix` along the observe-aware run -/
theorem reassembly_prefix_O {R : Reg} (hd : Discipline R) (app : App) (outside : Outside) (happ : AppNoObs app) (ep : Endpoint)
    (as : List ArrivalO) (hg : ∀ now r f, ArrivalO.msg now r f ∈ as → GoodMsg R r) (hinv : EpInv R ep)
    (hp : PlainEp ep) (hq : ∀ a ∈ as, Quiet outside a) : EpInv R (runO app outside ep as).1 := by
  rw [(runO_eq_run app outside happ as ep hp hq).1]
  exact Props.C04.reassembly_prefix hd app ep (as.map forget)
    (fun now r h => by obtain ⟨f, hf⟩ := mem_forget h; exact hg now r f hf) hinv

/-- every message the observe-aware run hands to the application is an arrival without data block of its
    direction, handed on as it is, or exactly what was supplied under its token and ETag -/
theorem complete_eq_O {R : Reg} (hd : Discipline R) (app : App) (outside : Outside) (happ : AppNoObs app) (ep : Endpoint)
    (as : List ArrivalO) (hg : ∀ now r f, ArrivalO.msg now r f ∈ as → GoodMsg R r) (hinv : EpInv R ep)
    (hp : PlainEp ep) (hq : ∀ a ∈ as, Quiet outside a) :
    ∀ d ∈ (runO app outside ep as).2, (∃ now f, ArrivalO.msg now d f ∈ as ∧ NoData d) ∨ Complete R d.tok d := by
  rw [(runO_eq_run app outside happ as ep hp hq).1]
  intro d hdm
  rcases Props.C04.complete_eq hd app ep (as.map forget)
    (fun now r h => by obtain ⟨f, hf⟩ := mem_forget h; exact hg now r f hf) hinv d hdm with ⟨now, hm, hn⟩ | hc
  · obtain ⟨f, hf⟩ := mem_forget hm
    exact Or.inl ⟨now, f, hf, hn⟩
  · exact Or.inr hc

/-- a partial body is never presented as complete by the observe-aware run -/
theorem no_partial_as_complete_O {R : Reg} (hd : Discipline R) (app : App) (outside : Outside) (happ : AppNoObs app) (ep : Endpoint)
    (as : List ArrivalO) (hg : ∀ now r f, ArrivalO.msg now r f ∈ as → GoodMsg R r) (hinv : EpInv R ep)
    (hp : PlainEp ep) (hq : ∀ a ∈ as, Quiet outside a)
    (d : Msg) (hdel : d ∈ (runO app outside ep as).2) (hdata : ¬ NoData d) :
    ∃ s, R d.tok d.etag = some s ∧ d.body.length = s.body.length ∧ d.body = s.body := by
  rcases complete_eq_O hd app outside happ ep as hg hinv hp hq d hdel with ⟨_, _, _, hn⟩ | ⟨s, h1, h2, _⟩
  · exact absurd hn hdata
  · exact ⟨s, h1, by rw [h2], h2⟩

/-! ## two endpoints and the relay -/

/-- `T` is the set of tokens in use.  For every script of operations whose requests carry no
    Observe option and a token of `T` (`OpPlain T`), from a plain system (`PlainW T`: caches on which the branch never ran, B's
    application never answers with an Observe option, everything in flight or in the relay's history carries no Observe option
    and a token of `T`) whose observation tables have no entry for a token of `T` (`TablesSilent T`; for EMPTY tables `T` is
    everything: `NoTables.silent`): the observe-aware system does exactly what the plain system does — same worlds, same events,
    tables and token source untouched — and stays plain. -/
theorem oworld_run_eq_world_run {T : Nat → Prop} (o : OWorld) (ops : List Op) (ht : TablesSilent T o) (hp : PlainW T o.w)
    (hops : ∀ x ∈ ops, OpPlain T x) :
    OWorld.run o ops = ({ o with w := (World.run o.w ops).1 }, (World.run o.w ops).2) ∧ PlainW T (World.run o.w ops).1 :=
  oworld_run_eq ops o ht hp hops

/-- `system_safe` for what the driver executes: the observe-aware system under every script of relay
    decisions (deliver, duplicate, drop, swap, replay), `Do` calls, one-way writes, sleeps and sweeps. -/
theorem system_safe_O {RA RB : Reg} {T : Nat → Prop} (hdA : Discipline RA) (hdB : Discipline RB) (hreq : RegReq RB)
    (o : OWorld) (hw : WInv RA RB o.w) (ops : List Op)
    (hops : ∀ r, (Op.doReq r ∈ ops ∨ Op.writeReq r ∈ ops) → ReqOK RB r)
    (ht : TablesSilent T o) (hp : PlainW T o.w) (hplain : ∀ x ∈ ops, OpPlain T x) :
    WInv RA RB (OWorld.run o ops).1.w ∧
    (∀ s d, Event.deliver s d ∈ (OWorld.run o ops).2 → NoData d ∨ Complete (regOf RA RB s) d.tok d) ∧
    TablesSilent T (OWorld.run o ops).1 ∧ PlainW T (OWorld.run o ops).1.w ∧ (OWorld.run o ops).1.drawn = o.drawn ∧
    (OWorld.run o ops).1.freshQ = o.freshQ := by
  obtain ⟨he, hpl⟩ := oworld_run_eq_world_run o ops ht hp hplain
  obtain ⟨s1, s2⟩ := Props.C04.system_safe hdA hdB hreq o.w hw ops hops
  rw [he]
  exact ⟨s1, s2, ht, hpl, rfl, rfl⟩

theorem appNoObs_exApp : AppNoObs exApp := by
  intro d x hx
  simp only [exApp] at hx
  split at hx
  · injection hx with hx; rw [← hx]; rfl
  · cases hx

theorem plainW_exWorld (T : Nat → Prop) : PlainW T exWorld :=
  ⟨⟨(by intro k e he; cases he), (by intro k e he; cases he)⟩, ⟨(by intro k e he; cases he), (by intro k e he; cases he)⟩,
   appNoObs_exApp, (by intro p hp; simp [exWorld] at hp)⟩

/-- the additional hypotheses are satisfiable on the instance of `system_safe`, with empty tables … -/
example : TablesSilent (fun _ => True) { w := exWorld } ∧ PlainW (fun _ => True) exWorld ∧ OpPlain (fun _ => True) (.doReq exReq) :=
  ⟨NoTables.silent ⟨fun _ => rfl, fun _ => rfl⟩, plainW_exWorld _, rfl, trivial⟩

/-- … and with an observation of token 99 registered at A while the traffic uses other tokens -/
example : TablesSilent (fun t => t ≠ 99) { w := exWorld, outA := fun t => if t = 99 then some { code := 1, tok := 99 } else none } ∧
    PlainW (fun t => t ≠ 99) exWorld ∧ OpPlain (fun t => t ≠ 99) (.doReq exReq) :=
  ⟨fun t ht => ⟨by simp [ht], rfl⟩, plainW_exWorld _, rfl, by decide⟩

/-- … and the observe-aware run is not empty: the same upload / download with a duplicate and two replays as in `Props/C04.lean` -/
example : exDeliveries (OWorld.run { w := exWorld }
    ([.doReq exReq] ++ List.replicate 5 (.fault .deliver) ++ [.fault .dup] ++ List.replicate 12 (.fault .deliver) ++
     [.fault (.replay 0), .fault (.replay 4)] ++ List.replicate 4 (.fault .deliver))).2 =
    [(false, 2, 40, true), (true, 68, 40, true), (true, 136, 0, false), (true, 95, 0, false), (true, 95, 0, false)] := by decide +kernel

end CoapVerif.Props.C04Conserv

section Audit
open CoapVerif.Props.C04Conserv
#print axioms handleO_eq_handle
#print axioms table_changes_the_result
#print axioms runO_eq_run
#print axioms plainEp_exEp
#print axioms mem_forget
#print axioms deliveredForO_eq
#print axioms once_O
#print axioms reassembly_prefix_O
#print axioms complete_eq_O
#print axioms no_partial_as_complete_O
#print axioms oworld_run_eq_world_run
#print axioms system_safe_O
#print axioms appNoObs_exApp
#print axioms plainW_exWorld
end Audit
