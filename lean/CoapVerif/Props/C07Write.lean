import CoapVerif.Props.C07
import CoapVerif.Model.WritePath
import CoapVerif.Generated.TcpFraming
/-!
# C07, writing direction — concurrent writers cannot damage the stream

"… a stream-transport connection delivers exactly the sent messages, each once, complete and in order": the receiving half
is `Props/C07.lean`.  This file is the sending half.  Several goroutines write on one connection; `Session.WriteMessage`
hands each marshalled frame to `Conn.WriteWithContext` in ONE call (`Generated.TcpFraming.writeMessageSingleWrite`, read
from the AST of tcp/client/session.go on every run), and that call holds the write lock until the frame is out.  The theorems
hold for every number of writers, every queue of frames per writer and every schedule.  The last one is negative: a receiver
fed one particular stream, in which a frame went out in two pieces with another writer's frame in between, delivers a message
that nobody wrote.
-/
namespace CoapVerif.Props.C07Write
open CoapVerif CoapVerif.Model.WritePath

/-- the source fact the model rests on -/
theorem frame_is_one_write : Generated.TcpFraming.writeMessageSingleWrite = true := by decide

/-- A step moves at most one frame, from the head of its writer's queue to the end of the stream: for every writer, what it has
    written followed by what it still holds is the same before and after. -/
theorem step_conserves (s : St) (j i : Nat) :
    writtenBy (step s j) i ++ ((step s j).queues[i]?.getD []) = writtenBy s i ++ (s.queues[i]?.getD []) := by
  unfold step
  cases hq : s.queues[j]? with
  | none => rfl
  | some l =>
    cases l with
    | nil => rfl
    | cons f rest =>
      have hjlt : j < s.queues.length := (List.getElem?_eq_some_iff.mp hq).1
      simp only [writtenBy, List.filter_append, List.map_append]
      by_cases hij : j = i
      · subst hij
        simp [List.getElem?_set_self hjlt, hq]
      · have : (j == i) = false := by simpa using hij
        simp [List.getElem?_set_ne hij, this]

/-- Whatever the schedule: the frames a writer has put on the wire so far, followed by the ones it
    still holds, are its queue — nothing lost, nothing duplicated, nothing reordered, nothing taken from another writer. -/
theorem run_writer_order (q : List (List Bytes)) (sched : List Nat) (i : Nat) :
    writtenBy (run q sched) i ++ ((run q sched).queues[i]?.getD []) = q[i]?.getD [] :=
  List.foldlRecOn sched step (motive := fun s => writtenBy s i ++ (s.queues[i]?.getD []) = q[i]?.getD []) rfl
    fun s h j _ => (step_conserves s j i).trans h

/-- When every writer is done, each writer's frames stand in the stream in the order it wrote them. -/
theorem drained_written_all (q : List (List Bytes)) (sched : List Nat) (i : Nat) (hd : drained (run q sched) = true) :
    writtenBy (run q sched) i = q[i]?.getD [] := by
  have h := run_writer_order q sched i
  have he : (run q sched).queues[i]?.getD [] = [] := by
    cases hq : (run q sched).queues[i]? with
    | none => rfl
    | some l =>
      have hm : l ∈ (run q sched).queues := List.mem_of_getElem? hq
      have := (List.all_eq_true.mp hd) l hm
      simpa using this
  rw [he, List.append_nil] at h
  exact h

/-- every frame of the stream is a frame of the writer it is attributed to -/
theorem out_mem (q : List (List Bytes)) (sched : List Nat) (i : Nat) (f : Bytes) (h : (i, f) ∈ (run q sched).out) :
    f ∈ q[i]?.getD [] := by
  rw [← run_writer_order q sched i]
  apply List.mem_append_left
  simp only [writtenBy, List.mem_map, List.mem_filter]
  exact ⟨(i, f), ⟨h, by simp⟩, rfl⟩

/-- Frames the receiver accepts (well framed under its limit), any number of writers, any schedule, any
    segmentation of the resulting stream into reads: the receiver delivers exactly the written frames' messages, one per
    frame, in stream order, and the connection stays open. -/
theorem stream_delivered (max : Nat) (q : List (List Bytes)) (sched : List Nat) (cs : List Bytes)
    (hq : ∀ l ∈ q, ∀ f ∈ l, Props.C07.WellFramed max f) (hc : cs.flatten = stream (run q sched)) :
    (Model.Framing.run max cs).obs = (((run q sched).out.map (·.2)).filterMap Model.Framing.decodeFrame, false) ∧
    (((run q sched).out.map (·.2)).filterMap Model.Framing.decodeFrame).length = (run q sched).out.length := by
  have hf : ∀ f ∈ (run q sched).out.map (·.2), Props.C07.WellFramed max f := by
    intro f hf
    rcases List.mem_map.mp hf with ⟨⟨i, g⟩, hm, rfl⟩
    have hmem := out_mem q sched i g hm
    cases hqi : q[i]? with
    | none => simp [hqi] at hmem
    | some l =>
      rw [hqi] at hmem
      exact hq l (List.mem_of_getElem? hqi) g hmem
  have h := Props.C07.run_delivers_sent max ((run q sched).out.map (·.2)) cs hf (by simpa [stream] using hc)
  rw [List.length_map] at h
  exact h

/-- two GETs (tokens a1, a2); the first goes out as `21 01` and `a1 b1 78` with the second writer's frame in between -/
def splitStream : Bytes := [0x21, 0x01] ++ [0x21, 0x01, 0xa2, 0xb1, 0x78] ++ [0xa1, 0xb1, 0x78]

/-- The receiver of that stream gets one message with token `21`, neither of the two written. -/
theorem split_write_interleaves :
    (Model.Framing.run 1152 [splitStream]).out = [⟨1, [0x21], []⟩] := by
  have h := (Props.C07.run_meets_spec 1152 [splitStream]).1
  have e : Spec.Framing.expected 1152 [splitStream].flatten = ([⟨1, [0x21], []⟩], .open_) := by decide
  rw [h, e]
  rfl

/-! Non-vacuity: two writers, three frames, an interleaving schedule with a useless step. -/
example : (run [[[1], [2]], [[3]]] [0, 1, 1, 0]).out = [(0, [1]), (1, [3]), (0, [2])] := by decide
example : drained (run [[[1], [2]], [[3]]] [0, 1, 1, 0]) = true := by decide
example : writtenBy (run [[[1], [2]], [[3]]] [0, 1, 1, 0]) 0 = [[1], [2]] := by decide

end CoapVerif.Props.C07Write

section Audit
open CoapVerif.Props.C07Write
#print axioms frame_is_one_write
#print axioms step_conserves
#print axioms run_writer_order
#print axioms drained_written_all
#print axioms out_mem
#print axioms stream_delivered
#print axioms split_write_interleaves
end Audit
