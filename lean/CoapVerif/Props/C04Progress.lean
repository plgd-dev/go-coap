import CoapVerif.Lemmas.BlockwiseProgress
/-!
# C04, progress of `Do` over all rounds (auxiliary: shows that the safety theorems are not vacuous; not part of the verdict)

`Props/C04.lean` has one fault-free round for a symbolic block index (`faultfree_progress_block1/2`) and runs the whole loop on an
instance.  Here the loop is a theorem by induction over the rounds (proved in `Lemmas/BlockwiseProgress.lean`; its head comment
describes the induction): `Do` through `World.run` with only `deliver` decisions, any body length, equal non-BERT exponents —
Block1 upload (`upload_progress`), Block2 download (`download_progress`) and a block-wise request answered block-wise
(`do_progress`).

Not covered (exact): a body of exactly ONE block that is still sent block-wise (`len = size`; `upload_progress` asks for an answer
shorter than a block, `do_progress` for one of at least two blocks); a short POST/PUT/FETCH answered block-wise (`download_progress`
handles the GET/DELETE branch of `handleReceivedMessage`); BERT and unequal exponents; deliveries at different times (the
scripts contain no `sleep`); a response carrying a deadline or block options of its own.
-/
namespace CoapVerif.Props.C04Progress
open CoapVerif CoapVerif.Model.Blockwise CoapVerif.Model.BlockOpt CoapVerif.Generated.BlockwiseXfer
open CoapVerif.Lemmas.Blockwise CoapVerif.Lemmas.BlockwiseObserve CoapVerif.Lemmas.BlockwiseProgress

/-- Block1, `Do` through the two-endpoint system, fault-free, any body length.  A world with nothing in flight,
    equal non-BERT exponents, A's slots and both of B's slots for the token free; a POST/PUT `r` (non-zero token, no Block1 / Size1
    option, deadline not yet reached or none) whose body needs `n ≥ 2` blocks (`n ≤ 2^20`, below 4 GiB); B's application answers the
    completed request with a response shorter than one block, or not at all.  Then `Do(r)` followed by exactly `2n − 1` fault-free
    deliveries hands B's application exactly one message — `r` as the wire carries it, complete body, no block options —, hands A's
    application nothing, raises no error and returns no call; afterwards the only message in flight is B's answer (none if there
    is none), B holds nothing under the token and A still keeps `r` for its call (`Done`). -/
theorem upload_progress (w : World) (r : Msg) (n : Nat)
    (hszx : w.a.szx = w.b.szx) (hs : w.b.szx < 7) (hpp : isPostPut r.code = true) (htok : r.tok ≠ 0)
    (hexp : w.now ≤ doExpire r) (hlen : r.body.length < 4294967296) (hb1 : r.block1 = none) (hs1 : r.size1 = none)
    (hn : 2 ≤ n) (hnum : n ≤ 2 ^ 20) (hlo : (n - 1) * sizeN w.b.szx < r.body.length) (hhi : r.body.length ≤ n * sizeN w.b.szx)
    (hq : w.queue = []) (hpe : w.pending = []) (hfa : w.a.sending r.tok = none) (hra : w.a.receiving r.tok = none)
    (hfb : w.b.sending r.tok = none) (hrb : w.b.receiving r.tok = none)
    (hexpA : 0 ≤ w.a.expiration) (hexpB : 0 ≤ w.b.expiration)
    (happ : ∀ x, w.appB (onWire r) = some x → x.body.length < sizeN w.b.szx) :
    Done (World.run w (Op.doReq r :: List.replicate (2 * n - 1) (Op.fault .deliver))).1 w.appB r ∧
    delivs (World.run w (Op.doReq r :: List.replicate (2 * n - 1) (Op.fault .deliver))).2 = [(.B, onWire r)] ∧
    troubles (World.run w (Op.doReq r :: List.replicate (2 * n - 1) (Op.fault .deliver))).2 = 0 :=
  Lemmas.BlockwiseProgress.upload_progress w r n hszx hs hpp htok hexp hlen hb1 hs1 hn hnum hlo hhi hq hpe hfa hra hfb hrb hexpA hexpB happ

/-- non-vacuity (evaluated): a 40-byte POST in three 16-byte blocks answered with three bytes — 5 deliveries, one hand-over to B's
    application, the answer in flight; with one delivery less nothing has been handed on -/
example :
    delivs (World.run exW (Op.doReq exReq :: List.replicate (2 * 3 - 1) (Op.fault .deliver))).2 = [(.B, onWire exReq)] ∧
    troubles (World.run exW (Op.doReq exReq :: List.replicate (2 * 3 - 1) (Op.fault .deliver))).2 = 0 ∧
    (World.run exW (Op.doReq exReq :: List.replicate (2 * 3 - 1) (Op.fault .deliver))).1.queue = respQueue exShortApp exReq ∧
    delivs (World.run exW (Op.doReq exReq :: List.replicate (2 * 3 - 2) (Op.fault .deliver))).2 = [] := by decide +kernel

/-- Block2, `Do` through the two-endpoint system, fault-free, any body length.  A GET / DELETE `req` that fits
    one block; B's application answers it with a response `x` (a response code, no block options, no deadline) whose body needs
    `n ≥ 2` blocks (`n < 2^20`, below 4 GiB).  Then `Do(req)` followed by exactly `2n` fault-free deliveries hands B's application the request once and A's
    application the response once — exactly `x` under the request's token, complete body —, the call returns it, no error is raised,
    nothing is left in flight and nothing under the token in A's caches or in B's sending cache (`Done2`). -/
theorem download_progress (w : World) (req x : Msg) (n : Nat)
    (hszx : w.a.szx = w.b.szx) (hs : w.b.szx < 7) (hq : req.code = codeGET ∨ req.code = codeDELETE) (htok : req.tok ≠ 0)
    (hb2 : req.block2 = none) (hfit : req.body.length ≤ sizeN w.b.szx) (hexp : w.now ≤ doExpire req)
    (happ : w.appB (onWire req) = some x) (hrc : RespCode x.code) (hxb1 : x.block1 = none) (hxb2 : x.block2 = none)
    (hxs2 : x.size2 = none) (hdl : x.deadline = none) (hlen : x.body.length < 4294967296)
    (hn : 2 ≤ n) (hnum : n < 2 ^ 20) (hlo : (n - 1) * sizeN w.b.szx < x.body.length) (hhi : x.body.length ≤ n * sizeN w.b.szx)
    (hqu : w.queue = []) (hpe : w.pending = [])
    (hfa : w.a.sending req.tok = none) (hra : w.a.receiving req.tok = none) (hfb : w.b.sending req.tok = none)
    (hexpA : 0 ≤ w.a.expiration) (hexpB : 0 ≤ w.b.expiration) :
    Done2 (World.run w (Op.doReq req :: List.replicate (2 * n) (Op.fault .deliver))).1 req.tok ∧
    delivs (World.run w (Op.doReq req :: List.replicate (2 * n) (Op.fault .deliver))).2 =
      [(.B, onWire req), (.A, { x with tok := req.tok })] ∧
    rets (World.run w (Op.doReq req :: List.replicate (2 * n) (Op.fault .deliver))).2 = [(req.tok, some { x with tok := req.tok })] ∧
    errs (World.run w (Op.doReq req :: List.replicate (2 * n) (Op.fault .deliver))).2 = 0 :=
  Lemmas.BlockwiseProgress.download_progress w req x n hszx hs hq htok hb2 hfit hexp happ hrc hxb1 hxb2 hxs2 hdl hlen hn hnum hlo hhi
    hqu hpe hfa hra hfb hexpA hexpB

/-- non-vacuity (evaluated): a GET answered with 40 bytes in three blocks — 6 deliveries; after 5 the response has not been handed on -/
example :
    delivs (World.run exW2 (Op.doReq exGet :: List.replicate (2 * 3) (Op.fault .deliver))).2 =
      [(.B, onWire exGet), (.A, { exGetResp with tok := 7 })] ∧
    delivs (World.run exW2 (Op.doReq exGet :: List.replicate (2 * 3 - 1) (Op.fault .deliver))).2 = [(.B, onWire exGet)] := by decide +kernel

/-- A block-wise request answered block-wise.  A POST/PUT `r` of `n1 ≥ 2` blocks whose answer `x` needs `n2 ≥ 2`
    blocks: `Do(r)` followed by exactly `2·n1 + 2·n2 − 2` fault-free deliveries hands B's application the complete request once and
    A's application the complete response once, the call returns it, no error, nothing left (`Done2`). -/
theorem do_progress (w : World) (r x : Msg) (n1 n2 : Nat)
    (hszx : w.a.szx = w.b.szx) (hs : w.b.szx < 7) (hpp : isPostPut r.code = true) (htok : r.tok ≠ 0)
    (hexp : w.now ≤ doExpire r) (hlenr : r.body.length < 4294967296) (hb1 : r.block1 = none) (hs1 : r.size1 = none)
    (hn1 : 2 ≤ n1) (hnum1 : n1 ≤ 2 ^ 20) (hlo1 : (n1 - 1) * sizeN w.b.szx < r.body.length) (hhi1 : r.body.length ≤ n1 * sizeN w.b.szx)
    (happ : w.appB (onWire r) = some x) (hrc : RespCode x.code) (hxb1 : x.block1 = none) (hxb2 : x.block2 = none)
    (hxs2 : x.size2 = none) (hdl : x.deadline = none) (hlenx : x.body.length < 4294967296)
    (hn2 : 2 ≤ n2) (hnum2 : n2 < 2 ^ 20) (hlo2 : (n2 - 1) * sizeN w.b.szx < x.body.length) (hhi2 : x.body.length ≤ n2 * sizeN w.b.szx)
    (hq : w.queue = []) (hpe : w.pending = []) (hfa : w.a.sending r.tok = none) (hra : w.a.receiving r.tok = none)
    (hfb : w.b.sending r.tok = none) (hrb : w.b.receiving r.tok = none)
    (hexpA : 0 ≤ w.a.expiration) (hexpB : 0 ≤ w.b.expiration) :
    Done2 (World.run w (Op.doReq r :: List.replicate (2 * n1 + 2 * n2 - 2) (Op.fault .deliver))).1 r.tok ∧
    delivs (World.run w (Op.doReq r :: List.replicate (2 * n1 + 2 * n2 - 2) (Op.fault .deliver))).2 =
      [(.B, onWire r), (.A, { x with tok := r.tok })] ∧
    rets (World.run w (Op.doReq r :: List.replicate (2 * n1 + 2 * n2 - 2) (Op.fault .deliver))).2 =
      [(r.tok, some { x with tok := r.tok })] ∧
    errs (World.run w (Op.doReq r :: List.replicate (2 * n1 + 2 * n2 - 2) (Op.fault .deliver))).2 = 0 :=
  Lemmas.BlockwiseProgress.do_progress w r x n1 n2 hszx hs hpp htok hexp hlenr hb1 hs1 hn1 hnum1 hlo1 hhi1 happ hrc hxb1 hxb2 hxs2 hdl
    hlenx hn2 hnum2 hlo2 hhi2 hq hpe hfa hra hfb hrb hexpA hexpB

/-- non-vacuity: the hypotheses hold for `exReq` in `exWorld` of `Lemmas/Blockwise.lean`, the instance `Props/C04.lean` evaluates
    (40-byte POST, three blocks, answered with 40 bytes, three blocks): `2·3 + 2·3 − 2 = 10` deliveries -/
example : Done2 (World.run exWorld (Op.doReq exReq :: List.replicate (2 * 3 + 2 * 3 - 2) (Op.fault .deliver))).1 7 ∧
    delivs (World.run exWorld (Op.doReq exReq :: List.replicate (2 * 3 + 2 * 3 - 2) (Op.fault .deliver))).2 =
      [(.B, onWire exReq), (.A, { code := 68, tok := 7, other := [(12, [42])], body := exRespBody })] ∧
    rets (World.run exWorld (Op.doReq exReq :: List.replicate (2 * 3 + 2 * 3 - 2) (Op.fault .deliver))).2 =
      [(7, some { code := 68, tok := 7, other := [(12, [42])], body := exRespBody })] ∧
    errs (World.run exWorld (Op.doReq exReq :: List.replicate (2 * 3 + 2 * 3 - 2) (Op.fault .deliver))).2 = 0 := exWorld_progress

end CoapVerif.Props.C04Progress

section Audit
open CoapVerif.Props.C04Progress
#print axioms upload_progress
#print axioms download_progress
#print axioms do_progress
end Audit
