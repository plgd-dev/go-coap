import CoapVerif.Props.C20
import CoapVerif.Model.NoResponseCache
import CoapVerif.Spec.NoResponseCache
/-!
# C20 — a request whose message ID has been used on the connection before

Statement (properties.jsonl): … Consequently a suppressed response is never put on the wire (a confirmable request
still gets its bare acknowledgement) and a response of a class that was not suppressed is never dropped.

On a datagram connection a reply cache sits in front of the handler and the response writer: a request whose message
ID finds a live cached reply is answered from the cache and nobody looks at its No-Response option.  That is right
for a duplicate (inside EXCHANGE_LIFETIME, RFC 7252 §4.5) and wrong for a new request that re-uses the message ID
after EXCHANGE_LIFETIME (§4.4) — a 16-bit counter that has wrapped, a peer that has restarted.  The theorems say that
in EVERY history of requests and cache sweeps (any message IDs, any times — not even ordered —, any No-Response values
and codes, sweeps anywhere or never) every request that is not a duplicate by the RFC's definition is handled by the
response writer and what reaches the wire conforms to the property (`history_conforms`), and that the periodic sweep
cannot be seen from outside (`sweep_invisible`).
-/
namespace CoapVerif.Props.C20Cache
open CoapVerif CoapVerif.Model.NoResponseCache
open CoapVerif.Spec.NoResponse (ReqType Sent judge)
open CoapVerif.Spec.NoResponseCache (HReq Obs isDuplicate judgeReq judgeHistory exchangeLifetimeMs)

/-- the code's `ExchangeLifetime` is the RFC's EXCHANGE_LIFETIME -/
theorem lifetime_is_rfc : lifetimeMs = exchangeLifetimeMs := by decide

def hreq (r : Req) : HReq := ⟨r.mid, r.rt, r.noResp, r.code⟩

/-- the model's outcome in the specification's observation vocabulary (does a datagram carry THIS request's token?) -/
def toObs (r : Req) (o : Out) : Obs :=
  (o.ran, o.sent.map (fun m => ⟨m.typ, m.code, m.mid, m.tok == some r.id⟩))

def hreqs : List (Nat × Ev) → List (Nat × HReq)
  | [] => []
  | (t, .req r) :: h => (t, hreq r) :: hreqs h
  | (_, .sweep) :: h => hreqs h

/-- What the specification's judge is shown of a history: `toObs` of the outcome of every `request`, the sweeps applied
    in between.  `Model.NoResponseCache.run`, which the driver evaluates, is a recursion of its own over the same `request`
    and `sweep`; `obsOf_length` is all that is proved to connect the two. -/
def obsOf (c : Cache) : List (Nat × Ev) → List Obs
  | [] => []
  | (t, .req r) :: h => toObs r (request c t r).2 :: obsOf (request c t r).1 h
  | (t, .sweep) :: h => obsOf (sweep c t) h

theorem obsOf_length (c : Cache) (h : List (Nat × Ev)) : (obsOf c h).length = (run c h).length := by
  induction h generalizing c with
  | nil => rfl
  | cons x h ih =>
    obtain ⟨t, e⟩ := x
    cases e with
    | req r => simp [obsOf, run, step, ih]
    | sweep => simp [obsOf, run, step, ih]

/-- a request that is handled conforms: `Props.C20.serve_conforms` through the translation -/
theorem fresh_conforms (r : Req) :
    ∃ acc, (toObs r (fresh r)).1 = some acc ∧ judge .udp r.rt r.noResp r.code (acc, (toObs r (fresh r)).2) = true := by
  refine ⟨(Model.NoResponse.serve .udp r.rt r.noResp r.code).1, rfl, ?_⟩
  have hmap : (toObs r (fresh r)).2 = (Model.NoResponse.serve .udp r.rt r.noResp r.code).2 := by
    simp only [toObs, fresh, List.map_map]
    exact List.map_id'' (fun ⟨_, _, _, token⟩ => by cases token <;> simp) _
  rw [hmap]
  exact Props.C20.serve_conforms .udp r.rt r.noResp r.code

theorem load_eq_some {c : Cache} {m t : Nat} {e : Entry} : load c m t = some e ↔ c m = some e ∧ ¬ e.validUntil < t := by
  unfold load
  cases c m with
  | none => simp
  | some e' => by_cases hx : e'.validUntil < t <;> simp [Entry.expired, hx] <;> rintro rfl <;> omega

/-- an expired element is not served: the request is handled -/
theorem expired_not_replayed (c : Cache) (t : Nat) (r : Req)
    (h : ∀ e, c r.mid = some e → e.validUntil < t) : (request c t r).2 = fresh r := by
  have hl : load c r.mid t = none :=
    Option.eq_none_iff_forall_ne_some.mpr fun e he => (load_eq_some.mp he).2 (h e (load_eq_some.mp he).1)
  simp [request, hl]

/-- the sweep removes only what `Load` would not return any more: at any later (or the same) time the cache answers
    alike with and without it -/
theorem load_sweep (c : Cache) (ts m t : Nat) (h : ts ≤ t) : load (sweep c ts) m t = load c m t := by
  ext e
  simp only [load_eq_some, sweep, and_assoc]
  exact and_congr_right fun _ => ⟨And.right, fun h2 => ⟨fun h3 => h2 (Nat.lt_of_lt_of_le h3 h), h2⟩⟩

/-- … so a request is answered alike whether or not `CheckExpirations` has run before it -/
theorem sweep_invisible (c : Cache) (ts t : Nat) (r : Req) (h : ts ≤ t) :
    (request (sweep c ts) t r).2 = (request c t r).2 := by
  unfold request
  rw [load_sweep c ts r.mid t h]
  cases load c r.mid t <;> rfl

/-- every cached reply was stored for a request with its message ID and is valid for `ExchangeLifetime` from then on -/
def Inv (c : Cache) (earlier : List (Nat × Nat)) : Prop :=
  ∀ m e, c m = some e → ∃ t', (t', m) ∈ earlier ∧ e.validUntil = t' + lifetimeMs

theorem inv_sweep {c : Cache} {earlier : List (Nat × Nat)} (h : Inv c earlier) (t : Nat) : Inv (sweep c t) earlier :=
  fun m e hs => h m e (load_eq_some.mp hs).1

theorem inv_request {c : Cache} {earlier : List (Nat × Nat)} (h : Inv c earlier) (t : Nat) (r : Req) :
    Inv (request c t r).1 ((t, r.mid) :: earlier) := by
  have hmono : Inv c ((t, r.mid) :: earlier) := by
    intro m e hc
    obtain ⟨t', hm, hv⟩ := h m e hc
    exact ⟨t', List.mem_cons_of_mem _ hm, hv⟩
  unfold request
  cases load c r.mid t with
  | some e => exact hmono
  | none =>
    simp only
    cases hk : cached t (fresh r) with
    | none => exact hmono
    | some e =>
      intro m e' hs
      simp only [store] at hs
      by_cases hm : m = r.mid
      · simp [hm] at hs
        subst hm
        refine ⟨t, List.mem_cons_self, ?_⟩
        unfold cached at hk
        cases hsent : (fresh r).sent with
        | nil => simp [hsent] at hk
        | cons x xs => simp [hsent] at hk; rw [← hs, ← hk]
      · simp [hm] at hs
        exact hmono m e' hs

/-- a request that is not a duplicate by the RFC's definition conforms, whatever the cache still holds -/
theorem request_conforms {c : Cache} {earlier : List (Nat × Nat)} (h : Inv c earlier) (t : Nat) (r : Req) :
    judgeReq earlier t (hreq r) (toObs r (request c t r).2) = none := by
  unfold judgeReq
  cases hd : isDuplicate earlier t (hreq r).mid with
  | true => simp
  | false =>
    have hexp : ∀ e, c r.mid = some e → e.validUntil < t := by
      intro e hc
      obtain ⟨t', hm, hv⟩ := h r.mid e hc
      unfold isDuplicate at hd
      rw [List.any_eq_false] at hd
      have := hd (t', r.mid) hm
      simp [hreq] at this
      rw [hv, lifetime_is_rfc]
      omega
    rw [expired_not_replayed c t r hexp]
    obtain ⟨acc, h1, h2⟩ := fresh_conforms r
    simp [h1, hreq, h2]

theorem history_conforms_from {c : Cache} {earlier : List (Nat × Nat)} (h : Inv c earlier) (i : Nat)
    (hist : List (Nat × Ev)) : judgeHistory earlier i (hreqs hist) (obsOf c hist) = none := by
  induction hist generalizing c earlier i with
  | nil => simp [hreqs, obsOf, judgeHistory]
  | cons x hist ih =>
    obtain ⟨t, e⟩ := x
    cases e with
    | sweep => simp only [hreqs, obsOf]; exact ih (inv_sweep h t) i
    | req r =>
      simp only [hreqs, obsOf, judgeHistory, request_conforms h t r]
      exact ih (inv_request h t r) (i + 1)

/-- Every history: requests with any message IDs at any times, any No-Response values, any codes, cache sweeps
    anywhere or never — the specification's judge has nothing to object to in what the model does.  In particular a
    new request that re-uses a message ID after EXCHANGE_LIFETIME is never answered from the reply cache, swept or not:
    its suppressed response is not put on the wire (a confirmable one gets its bare acknowledgement), its response of
    a class that is of interest is not dropped. -/
theorem history_conforms (hist : List (Nat × Ev)) : judgeHistory [] 0 (hreqs hist) (obsOf empty hist) = none :=
  history_conforms_from (c := empty) (earlier := []) (by intro m e hc; simp [empty] at hc) 0 hist

/-! non-vacuity: the situation of the seeded change C20-V, and what a cache that forgets to look at the clock does -/

/-- the first request (no option) is answered 2.05 and cached; 247.001 s later the same message ID carries No-Response 2 -/
example : run empty [(0, .req ⟨0, 7, .con, none, 69⟩), (247001, .req ⟨1, 7, .con, some 2, 69⟩)]
    = [⟨some true, [⟨"ack", 69, "req", some 0⟩]⟩, ⟨some false, [⟨"ack", 0, "req", none⟩]⟩] := by decide
/-- inside the lifetime the same datagram is a duplicate and gets the cached reply -/
example : run empty [(0, .req ⟨0, 7, .con, none, 69⟩), (247000, .req ⟨1, 7, .con, some 2, 69⟩)]
    = [⟨some true, [⟨"ack", 69, "req", some 0⟩]⟩, ⟨none, [⟨"ack", 69, "req", some 0⟩]⟩] := by decide
/-- the judge objects to a replay after the lifetime (request 1: the handler was not asked) -/
example : judgeHistory [] 0 [(0, ⟨7, .con, none, 69⟩), (247001, ⟨7, .con, some 2, 69⟩)]
    [(some true, [⟨"ack", 69, "req", true⟩]), (none, [⟨"ack", 69, "req", false⟩])] = some (1, "the handler was not asked") := by decide
/-- the hypothesis of `sweep_invisible` is needed: a sweep dated in the future does remove what is still live now -/
example : (request (sweep (request empty 0 ⟨0, 7, .con, none, 69⟩).1 300000) 10 ⟨1, 7, .con, none, 69⟩).2
    ≠ (request (request empty 0 ⟨0, 7, .con, none, 69⟩).1 10 ⟨1, 7, .con, none, 69⟩).2 := by decide

end CoapVerif.Props.C20Cache

section Audit
open CoapVerif.Props.C20Cache
#print axioms lifetime_is_rfc
#print axioms obsOf_length
#print axioms fresh_conforms
#print axioms load_eq_some
#print axioms expired_not_replayed
#print axioms load_sweep
#print axioms sweep_invisible
#print axioms inv_sweep
#print axioms inv_request
#print axioms request_conforms
#print axioms history_conforms_from
#print axioms history_conforms
end Audit
