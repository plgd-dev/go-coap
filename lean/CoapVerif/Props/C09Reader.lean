import CoapVerif.Model.PoolRetry
import CoapVerif.Lemmas.PoolRetry
/-!
# C09 — the reader of a connection comes back from decoding whatever the peer has sent

Statement (properties.jsonl, C09): "… whatever the peer does - silence, garbage, a half-open stream, an acknowledgement
without a response.  Closing a connection or stopping a server … completes the connection's done signal and runs every
registered on-close callback exactly once."

The done signal is completed by the goroutine that reads the connection (`Session.Run` → `shutdown`; the shared `Serve` loop
of the datagram server), `done_completes` in Props/C09.lean assumes that this goroutine takes its steps.  Between two reads
it decodes what it has read into a pooled message (`Conn.Process` / `processBuffer` → `UnmarshalWithDecoder` →
`Message.decode`), and `decode` contains the only loop on that path whose exit depends on the peer's bytes: the retry that
enlarges the option buffer while the decoder reports `ErrOptionsTooSmall`.  This file states, for C09, that the reader leaves
that loop for EVERY input and every starting capacity, after at most `len(data) − cap + 1` attempts (the loop is the model of
Model/PoolRetry.lean, shared with C02; its three shape facts are read from the AST on every run, Generated/PoolRetry.lean) —
and that a loop whose growth is clamped without an exit never leaves for a message that needs more (seeded change C09-W).

Tie: the cases `case udp|tcp <op> opts<N> cancel|close` and `case udp|tcp|dtls srvstop k1o<N> stop` deliver well-formed
messages with N = 16 | 17, 1024 | 1025, 1100, 1400, 2049, 5000 options to the real readers.
-/
namespace CoapVerif.Props.C09Reader
open CoapVerif.Spec.Wire (Bytes Opt Msg)
open CoapVerif.Model CoapVerif.Model.PoolMessage CoapVerif.Lemmas.PoolRetry

/-- The reader returns from `decode`, for every coder, every capacity the pooled message arrives with and every byte
string: the loop with `len(data) − cap + 1` attempts allowed IS the loop (it never runs out of attempts), and what it
returns is the decoder's verdict at a capacity that was sufficient, never the capacity error. -/
theorem reader_returns_from_decode (c : Coder) (cap : Nat) (data : Bytes) :
    decodeRetryN c (data.length - cap + 1) cap data = decodeRetry c cap data ∧
    ∃ cap', cap ≤ cap' ∧ decodeRetry c cap data = (c.decode cap' data, cap') ∧ c.decode cap' data ≠ .error .optCap :=
  ⟨decodeRetryN_eq c _ cap data (by omega), decodeRetry_spec c cap data⟩

/-- an instance: a datagram with three options arriving at a message recycled without an options buffer (capacity 0);
what it states is the second conjunct: the verdict is not the capacity error -/
example : ∃ cap', (decodeRetry .udp 0 [0x50, 0x01, 0x12, 0x34, 0xb0, 0x00, 0x00]).2 = cap' ∧
    (decodeRetry .udp 0 [0x50, 0x01, 0x12, 0x34, 0xb0, 0x00, 0x00]).1 ≠ .error .optCap := by
  obtain ⟨cap', _, heq, hne⟩ := (reader_returns_from_decode .udp 0 [0x50, 0x01, 0x12, 0x34, 0xb0, 0x00, 0x00]).2
  exact ⟨cap', by rw [heq], by rw [heq]; exact hne⟩

/-- the retry loop over an abstract decoder verdict (`tooSmall cap` = the decoder reports `ErrOptionsTooSmall` at `cap`),
growth clamped at `limit` without an exit; `none` = still looping when the attempts are used up.  The growth rule is
`PoolMessage.newCap`'s with its constants typed in as literals (factor 2; 16 = `Generated.PoolRetry.retryZeroCap`, what
the real loop grows a capacity of 0 to): this definition is not tied to the regenerated ones. -/
def clampedLoop (tooSmall : Nat → Bool) (limit : Nat) : Nat → Nat → Option Nat
  | 0, _ => none
  | fuel + 1, cap =>
    if tooSmall cap then clampedLoop tooSmall limit fuel (if (if cap * 2 = 0 then 16 else cap * 2) > limit then limit else (if cap * 2 = 0 then 16 else cap * 2))
    else some cap

/-- once the buffer has reached the limit and the message needs more, the loop never returns, however many attempts it gets
(for every limit ≥ 1 — 1024 in the seeded change — and every message) -/
theorem clamped_loop_never_returns (tooSmall : Nat → Bool) (limit : Nat) (hl : 0 < limit) (h : tooSmall limit = true) :
    ∀ fuel, clampedLoop tooSmall limit fuel limit = none := by
  intro fuel
  induction fuel with
  | zero => rfl
  | succ n ih =>
    have h0 : ¬ (limit * 2 = 0) := by omega
    have h1 : limit * 2 > limit := by omega
    simp only [clampedLoop, h, h0, h1, ↓reduceIte, ih]

/-- … and it gets there from the capacity a new pooled message has (`make(message.Options, 0, 16)`, message/pool),
16 → 32 → … → 1024 in six doublings, for a message that is too large at
every capacity up to 1024 (e.g. 1025 options); evaluated for the attempts up to 64, which cover the climb and the first
rounds at the limit (from there on: the theorem above) -/
example : ∀ fuel ≤ 64, clampedLoop (fun cap => cap ≤ 1024) 1024 fuel 16 = none := by decide +kernel

/-- the unclamped verdict for the same message: out after seven doublings -/
example : clampedLoop (fun cap => cap ≤ 1024) 4096 8 16 = some 2048 := by decide +kernel

end CoapVerif.Props.C09Reader

section Audit
open CoapVerif.Props.C09Reader
#print axioms reader_returns_from_decode
#print axioms clamped_loop_never_returns
end Audit
