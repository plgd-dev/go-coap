import CoapVerif.Spec.Blockwise
import CoapVerif.Lemmas.BlockwiseRounds
/-!
# C04 — Block-wise transfer delivers the exact body exactly once, or fails

Statement (properties.jsonl): for every body size, every combination of the two endpoints' maximum block sizes
(including BERT on stream transports), both directions (request upload and response download) and both exchange
styles (request/response and one-way write), a block-wise exchange that completes hands the receiving application
exactly the bytes the sending application supplied, exactly once and with the message's other options preserved.
Duplicated, stale, out-of-order or foreign-token blocks never corrupt, truncate or extend a body, and concurrent
transfers with different tokens never mix.  An exchange that cannot complete ends with an error or timeout — never
with a partial body presented as complete, and never by hanging.

Model: `Model/Blockwise.lean` (thresholds, the Block1 addend, the shape of the shortcuts and of the ETag restart are
regenerated from /repo: `Generated/BlockwiseXfer.lean`; the option codec and its constants are C19's).

How the statement is covered.
* Sender: `slice_covers`, `slice_available` — everything `createSendingMessage` can emit, for whatever block the peer
  asks for, is an aligned slice of the body with the message's options, `more` clear iff it ends the body.
* Receiver, for **every sequence of arrivals** (`Endpoint.run` over an arbitrary `List Arrival`: any messages, any
  order, any multiplicity, any times, sweeps in between — deliver / duplicate / drop / reorder / replay of the
  network are all such sequences): `reassembly_prefix` (invariant), `complete_eq`, `no_partial_as_complete`, `once`
  (read as `once_from_empty`, `once_if_first_block_arrives_once`).
  The hypothesis on arrivals is `GoodMsg`: a data block is a slice of what was supplied under its token and ETag —
  which `slice_covers` provides for every block a sender of this model emits; `system_safe` closes the loop for
  two endpoints and the relay under every fault script.
* `tokens_independent`, `szx_negotiation_min`, `etag_change_restarts`, `expiry_finite` ("never by hanging": every
  waiting state has a finite deadline), `faultfree_progress_block1/2` (auxiliary: one round for a symbolic block
  index, equal non-BERT exponents; the induction over the rounds is `Props/C04Progress.lean`), and the two observations
  of DESIGN §6: `bert_first_block_stalls` (O2, a negative result) and `oneway_block1_never_completes` (O1: what made a
  one-way Block1 write deliver nothing before repair F10f; its first clause assumes `startSkipsSent = true`, which is
  regenerated as `false` since).
* What the atomic steps, the one-connection endpoint and the deadlines of the model rest on, read from /repo:
  `guard_held_across_handler`, `layer_per_connection`, `datagram_read_buffer_is_mtu`, `caches_own_their_messages`,
  `deadlines_are_finite` with `do_entry_lives_as_long_as_the_call`; a pending request without body:
  `bodyless_request_has_no_block`.

Scope of the registry.  `Reg` (token → ETag → what was supplied) is time-independent: during one run a token, together
with an ETag, stands for one body.  `GoodMsg R` therefore excludes, by hypothesis, a caller that re-uses a token for
another body while blocks of the earlier body can still arrive or are still held (aborted transfer, then the same token
again within the expiry).  That case is real (finding F10e: the code appended the new body's later blocks to the stale
prefix); since repair F10e (/repo 0bdccf6) the first block of the new body restarts the reassembly and
`token_reuse_restarts` re-establishes the invariant at that moment for the registry of the new body.  What stays
excluded, because nothing on the wire distinguishes it without an ETag: blocks of the old body arriving after the new
first block, later blocks of the new body arriving before it.

Hypotheses that are assumptions about the environment: token ↔ table key injective (C03's `HashInj`), the ETag
discipline of RFC 7959 §2.4 (`Discipline`), tokens are not empty (the layer hands token-less blocks on unassembled).
-/
namespace CoapVerif.Props.C04
open CoapVerif CoapVerif.Model.Blockwise CoapVerif.Model.BlockOpt CoapVerif.Generated.BlockwiseXfer
open CoapVerif.Lemmas.Blockwise CoapVerif.Lemmas.BlockwiseRounds

/-! ## Sender -/

/-- Whatever block the peer asks for: what `createSendingMessage` emits for a cached message is an
    aligned slice of that message's body (offset NUM·size, at most one buffer long), it is flagged `more` exactly
    when it does not end the body, the exponent is at most the sender's maximum (that it is the smaller of the two
    sides': `szx_negotiation_min`), and code, token, ETag and the other options are the message's. -/
theorem slice_covers {sm : Msg} {mx ms blk : Nat} {m : Msg} {more : Bool}
    (hms : mx < 7 ∨ 1024 ≤ ms) (h : createSending sm mx ms blk = some (m, more)) :
    ∃ v szx num, m.block (sendBT sm.code) = some v ∧ decodeBlock v = .ok (szx, num, more) ∧ szx ≤ mx ∧
      SliceAt sm.body (num * sizeN szx) m.body ∧ m.body.length ≤ bufLen szx ms ∧
      (more = false ↔ num * sizeN szx + m.body.length = sm.body.length) ∧
      m.code = sm.code ∧ m.tok = sm.tok ∧ m.etag = sm.etag ∧ m.other = sm.other :=
  createSendingWith_slice hms h

/-- … and every aligned slice can be had: asking for block `n0` of a response that reaches that far succeeds.  (A message
    WITHOUT body has no block at all — F39, `bodyless_request_has_no_block` —, hence `0 < sm.body.length`.) -/
theorem slice_available {sm : Msg} {mx ms blk s0 n0 : Nat} {m0 : Bool}
    (hdec : decodeBlock blk = .ok (s0, n0, m0)) (hb2 : sendBT sm.code = .b2)
    (hoff : n0 * sizeN (getSzx s0 mx) ≤ sm.body.length) (hlen : sm.body.length < 4294967296) (hne : 0 < sm.body.length) :
    ∃ m more, createSending sm mx ms blk = some (m, more) := by
  have hb := decode_bounds hdec
  unfold createSending createSendingWith
  simp only [hdec, hb2, sendOffWith]
  exact ⟨_, _, createSendingAt_aligned sm .b2 _ (Nat.le_trans (getSzx_le_left _ _) hb.1) hoff hne hlen hb.2⟩

example : (createSending { code := 69, tok := 7, body := (List.range 40).map UInt8.ofNat } 0 64 16).map
    (fun p => (p.1.body, p.1.block2, p.1.size2, p.2)) = some ((List.range' 16 16).map UInt8.ofNat, some 24, some 40, true) := by decide +kernel

/-! ## Receiver: every sequence of arrivals -/

/-- the hypotheses below are satisfiable: an ETag-disciplined registry, an endpoint with empty caches, a middle and
    the final block of a 40-byte body -/
example : Discipline exR ∧ EpInv exR exEp ∧ GoodMsg exR (exBlk 1 true) ∧ GoodMsg exR (exBlk 2 false) := by
  exact ⟨by intro tok e s s' _ h2; simp [exR] at h2, by intro tok e he; simp [exEp, Cache.empty] at he,
    exBlk_good (by decide) ⟨by decide, exBody.drop 32, by decide⟩ (fun h => nomatch h),
    exBlk_good (by decide) ⟨by decide, [], by decide⟩ (fun _ => by decide)⟩

/-- … and the conclusions are not empty: blocks 1, 0, 0 (duplicate), 1 (again), 2 (final), 2 (replay of the final
    block) make exactly one delivery, of exactly the 40 bytes, with the block options removed and the other options
    kept; the replayed final block delivers nothing. -/
example : ((Endpoint.run (fun _ => none) exEp
      [.msg 0 (exBlk 1 true), .msg 1 (exBlk 0 true), .msg 2 (exBlk 0 true), .msg 3 (exBlk 1 true),
       .msg 4 (exBlk 2 false), .msg 5 (exBlk 2 false)]).2.map (fun d => (d.body, d.block1, d.size1, d.other))) =
    [(exBody, none, none, [(11, [99])])] := by decide +kernel

/-- For every sequence of arrivals whose data blocks are slices of what was supplied under
    their token and ETag — in any order, with any duplicates, gaps, stale copies and sweeps in between — the bytes
    held for a token are at all times a prefix of the body being sent under that token / ETag. -/
theorem reassembly_prefix {R : Reg} (hd : Discipline R) (app : App) (ep : Endpoint) (as : List Arrival)
    (hg : ∀ now r, Arrival.msg now r ∈ as → GoodMsg R r) (hinv : EpInv R ep) :
    EpInv R (Endpoint.run app ep as).1 :=
  (run_inv hd app as ep hg hinv).1

/-- Under the same hypotheses every message handed to the application is either an arrival that
    carries no data block of its direction, handed on as it is, or exactly what was supplied under its token and
    ETag: same body, same other options, same code. -/
theorem complete_eq {R : Reg} (hd : Discipline R) (app : App) (ep : Endpoint) (as : List Arrival)
    (hg : ∀ now r, Arrival.msg now r ∈ as → GoodMsg R r) (hinv : EpInv R ep) :
    ∀ d ∈ (Endpoint.run app ep as).2, (∃ now, Arrival.msg now d ∈ as ∧ NoData d) ∨ Complete R d.tok d :=
  (run_inv hd app as ep hg hinv).2

/-- A message that reaches the application with a data block option of its direction
    still on it (the single-block shortcut) or after reassembly never has a body shorter or longer than what was
    supplied: a partial body is never presented as complete. -/
theorem no_partial_as_complete {R : Reg} (hd : Discipline R) (app : App) (ep : Endpoint) (as : List Arrival)
    (hg : ∀ now r, Arrival.msg now r ∈ as → GoodMsg R r) (hinv : EpInv R ep)
    (d : Msg) (hdel : d ∈ (Endpoint.run app ep as).2) (hdata : ¬ NoData d) :
    ∃ s, R d.tok d.etag = some s ∧ d.body.length = s.body.length ∧ d.body = s.body := by
  rcases complete_eq hd app ep as hg hinv d hdel with ⟨_, _, hn⟩ | ⟨s, h1, h2, _⟩
  · exact absurd hn hdata
  · exact ⟨s, h1, by rw [h2], h2⟩

/-- For *every* sequence of arrivals (no hypothesis on their content): the number of messages handed to
    the application on behalf of a token, plus one if bytes are still held for it, never exceeds the number of
    arrivals of that token that can start a body (block number 0, or not a data block at all) plus one if bytes
    were held at the beginning.  Each reassembly is delivered at most once; a late duplicate or a replay of a final
    block delivers nothing.

    What this is *not*: "exactly once" under replay of a whole transfer.  If the network replays every block of a
    completed transfer in order (0, 1, 2, 0, 1, 2) the first block arrives twice and two deliveries are within the
    bound — and happen: the receiver has no way to tell a replayed transfer from a repeated one (no ETag, no memory of
    completed tokens; on datagram transports the message-ID de-duplication of C05 sits below this layer).  "At most
    once per arrival of a first block" is what the layer provides and what is proved; `once_if_first_block_arrives_once`
    is the reading under the discipline "a first block of a token arrives at most once". -/
theorem once (app : App) (tok : Nat) (htok : tok ≠ 0) (ep : Endpoint) (as : List Arrival) :
    deliveredFor app tok ep as + heldNe ((Endpoint.run app ep as).1.receiving tok) ≤
      heldNe (ep.receiving tok) + startsFor tok as := by
  induction as generalizing ep with
  | nil => simp [deliveredFor, startsFor, Endpoint.run]
  | cons a as ih =>
    have h := ih (ep.step app a).1
    cases a with
    | sweep now =>
      have hs := heldNe_sweep ep now tok
      simp only [deliveredFor, startsFor, Endpoint.run, Endpoint.step] at h ⊢
      omega
    | msg now r =>
      simp only [deliveredFor, startsFor, Endpoint.run]
      by_cases ht : r.tok = tok
      · -- the step is `handleS` on the slots of `tok`
        have ho := handleS_once ep.toCfg (ep.slots r.tok) now r app (by rw [ht]; exact htok)
        have e1 : ((ep.step app (.msg now r)).1).receiving tok = (handleS ep.toCfg (ep.slots r.tok) now r app).1.rcv :=
          ht ▸ put_receiving ep r.tok _
        have e2 : (ep.step app (.msg now r)).2 = (handleS ep.toCfg (ep.slots r.tok) now r app).2.delivered := rfl
        have e3 : (ep.slots r.tok).rcv = ep.receiving tok := by rw [← ht]; rfl
        rw [if_pos ht, if_pos ht, e2]
        rw [e1] at h
        rw [e3] at ho
        omega
      · have e1 : ((ep.step app (.msg now r)).1).receiving tok = ep.receiving tok :=
          (put_caches_other ep _ (fun h => ht h.symm)).2
        rw [if_neg ht, if_neg ht]
        rw [e1] at h
        omega

example : deliveredFor (fun _ => none) 7 exEp [.msg 0 (exBlk 0 true), .msg 1 (exBlk 1 true), .msg 4 (exBlk 2 false), .msg 5 (exBlk 2 false)] = 1 ∧
    startsFor 7 [.msg 0 (exBlk 0 true), .msg 1 (exBlk 1 true), .msg 4 (exBlk 2 false), .msg 5 (exBlk 2 false)] = 1 := by decide +kernel

/-- in particular: from an empty cache, at most as many deliveries as first blocks arrived -/
theorem once_from_empty (app : App) (tok : Nat) (htok : tok ≠ 0) (ep : Endpoint) (as : List Arrival)
    (hempty : ep.receiving tok = none) : deliveredFor app tok ep as ≤ startsFor tok as := by
  have := once app tok htok ep as
  rw [hempty] at this
  simp [heldNe] at this
  omega

/-- under the discipline that the first block of a token arrives at most once (no replay of a whole transfer, no re-use
    of the token), at most one message is handed to the application on behalf of the token: exactly once or not at all -/
theorem once_if_first_block_arrives_once (app : App) (tok : Nat) (htok : tok ≠ 0) (ep : Endpoint) (as : List Arrival)
    (hempty : ep.receiving tok = none) (h1 : startsFor tok as ≤ 1) : deliveredFor app tok ep as ≤ 1 :=
  Nat.le_trans (once_from_empty app tok htok ep as hempty) h1

/-! ## One `Handle` call: other tokens, the exponent, a new ETag, a re-used token; expiry -/

/-- `Handle` calls for messages with different tokens commute: the same caches result and
    each call produces the same reply, deliveries and error report whichever comes first — concurrent transfers
    with different tokens never mix. -/
theorem tokens_independent (ep : Endpoint) (t1 t2 : Int) (r1 r2 : Msg) (app : App) (h : r1.tok ≠ r2.tok) :
    (handle (handle ep t1 r1 app).1 t2 r2 app).1 = (handle (handle ep t2 r2 app).1 t1 r1 app).1 ∧
    (handle (handle ep t1 r1 app).1 t2 r2 app).2 = (handle ep t2 r2 app).2 ∧
    (handle (handle ep t2 r2 app).1 t1 r1 app).2 = (handle ep t1 r1 app).2 := by
  simp only [handle]
  rw [ep_put_slots_other _ _ (fun e => h e.symm), ep_put_slots_other _ _ h, ep_put_cfg, ep_put_cfg]
  exact ⟨ep_put_comm ep _ _ h, rfl, rfl⟩

/-- The exponent of every block a sender emits is the minimum of its own maximum and the
    one asked for; the exponent a receiver negotiates is the minimum of its own maximum and the block's; its answers
    carry exactly the exponent it was given. -/
theorem szx_negotiation_min :
    (∀ {sm : Msg} {mx ms blk s0 n0 : Nat} {m0 : Bool} {m : Msg} {more : Bool},
      decodeBlock blk = .ok (s0, n0, m0) → createSending sm mx ms blk = some (m, more) →
      ∃ v num, m.block (sendBT sm.code) = some v ∧ decodeBlock v = .ok (min s0 mx, num, more)) ∧
    (∀ {r : Msg} {bt : BT} {v s n : Nat} {m : Bool} (mx : Nat), r.block bt = some v → decodeBlock v = .ok (s, n, m) →
      fitSZX r bt mx = min mx s) ∧
    (∀ (r : Msg) (bt : BT) (mx : Nat), fitSZX r bt mx ≤ mx) ∧
    (∀ {bt : BT} {sent : Option Msg} {tok szx num held : Nat} {more : Bool} {m : Msg},
      blockReply bt sent tok szx num held more = some m → ∃ v n, m.block bt = some v ∧ decodeBlock v = .ok (szx, n, more)) := by
  refine ⟨?_, fitSZX_some, fitSZX_le, ?_⟩
  · intro sm mx ms blk s0 n0 m0 m more hdec h
    unfold createSending createSendingWith at h
    rw [hdec] at h
    obtain ⟨v, hm, hdv, _⟩ := createSendingAt_spec h
    exact ⟨v, _, by rw [hm]; exact setBlock_block _ _ _, by rw [← getSzx_eq_min]; exact hdv⟩
  · intro bt sent tok szx num held more m h
    obtain ⟨v, n, hdec, ⟨s, rfl, _, rfl⟩ | ⟨_, rfl⟩⟩ := blockReply_cases h
    · exact ⟨v, n, rfl, hdec⟩
    · exact ⟨v, n, setBlock_block _ _ _, hdec⟩

/-- A block whose ETag differs from the ETag of what is held discards the held bytes and
    takes over ETag, options and code of the new representation: afterwards exactly this block's payload is held
    if it is the first block, and nothing otherwise.  With an equal ETag what is held is kept (and extended iff the
    block starts where it ends) — unless the block is a first block and first blocks restart the transfer (F10e). -/
theorem etag_change_restarts {r c0 : Msg} {a b : Bytes} (hr : r.etag = some a) (hc : c0.etag = some b) (off : Nat) :
    (a ≠ b → (absorb r c0 off).1.etag = some a ∧ (absorb r c0 off).1.other = r.other ∧ (absorb r c0 off).1.code = r.code ∧
      (absorb r c0 off).1.body = (if off = 0 then r.body else [])) ∧
    (a = b → ¬ (block0Restarts = true ∧ off = 0) →
      (absorb r c0 off).1.body = if off = c0.body.length then c0.body ++ r.body else c0.body) :=
  ⟨fun hab => absorb_restart hr hc hab off, fun hab hnr => by rw [absorb_same (by rw [hr, hc, hab]) off hnr]; split <;> rfl⟩

/-- The bridge for a caller that re-uses a token for another body ("Scope of the registry" in the head of the file); `hfix` is
    the regenerated fact `block0Restarts`, which holds by `rfl` (repair F10e, /repo 0bdccf6).  Whatever is held under the
    token at the moment the new body's first block arrives (`c0` is arbitrary: a prefix of the abandoned body, with its
    options), that block replaces it; afterwards exactly that block is held with the new body's options, code and ETag, so
    `reassembly_prefix` / `complete_eq` apply again with the registry in which the token stands for the new body. -/
theorem token_reuse_restarts {R : Reg} (hfix : block0Restarts = true) {tok : Nat} {r c0 : Msg} {s : Supplied}
    (htok : c0.tok = tok) (hr : Matches R tok r s) (hs : SliceAt s.body 0 r.body) :
    (absorb r c0 0).2 = true ∧ Matches R tok (absorb r c0 0).1 s ∧ (absorb r c0 0).1.body = r.body ∧
    (absorb r c0 0).1.body <+: s.body ∧ (r.body.length = s.body.length → (absorb r c0 0).1.body = s.body) := by
  obtain ⟨h1, h2⟩ := absorb_first_block hfix r c0
  rw [h1, h2]
  obtain ⟨m1, m2, m3, _⟩ := hr
  exact ⟨rfl, ⟨m1, m2, m3, htok⟩, rfl, by simpa using hs.2, fun hl => slice_zero_complete hs hl⟩

/-- "Never by hanging": every waiting state of the model has a finite deadline.  A cache entry
    is invisible to `Load` after its deadline and removed by the next sweep (a receiving entry takes the sending
    entry of its key along); a `Do` call whose context deadline has been reached returns.

    Clause 4 needs `p.deadline = some t`: a `Pending` without deadline never returns by time in the model, and neither
    does the code — `Do` with a context without deadline blocks in `doInternal` until the response arrives, the context
    is cancelled or the connection is closed (C09's subject); the block-wise layer adds no timer of its own to the call
    (its cache entries then live for `expiration` from their creation and the receive path stops answering, but the
    caller is not woken).  "Never by hanging" is therefore proved for callers that bound their calls, which is what the
    statement's "error or timeout" presupposes; the harness always sets a deadline and the judge's `hang` clause checks
    that every call has returned at the end. -/
theorem expiry_finite :
    (∀ (e : Entry) (now : Int), now > e.validUntil → live (some e) now = none) ∧
    (∀ (ep : Endpoint) (now : Int) (k : Nat) (e : Entry), ep.receiving k = some e → now > e.validUntil →
      (sweep ep now).receiving k = none ∧ (sweep ep now).sending k = none) ∧
    (∀ (ep : Endpoint) (now : Int) (k : Nat) (e : Entry), ep.sending k = some e → now > e.validUntil →
      (sweep ep now).sending k = none) ∧
    (∀ (w : World) (d : Int) (p : Pending) (t : Int), p ∈ w.pending → p.deadline = some t → t ≤ w.now + d →
      p ∉ (w.sleep d).1.pending ∧ Event.ret p.tok none ∈ (w.sleep d).2) := by
  refine ⟨live_expired, fun ep now k => (sweep_removes ep now k).1, fun ep now k => (sweep_removes ep now k).2, ?_⟩
  intro w d p t hp hdl hle
  constructor
  · intro hmem
    simp only [World.sleep, List.mem_filter] at hmem
    have := hmem.2
    simp only [hdl, decide_eq_true_eq] at this
    omega
  · simp only [World.sleep, List.mem_map, List.mem_filter]
    exact ⟨p, ⟨hp, by simp [hdl, hle]⟩, rfl⟩

/-! ## What the model rests on: facts regenerated from /repo -/

/-- the obligation the model's atomicity rests on.  `handleS` treats one `Handle` call on a
    token's reassembly entry as one atomic step *including* the call of the application handler (`next`).  In the code
    that is the critical section of the entry's binary semaphore (`messageGuard`): acquired in
    `getCachedReceivedMessage` before the cached message is touched, released only by the deferred close function of
    `processReceivedMessage`, i.e. after `next(w, cachedReceivedMessage)` has returned — no earlier release, no `go`
    statement in between.  The extractor reads exactly this shape from the AST (`guardReleasedOnlyAfterNext`) and fails
    closed on any other; with an earlier release a late block of the same token (since F10e: a block 0 restarts the
    transfer in place) could rewrite the body while the handler still reads it, which no theorem about the sequential
    model would notice.  The concurrent correspondence `TestC04Guard` exercises the same discipline on the real code. -/
theorem guard_held_across_handler : guardReleasedOnlyAfterNext = true := rfl

/-- what "`Endpoint` = one connection" rests on.  The caches of the layer are keyed by the token
    alone and tokens are scoped to a connection (RFC 7252 §5.3.1), so the model's endpoint — and with it every theorem
    here — describes one connection's layer.  That each accepted / dialled connection gets a layer of its own is read
    from the set-up code of the tcp, udp and dtls servers and clients (`createBlockWise` is a function literal returning
    `blockwise.New(…)`; any other shape fails the extractor) and exercised on a real `tcp.Server` with several peers that
    use one token (`TestC04TcpServer`). -/
theorem layer_per_connection : layerPerConnection = true := rfl

/-- what "an arrival is a message the peer's layer emitted" rests on for datagrams: the
    session reads into a buffer of a whole MTU, so a datagram longer than the maximum message size keeps its length and is
    refused by the connection (the exchange fails) instead of being cut to the limit by the socket and decoded as a shorter,
    well-formed block (`TestC04UdpDial` runs a real `udp.Dial` client against such datagrams). -/
theorem datagram_read_buffer_is_mtu : datagramReadBufferIsMTU = true := rfl

/-- what `expiry_finite` rests on: `Entry.validUntil` is an `Int`, and the model's only "never" is the sentinel of the one exception below.  In
    the code the cache treats the zero time as "never expires".  Read from the source: every deadline handed to
    `cache.NewElement` is the context's deadline or `time.Now().Add(b.expiration)` — also for an expiration of 0
    (`deadlinesAreNowPlusExpiration`; any other shape fails the extractor) — with ONE exception since repair F35: the entry
    `Do` makes for its request gets the context's deadline or, without one, the zero time, and is removed by `Do`'s
    deferred `Delete` when the call returns (`doEntryLivesAsLongAsTheCall`; modelled by `Model.Blockwise.never`).  The
    judge's `leak` clause checks the consequence on every history: long after every deadline, both sides swept and every
    call returned, no cache entry is held. -/
theorem deadlines_are_finite : deadlinesAreNowPlusExpiration = true ∧ doEntryLivesAsLongAsTheCall = true := ⟨rfl, rfl⟩

/-- Repair F35.  The one entry without a time limit: the request `Do` registers
    when the caller's context has no deadline.  In the code its deadline is the zero time, which the cache reads as "never";
    the model's `Entry.validUntil` is an `Int`, so "never" is the sentinel `Model.Blockwise.never` = 2^62 ns (≈ 146 years).
    What is proved: such an entry is stored with exactly that sentinel, it is visible to `Load` at every time up to the
    sentinel (no sweep and no expiry drops it), and it ends with the call: `Do`'s deferred `Delete` (`doFinish`) empties the
    slot.  **Horizon:** for `now > never` the model would hide the entry while the code keeps it — the theorems about time
    (`expiry_finite`) are statements about the model at every `now`, but model and code agree on these entries only up to the
    sentinel; the driver's clock starts at 0 and a history advances it by seconds to hours (the generators' sleeps, `end` =
    +1 h), 14 orders of magnitude below it.  `expiry_finite` clauses 1–3 therefore say nothing useful about a `Do` entry
    without deadline (formally they expire it at 2^62): its end is clause 3 of this theorem, and clause 4 of `expiry_finite`
    for calls that do have a deadline. -/
theorem do_entry_lives_as_long_as_the_call :
    (∀ (cfg : Cfg) (snd : Option Entry) (now : Int) (r m : Msg), r.deadline = none →
      (doStartS cfg snd now r).2 = some m → (doStartS cfg snd now r).1 = some ⟨r, never⟩) ∧
    (∀ (r : Msg) (now : Int), now ≤ never → live (some ⟨r, never⟩) now = some ⟨r, never⟩) ∧
    (∀ (ep : Endpoint) (tok : Nat), (doFinish ep tok).sending tok = none) := by
  refine ⟨?_, fun r now h => live_fresh ⟨r, never⟩ now h, fun ep tok => by simp [doFinish, Cache.put]⟩
  intro cfg snd now r m hd hm
  -- a call that sends something found the slot free and registered `r` there; a later error would have cleared both
  rcases doStartS_cases cfg snd now r with h | h | ⟨m', h, _⟩ <;> rw [h] at hm ⊢
  · cases hm
  · cases hm
  · rw [hd]

/-- what "an entry's message is the reassembly buffer of its token, and only of it" rests
    on: the model's entries hold values; in the code they hold pooled messages, and a message handed back to the pool while
    an entry (or a running `Handle` call) still refers to it is given out again as the buffer of another token.  No
    `onExpire` callback and no path of `getCachedReceivedMessage` releases a message, and the close list is extended by
    `appendToClose` (guards) only (`cachesOwnTheirMessages`, fail-closed); `TestC04Pool` runs the two places where goroutines
    meet — the same first block twice at the same moment, the sweep during an append — over a tracking LIFO pool. -/
theorem caches_own_their_messages : cachesOwnTheirMessages = true := rfl

/-! ## Two endpoints and the relay: every fault script -/

/-- A (client) and B (server) joined by the relay.  For every script of relay decisions — deliver,
    duplicate, drop, swap, replay of any message that ever was in flight —, calls of `Do` and one-way `WriteMessage`
    by A's application, sleeps and cache sweeps: every message either layer hands to its application is an arrival
    that carries no data block of its direction, handed on as it is, or exactly what the peer's application supplied
    under that token and ETag (body, other options, code).  One relay decision = one `Handle` call = one atomic step:
    that several goroutines working on one token are serialised this way — the handler included — is the guard
    discipline `guard_held_across_handler` (regenerated from the source) plus the concurrent correspondence
    `TestC04Guard`; calls on different tokens commute (`tokens_independent`).  The invariant (`WInv`) behind it: held bytes are
    prefixes, cached sending messages are whole supplied messages, everything that ever was on the wire is `GoodMsg`. -/
theorem system_safe {RA RB : Reg} (hdA : Discipline RA) (hdB : Discipline RB) (hreq : RegReq RB)
    (w : World) (hw : WInv RA RB w) (ops : List Op)
    (hops : ∀ r, (Op.doReq r ∈ ops ∨ Op.writeReq r ∈ ops) → ReqOK RB r) :
    WInv RA RB (World.run w ops).1 ∧
    ∀ s d, Event.deliver s d ∈ (World.run w ops).2 → NoData d ∨ Complete (regOf RA RB s) d.tok d :=
  ((winvSys_keeps hdA hdB hreq).run ops w (wInv_iff.mp hw) hops).imp_left wInv_iff.mpr

/-- the hypotheses are satisfiable: the instance `exWorld` (16-byte blocks, B answers the POST of token 7 with 40 bytes)
    satisfies the invariant, its registries the ETag discipline, the request is admissible … -/
example : WInv exRA exR exWorld ∧ Discipline exRA ∧ Discipline exR ∧ RegReq exR ∧ ReqOK exR exReq := by
  refine ⟨?_, by intro tok e s s' _ h2; simp [exRA] at h2, by intro tok e s s' _ h2; simp [exR] at h2, ?_, ?_⟩
  · exact {
      ia := by intro tok e he; simp [exWorld, Cache.empty] at he
      ib := by intro tok e he; simp [exWorld, Cache.empty] at he
      sa := by intro tok e he; simp [exWorld, Cache.empty] at he
      sb := by intro tok e he; simp [exWorld, Cache.empty] at he
      pk := by intro p hp; simp [exWorld] at hp
      ca := by unfold CfgOK; decide
      cb := by unfold CfgOK; decide
      app := by
        intro d x hx
        simp only [exWorld, exApp] at hx
        split at hx
        · rename_i hc
          injection hx with hx
          subst hx
          exact ⟨⟨by simp [exRA, hc.2], rfl, rfl⟩, trivial⟩
        · cases hx }
  · intro tok e s hs
    simp only [exR] at hs
    split at hs
    · injection hs with hs; subst hs; unfold ReqCode; decide
    · cases hs
  · exact ⟨⟨by simp [exR, exReq], rfl, rfl⟩, by unfold ReqCode; decide⟩

/-- … and the run is not empty: upload in three blocks, the first block of the response duplicated by the relay, two old
    messages replayed at the end.  B's application is handed the 40-byte request exactly once, A's the 40-byte
    response exactly once; what else reaches A's application are signals of the layer (4.08, 2.31) caused by the
    duplicates, handed on as they are. -/
example : exDeliveries (World.run exWorld
    ([.doReq exReq] ++ List.replicate 5 (.fault .deliver) ++ [.fault .dup] ++ List.replicate 12 (.fault .deliver) ++
     [.fault (.replay 0), .fault (.replay 4)] ++ List.replicate 4 (.fault .deliver))).2 =
    [(false, 2, 40, true), (true, 68, 40, true), (true, 136, 0, false), (true, 95, 0, false), (true, 95, 0, false)] := by decide +kernel

/-! ## Progress without faults (auxiliary: shows that the safety theorems are not vacuous; not part of the verdict) -/

/-- Request upload, equal non-BERT exponents.  One round of the transfer, for a symbolic
    block index `k`: (1) the receiver, holding exactly the first `k ≥ 1` blocks, appends block `k` and acknowledges it with
    2.31 — or, if the block ends the body, removes its entry and hands the complete body to the application;
    (2) the sender, on that acknowledgement, emits block `k+1`.  Chaining the two from block 0 completes a body of
    `n` blocks after `n` arrivals at the receiver (the instance after `faultfree_progress_block2` runs the whole loop). -/
theorem faultfree_progress_block1 (cfg : Cfg) (r : Msg) (hs : cfg.szx < 7) (hpp : isPostPut r.code = true) (htok : r.tok ≠ 0) :
    (∀ (ent : Entry) (now : Int) (app : App) (ms k : Nat), now ≤ ent.validUntil →
      ent.msg.body = r.body.take (k * sizeN cfg.szx) → k * sizeN cfg.szx ≤ r.body.length → ent.msg.etag = r.etag → k < 2 ^ 20 →
      0 < k →
      ((k + 1) * sizeN cfg.szx < r.body.length →
        handleS cfg ⟨none, some ent⟩ now (uploadBlock r cfg.szx ms k) app =
          (⟨none, some ⟨{ ent.msg with body := r.body.take ((k + 1) * sizeN cfg.szx) }, ent.validUntil⟩⟩,
           { reply := some (uploadAck r.tok cfg.szx k) })) ∧
      (r.body.length ≤ (k + 1) * sizeN cfg.szx →
        (handleS cfg ⟨none, some ent⟩ now (uploadBlock r cfg.szx ms k) app).1.rcv = none ∧
        (handleS cfg ⟨none, some ent⟩ now (uploadBlock r cfg.szx ms k) app).2.delivered =
          [{ ent.msg with body := r.body, block1 := none, size1 := none }])) ∧
    (∀ (exp now : Int) (rcv : Option Entry) (app : App) (k : Nat), now ≤ exp →
      (k + 1) * sizeN cfg.szx ≤ r.body.length → r.body.length < 4294967296 → k + 1 < 2 ^ 20 →
      handleS cfg ⟨some ⟨r, exp⟩, rcv⟩ now (uploadAck r.tok cfg.szx k) app =
        (⟨some ⟨r, exp⟩, rcv⟩, { reply := some (uploadBlock r cfg.szx cfg.maxSize (k + 1)) })) := by
  have hs7 := Nat.le_of_lt hs
  have hb := postput_sendBT hpp
  refine ⟨fun ent now app ms k hlive hheld hk hetag hnum hk0 => ?_, fun exp now rcv app k hlive hk hlen hnum => ?_⟩
  · have h := handleS_blockOf (sl := ⟨none, some ent⟩) app ms rfl hs (postput_dataBT hpp) htok (.inl rfl) (fun h => nomatch h.1)
      (live_fresh _ _ hlive) hheld hk hetag hnum hk0
    rw [uploadBlock_eq]
    exact ⟨fun hmore => h.1 _ hmore (blockReply_ack _ _ _ hs7 hnum), fun hlast => (h.2 hlast).1⟩
  · rw [uploadBlock_eq, handleS_serve (q := uploadAck r.tok cfg.szx k) app rfl hs htok hlive rfl (by rw [hb]; rfl) (Nat.lt_of_succ_lt hnum)
      (.inl ⟨hb, rfl⟩) hk (Nat.lt_of_lt_of_le (Nat.mul_pos (Nat.succ_pos k) (sizeN_pos hs7)) hk) hlen hnum,
      if_pos (.inr (postput_not_response hpp)), hb]

/-- Response download, equal non-BERT exponents.  One round for a symbolic block index
    `j`: (1) the responder, with the response cached — a response WITH a body: since repair F39 a cached message without
    body has no block, `bodyless_request_has_no_block` —, answers the request for block `j` with block `j` (and drops the
    cached response with the last block); (2) the requester, holding exactly the first `j ≥ 1` blocks, appends block `j`
    and asks for block `j+1` — or, if the block ends the body, removes its entry and hands the complete body on. -/
theorem faultfree_progress_block2 (cfg : Cfg) (resp req : Msg) (hs : cfg.szx < 7) (hrq : isRequest req.code = true)
    (hnopp : isPostPut resp.code = false) (hnr : isRequest resp.code = false) (hnsig : isSignal resp.code = false)
    (hncont : resp.code ≠ codeContinue) (hrc : resp.code > codeDELETE) (hb1 : resp.block1 = none)
    (htok : resp.tok ≠ 0) (hqtok : req.tok ≠ 0) :
    (∀ (exp now : Int) (rcv : Option Entry) (app : App) (j : Nat), now ≤ exp →
      j * sizeN cfg.szx ≤ resp.body.length → resp.body.length < 4294967296 → j < 2 ^ 20 → 0 < resp.body.length →
      handleS cfg ⟨some ⟨resp, exp⟩, rcv⟩ now (downloadReq req cfg.szx j) app =
        (if (j + 1) * sizeN cfg.szx < resp.body.length then ⟨some ⟨resp, exp⟩, rcv⟩ else ⟨none, rcv⟩,
         { reply := some (downloadBlock resp cfg.szx cfg.maxSize j) })) ∧
    (∀ (sexp : Int) (ent : Entry) (now : Int) (app : App) (ms j : Nat), now ≤ ent.validUntil → now ≤ sexp →
      ent.msg.body = resp.body.take (j * sizeN cfg.szx) → j * sizeN cfg.szx ≤ resp.body.length → ent.msg.etag = resp.etag →
      j + 1 < 2 ^ 20 → 0 < j →
      ((j + 1) * sizeN cfg.szx < resp.body.length →
        handleS cfg ⟨some ⟨req, sexp⟩, some ent⟩ now (downloadBlock resp cfg.szx ms j) app =
          (⟨some ⟨req, sexp⟩, some ⟨{ ent.msg with body := resp.body.take ((j + 1) * sizeN cfg.szx) }, ent.validUntil⟩⟩,
           { reply := some (downloadReq req cfg.szx (j + 1)) })) ∧
      (resp.body.length ≤ (j + 1) * sizeN cfg.szx →
        (handleS cfg ⟨some ⟨req, sexp⟩, some ent⟩ now (downloadBlock resp cfg.szx ms j) app).1.rcv = none ∧
        (handleS cfg ⟨some ⟨req, sexp⟩, some ent⟩ now (downloadBlock resp cfg.szx ms j) app).2.delivered =
          [{ ent.msg with body := resp.body, block2 := none, size2 := none }])) := by
  have hs7 := Nat.le_of_lt hs
  have hb : sendBT resp.code = .b2 := by unfold sendBT; rw [hnopp]; rfl
  have hresp : Lemmas.BlockwiseObserve.RespCode resp.code := ⟨hnopp, hnr, hnsig, hncont⟩
  refine ⟨fun exp now rcv app j hlive hj hlen hnum hne => ?_, fun sexp ent now app ms j hlive _ hheld hj hetag hnum hj0 => ?_⟩
  · rw [downloadBlock_eq, handleS_serve (q := downloadReq req cfg.szx j) app rfl hs hqtok hlive (downloadReq_continues _ _ hrq) (by rw [hb]; rfl) hnum
      (.inr ⟨hb, rfl⟩) hj hne hlen hnum, hb]
    simp only [hrc, not_true, or_false]
  · have h := handleS_blockOf (sl := ⟨some ⟨req, sexp⟩, some ent⟩) app ms rfl hs hresp.dataBT htok
      (.inr (Lemmas.BlockwiseObserve.wants_of_respCode (r := downloadBlock resp cfg.szx ms j) hresp)) (fun h => nomatch h.2)
      (live_fresh _ _ hlive) hheld hj hetag (Nat.lt_of_succ_lt hnum) hj0
    rw [downloadBlock_eq]
    exact ⟨fun hmore => h.1 _ hmore (blockReply_next req _ j hs7 hnum (Nat.mul_div_cancel _ (sizeN_pos hs7))),
      fun hlast => (h.2 hlast).1⟩

/-- the whole loop on an instance: a 40-byte POST (three 16-byte blocks) answered with 40 bytes (three blocks) completes in
    exactly 2·3 + 2·3 − 2 = 10 fault-free deliveries — both applications are handed the exact body, and A's call
    returns; after 9 deliveries the response has not been handed on yet. -/
example : exDeliveries (World.run exWorld ([.doReq exReq] ++ List.replicate 10 (.fault .deliver))).2 =
      [(false, 2, 40, true), (true, 68, 40, true)] ∧
    exDeliveries (World.run exWorld ([.doReq exReq] ++ List.replicate 9 (.fault .deliver))).2 = [(false, 2, 40, true)] ∧
    (World.run exWorld ([.doReq exReq] ++ List.replicate 10 (.fault .deliver))).1.pending = [] := by decide +kernel

/-! ## A continuation that arrives for a pending request without body (F39) -/

/-- Repair F39, /repo d633604 (`refusesBodylessSending`, regenerated).  `Do` registers every request in the sending cache, also one without body (GET, DELETE, an empty POST/PUT), which
    it then sends as it is (1).  While such a call is pending, ANY message of the peer under its token that takes the
    continue-sending path of `Handle` — it does not "want to be received": a 2.31 Continue, or a request-coded message with a
    Block2 option; whatever block options, numbers and payload it carries — produces no block, no reply at all and no delivery
    to the application: `createSendingMessage` refuses a message without body (before the repair it dereferenced the missing
    body: a panic in the goroutine that handles the message), the `errors` callback runs, the receiving slot is untouched and
    the sending entry of the token is dropped (2) — as after every failed continuation.  With the entry gone a later
    block-wise response to the request is no longer paired (`processReceived`: "cannot request body without paired request",
    4.08) and the call ends by its context: an error outcome caused by the peer's own stray message, not a wrong delivery
    (see docs/notes/C04.md). -/
theorem bodyless_request_has_no_block :
    (∀ (cfg : Cfg) (snd : Option Entry) (now : Int) (r : Msg), cfg.szx ≤ 7 → r.tok ≠ 0 → r.body = [] → live snd now = none →
      doStartS cfg snd now r = (some ⟨r, match r.deadline with | some d => d | none => never⟩, some r)) ∧
    (∀ (cfg : Cfg) (e : Entry) (rcv : Option Entry) (now : Int) (r' : Msg) (app : App),
      e.msg.body = [] → now ≤ e.validUntil → r'.tok ≠ 0 → wantsToBeReceived r' = false →
      handleS cfg ⟨some e, rcv⟩ now r' app = (⟨none, rcv⟩, { err := true })) := by
  constructor
  · intro cfg snd now r hs7 htok hbody hfree
    have hle : doDirectIsLe = true := rfl
    rw [doStartS_free hs7 htok hfree, if_pos (by simp [fits, hle, hbody])]
    rfl
  · intro cfg e rcv now r' app hbody hlive htok hw
    have hcont : continueSendingS cfg (some e) r' e.msg.code = none := by
      unfold continueSendingS
      cases r'.block (sendBT e.msg.code) with
      | none => rfl
      | some blk => exact createSendingWith_bodyless hbody _ _ _
    rw [handleS_continue htok (live_fresh e now hlive) hw, hcont]

/-- the pending GET of token 33 and the three shapes of the corpus case `f39_…`: a 2.31 with Block2, a 2.31 with Block1, a
    request-coded message with Block2 — error callback, nothing on the wire, nothing handed on, the entry is gone -/
example : (∀ r' ∈ [({ code := 95, tok := 33, block2 := some 8 } : Msg), { code := 95, tok := 33, block1 := some 8 },
      { code := 1, tok := 33, block2 := some 16 }],
      wantsToBeReceived r' = true ∨
      handleS { szx := 0, maxSize := 80, expiration := 3000 } ⟨some ⟨{ code := 1, tok := 33, other := [(11, [99])] }, 20000⟩, none⟩ 5 r' (fun _ => none) =
        (⟨none, none⟩, { err := true })) := by decide +kernel

/-! ## The two observations of DESIGN §6: O1 (before repair F10f) and O2 -/

/-- O1 / finding F10f.  (1) If `startSendingMessage` asks `createSendingMessage` for the "already sent" addend too
    (`startSkipsSent = true`: so it was until repair F10f, /repo 12810a0; the fact is regenerated as `false` since, and this
    clause says nothing about the repaired code), the first message of a one-way POST/PUT has a block number of at least 1;
    (2) so has every later one, which the continuation path cuts: it is the block after the acknowledged one; (3) a receiver
    that is fed only blocks that are not first blocks, in any order, any number of times, never hands anything to its
    application for that token.  Before the repair the three together meant that a one-way block-wise write of a request
    body delivered nothing, while `WriteMessage` returned success: the one-way style has no channel for "error or timeout"
    (see the judge's `oneway` clause). -/
theorem oneway_block1_never_completes :
    (startSkipsSent = true → ∀ {sm : Msg} {mx ms blk : Nat} {m : Msg} {more : Bool}, isPostPut sm.code = true → (mx < 7 ∨ 1024 ≤ ms) →
      createSendingFirst sm mx ms blk = some (m, more) → startOf m = 0) ∧
    (∀ {sm : Msg} {mx ms blk : Nat} {m : Msg} {more : Bool}, isPostPut sm.code = true → (mx < 7 ∨ 1024 ≤ ms) →
      createSending sm mx ms blk = some (m, more) → startOf m = 0) ∧
    (∀ (app : App) (tok : Nat), tok ≠ 0 → ∀ (ep : Endpoint) (as : List Arrival), ep.receiving tok = none →
      (∀ now r, Arrival.msg now r ∈ as → r.tok = tok → startOf r = 0) → deliveredFor app tok ep as = 0) := by
  refine ⟨fun hO1 => createSendingWith_block1_not_first hO1, createSendingWith_block1_not_first (skip := block1SkipsSent) rfl, ?_⟩
  intro app tok htok ep as hempty h
  have := once_from_empty app tok htok ep as hempty
  rw [startsFor_eq_zero h] at this
  exact Nat.le_zero.mp this

/-- O2.  With BERT on both sides a body of 1024 < length < buffer size goes out
    completely in the first block of `Do`, which is nevertheless flagged `more`; the block the peer's 2.31 then asks
    for starts behind the end of the body and `createSendingMessage` fails: the call ends by its context. -/
theorem bert_first_block_stalls (cfg : Cfg) (snd : Option Entry) (now : Int) (r : Msg)
    (hszx : cfg.szx = 7) (htok : r.tok ≠ 0) (hpp : isPostPut r.code = true) (hfree : live snd now = none)
    (hmax : cfg.maxSize < 4294967296) (h1 : 1024 < r.body.length) (h2 : r.body.length < bufLen 7 cfg.maxSize) :
    ∃ m, (doStartS cfg snd now r).2 = some m ∧ m.body = r.body ∧ m.block1 = some 15 ∧
      (∀ blk n0 m0, decodeBlock blk = .ok (7, n0, m0) → createSending r cfg.szx cfg.maxSize blk = none) := by
  have hsz : sizeN 7 = 1024 := by decide
  have hlen : r.body.length < 4294967296 := by
    have := (Props.C19.bert_buffer_multiple cfg.maxSize).2.1
    unfold bufLen at h2
    omega
  refine ⟨{ r with size1 := some r.body.length, block1 := some 15, body := r.body.take (bufLen 7 cfg.maxSize) }, ?_,
    List.take_of_length_le (Nat.le_of_lt h2), rfl, ?_⟩
  · have hle : doDirectIsLe = true := rfl
    have e4 : encodeBlock 7 0 true = .ok 15 := by decide
    rw [doStartS_free (Nat.le_of_eq hszx) htok hfree, hszx]
    simp [fits, hle, hsz, Nat.not_le.mpr h1, hpp, Nat.not_le.mpr hlen, e4]
  · intro blk n0 m0 hdec
    have hskip : block1SkipsSent = true := rfl
    unfold createSending createSendingWith
    simp only [hdec, hszx]
    unfold createSendingAt sendOffWith
    simp only [show getSzx 7 7 = 7 by decide, postput_sendBT hpp, hskip, beq_self_eq_true, Bool.and_self, if_true]
    have : bufLen 7 cfg.maxSize > 0 ∧ n0 * sizeN 7 + bufLen 7 cfg.maxSize > r.body.length := by omega
    simp [this]

end CoapVerif.Props.C04

section Audit
open CoapVerif.Props.C04
#print axioms slice_covers
#print axioms slice_available
#print axioms reassembly_prefix
#print axioms complete_eq
#print axioms no_partial_as_complete
#print axioms once
#print axioms once_from_empty
#print axioms once_if_first_block_arrives_once
#print axioms tokens_independent
#print axioms szx_negotiation_min
#print axioms etag_change_restarts
#print axioms token_reuse_restarts
#print axioms expiry_finite
#print axioms guard_held_across_handler
#print axioms deadlines_are_finite
#print axioms do_entry_lives_as_long_as_the_call
#print axioms caches_own_their_messages
#print axioms layer_per_connection
#print axioms datagram_read_buffer_is_mtu
#print axioms system_safe
#print axioms faultfree_progress_block1
#print axioms faultfree_progress_block2
#print axioms bodyless_request_has_no_block
#print axioms oneway_block1_never_completes
#print axioms bert_first_block_stalls
end Audit
