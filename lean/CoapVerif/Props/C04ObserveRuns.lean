import CoapVerif.Go.Basic
import CoapVerif.Model.Blockwise
import CoapVerif.Model.BlockwiseObserve
import CoapVerif.Lemmas.Blockwise
import CoapVerif.Lemmas.BlockwiseObserve
import CoapVerif.Lemmas.BlockwiseFrame
/-!
# C04, block-wise notifications under ARBITRARY arrivals

Statement (properties.jsonl, C04): "… Duplicated, stale, out-of-order or foreign-token blocks never corrupt, truncate or extend a
body, and concurrent transfers with different tokens never mix.  An exchange that cannot complete ends with an error or timeout —
never with a partial body presented as complete …"

(b) and (e) of `Props/C04Observe.lean`, there per step of an in-order fetch, for every `List ArrivalO`; the theorems restate
those of `Lemmas/BlockwiseFrame.lean` under the names the check knows:

* the FRAME of one `Handle` call of the observe-aware model (`handleO_frame`, `handleO_congr`): it leaves every key other than
  the token of the message and the scripted fresh token alone, and depends on the endpoint only through the configuration and the
  slots of these two keys (both from `Lemmas.BlockwiseFrame.handleO_local`: the call is ONE `put` under one of the two keys);
* `notifications_do_not_mix` (e): every interleaving of two fetches under distinct fresh tokens;
* `runO_body_exact`, `nothing_before_last_block` (b): the lift of `reassembly_prefix` / `no_partial_as_complete` to the fresh key —
  the invariant is keyed by the CACHE KEY and speaks about ETag and bytes only (`HeldB`, `GoodDataB`), because under the fresh
  key the held message carries the ORIGINAL token and the first block carries options the later blocks do not;
  `processReceivedMessage` never looks at either (`processReceived_invB`).

Standing hypotheses of this module: the receiving application answers the messages handed to it without a body (`AppBodyless`;
A's application in the system is `fun _ => none`), and a legal block-size exponent (`szx ≤ 7`); both are kept along runs.  The
frame and (e) need the first in substance: a completed notification is handed on under the ORIGINAL token, and a block-wise
answer to it would be stored in the sending slot of that token, which the first blocks of other fetches read.  The bound on the
exponent only spares a case (with an illegal exponent the receive path fails at `encodeBlock`).  (b) needs neither: the receiving
cache is written by `writeBack` alone and `startSendingMessage` touches the sending cache only, so `runO_body_exact` and
`nothing_before_last_block` hold for every application and exponent (`Lemmas.BlockwiseFrame.runO_invB`); their statements carry
the two hypotheses unused.
-/
namespace CoapVerif.Props.C04ObserveRuns
open CoapVerif CoapVerif.Model.Blockwise CoapVerif.Model.BlockOpt CoapVerif.Generated.BlockwiseXfer
open CoapVerif.Model.BlockwiseObserve CoapVerif.Lemmas.Blockwise CoapVerif.Lemmas.BlockwiseObserve
open CoapVerif.Lemmas.BlockwiseFrame

/-- One `Handle` call of the observe-aware model leaves the configuration and both cache slots of every key
    other than the message's token and the scripted fresh token unchanged; a message that is not an observe response leaves
    every key other than its own token unchanged, whatever the fresh token. -/
theorem handleO_frame (ep : Endpoint) (outside : Outside) (fresh : Nat) (now : Int) (r : Msg) (app : App)
    (hs7 : ep.szx ≤ 7) (happ : AppBodyless app) :
    (handleO ep outside fresh now r app).1.toCfg = ep.toCfg ∧
    (∀ k, k ≠ r.tok → k ≠ fresh → (handleO ep outside fresh now r app).1.slots k = ep.slots k) ∧
    (isObserveResponse r = false → ∀ k, k ≠ r.tok → (handleO ep outside fresh now r app).1.slots k = ep.slots k) :=
  Lemmas.BlockwiseFrame.handleO_frame ep outside fresh now r app hs7 happ

example : ((handleO xEp xOutside 900 0 (downloadBlock xN 0 64 0) (fun _ => none)).1.slots 900).rcv.isSome = true ∧
    (handleO xEp xOutside 900 0 (downloadBlock xN 0 64 0) (fun _ => none)).1.slots 901 = xEp.slots 901 := by decide +kernel

/-- … and what it does is determined by the configuration and the slots of these two keys: on two endpoints
    that agree on them the call produces the same reply, deliveries, error report and `drew`, and the results agree on every
    key the endpoints agreed on. -/
theorem handleO_congr (ep ep' : Endpoint) (outside : Outside) (fresh : Nat) (now : Int) (r : Msg) (app : App)
    (hs7 : ep.szx ≤ 7) (happ : AppBodyless app) (hc : ep.toCfg = ep'.toCfg) (hR : ep.slots r.tok = ep'.slots r.tok)
    (hF : ep.slots fresh = ep'.slots fresh) :
    (handleO ep outside fresh now r app).2 = (handleO ep' outside fresh now r app).2 ∧
    ∀ k, ep.slots k = ep'.slots k →
      (handleO ep outside fresh now r app).1.slots k = (handleO ep' outside fresh now r app).1.slots k :=
  Lemmas.BlockwiseFrame.handleO_congr ep ep' outside fresh now r app hs7 happ hc hR hF

/-- (e) Two notifications of the observation with token `T` (known to the observation table) are
    fetched under distinct fresh tokens `F ≠ G`, both different from `T`.  For EVERY interleaving `as` of arrivals of the two
    fetches — first blocks (observe responses for `T` that take the observe branch, scripted token `F` resp. `G`), any messages
    with token `F` resp. `G` that are not observe responses (any order, any number of times, anything missing), sweeps anywhere
    (they belong to both) — from EVERY state: what is handed to the application while `F`'s arrivals are handled (`runSel`) is
    exactly what the run over `F`'s arrivals ALONE hands on, the slots of `F` end up the same, and likewise for `G`.
    (`runSel_filter` is the general form: any number of other fetches and exchanges on other tokens in between.) -/
theorem notifications_do_not_mix (app : App) (outside : Outside) (T F G : Nat) (hFG : F ≠ G) (hFT : F ≠ T) (hGT : G ≠ T)
    (hout : (outside T).isSome = true) (happ : AppBodyless app) (ep : Endpoint) (hs7 : ep.szx ≤ 7) (as : List ArrivalO)
    (hall : ∀ x ∈ as, mine T F x = true ∨ mine T G x = true) :
    (runSel (mine T F) app outside ep as = (runO app outside ep (as.filter (mine T F))).2 ∧
     (runO app outside ep as).1.slots F = (runO app outside ep (as.filter (mine T F))).1.slots F) ∧
    (runSel (mine T G) app outside ep as = (runO app outside ep (as.filter (mine T G))).2 ∧
     (runO app outside ep as).1.slots G = (runO app outside ep (as.filter (mine T G))).1.slots G) :=
  Lemmas.BlockwiseFrame.notifications_do_not_mix app outside T F G hFG hFT hGT hout happ ep hs7 as hall

/-- the general form: arrivals of `F`'s fetch among arbitrary `Foreign` ones -/
theorem notifications_do_not_mix_general (app : App) (outside : Outside) (T F : Nat) (happ : AppBodyless app) (as : List ArrivalO)
    (a b : Endpoint) (hs7 : a.szx ≤ 7) (hab : Agree T F a b) (hall : ∀ x ∈ as, mine T F x = true ∨ Foreign outside T F x) :
    runSel (mine T F) app outside a as = (runO app outside b (as.filter (mine T F))).2 ∧
    Agree T F (runO app outside a as).1 (runO app outside b (as.filter (mine T F))).1 :=
  runSel_filter app outside T F happ as a b hs7 hab hall

/-- non-vacuity: two notifications of the observation of token 7 fetched under 900 and 901 in lock step with a sweep in between
    satisfy the hypotheses; each projection delivers its own body -/
example : (∀ x ∈ xAs, mine 7 900 x = true ∨ mine 7 901 x = true) ∧ (xOutside 7).isSome = true ∧
    (runSel (mine 7 900) (fun _ => none) xOutside xEp xAs).map (·.body) = [exBody] ∧
    (runSel (mine 7 901) (fun _ => none) xOutside xEp xAs).map (·.body) = [exRespBody] ∧
    (runO (fun _ => none) xOutside xEp (xAs.filter (mine 7 900))).2.map (·.body) = [exBody] :=
  ⟨by decide +kernel, by decide, xAs_runs⟩

/-- (b) in its general form.  From any state whose receiving cache satisfies `EpInvB` (what is held under a
    key is a prefix of the body registered under THAT KEY and the held ETag; empty caches in particular), for EVERY list of
    arrivals (any order, duplicates, losses, any tokens in between, any scripted fresh tokens, sweeps) whose data blocks are
    aligned slices of what is registered for the cache key they are filed under (`GoodArrB`: the message's token, or the
    scripted fresh token for an observe response): every message handed to the application is one of the arrived messages
    handed on unassembled, or carries exactly the complete body registered under the key it was reassembled under and its
    ETag — never a part of a body, never a mixture; and the invariant holds at the end. -/
theorem runO_body_exact {R : Reg} (hd : Discipline R) (app : App) (outside : Outside) (happ : AppBodyless app) (as : List ArrivalO)
    (ep : Endpoint) (hs7 : ep.szx ≤ 7) (hinv : EpInvB R ep) (hall : ∀ a ∈ as, GoodArrB R a) :
    EpInvB R (runO app outside ep as).1 ∧
    ∀ d ∈ (runO app outside ep as).2,
      ∃ now r fr, ArrivalO.msg now r fr ∈ as ∧ ((d = r ∧ PassThrough r) ∨ CompleteB R r.tok d ∨ CompleteB R fr d) :=
  Lemmas.BlockwiseFrame.runO_body_exact hd app outside happ as ep hs7 hinv hall

/-- (b) Arbitrary arrivals.  A notification `N` is fetched under the fresh key `F`.  For EVERY list
    of arrivals whose data blocks — where they are reassembled at all — are filed under `F` and are aligned slices of `N`'s body
    with `N`'s ETag (nothing else is registered; messages without block option, signals, GET / DELETE are free), from any state
    satisfying the invariant: every message handed to the application is an arrived message handed on as it is, or carries
    `N`'s ETag and exactly `N`'s complete body.  What the delivered message's OPTIONS are is not claimed here: in order they are
    `N`'s (`notification_delivered_in_order`); after a restart by a stray block 0 or an ETag change under `F` they are those of
    the GET answer (docs/notes/C04.md, "The resource changes between a notification and its follow-up fetch"). -/
theorem nothing_before_last_block (F : Nat) (N : Msg) (app : App) (outside : Outside) (happ : AppBodyless app) (as : List ArrivalO)
    (ep : Endpoint) (hs7 : ep.szx ≤ 7) (hinv : EpInvB (regOne F N) ep) (hall : ∀ a ∈ as, GoodArrB (regOne F N) a) :
    ∀ d ∈ (runO app outside ep as).2,
      (∃ now r fr, ArrivalO.msg now r fr ∈ as ∧ d = r ∧ PassThrough r) ∨ (d.etag = N.etag ∧ d.body = N.body) :=
  Lemmas.BlockwiseFrame.nothing_before_last_block F N app outside happ as ep hs7 hinv hall

/-- non-vacuity: first block, block 1, a duplicate of block 1, a sweep, block 2 — the body IS delivered; `GoodArrB` is shown for
    block 1 here, for all five arrivals by the example after `xAsF_run` in `Lemmas/BlockwiseFrame.lean` -/
example : EpInvB (regOne 900 xN) xEp ∧ (runO (fun _ => none) xOutside xEp xAsF).2.map (·.body) = [exBody] ∧
    GoodArrB (regOne 900 xN) (.msg 1 (downloadBlock xR 0 64 1) 0) :=
  ⟨epInvB_empty _ _ (fun _ => rfl), xAsF_run,
   fun _ => goodDataB_downloadBlock _ _ xR _ 0 64 1 (by decide) (by decide) (by decide) rfl rfl, fun h => absurd h (by decide)⟩

end CoapVerif.Props.C04ObserveRuns

section Audit
open CoapVerif.Props.C04ObserveRuns
#print axioms handleO_frame
#print axioms handleO_congr
#print axioms notifications_do_not_mix
#print axioms notifications_do_not_mix_general
#print axioms runO_body_exact
#print axioms nothing_before_last_block
end Audit
