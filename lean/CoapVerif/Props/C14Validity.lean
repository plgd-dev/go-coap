import CoapVerif.Props.C14
/-!
# C14 — an element is live up to its validity, however far away that validity is

Statement (properties.jsonl): … among concurrent store-if-absent calls on an absent (or expired) key exactly one reports having
stored and all others observe that value … and the expiry sweep never removes or replaces an entry that has not expired.

"Expired" is a comparison of two instants, `now.After(validUntil)`.  The validity is a `time.Time` that callers choose freely:
`BlockWise.Do` passes the deadline of the request's context, `handleSendingMessage` / `getValidUntil` the same or
`now + timeout`; `time.Now().Add(math.MaxInt64)` ("practically never") is an ordinary value of that type and lies in the year
2292+, beyond 2262-04-11T23:47:16Z where a count of nanoseconds since 1970 stops fitting 64 bits.  The model keeps the validity
as an unbounded natural number (`Val.vu`, seconds after the origin of the harness' clock), so the theorems below hold for EVERY
validity: an entry whose validity has not passed is found by `Cache.Load`, wins `Cache.LoadOrStore` (the caller observes it, and
`loaded` is true unless the caller offered that very element) and survives every step of every sweep whose `now` has not passed it — no bound on `vu`, in particular not
2^63 nanoseconds.  The real code is held to the same by the generated programs of checks/c14.py on validities at both sides of
the int64-nanosecond edge, in 2263 and at clock + math.MaxInt64 ns (its constants `VU_*`, seconds from the clock origin
2000-01-01 of testing/synctest; the examples below use their values).
Seeded change C14-V (validity kept as int64 Unix nanoseconds: such an instant wraps into the 17th century) is what this rejects:
`c9:store:1:5@9223372036 r9:- … c0:cload:1 r0:v=nil`.
-/
namespace CoapVerif.Props.C14Validity
open CoapVerif.Spec.SeqMap CoapVerif.Model.SyncMap CoapVerif.Model.Cache CoapVerif.Model.SyncSystem CoapVerif.Props.C14
open CoapVerif.Lemmas.SyncMap

/-- `Element.IsExpired(now)` is exactly "a validity is set and `now` is later": nothing else about the magnitude of either
    instant enters. -/
theorem expired_iff (v : Val) (now : Nat) : v.expired now = true ↔ v.vu ≠ 0 ∧ v.vu < now := by
  simp [Val.expired]

/-- … so an element is live at every instant up to and including its validity, whatever the validity is. -/
theorem live_until_validity (v : Val) (now : Nat) (h : now ≤ v.vu) : v.expired now = false := by
  cases hx : v.expired now with
  | false => rfl
  | true => have := (expired_iff v now).1 hx; omega

/-- `Cache.Load` finds an entry whose validity has not passed. -/
theorem live_entry_is_found (k : Nat) (o : Val) (now : Nat) (m : Entries) (hk : mget k m = some o) (h : now ≤ o.vu) :
    cacheLoadSection k now m = .opt (some o) := by
  simp [cacheLoadSection, hk, live_until_validity o now h]

/-- `Cache.LoadOrStore` on a key whose entry has not passed its validity: the entry stays, the caller observes it, and
    `loaded` is true for every caller that offered another element — no second "stored". -/
theorem live_entry_wins (k : Nat) (o e : Val) (now : Nat) (m : Entries) (hk : mget k m = some o) (h : now ≤ o.vu) :
    (cacheLoadOrStoreSection k e now m).2 = .stored o (o != e) ∧ mget k (cacheLoadOrStoreSection k e now m).1 = some o :=
  (cacheLoadOrStore_one_winner k e now m).2 o hk (live_until_validity o now h)

/-- The sweep: whatever step a running `CheckExpirations(now)` takes, in whatever state the other threads have left the map,
    an entry whose validity `now` has not passed is still there afterwards, unchanged. -/
theorem live_entry_survives_sweep (l : L) (d : MState) (t : Nat) (ht : sweepTime l d = some t) (hnd : NoDupKeys d.data)
    (k : Nat) (o : Val) (hk : mget k d.data = some o) (h : t ≤ o.vu) : mget k (step l d).1.data = some o := by
  have hs := (sweep_only_expired l d t ht hnd).2 k
  rcases hs with hs | ⟨e, he, hx, _⟩
  · rw [hs, hk]
  · rw [hk] at he
    cases he
    rw [live_until_validity o t h] at hx
    cases hx

/-- … and the write-locked section of the sweep itself reports "not removed" for it (its `onExpire` does not run). -/
theorem live_entry_not_handed_to_onExpire (k : Nat) (o e : Val) (t : Nat) (m : Entries) (hk : mget k m = some o) (h : t ≤ o.vu) :
    (expireSection k e t m).2 = false ∧ mget k (expireSection k e t m).1 = some o := by
  have hx := live_until_validity o t h
  simp [expireSection, hk, hx, mget_mset]

/-! non-vacuity, at the values the generated programs use: clock + math.MaxInt64 ns (9223372036 s) and the first second beyond
    int64 Unix nanoseconds (8276687237 s after 2000-01-01) -/
example : cacheLoadSection 1 10 [(1, ⟨5, 9223372036⟩)] = .opt (some ⟨5, 9223372036⟩) := by decide +kernel
example : cacheLoadOrStoreSection 1 ⟨6, 110⟩ 10 [(1, ⟨5, 8276687237⟩)] = ([(1, ⟨5, 8276687237⟩)], .stored ⟨5, 8276687237⟩ true) := by decide +kernel
example : expireSection 1 ⟨5, 9223372036⟩ 9000000000 [(1, ⟨5, 9223372036⟩)] = ([(1, ⟨5, 9223372036⟩)], false) := by decide +kernel
/-- a sweep whose `now` is later still does remove it (the hypothesis `t ≤ o.vu` is needed) -/
example : expireSection 1 ⟨5, 8300000000⟩ 9000000000 [(1, ⟨5, 8300000000⟩)] = ([], true) := by decide +kernel
/-- what the judge rejects (observed under seeded C14-V): the live entry is not found -/
example : judge [.call 9 (.store 1 ⟨5, 9223372036⟩), .ret 9 .unit, .call 0 (.cacheLoad 1), .ret 0 (.opt none)] = false := by decide +kernel
example : judge [.call 9 (.store 1 ⟨5, 9223372036⟩), .ret 9 .unit, .call 0 (.cacheLoad 1), .ret 0 (.opt (some ⟨5, 9223372036⟩))] = true := by decide +kernel

end CoapVerif.Props.C14Validity

section Audit
open CoapVerif.Props.C14Validity
#print axioms expired_iff
#print axioms live_until_validity
#print axioms live_entry_is_found
#print axioms live_entry_wins
#print axioms live_entry_survives_sweep
#print axioms live_entry_not_handed_to_onExpire
end Audit
