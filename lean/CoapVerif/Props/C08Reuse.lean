import CoapVerif.Props.C08
import CoapVerif.Model.ObserveReuse
/-!
# C08 — second use of the request message of a registration

Statement (properties.jsonl, last clause): "… and once cancellation has returned (or registration has failed) no
notification arriving later reaches the callback."

`Props/C08.silent_after_failure` proves it for table-level histories whose `regDone` / `regAbort` / `cancel` events name
the token of their registration (`consistent`).  Here the hypothesis is discharged for the application-level machine of
`Model/ObserveReuse.lean`, in which a handle works with the token VALUE stored at registration and the application may
write any other token into its request message at any time (`reuse id tok`: the second use of the message object):

* `arun_eq_run_lowered` — an application-level history produces exactly the observations of its table-level history;
  `reuse` events vanish from it (they change the caller's message and nothing else);
* `lowered_consistent` — that table-level history is consistent, whatever was written into the messages;
* `silent_after_cancel_whatever_reuse` — hence for EVERY application-level history, once `regErr id` / `cancelled id` was
  output no `cb id` follows; `cancel_takes_effect_whatever_reuse` — after any history, `cancel id` leaves no entry of
  identity `id` in the table (invariant `arun_tokOK`: every entry sits under the token its identity registered with);
* the same lift for freshness and own-token (`delivered_fresh_whatever_reuse`, `own_token_whatever_reuse`).

Negative shape (the examples on `arunAlias` at the end): in the machine in which the observation object shares the token
bytes of the caller's message (`astepAlias`), `reg 7 … reuse 0 9, reuse 0 8, cancel 0` looks under 8, removes nothing, and
the next notification on 7 reaches the callback of registration 0 although its Cancel has returned.  Which of the two machines the code is, is tied by
the harness (`reuse` lines, `checks/c08.py`): the seeded change that makes `pool.Message.Token()` return the internal slice
turns the code into `astepAlias` and is reported with a concrete history.
-/
namespace CoapVerif.Props.C08Reuse
open CoapVerif CoapVerif.Model.Observe CoapVerif.Props.C08 CoapVerif.Lemmas.Observe
open CoapVerif.Spec.Observe (judgeSilentF Obs judgeFresh judgeOwnToken)

theorem bookkeeping_base (s : AState) (e : AEv) : (bookkeeping s e).base = s.base := by
  cases e <;> rfl

theorem bookkeeping_stored (s : AState) (e : AEv) :
    (bookkeeping s e).stored = (match e with | .reg tok => s.stored ++ [tok] | _ => s.stored) := by
  cases e <;> rfl

/-- an application-level history produces exactly the observations of its table-level history -/
theorem arun_eq_run_lowered (evs : List AEv) : ∀ s : AState,
    (arun s evs).2 = (run s.base (lowerAll s.stored evs)).2 := by
  induction evs with
  | nil => intro s; rfl
  | cons e es ih =>
    intro s
    simp only [arun, lowerAll]
    cases h : lower s.stored e with
    | none =>
      have h1 : astep s e = (bookkeeping s e, []) := by simp only [astep, h]
      rw [h1, ih]
      simp only [bookkeeping_base, bookkeeping_stored, List.nil_append]
      cases e <;> rfl
    | some ev =>
      have h1 : astep s e = (bookkeeping { s with base := (step s.base ev).1 } e, (step s.base ev).2) := by
        simp only [astep, h]
      rw [h1, ih, isRun.cons]
      simp only [bookkeeping_base, bookkeeping_stored]
      cases e <;> rfl

/-- the table-level history of an application-level history names, in every continuation of a registration, the token that
    registration was entered with - whatever the application wrote into its messages -/
theorem lowered_consistent (evs : List AEv) : ∀ toks : List Nat, consistent toks (lowerAll toks evs) = true := by
  induction evs with
  | nil => intro toks; rfl
  | cons e es ih =>
    intro toks
    cases e with
    | reg tok => simp only [lowerAll, lower, consistent]; exact ih _
    | arrive tok code seq now tag => simp only [lowerAll, lower, consistent]; exact ih _
    | reuse id tok => simp only [lowerAll, lower]; exact ih _
    | regDone id | regAbort id | cancel id =>
      -- a continuation is lowered with the token stored for `id`, which is the one `consistent` asks for
      cases h : toks[id]? with
      | none => simp only [lowerAll, lower, h, Option.map]; exact ih _
      | some t => simp only [lowerAll, lower, h, Option.map, consistent, beq_self_eq_true, Bool.true_and]; exact ih _

/-- **Silence after cancellation / failed registration, whatever the application does to its request messages.**
    For every application-level history - registrations, arrivals in any order, completions, aborts, cancellations and
    second uses of request messages at any point - once registration `id` reported an error or its clean-up took effect, its
    callback is never invoked again. -/
theorem silent_after_cancel_whatever_reuse (id : Nat) (evs : List AEv) :
    judgeSilentF id false (arun {} evs).2 = true := by
  rw [arun_eq_run_lowered]
  exact silent_after_failure id _ (lowered_consistent evs [])

theorem delivered_fresh_whatever_reuse (id : Nat) (evs : List AEv) : judgeFresh id none (arun {} evs).2 = true := by
  rw [arun_eq_run_lowered]; exact delivered_fresh id _

theorem own_token_whatever_reuse (evs : List AEv) : judgeOwnToken [] (arun {} evs).2 = true := by
  rw [arun_eq_run_lowered]; exact own_token_only _

/-- after `cancel id` the table holds no entry of identity `id` (in a state in which every entry sits under the token its
    identity registered with - `arun_tokOK`: every reachable state) -/
theorem cancel_removes_own_entry (s : AState) (id : Nat) (h : TokOK s.base s.stored) :
    ∀ e ∈ (astep s (.cancel id)).1.base.table, e.id ≠ id := by
  cases hs : s.stored[id]? with
  | none =>
    intro e he hid
    have h1 : (astep s (.cancel id)).1 = s := by simp [astep, lower, hs, bookkeeping]
    have := h.2 e (h1 ▸ he)
    rw [hid, hs] at this
    cases this
  | some t =>
    have h1 : (astep s (.cancel id)).1.base.table = remove s.base.table t := by
      simp only [astep, lower, hs, Option.map, bookkeeping, step_cancel]
    rw [h1]
    exact (gone_remove_of_tokOK h hs []).absent

theorem astep_tokOK (s : AState) (e : AEv) (h : TokOK s.base s.stored) :
    TokOK (astep s e).1.base (astep s e).1.stored := by
  cases e with
  | reg tok => simpa [astep, lower, bookkeeping] using step_tokOK h (.reg tok)
  | arrive tok code seq now tag => simpa [astep, lower, bookkeeping] using step_tokOK h (.arrive tok code seq now tag)
  | reuse id tok => simpa [astep, lower, bookkeeping] using h
  | regDone id | regAbort id | cancel id =>
    cases hs : s.stored[id]? with
    | none => simpa [astep, lower, hs, bookkeeping] using h
    | some t => simp only [astep, lower, hs, Option.map, bookkeeping]; exact step_tokOK h _

/-- every reachable state of the application-level machine keeps every entry under the token its identity registered with -/
theorem arun_tokOK (evs : List AEv) : ∀ s : AState, TokOK s.base s.stored →
    TokOK (arun s evs).1.base (arun s evs).1.stored := by
  induction evs with
  | nil => intro s h; exact h
  | cons e es ih => intro s h; simp only [arun]; exact ih _ (astep_tokOK s e h)

/-- **Cancellation removes the registration's own entry, whatever the caller did to its message.**  After any
    application-level history, `cancel id` leaves no entry of identity `id` in the table. -/
theorem cancel_takes_effect_whatever_reuse (evs : List AEv) (id : Nat) :
    ∀ e ∈ (astep (arun {} evs).1 (.cancel id)).1.base.table, e.id ≠ id :=
  cancel_removes_own_entry _ id (arun_tokOK evs {} ⟨rfl, by simp⟩)

/-- register on 7, first notification, the request message is used again twice (tokens 9, then 8), cancel: the clean-up takes
    effect (`cancelled 0`) and the next notification on 7 goes to the default handler -/
example : (arun {} [.reg 7, .arrive 7 69 (some 5) 0 1, .regDone 0, .reuse 0 9, .reuse 0 8, .cancel 0, .arrive 7 69 (some 6) 1 2]).2
    = [.registered 0 7, .cb 0 7 (some 5) 0 1, .regOk 0, .cancelled 0, .toDefault 7 2] := by decide +kernel

/-- the aliasing machine on the same history: Cancel looks under 8, nothing is removed, the notification reaches callback 0 -/
example : (arunAlias {} [.reg 7, .arrive 7 69 (some 5) 0 1, .regDone 0, .reuse 0 9, .reuse 0 8, .cancel 0, .arrive 7 69 (some 6) 1 2]).2
    = [.registered 0 7, .cb 0 7 (some 5) 0 1, .regOk 0, .cb 0 7 (some 6) 1 2] := by decide +kernel

/-- … and when the other token belongs to a live observation, that one is removed instead -/
example : (arunAlias {} [.reg 8, .arrive 8 69 (some 1) 0 1, .regDone 0, .reg 7, .arrive 7 69 (some 5) 1 2, .regDone 1, .reuse 1 8,
      .cancel 1, .arrive 8 69 (some 2) 2 3, .arrive 7 69 (some 6) 3 4]).2
    = [.registered 0 8, .cb 0 8 (some 1) 0 1, .regOk 0, .registered 1 7, .cb 1 7 (some 5) 1 2, .regOk 1, .cancelled 0,
       .toDefault 8 3, .cb 1 7 (some 6) 3 4] := by decide +kernel

example : (arun {} [.reg 8, .arrive 8 69 (some 1) 0 1, .regDone 0, .reg 7, .arrive 7 69 (some 5) 1 2, .regDone 1, .reuse 1 8,
      .cancel 1, .arrive 8 69 (some 2) 2 3, .arrive 7 69 (some 6) 3 4]).2
    = [.registered 0 8, .cb 0 8 (some 1) 0 1, .regOk 0, .registered 1 7, .cb 1 7 (some 5) 1 2, .regOk 1, .cancelled 1,
       .cb 0 8 (some 2) 2 3, .toDefault 7 4] := by decide +kernel

/-- the entry is there before the cancellation and gone after it (the aliasing machine keeps it) -/
example : ((arun {} [.reg 7, .arrive 7 69 (some 5) 0 1, .regDone 0, .reuse 0 9]).1.base.table.map (·.id),
           (astep (arun {} [.reg 7, .arrive 7 69 (some 5) 0 1, .regDone 0, .reuse 0 9]).1 (.cancel 0)).1.base.table.map (·.id),
           (astepAlias (arunAlias {} [.reg 7, .arrive 7 69 (some 5) 0 1, .regDone 0, .reuse 0 9]).1 (.cancel 0)).1.base.table.map (·.id))
    = ([0], [], [0]) := by decide +kernel

end CoapVerif.Props.C08Reuse

section Audit
open CoapVerif.Props.C08Reuse
#print axioms bookkeeping_base
#print axioms bookkeeping_stored
#print axioms arun_eq_run_lowered
#print axioms lowered_consistent
#print axioms silent_after_cancel_whatever_reuse
#print axioms delivered_fresh_whatever_reuse
#print axioms own_token_whatever_reuse
#print axioms cancel_removes_own_entry
#print axioms astep_tokOK
#print axioms arun_tokOK
#print axioms cancel_takes_effect_whatever_reuse
end Audit
