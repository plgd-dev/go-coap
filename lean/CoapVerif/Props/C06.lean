import CoapVerif.Go.Basic
import CoapVerif.Model.Retransmit
import CoapVerif.Lemmas.Retransmit
/-!
# C06 — confirmable requests are retransmitted correctly and boundedly

Statement (properties.jsonl): a confirmable request issued through the client API is transmitted once
and then re-sent only while it is unacknowledged: at most MAX_RETRANSMIT further copies, the k-th copy
no earlier than k × ACK_TIMEOUT after the first, every copy byte-identical, and no copy after an
acknowledgement, a reset, the caller's cancellation or the return of the call.  If any one copy reaches
the peer and the matching acknowledgement/response gets back before the attempts are exhausted, the
request call succeeds with that response; exhaustion of the attempts or a reset never produces a
successful response.

The theorems are about `Model.Retransmit.run P evs` for **every** parameter triple
`P = (ACK_TIMEOUT, MAX_RETRANSMIT, NSTART)` and **every** list of events: calls being made (with or
without deadline), time passing, housekeeping ticks with any caller-chosen `now` (so every tick timing
and, losses being the absence of events, every loss pattern), messages carrying a pending message ID
coming back (acknowledgement, reset, piggybacked response), separate responses (which wake the writer of a
still pending request, F21), cancellations /
deadlines, edits of the caller's request.  The log lists entries most recent first: in
`pre ++ x :: post`, `post` is what happened before `x`.

The comparison of the exhaustion test (`retransmit >= maxRetransmit`) and the addend of the
retransmission test (`retransmit + 1`) are regenerated from the AST; the proofs in `Lemmas/Retransmit`
(`lt_of_kept_due`, `spacing_of_due`) reduce with these generated values and stop checking if the code
changes them.  The theorems about the *full* window of the last copy (defect F30) live in `Props/C06Window.lean`:
they need the regenerated `exhaustionWaitsLastTimeout`, as does the simulation of the judge (`Lemmas/RetransmitWindow.lean:
dropped_iff`, hence Props/C06Judge.lean and Props/C06Busy.lean); the theorems of this file check without it.
-/
namespace CoapVerif.Props.C06
open CoapVerif CoapVerif.Model.Retransmit CoapVerif.Lemmas.Retransmit CoapVerif.Generated.Retransmit

/-! ## regenerated shape facts the model follows -/

theorem shape_agrees :
    expiredWhenGE = true ∧ deadlineStrict = true ∧ retransmitAddend = 1 ∧ expiryBeforeRetransmit = true ∧
    recvRemovesByMID = true ∧ storesClone = true ∧ deferredRemovalByMID = true ∧ responseWakesWriter = true ∧
    dropsInPassOfLastCopy = false := by decide

/-- The parameters `P` of the theorems are the parameters the user configured: `options.WithTransmission` writes
    NSTART, ACK_TIMEOUT and MAX_RETRANSMIT verbatim (also the value 0) into the client / server configuration, and
    `dtls/server.createConn` / `udp/server.getOrCreateConn` copy all three into the configuration of the connections
    they create.  (The behaviour itself is checked by the harness levels `opt` and `dtlssrv`.) -/
theorem configured_parameters_reach_the_connection :
    transmissionOptCopiesVerbatim = true ∧ dtlsServerConnTakesTransmission = true ∧
    udpServerConnTakesTransmission = true := by decide

/-! ## bounded, spaced, identical copies -/

/-- At most `1 + MAX_RETRANSMIT` transmissions of any request, whatever happens. -/
theorem copies_bounded (P : Params) (evs : List Ev) (id : Nat) :
    txCount (run P evs).log id ≤ 1 + P.maxRetransmit := by
  have := (inv_run P evs).bound id
  omega

/-- The label `k` carried by a transmission entry is the number of earlier transmissions of the same request:
    the entry really is the k-th copy. -/
theorem copy_is_kth (P : Params) (evs : List Ev) (pre post : List Entry) (id k t m : Nat)
    (h : (run P evs).log = pre ++ .tx id k t m :: post) : k = txCount post id := by
  have := (inv_run P evs).lab
  rw [h] at this
  exact lab_split pre id k t m post this

/-- The k-th copy (k ≥ 1) is made at a housekeeping time strictly later than `k × ACK_TIMEOUT` after the first. -/
theorem copy_spacing (P : Params) (evs : List Ev) (id k t m : Nat)
    (h : Entry.tx id k t m ∈ (run P evs).log) (hk : 1 ≤ k) :
    ∃ t0 m0, Entry.tx id 0 t0 m0 ∈ (run P evs).log ∧ t0 + k * P.ackTimeout < t :=
  ((inv_run P evs).sent id k t m h).spacing hk

/-- No copy carries a label above `MAX_RETRANSMIT`. -/
theorem copy_index_bounded (P : Params) (evs : List Ev) (id k t m : Nat)
    (h : Entry.tx id k t m ∈ (run P evs).log) : k ≤ P.maxRetransmit :=
  ((inv_run P evs).sent id k t m h).index_le

/-! The code has **two sources** for the bytes of a request: the first datagram is written from the caller's own
`*pool.Message` (`session.WriteMessage(req)`, after the NSTART wait), every retransmission from the private clone
that `prepareWriteMessage` took when the call was made (before the wait).  The model keeps them apart
(`Call.req`, edited by the event `mut`, and `Call.msg`).  The message handed to `Do` belongs to the call until
`Do` returns — `pool.Message` is not safe for concurrent use, an edit during the call is a data race — so
"the caller does not touch the message while the call runs" is a precondition of the API; the only edits that
matter are those made while the request is still queued for its NSTART slot (ghost flag `touched`). -/

/-- All retransmissions (copies 1, 2, …) of a request carry the same bytes — the clone — **whatever** the caller
    does to its message, at any time. -/
theorem retransmissions_identical (P : Params) (evs : List Ev) (id k t m k' t' m' : Nat)
    (h : Entry.tx id k t m ∈ (run P evs).log) (h' : Entry.tx id k' t' m' ∈ (run P evs).log)
    (hk : 1 ≤ k) (hk' : 1 ≤ k') : m = m' := by
  have hi := inv_run P evs
  obtain ⟨c, hc, h1, h2, _⟩ := (hi.sent id k t m h).msg
  obtain ⟨c', hc', h1', h2', _⟩ := (hi.sent id k' t' m' h').msg
  have := eq_of_id_eq hi.ids hc hc' (by rw [h1, h1'])
  rw [← h2 hk, ← h2' hk', this]

/-- Every copy of a request, the first transmission included, carries the same bytes, **provided the caller did not
    edit its message while the request was queued for an NSTART slot** (`touched = false`).  Edits made after the
    first transmission do not matter (they do not set the flag). -/
theorem copies_identical (P : Params) (evs : List Ev) (id k t m k' t' m' : Nat)
    (h : Entry.tx id k t m ∈ (run P evs).log) (h' : Entry.tx id k' t' m' ∈ (run P evs).log)
    (huntouched : ∀ c ∈ (run P evs).calls, c.id = id → c.touched = false) : m = m' := by
  have hi := inv_run P evs
  obtain ⟨c, hc, h1, h2, h3⟩ := (hi.sent id k t m h).msg
  obtain ⟨c', hc', h1', h2', h3'⟩ := (hi.sent id k' t' m' h').msg
  have hcc := eq_of_id_eq hi.ids hc hc' (by rw [h1, h1'])
  subst hcc
  have ht := huntouched c hc h1
  have e1 : c.msg = m := by
    rcases Nat.eq_zero_or_pos k with hk | hk
    · exact h3 hk ht
    · exact h2 hk
  have e2 : c.msg = m' := by
    rcases Nat.eq_zero_or_pos k' with hk | hk
    · exact h3' hk ht
    · exact h2' hk
  rw [← e1, ← e2]

/-- The flag is raised by an edit of that request's message only: if the caller never edits the message of request
    `id` during the run, all copies of `id` are identical. -/
theorem copies_identical_if_not_edited (P : Params) (evs : List Ev) (id k t m k' t' m' : Nat)
    (h : Entry.tx id k t m ∈ (run P evs).log) (h' : Entry.tx id k' t' m' ∈ (run P evs).log)
    (hno : ∀ x, Ev.mut id x ∉ evs) : m = m' := by
  refine copies_identical P evs id k t m k' t' m' h h' (fun c hc hid => ?_)
  cases ht : c.touched with
  | false => rfl
  | true =>
    obtain ⟨x, hx⟩ := ((traced_run P evs).calls c hc).2 ht
    exact (hno x (hid ▸ hx)).elim

/-! ## silence after a stop -/

/-- No transmission of a request is more recent than a stop of that request: a message carrying its ID that woke
    the writer (acknowledgement, reset, piggybacked response), the end of the caller's context, or the return of
    the call. -/
theorem silent_after_stop (P : Params) (evs : List Ev) (pre post : List Entry) (x : Entry) (id : Nat)
    (h : (run P evs).log = pre ++ x :: post) (hx : StopOf id x) : txCount pre id = 0 := by
  have := (inv_run P evs).quiet
  rw [h] at this
  exact quiet_split pre x post id this hx

/-- An acknowledgement / reset / piggybacked response for a pending request is recorded as a stop (so
    `silent_after_stop` applies to it), in every reachable state. -/
theorem ack_is_stop (P : Params) (evs : List Ev) (id : Nat) (k : Kind)
    (hp : isPending (run P evs).pend id = true) : ∃ t, Entry.stop id t ∈ (run P (evs ++ [.recvMid id k])).log := by
  obtain ⟨c, e, rfl, hh⟩ := recv_pending (inv_run P evs) hp k
  rw [run_snoc]
  exact ⟨_, hh.log_mem (stop_mem_onRecv _ k c e)⟩

/-- The end of the caller's context makes a call that has not returned return at once with the context's error —
    a `ret` entry, to which `silent_after_stop` applies. -/
theorem cancel_returns (P : Params) (evs : List Ev) (id : Nat) (why : Why) (c : Call)
    (hf : findCall (run P evs).calls id = some c) (hph : c.phase ≠ .done) :
    Entry.ret id why.res (run P evs).now ∈ (run P (evs ++ [.cancel id why])).log := by
  rw [run_snoc]
  exact (cancel_move (inv_run P evs) hf why).ret_mem (by unfold onCancel; rw [if_neg hph]; rfl)

/-- After a stop entry the request is never pending again (nothing is left that could be retransmitted). -/
theorem stopped_not_pending (P : Params) (evs : List Ev) (id t : Nat) (h : Entry.stop id t ∈ (run P evs).log) :
    isPending (run P evs).pend id = false :=
  not_pending_of_stop (inv_run P evs) h rfl

/-! ## success exactly when the response really came back -/

/-- A piggybacked response arriving while the request is still pending (attempts not exhausted, not cancelled)
    makes the call return successfully at once — with that response, or with the response that had already
    arrived for its token. -/
theorem ack_in_time_succeeds (P : Params) (evs : List Ev) (id tag : Nat)
    (hp : isPending (run P evs).pend id = true) :
    ∃ tag', Entry.ret id (.ok tag') (run P evs).now ∈ (run P (evs ++ [.recvMid id (.pig tag)])).log := by
  obtain ⟨c, e, _, hh⟩ := recv_pending (inv_run P evs) hp (.pig tag)
  obtain ⟨tag', ht⟩ := onRecv_pig_ret (run P evs).now tag c e
  exact ⟨tag', by rw [run_snoc]; exact hh.ret_mem ht⟩

/-- The acknowledgement got lost but the response (matched by token) gets back while the request is still pending
    (attempts not exhausted, not cancelled) and nothing has reached the call's token handler before: the response is
    an implicit acknowledgement (RFC 7252 §5.2.2) — the call returns it at once … (F21; needs `responseWakesWriter`) -/
theorem response_in_time_succeeds (P : Params) (evs : List Ev) (id tag : Nat) (c : Call)
    (hp : isPending (run P evs).pend id = true) (hf : findCall (run P evs).calls id = some c) (hb : c.buf = none) :
    Entry.ret id (.ok tag) (run P evs).now ∈ (run P (evs ++ [.resp id tag])).log := by
  have := (deliver_pending (inv_run P evs) (tag := tag) hp hf hb).1
  rw [run_snoc]; exact this

/-- … and it counts as a stop: `silent_after_stop` forbids any later copy. -/
theorem response_is_stop (P : Params) (evs : List Ev) (id tag : Nat) (c : Call)
    (hp : isPending (run P evs).pend id = true) (hf : findCall (run P evs).calls id = some c) (hb : c.buf = none) :
    ∃ t, Entry.stop id t ∈ (run P (evs ++ [.resp id tag])).log := by
  have := (deliver_pending (inv_run P evs) (tag := tag) hp hf hb).2
  rw [run_snoc]; exact this

/-- **The last copy has a window too.**  A housekeeping pass that puts a copy of a request on the wire — any copy,
    the MAX_RETRANSMIT-th included — leaves the request pending: the exchange is not over when the last copy is
    sent (RFC 7252 §4.2: the sender still waits for the acknowledgement of its last retransmission).  Hence
    `ack_in_time_succeeds` and `response_in_time_succeeds` apply right after that pass: an acknowledgement,
    piggybacked response or separate response arriving before the next housekeeping pass completes the call.
    (Needs `dropsInPassOfLastCopy = false`, regenerated from `checkMidHandlerContainer`.) -/
theorem last_copy_still_pending (P : Params) (evs : List Ev) (ahead id : Nat)
    (hc : txCount (run P evs).log id < txCount (run P (evs ++ [.tick ahead])).log id) :
    isPending (run P (evs ++ [.tick ahead])).pend id = true := by
  have hpid := (inv_run P evs).pid
  rw [run_snoc] at hc ⊢
  show isPending (tickList P _ (run P evs).pend).1 id = true
  rw [isPending_eq, findP_tick P _ _ hpid]
  have hc : txCount (run P evs).log id < txCount ((tickList P _ (run P evs).pend).2 ++ (run P evs).log) id := hc
  rw [txCount_tick P _ _ _ hpid] at hc
  -- a copy was written: the entry is there and the pass advanced its counter
  cases hf : findP (run P evs).pend id with
  | none => rw [hf] at hc; exact absurd hc (Nat.lt_irrefl _)
  | some e =>
    rw [hf] at hc
    rcases pass_cases P ((run P evs).now + ahead) e with ⟨_, _, hx⟩ | ⟨_, hk, _⟩ | ⟨_, _, _, hx⟩
    · rw [hx] at hc; exact absurd hc (Nat.lt_irrefl _)
    · exact congrArg Option.isSome hk
    · rw [hx] at hc; exact absurd hc (Nat.lt_irrefl _)

/-- … spelled out for the piggybacked answer to the copy just sent. -/
theorem answer_to_last_copy_succeeds (P : Params) (evs : List Ev) (ahead id tag : Nat)
    (hc : txCount (run P evs).log id < txCount (run P (evs ++ [.tick ahead])).log id) :
    ∃ tag', Entry.ret id (.ok tag') (run P (evs ++ [.tick ahead])).now ∈
      (run P ((evs ++ [.tick ahead]) ++ [.recvMid id (.pig tag)])).log :=
  ack_in_time_succeeds P _ id tag (last_copy_still_pending P evs ahead id hc)

/-- Empty acknowledgement first: for a pending request it leaves the call waiting for its response (or returns the
    response that was already there) … -/
theorem ack_wakes_writer (P : Params) (evs : List Ev) (id : Nat) (hp : isPending (run P evs).pend id = true) :
    (∃ c ∈ (run P (evs ++ [.recvMid id .ack])).calls, c.id = id ∧ c.phase = .waitResp) ∨
    (∃ tag, Entry.ret id (.ok tag) (run P evs).now ∈ (run P (evs ++ [.recvMid id .ack])).log) := by
  obtain ⟨c, e, _, b1, oc1, hm, ha⟩ := recv_pending (inv_run P evs) hp .ack
  rw [run_snoc]
  cases hb : c.buf with
  | some tag => exact Or.inr ⟨tag, ha.log_mono (hm.ret_mem (by unfold onRecv woken; rw [hb]; rfl))⟩
  | none =>
    have hc' : (onRecv (run P evs).now .ack c (some e)).c = setPhase .waitResp c := by simp [onRecv, woken, hb]
    have hf2 := (congrArg IdView.call (ha.other hm.call_id (by rw [hc']; exact Phase.noConfusion)).2).trans hm.call_id
    exact Or.inl ⟨_, (findCall_some hf2).1, (findCall_some hf2).2, by rw [hc']; rfl⟩

/-- … the separate response later: once the writer has been woken (stop entry) and the call has not returned (it is
    not marked done: not cancelled, no deadline, no earlier response), a response with its token makes it return
    successfully with that response. -/
theorem ack_then_response_succeeds (P : Params) (evs : List Ev) (id tag t : Nat)
    (hs : Entry.stop id t ∈ (run P evs).log)
    (hlive : ∃ c ∈ (run P evs).calls, c.id = id ∧ c.phase ≠ .done) :
    Entry.ret id (.ok tag) (run P evs).now ∈ (run P (evs ++ [.resp id tag])).log := by
  have hi := inv_run P evs
  obtain ⟨c, hc, h1, h2⟩ := hi.stopReleased id _ hs rfl
  obtain ⟨c', hc', h1', h2'⟩ := hlive
  have := eq_of_id_eq hi.ids hc hc' (by rw [h1, h1'])
  subst this
  have hph : c.phase = .waitResp := by
    rcases h2 with h2 | h2
    · exact h2
    · exact (h2' h2).elim
  have := deliver_waitResp hi hc hph tag
  rw [h1] at this
  rw [run_snoc]; exact this

/-- A successful return always carries a response that really came back for that request's token: neither
    exhaustion of the attempts, nor a reset, nor anything else produces success on its own. -/
theorem exhaustion_or_reset_no_success (P : Params) (evs : List Ev) (id tag t : Nat)
    (h : Entry.ret id (.ok tag) t ∈ (run P evs).log) :
    Ev.resp id tag ∈ evs ∨ Ev.recvMid id (.pig tag) ∈ evs :=
  (traced_run P evs).ret id tag t h

/-- A call that has returned is not pending any more: nothing of it is left that a pass could retransmit. -/
theorem returned_not_pending (P : Params) (evs : List Ev) (id t : Nat) (r : Res)
    (h : Entry.ret id r t ∈ (run P evs).log) : isPending (run P evs).pend id = false :=
  not_pending_of_stop (inv_run P evs) h rfl

/-! ## NSTART -/

/-- Never more than NSTART calls hold an outstanding-interaction slot, and every request that can still be
    retransmitted belongs to such a call. -/
theorem nstart_respected (P : Params) (evs : List Ev) :
    inflight (run P evs).calls ≤ P.nstart ∧
    ∀ e ∈ (run P evs).pend, ∃ c ∈ (run P evs).calls, c.id = e.id ∧ c.phase = .waitAck := by
  have hi := inv_run P evs
  refine ⟨hi.slots, fun e he => ?_⟩
  obtain ⟨c, hc, h1, h2, _⟩ := hi.pendCall e he
  exact ⟨c, hc, h1, h2⟩

/-! ## non-vacuity: concrete histories (ACK_TIMEOUT 10, MAX_RETRANSMIT 2, NSTART 1) -/

def P0 : Params := ⟨10, 2, 1⟩

/-- all copies lost: 1 + 2 transmissions at 0, 11, 21; the next tick drops the entry; a late ACK changes nothing;
    the call ends by its context -/
example : (run P0 [.send 0 7 none, .advance 10, .tick 0, .advance 1, .tick 0, .advance 10, .tick 0, .advance 10, .tick 0,
    .advance 10, .tick 0, .recvMid 0 .ack, .cancel 0 .ctx]).log.reverse =
    [.tx 0 0 0 7, .tx 0 1 11 7, .tx 0 2 21 7, .ret 0 .ctx 41, .stop 0 41] := by decide

/-- second request queued behind NSTART = 1; the first is answered piggybacked after one retransmission, the
    second is then sent; the caller's edit of request 0 does not show in the retransmission -/
example : (run P0 [.send 0 7 none, .send 1 8 none, .mut 0 9, .advance 11, .tick 0, .recvMid 0 (.pig 5)]).log.reverse =
    [.tx 0 0 0 7, .tx 0 1 11 7, .stop 0 11, .tx 1 0 11 8, .got 0 5, .ret 0 (.ok 5) 11] := by decide

/-- precondition breached: the caller edits request 1 while it is queued behind NSTART = 1 — the first datagram
    carries the edited message (9), the retransmission the clone (8); an edit after the first transmission
    (request 0) has no effect -/
example : (run P0 [.send 0 7 none, .send 1 8 none, .mut 1 9, .mut 0 6, .recvMid 0 .ack, .advance 11, .tick 0]).log.reverse =
    [.tx 0 0 0 7, .stop 0 0, .tx 1 0 0 9, .tx 1 1 11 8] := by decide

/-- all copies but the last are lost; the piggybacked answer to the LAST copy (MAX_RETRANSMIT = 2, sent at 21) arrives
    before the next housekeeping pass: the call returns it -/
example : (run P0 [.send 0 7 none, .advance 11, .tick 0, .advance 10, .tick 0, .advance 5, .recvMid 0 (.pig 3)]).log.reverse =
    [.tx 0 0 0 7, .tx 0 1 11 7, .tx 0 2 21 7, .stop 0 26, .got 0 3, .ret 0 (.ok 3) 26] := by decide

/-- reset: the writer is woken, nothing more is sent, the call does not succeed until a real response arrives -/
example : (run P0 [.send 0 7 none, .recvMid 0 .rst, .advance 50, .tick 0, .resp 0 3]).log.reverse =
    [.tx 0 0 0 7, .stop 0 0, .got 0 3, .ret 0 (.ok 3) 50] := by decide

/-- F21: the ACK is lost, the separate response arrives after one retransmission: the writer is woken, the call
    returns the response, nothing more is sent -/
example : (run P0 [.send 0 7 none, .advance 11, .tick 0, .resp 0 4, .advance 10, .tick 0, .advance 10, .tick 0]).log.reverse =
    [.tx 0 0 0 7, .tx 0 1 11 7, .got 0 4, .ret 0 (.ok 4) 11, .stop 0 11] := by decide

/-- the hypothesis of `ack_in_time_succeeds` is satisfiable -/
example : isPending (run P0 [.send 0 7 none, .advance 11, .tick 0]).pend 0 = true := by decide

end CoapVerif.Props.C06

section Audit
open CoapVerif.Props.C06
#print axioms shape_agrees
#print axioms configured_parameters_reach_the_connection
#print axioms copies_bounded
#print axioms copy_is_kth
#print axioms copy_spacing
#print axioms copy_index_bounded
#print axioms retransmissions_identical
#print axioms copies_identical
#print axioms copies_identical_if_not_edited
#print axioms silent_after_stop
#print axioms ack_is_stop
#print axioms cancel_returns
#print axioms stopped_not_pending
#print axioms ack_in_time_succeeds
#print axioms response_in_time_succeeds
#print axioms response_is_stop
#print axioms last_copy_still_pending
#print axioms answer_to_last_copy_succeeds
#print axioms ack_then_response_succeeds
#print axioms ack_wakes_writer
#print axioms exhaustion_or_reset_no_success
#print axioms returned_not_pending
#print axioms nstart_respected
#print axioms CoapVerif.Lemmas.Retransmit.inv_run
end Audit
