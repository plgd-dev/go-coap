import CoapVerif.Go.Basic
import CoapVerif.Model.Router
import CoapVerif.Model.RouterNested
import CoapVerif.Spec.Router
import CoapVerif.Lemmas.RouterCompile
import CoapVerif.Lemmas.RouterParse
import CoapVerif.Lemmas.RouterDispatch
import CoapVerif.Lemmas.RouterSegments
import CoapVerif.Lemmas.RouterSpec
import CoapVerif.Props.C17Nested
import CoapVerif.Props.C17Vars
/-!
# C17 — Router dispatches to a longest matching route, else the default

Statement (properties.jsonl): For every set of registered patterns and every request path, dispatch invokes exactly
one handler: a registered one whose pattern matches the entire path and for which no other matching pattern is longer,
or the default handler exactly when nothing matches. The route variables passed to the handler equal the
corresponding substrings of the path, middlewares wrap the handler in registration order, and registering or removing
routes concurrently with dispatch is free of data races and never dispatches to a pattern that does not match.

Model: `Model/Router.lean` (+ `Model/RouterPat.lean`, the trusted regexp subset; `Model/RouterNested.lean`: the dispatch of a
message whose `RouteParams` hold anything, of which `serveWith` is the case of the fresh object).  Meaning of "matches":
`Spec.Router.Lang` (language of a variable's pattern) and `Spec.Router.TplMatches` (the path is the template's literals
verbatim with a word of each variable's language in place of the variable).  The iteration order of the Go map is a
parameter of every dispatch theorem (any permutation of the table).

In the order of the file: the parser (no panic; the same reading of the text as the specification's), the model's matcher
against the specification's, the compiled expression (it accepts what the template describes; the variables are a
decomposition — which one: `Props/C17Vars.lean`); one dispatch (`Admissible`, `dispatch_spec`) on the routers registration can reach; the same with every "matches" read by the specification
alone (`AdmissibleSpec`); what entitles the model to serve each request on its own and from its Uri-Path values (`mux.ToHandler`,
`WithMux`, the decoder's length window — other options: `Props/C17Wire.lean` —, the token tables in front of the handler); the
middleware chain.  Concurrency: `ServeCOAP` consists of two critical sections (read the default handler; scan the table);
`dispatch_interleaved` lets the table and the default handler be those of two different moments.  Data-race freedom itself is
`lock_discipline` over the accesses extracted from the source (`Generated/RouterLockShape.lean`) — plus the race-detector run
of the check, which is evidence only; writers update the table in place under that lock, so none loses another's update.
-/
namespace CoapVerif.Props.C17
open CoapVerif CoapVerif.Model.Router CoapVerif.Generated.RouterLockShape CoapVerif.Lemmas.Router
open CoapVerif.Spec.Router (Lang TplMatches dmatch Seg segments matchesPath decomps requestPath)

/-! ## The template parser: never a panic, and the same reading of the text as the specification's -/

/-- `braceIndices` on an arbitrary string: a well-nested index list, or the error "unbalanced braces" — never a panic. -/
theorem braceIndices_total (s : Str) :
    (∃ idxs, braceIndices s = .ok idxs ∧ Good 0 idxs s.length) ∨ braceIndices s = .error (.err .unbalanced) := by
  have hc := braceIndices_cut s
  cases h : braceIndices s with
  | ok idxs => rw [h] at hc; exact .inl ⟨idxs, rfl, hc.1⟩
  | error e => rw [h] at hc; rw [hc.1]; exact .inr rfl

example : braceIndices ['/', '{', 'a', ':', 'x', '{', '2', '}', '}', '/', '{', 'b', '}'] = .ok [1, 9, 10, 13] := by decide +kernel
example : braceIndices ['/', '{', 'a', '}', '}'] = .error (.err .unbalanced) := by decide +kernel

/-- No slice or index expression of `newRouteRegexp`'s parsing loop is ever out of range, whatever the pattern text. -/
theorem parse_no_panic (s : Str) (p : PanicKind) : parseTemplate s ≠ .error (.panic p) := by
  intro h
  have := parseTemplate_segments s
  rw [h] at this
  exact this

/-- The index-and-slice parse of the source (`braceIndices`, `path[end:idxs[i]]`, …) and the specification's one-pass
    structural cut of the same text agree on every string: same pieces and — up to the spelling of the default
    pattern `[^/]+` — the same segments when the text is a template; the same kind of refusal when it is not. -/
theorem template_parse_agrees_with_spec (tpl : Str) : ParseAgrees (parseTemplate tpl) (segments tpl) :=
  parseTemplate_segments tpl

/-- A template is accepted by `newRouteRegexp` exactly when the specification calls it well-formed; the deliberate
    panic corresponds to "contains a capturing group", each error to the same defect of the text. -/
theorem template_validity_agrees (tpl : Str) :
    match newRouteRegexp tpl with
    | .ok _ => ∃ segs, segments tpl = .ok segs
    | .error (.panic .captureGroups) => segments tpl = .error .capture
    | .error (.err .unbalanced) => segments tpl = .error .unbalanced
    | .error (.err .missing) => segments tpl = .error .missing
    | .error (.err .regex) => segments tpl = .error .regex
    | .error .unsupported => segments tpl = .error .unsupported
    | .error _ => False := by
  have hagree := parseTemplate_segments tpl
  simp only [newRouteRegexp, bind, Except.bind]
  cases hp : parseTemplate tpl with
  | error f =>
    -- on a failed parse the two case lists coincide, except that `ParseAgrees` excludes panics altogether
    rw [hp] at hagree
    cases f with
    | err k => cases k <;> exact hagree
    | panic p => exact hagree.elim
    | unsupported => exact hagree
  | ok r =>
    obtain ⟨parts, trailing⟩ := r
    rw [hp] at hagree
    cases hs : segments tpl with
    | error te =>
      rw [hs] at hagree
      obtain ⟨rfl, hc⟩ := (parseAgrees_ok_error _ _ _).1 hagree
      simp only [hc, if_true]
    | ok segs =>
      rw [hs] at hagree
      simp only [hagree.1, Bool.false_eq_true, if_false]
      exact ⟨segs, rfl⟩

/-- The only panic `newRouteRegexp` can raise is the deliberate one for capturing groups in a variable's pattern. -/
theorem newRouteRegexp_panics_only_on_capture_groups (s : Str) (p : PanicKind)
    (h : newRouteRegexp s = .error (.panic p)) : p = .captureGroups := by
  have hv := template_validity_agrees s
  rw [h] at hv
  cases p with
  | captureGroups => rfl
  | _ => exact hv.elim

/-! ## The two matchers -/

theorem derivative_matcher_correct (p : Pat) (w : Str) : dmatch p w = true ↔ Lang p w := dmatch_iff p w

/-- The model's backtracking matcher and the specification's derivative matcher accept the same words. -/
theorem matchers_agree (p : Pat) (w : Str) :
    (∃ σ' ∈ ms p.toRe ⟨0, w, []⟩, σ'.rem = []) ↔ dmatch p w = true := by
  rw [dmatch_iff]
  constructor
  · rintro ⟨σ', h, hr⟩
    obtain ⟨u, hu, hrem, _⟩ := (mem_ms_toRe p _ _).1 h
    simp only [hr, List.append_nil] at hrem
    rw [hrem]; exact hu
  · intro h
    exact ⟨⟨0 + w.length, [], []⟩, (mem_ms_toRe p _ _).2 ⟨w, h, by simp, rfl, rfl⟩, rfl⟩

/-! ## The compiled expression and the variables it yields -/

/-- The expression `newRouteRegexp` compiles, used as `Router.Match` uses it (unanchored `MatchString`), accepts exactly
    the paths the template describes: the literal pieces verbatim — whatever characters they contain, regex
    metacharacters included — and, for each variable, a word of its pattern's language. -/
theorem compile_matches_template (tpl : Str) (rx : RouteRegexp) (h : newRouteRegexp tpl = .ok rx) (path : Str) :
    matchString rx.regexp path = true ↔ Matches tpl path := by
  have he : RouteOK (tpl, ⟨.named "", tpl, rx⟩) := ⟨rfl, h⟩
  exact pathMatch_iff he path

/-- a literal made only of metacharacters matches itself and nothing else -/
example : matchString (compile [] ['/', '.', '*']) ['/', '.', '*'] = true := by decide +kernel
example : matchString (compile [] ['/', '.', '*']) ['/', 'a', 'b'] = false := by decide +kernel
example : matchString (compile [] ['/', 'a']) ['/', 'a', '/', 'b'] = false := by decide +kernel

/-- When a route's expression matches, `extractRouteParams` does not panic and the variables it stores are exactly the
    words of ONE decomposition of the path along the template: literals and values re-assemble the path
    (`TplMatches`), each value lies in its variable's language, names are the template's names in order, and the map is
    filled left to right. -/
theorem vars_are_substrings (tpl : Str) (rx : RouteRegexp) (h : newRouteRegexp tpl = .ok rx) (path : Str) (rp : RouteParams)
    (hm : matchString rx.regexp path = true) :
    ∃ parts trailing b, parseTemplate tpl = .ok (parts, trailing) ∧
      TplMatches (toSegs parts trailing) path b ∧ b.map (·.1) = rx.varsN ∧
      extractRouteParams rx path rp = .ok { rp with vars := some (bindAll b (rp.vars.getD [])) } := by
  obtain ⟨parts, trailing, b, hp, hb, hn, he⟩ := C17Vars.vars_are_the_preferred_decomposition tpl rx h path rp hm
  exact ⟨parts, trailing, b, hp, hb.1, hn, he⟩

/-! ## One dispatch -/

/-- What the property admits for one dispatch, given the table `z`, the default handler and the middlewares. -/
def Admissible (mws : List String) (dflt : Option Handler) (z : List (Str × Route)) (p : Str) : Outcome → Prop
  | .invoked h (some pat) rp run =>
      -- a registered route …
      (∃ rt, (pat, rt) ∈ z ∧ rt.h = h) ∧
      -- … whose pattern matches the entire path …
      Matches pat p ∧
      -- … and no matching pattern is longer;
      (∀ e ∈ z, Matches e.1 p → byteLen e.1 ≤ byteLen pat) ∧
      -- the variables are the words of a decomposition of the path along that pattern;
      (∃ parts trailing b, parseTemplate pat = .ok (parts, trailing) ∧ TplMatches (toSegs parts trailing) p b ∧
        rp = ⟨p, some (bindAll b []), pat⟩) ∧
      -- the middlewares wrap that handler, first registered outermost
      run = mws.foldr applyMw h.run
  | .invoked h none rp run =>
      (∀ e ∈ z, ¬ Matches e.1 p) ∧ dflt = some h ∧ rp = {} ∧ run = mws.foldr applyMw h.run
  | .nothing => (∀ e ∈ z, ¬ Matches e.1 p) ∧ dflt = none
  | .fail _ => False

/-- `ServeCOAP` with the default handler of one moment and the route table of a (possibly) later one: for every table
    whose routes were compiled from their keys, EVERY iteration order of the map and every path, the outcome is
    admissible.  In particular the pattern dispatched to always matches the entire path — also when routes are
    registered or removed between the two critical sections. -/
theorem dispatch_interleaved (mws : List String) (dflt : Option Handler) (z order : List (Str × Route))
    (hz : ∀ e ∈ z, RouteOK e) (hperm : order.Perm z) (path : Option Str) :
    Admissible mws dflt z (filterPath (path.getD [])) (serveWith mws dflt order path) := by
  rw [C17Nested.serveWith_is_fresh]
  rcases serve_cases mws dflt hz hperm path with ⟨e, parts, trailing, b, h⟩ | ⟨hnone, hs⟩
  · rw [h.out]
    exact ⟨⟨e.2, h.mem, rfl⟩, ⟨parts, trailing, b, h.cut, h.chosen.1⟩, h.longest, ⟨parts, trailing, b, h.cut, h.chosen.1, rfl⟩, rfl⟩
  · rw [hs]
    cases dflt with
    | none => exact ⟨hnone, rfl⟩
    | some h => exact ⟨hnone, rfl, rfl, rfl⟩

/-- For every reachable (well-formed) router, every iteration order of its route map and every
    request path (`none` = no Uri-Path option): exactly one outcome, and it is admissible — a registered handler whose
    pattern matches the entire path and than which no matching pattern is longer (any of them when several have that
    length), with the variables cut out of the path and the middlewares in registration order; or the default handler
    exactly when nothing matches (nothing at all if the application set a nil default).  Never a panic. -/
theorem dispatch_spec (r : Router) (hwf : WF r) (order : List (Str × Route)) (hperm : order.Perm r.z) (path : Option Str) :
    Admissible r.middlewares r.defaultHandler r.z (filterPath (path.getD [])) (r.serveCOAP order path) :=
  dispatch_interleaved r.middlewares r.defaultHandler r.z order hwf.1 hperm path

/-- Every candidate the property admits can be the one chosen: an entry that matches and than which no matching entry is
    longer is what the scan returns when the map's iteration yields it first. -/
theorem dispatch_tight (e : Str × Route) (rest : List (Str × Route)) (hz : ∀ x ∈ e :: rest, RouteOK x) (p : Str)
    (hm : Matches e.1 p) (hmax : ∀ x ∈ rest, Matches x.1 p → byteLen x.1 ≤ byteLen e.1) :
    scan (e :: rest) p = some e := by
  apply scan_head_wins e rest p ((pathMatch_iff (hz e (by simp)) p).2 hm)
  intro x hx hmx
  exact hmax x hx ((pathMatch_iff (hz x (by simp [hx])) p).1 hmx)

/-! Non-vacuity: a reachable router with three overlapping routes, two of them of equal (maximal) length. The map order
    decides between `/a/{v}` and `/{x}/b` for the path `/a/b`; the shorter literal route `/a/b` never wins. -/
def tA : Str := ['/', 'a', '/', '{', 'v', '}']
def tB : Str := ['/', 'a', '/', 'b']
def tC : Str := ['/', '{', 'x', '}', '/', 'b']
def exRouter : Router :=
  match (do
    let r1 ← ({} : Router).handle tA (some (.named "h1"))
    let r2 ← r1.handle tB (some (.named "h2"))
    let r3 ← r2.handle tC (some (.named "h3"))
    pure (r3.use "m1") : Except Fail Router) with
  | .ok r => r
  | .error _ => {}

structure Summary where
  h : Handler
  pat : Str
  vars : Option (List (Str × Str))
  evs : List Ev
  deriving DecidableEq

def summary : Outcome → Option Summary
  | .invoked h (some pat) rp run => some ⟨h, pat, rp.vars, run.evs⟩
  | _ => none

example : exRouter.z.map (·.1) = [tA, tB, tC] := by decide +kernel
example : summary (exRouter.serveCOAP exRouter.z (some ['/', 'a', '/', 'b'])) =
    some ⟨.named "h1", tA, some [(['v'], ['b'])], [.enter "m1", .handler "h1", .exit "m1"]⟩ := by decide +kernel
example : summary (exRouter.serveCOAP exRouter.z.reverse (some ['/', 'a', '/', 'b'])) =
    some ⟨.named "h3", tC, some [(['x'], ['a'])], [.enter "m1", .handler "h3", .exit "m1"]⟩ := by decide +kernel
/-- nothing matches `/zz`: the default (NotFound) handler, no variables -/
example : exRouter.serveCOAP exRouter.z (some ['/', 'z', 'z']) =
    .invoked (.named "notfound") none {} ⟨[.enter "m1", .handler "notfound", .exit "m1"], false⟩ := by decide +kernel
/-- a path of which the templates describe only a prefix (`/a/b/c`) matches none of them -/
example : (exRouter.z.map (fun e => pathMatch e.2 ['/', 'a', '/', 'b', '/', 'c'])) = [false, false, false] := by decide +kernel
/-- greedy left-to-right assignment of ambiguous variables, as Go's leftmost-first semantics: `/{x}-{y}` on `/p-q-r` -/
example : (match newRouteRegexp ['/', '{', 'x', '}', '-', '{', 'y', '}'] with
    | .ok rx => (match extractRouteParams rx ['/', 'p', '-', 'q', '-', 'r'] {} with | .ok rp => rp.vars | .error _ => none)
    | .error _ => none) = some [(['x'], ['p', '-', 'q']), (['y'], ['r'])] := by decide +kernel

/-! ## Registration: the routers that can be reached, and what is refused -/

/-- Every router built from `NewRouter()` by Handle / HandleRemove / DefaultHandle / Use is well-formed. -/
theorem wf_reachable :
    WF {} ∧
    (∀ r r' p h, WF r → r.handle p h = .ok r' → WF r') ∧
    (∀ r r' p f, WF r → r.handleFunc p f = .ok r' → WF r') ∧
    (∀ r r' p, WF r → r.handleRemove p = .ok r' → WF r') ∧
    (∀ r h, WF r → WF (r.defaultHandle h)) ∧ (∀ r m, WF r → WF (r.use m)) := by
  refine ⟨wf_init, fun r r' p h hw hh => wf_handle hw hh, ?_, fun r r' p hw hh => wf_handleRemove hw hh,
    fun _ _ hw => hw, fun _ _ hw => hw⟩
  intro r r' p f hw hh
  simp only [Router.handleFunc] at hh
  split at hh
  · cases hh
  · cases hh
  · rename_i r'' heq
    simp only [Except.ok.injEq] at hh
    subst hh
    exact wf_handle hw heq

/-- Argument validation: a nil handler is refused; an invalid pattern is refused (error from `Handle`, panic from
    `HandleFunc`) and leaves the table unchanged; removing a pattern that is not registered is an error. -/
theorem registration_validation (r : Router) (p : Str) :
    r.handle p none = .error (.err .nilHandler) ∧
    (∀ h e, newRouteRegexp (filterPath p) = .error e → r.handle p (some h) = .error e) ∧
    (∀ f k, newRouteRegexp (filterPath p) = .error (.err k) → r.handleFunc p f = .error (.panic .handleFuncErr)) ∧
    (zHas r.z (filterPath p) = false → r.handleRemove p = .error (.err .notRegistered)) := by
  refine ⟨rfl, ?_, ?_, ?_⟩
  · intro h e he; simp [Router.handle, he]
  · intro f k he; simp [Router.handleFunc, Router.handle, he]
  · intro hz; simp [Router.handleRemove, hz]

/-! ## Matching and dispatch against the specification's own reading of the template text -/

/-- The compiled expression accepts exactly the paths that the
    template text describes according to the specification (which never saw an index or a regexp string). -/
theorem compile_matches_spec_template (tpl : Str) (rx : RouteRegexp) (h : newRouteRegexp tpl = .ok rx) (path : Str) :
    matchString rx.regexp path = true ↔ SpecMatches tpl path := by
  rw [compile_matches_template tpl rx h path]
  exact matches_iff_spec h path

/-- `Admissible` with every "matches" read by the specification alone. -/
def AdmissibleSpec (mws : List String) (dflt : Option Handler) (z : List (Str × Route)) (p : Str) : Outcome → Prop
  | .invoked h (some pat) rp run =>
      (∃ rt, (pat, rt) ∈ z ∧ rt.h = h) ∧ SpecMatches pat p ∧
      (∀ e ∈ z, SpecMatches e.1 p → byteLen e.1 ≤ byteLen pat) ∧
      (∃ segs b, segments pat = .ok segs ∧ TplMatches segs p b ∧ rp = ⟨p, some (bindAll b []), pat⟩) ∧
      run = mws.foldr applyMw h.run
  | .invoked h none rp run =>
      (∀ e ∈ z, ¬ SpecMatches e.1 p) ∧ dflt = some h ∧ rp = {} ∧ run = mws.foldr applyMw h.run
  | .nothing => (∀ e ∈ z, ¬ SpecMatches e.1 p) ∧ dflt = none
  | .fail _ => False

theorem admissibleSpec_of_admissible (mws : List String) (dflt : Option Handler) (z : List (Str × Route))
    (hz : ∀ e ∈ z, RouteOK e) (p : Str) (o : Outcome) (h : Admissible mws dflt z p o) : AdmissibleSpec mws dflt z p o := by
  have hiff : ∀ e ∈ z, (Matches e.1 p ↔ SpecMatches e.1 p) := fun e he => matches_iff_spec (hz e he).2 p
  cases o with
  | nothing =>
    simp only [Admissible, AdmissibleSpec] at h ⊢
    exact ⟨fun e he hm => h.1 e he ((hiff e he).2 hm), h.2⟩
  | fail f => exact h
  | invoked hd pat rp run =>
    cases pat with
    | none =>
      simp only [Admissible, AdmissibleSpec] at h ⊢
      exact ⟨fun e he hm => h.1 e he ((hiff e he).2 hm), h.2⟩
    | some pat =>
      simp only [Admissible, AdmissibleSpec] at h ⊢
      obtain ⟨⟨rt, hrt, hh⟩, hm, hmax, ⟨parts, trailing, b, hp, hb, hrp⟩, hrun⟩ := h
      obtain ⟨segs, hs, hse⟩ := segments_of_accepted (hz _ hrt).2 hp
      refine ⟨⟨rt, hrt, hh⟩, (hiff _ hrt).1 hm, ?_, ⟨segs, b, hs, (tplMatches_segsEq hse p b).2 hb, hrp⟩, hrun⟩
      intro e he hme
      exact hmax e he ((hiff e he).2 hme)

theorem dispatch_spec_independent (r : Router) (hwf : WF r) (order : List (Str × Route)) (hperm : order.Perm r.z)
    (path : Option Str) :
    AdmissibleSpec r.middlewares r.defaultHandler r.z (filterPath (path.getD [])) (r.serveCOAP order path) :=
  admissibleSpec_of_admissible _ _ _ hwf.1 _ _ (dispatch_spec r hwf order hperm path)

/-- The judge's test "matches the entire path" (derivatives of the concatenated template) decides `∃ b, TplMatches segs path b`. -/
theorem judge_matcher_exact (segs : List Seg) (path : Str) :
    matchesPath segs path = true ↔ ∃ b, TplMatches segs path b := by
  simp only [matchesPath, dmatch_iff, lang_tplPat]

/-- The judge's enumeration of decompositions (used to check the variables) lists exactly the `b` with `TplMatches segs w b`. -/
theorem judge_decompositions_exact (segs : List Seg) (w : Str) (b : List (Str × Str)) :
    b ∈ decomps segs w ↔ TplMatches segs w b := mem_decomps segs w b

/-! ## Requests served one after another through `mux.ToHandler` -/

/-- `mux.ToHandler` — the adapter through which every udp/tcp/dtls server calls the router — hands `ServeCOAP` a
    `mux.Message` whose `RouteParams` is an object built for this request alone (`new(RouteParams)`; fact regenerated from
    the AST of mux/muxResponseWriter.go, the recogniser fails closed on any other shape of the call).  This is what
    entitles the model to start every dispatch from empty route parameters (`serveWith` calls `matchRoute order p {}`):
    `Router.Match` only ADDS the variables of the matched pattern, so with a recycled object the variables of earlier
    requests would survive (see the example below). -/
theorem toHandler_fresh_route_params : toHandlerFreshRouteParams = true := by decide +kernel

/-- what would happen with a recycled `RouteParams`: `Match` on `/a` (pattern without variables) keeps a stale `x` -/
example : (match ({} : Router).handle ['/', 'a'] (some (.named "h")) with
    | .ok r => (match matchRoute r.z ['/', 'a'] ⟨[], some [(['x'], ['1'])], []⟩ with
                | .ok (_, rp) => rp.vars
                | .error _ => none)
    | .error _ => none) = some [(['x'], ['1'])] := by decide +kernel

/-- Requests served one after another (each with whatever order the map yields that time): every single outcome is
    admissible on its own — the variables a handler receives are exactly those of the dispatched pattern for THIS path
    (none at all for a pattern without variables and for the default handler), whatever was served before. -/
theorem sequence_independent (r : Router) (hwf : WF r) (reqs : List (List (Str × Route) × Option Str))
    (hperm : ∀ q ∈ reqs, q.1.Perm r.z) :
    ∀ q ∈ reqs, AdmissibleSpec r.middlewares r.defaultHandler r.z (filterPath (q.2.getD [])) (r.serveCOAP q.1 q.2) :=
  fun q hq => dispatch_spec_independent r hwf q.1 (hperm q hq) q.2

/-! ## Requests that arrive as bytes on a connection whose handler is `options.WithMux(router)` -/

/-- Every `MuxHandlerOpt.<X>Apply` (tcp server/client, udp server/client, dtls server) installs `mux.ToHandler[…](o.m)` itself:
    nothing stands between the connection's handler slot and the router's adapter, so whatever message the connection
    hands to its handler — with whatever code — is dispatched (facts regenerated from options/commonOptions.go; a body
    of any other shape than `cfg.Handler = <expr>` fails closed). -/
theorem mux_installed_directly : muxApplyDirect.length = 5 ∧ ∀ e ∈ muxApplyDirect, e.2 = true := by decide +kernel

/-- the decoder's length window for Uri-Path, from the regenerated option-definition table, is the RFC's 0 … 255 -/
theorem uri_path_window (n : Nat) : optionKept uriPathOptionID n = decide (n ≤ 255) := by
  simp [optionKept, uriPathOptionID, CoapVerif.Generated.OptionDefs.coapOptionDefs, List.find?]

/-- No legal Uri-Path segment — the EMPTY one included — is lost between the wire and the router. -/
theorem uri_path_segments_survive_decoding (segs : List Str) (h : ∀ s ∈ segs, byteLen s ≤ 255) :
    decodedSegs segs = segs := by
  simp only [decodedSegs]
  rw [List.filter_eq_self]
  intro s hs
  rw [uri_path_window]
  exact decide_eq_true (h s hs)

theorem wirePath_eq_requestPath (segs : List Str) : wirePath segs = requestPath segs := by
  cases segs with
  | nil => rfl
  | cons a t =>
    simp only [wirePath, requestPath, Option.some.injEq]
    induction (a :: t) with
    | nil => rfl
    | cons x xs ih => simp [List.flatMap_cons, ih]

/-- A message with any code and any legal list of Uri-Path option values (empty values
    included), received by a connection that got its handler from `options.WithMux(router)`: exactly one outcome, and it
    is the admissible one for the path `/seg₁/…/segₙ` made of ALL the segments as they are on the wire. -/
theorem wire_dispatch_spec (r : Router) (hwf : WF r) (order : List (Str × Route)) (hperm : order.Perm r.z)
    (code : Nat) (segs : List Str) (hlegal : ∀ s ∈ segs, byteLen s ≤ 255) :
    AdmissibleSpec r.middlewares r.defaultHandler r.z (filterPath ((requestPath segs).getD []))
      (r.wireServe order code segs) := by
  simp only [Router.wireServe, uri_path_segments_survive_decoding segs hlegal, wirePath_eq_requestPath]
  exact dispatch_spec_independent r hwf order hperm (requestPath segs)

/-- FETCH (5) or GET (1) makes no difference; an empty last segment stays in the path (`a`, empty: `/a/`, not `/a`) -/
example : summary (exRouter.wireServe exRouter.z 5 [['a'], ['b']]) = summary (exRouter.wireServe exRouter.z 1 [['a'], ['b']]) := by decide +kernel
example : wirePath (decodedSegs [['a'], []]) = some ['/', 'a', '/'] := by decide +kernel

/-! ## Failed exchanges leave no token in front of the router -/

/-- Both tables that are consulted before the configured handler drop the token of an exchange on its failing exits
    (facts regenerated from net/observation/handler.go and udp/server/discover.go; unknown shapes fail closed). -/
theorem failed_exchanges_clean_up :
    observationCleansUpOnEveryError = true ∧ discoveryCleansUpOnFailedWrite = true := by decide +kernel

theorem failed_exchanges_leave_no_token (failed : List FailedExchange) (t : PreMux) :
    failed.foldl PreMux.fail t = t := by
  induction failed generalizing t with
  | nil => rfl
  | cons e es ih =>
    have he : t.fail e = t := by
      cases e <;> simp [PreMux.fail, failed_exchanges_clean_up.1, failed_exchanges_clean_up.2]
    simp only [List.foldl_cons, he, ih]

/-- After any number of failed observe registrations and failed discoveries, a message with ANY token — also the token
    of one of those exchanges — is dispatched by the router exactly like a message on a fresh connection. -/
theorem dispatch_after_failed_exchanges (r : Router) (failed : List FailedExchange) (order : List (Str × Route))
    (code : Nat) (tok : Token) (segs : List Str) :
    r.connServe failed order code tok segs = r.wireServe order code segs := by
  simp [Router.connServe, failed_exchanges_leave_no_token]

example : exRouter.connServe [.observe [0xa1, 0xb2], .discovery [0xa1, 0xb2]] exRouter.z 1 [0xa1, 0xb2] [['a'], ['b']] =
    exRouter.wireServe exRouter.z 1 [['a'], ['b']] := by decide +kernel

/-! ## Middlewares -/

/-- The loop of `ServeCOAP` (from the last registered middleware down to the first) builds
    `mw₁ (mw₂ (… (mwₖ h)))`: middlewares wrap the handler in registration order — for any notion of handler and of
    applying a middleware. -/
theorem middleware_order {M H : Type} (apply : M → H → H) (mws : List M) (h : H) :
    wrapLoopG apply mws.reverse h = mws.foldr apply h := by
  rw [wrapLoopG_eq, List.reverse_reverse]

/-- For the recording middlewares of the harness: entered in registration order, then the handler, then left in reverse. -/
theorem middleware_trace (mws : List String) (n : String) :
    wrapLoop mws.reverse (Handler.named n).run =
      ⟨mws.map Ev.enter ++ [Ev.handler n] ++ mws.reverse.map Ev.exit, false⟩ := by
  simp only [wrapLoop, middleware_order, Handler.run]
  exact foldr_applyMw_ok mws [Ev.handler n]

example : wrapLoop ["a", "b"].reverse (Handler.named "h").run =
    ⟨[.enter "a", .enter "b", .handler "h", .exit "b", .exit "a"], false⟩ := by decide +kernel

/-- `Router.Use` appends to the router's own slice; it never adopts the caller's variadic slice, so nothing the caller does
    with its slice afterwards (appending to it, handing it to another router, overwriting an element) can change this
    router's chain (regenerated from mux/middleware.go). -/
theorem use_keeps_own_chain : useAppendsToOwnSlice = true := by decide +kernel

/-! ## Locks -/

/-- Every access to the route table `z` and to `defaultHandler` outside the constructor happens with the router's
    mutex held: writes under `Lock`, reads under `RLock` or `Lock` (decided over the accesses extracted from mux/*.go). -/
theorem lock_discipline :
    ∀ a ∈ accesses, a.fn ≠ "NewRouter" → (a.field = "z" ∨ a.field = "defaultHandler") →
      (a.write = true → a.lock = .w) ∧ (a.write = false → a.lock ≠ .none) := by
  decide +kernel

/-- The remaining fields (`middlewares`, `errors`) are configuration: the operations the property speaks about
    (Handle, HandleFunc, HandleRemove, DefaultHandle, DefaultHandleFunc, ServeCOAP, Match, GetRoute, GetRoutes) never
    write them, so these operations cannot race with each other on any field; and every unguarded access is to one of
    those two fields or happens in the constructor. -/
theorem route_ops_write_only_guarded_fields :
    (∀ a ∈ accesses, a.write = true → a.lock = .none →
        a.fn = "NewRouter" ∨ (a.fn = "Use" ∧ a.field = "middlewares")) ∧
    (∀ a ∈ accesses, a.lock = .none → a.fn = "NewRouter" ∨ a.field = "middlewares" ∨ a.field = "errors") ∧
    (∀ a ∈ accesses, a.write = true → (a.field = "middlewares" ∨ a.field = "errors") →
        a.fn = "Use" ∨ a.fn = "SetErrorHandler") := by
  decide +kernel

/-- No Router method that takes the mutex is called while the mutex is held (no self-deadlock, no recursive read lock). -/
theorem no_nested_locking : ∀ c ∈ calls, c.callee ∈ lockingFns → c.lock = .none := by
  decide +kernel

/-! ## Concurrent writers -/

/-- Every write to the route table outside the constructor updates it IN PLACE (`r.z[k] = v`, `delete(r.z, k)`) — under
    the write lock by `lock_discipline` — and never installs a table computed from an earlier read (`r.z = …`): a
    registration or removal is one atomic read-modify-write of the shared table, so concurrent writers cannot lose each
    other's updates. -/
theorem route_table_updated_in_place :
    ∀ a ∈ accesses, a.field = "z" → a.write = true → a.fn ≠ "NewRouter" → a.whole = false ∧ a.lock = .w := by
  decide +kernel

/-- Atomic updates of DIFFERENT patterns commute: whichever order the mutex serialises two writers in, every pattern ends
    up with the same route (or none) — so after concurrent writers on disjoint patterns have joined the table is the one
    the harness expects (`harness/c17race: runWriters`). -/
theorem disjoint_updates_commute (z : List (Str × Route)) (hnd : (z.map (·.1)).Nodup) (a b : Str) (hab : a ≠ b) (x y : Route) (q : Str) :
    zGet (zSet (zSet z a x) b y) q = zGet (zSet (zSet z b y) a x) q ∧
    zGet (zErase (zSet z a x) b) q = zGet (zSet (zErase z b) a x) q := by
  simp only [zGet_zErase, zGet_zSet]
  by_cases h1 : b = q
  · have h2 : a ≠ q := fun h2 => hab (h2.trans h1.symm)
    simp [h1, h2]
  · simp [h1]

end CoapVerif.Props.C17

section Audit
open CoapVerif.Props.C17
#print axioms braceIndices_total
#print axioms parse_no_panic
#print axioms newRouteRegexp_panics_only_on_capture_groups
#print axioms derivative_matcher_correct
#print axioms matchers_agree
#print axioms compile_matches_template
#print axioms vars_are_substrings
#print axioms dispatch_interleaved
#print axioms dispatch_spec
#print axioms dispatch_tight
#print axioms wf_reachable
#print axioms registration_validation
#print axioms template_parse_agrees_with_spec
#print axioms template_validity_agrees
#print axioms compile_matches_spec_template
#print axioms admissibleSpec_of_admissible
#print axioms dispatch_spec_independent
#print axioms judge_matcher_exact
#print axioms judge_decompositions_exact
#print axioms toHandler_fresh_route_params
#print axioms sequence_independent
#print axioms mux_installed_directly
#print axioms uri_path_window
#print axioms uri_path_segments_survive_decoding
#print axioms wirePath_eq_requestPath
#print axioms wire_dispatch_spec
#print axioms failed_exchanges_clean_up
#print axioms failed_exchanges_leave_no_token
#print axioms dispatch_after_failed_exchanges
#print axioms route_table_updated_in_place
#print axioms disjoint_updates_commute
#print axioms use_keeps_own_chain
#print axioms middleware_order
#print axioms middleware_trace
#print axioms lock_discipline
#print axioms route_ops_write_only_guarded_fields
#print axioms no_nested_locking
end Audit
