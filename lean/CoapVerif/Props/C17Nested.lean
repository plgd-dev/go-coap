import CoapVerif.Go.Basic
import CoapVerif.Model.Router
import CoapVerif.Model.RouterNested
import CoapVerif.Spec.RouterPrefer
import CoapVerif.Lemmas.RouterDispatch
import CoapVerif.Lemmas.RouterPrefer
/-!
# C17 — a message dispatched more than once: only its CURRENT path counts

Statement (properties.jsonl, C17): "For every set of registered patterns and every request path, dispatch invokes exactly one
handler: a registered one whose pattern matches the entire path …".  `Props/C17.lean` proves this for the fresh `RouteParams`
object `mux.ToHandler` builds per request.  A `*mux.Message` can reach `ServeCOAP` again — a router mounted as the handler of
a route of another router (the handler strips the mount prefix and hands the same message on), a handler or middleware that
rewrites the path and dispatches again, an application that reuses the object.  Here: whatever an earlier dispatch left in the
message's `RouteParams`, the handler chosen, the pattern, `Path`, `PathTemplate` and the values of the matched pattern's
variables are those of a fresh dispatch of the message's current path (`dispatch_ignores_route_params_history`); the only
thing that survives is the presence of OTHER variable names in the map (`Match` only adds).
-/
namespace CoapVerif.Props.C17Nested
open CoapVerif CoapVerif.Model.Router CoapVerif.Lemmas.Router
open CoapVerif.Spec.Router (Chosen)

theorem serveWith_is_fresh (mws : List String) (dflt : Option Handler) (order : List (Str × Route)) (path : Option Str) :
    serveWith mws dflt order path = serveWithRp mws dflt order path {} := rfl

/-- **Dispatch is a function of the router and of the message's current path.**  For every table whose routes were compiled
    from their keys, every iteration order, every current path and EVERY content `rp` of the message's `RouteParams` (left by
    earlier dispatches): the same handler runs under the same pattern with the same middleware chain as for a fresh object;
    `Path` and `PathTemplate` are overwritten with those of this dispatch; the variables are the preferred decomposition of
    the CURRENT path written over the old map; when nothing matches the default handler runs and the object is not touched. -/
theorem dispatch_ignores_route_params_history (mws : List String) (dflt : Option Handler) (z order : List (Str × Route))
    (hz : ∀ e ∈ z, RouteOK e) (hperm : order.Perm z) (path : Option Str) (rp : RouteParams) :
    match serveWithRp mws dflt order path {}, serveWithRp mws dflt order path rp with
    | .invoked h (some pat) rp0 run, .invoked h' (some pat') rp' run' =>
        h' = h ∧ pat' = pat ∧ run' = run ∧ rp'.path = rp0.path ∧ rp'.pathTemplate = rp0.pathTemplate ∧
        ∃ parts trailing b, parseTemplate pat = .ok (parts, trailing) ∧
          Chosen (toSegs parts trailing) (filterPath (path.getD [])) b ∧
          rp0.vars = some (bindAll b []) ∧ rp'.vars = some (bindAll b (rp.vars.getD []))
    | .invoked h none rp0 run, .invoked h' none rp' run' => h' = h ∧ run' = run ∧ rp0 = {} ∧ rp' = rp
    | .nothing, .nothing => True
    | _, _ => False := by
  rcases serve_cases mws dflt hz hperm path with ⟨e, parts, trailing, b, h⟩ | ⟨_, hs⟩
  · rw [h.out, h.out]
    exact ⟨rfl, rfl, rfl, rfl, rfl, parts, trailing, b, h.cut, h.chosen, rfl, rfl⟩
  · rw [hs, hs]
    cases dflt <;> simp

/-! The scenario of a mounted router: the outer route `/api/{rest:.*}` strips the prefix, the inner router knows `/dev/{id}`;
    then the same object, its path rewritten, is dispatched again by the outer router. -/
section Example
def tApi : Str := ['/', 'a', 'p', 'i', '/', '{', 'r', 'e', 's', 't', ':', '.', '*', '}']
def tDev : Str := ['/', 'd', 'e', 'v', '/', '{', 'i', 'd', '}']
def outerR : Router :=
  match ({} : Router).handle tApi (some (.named "mount:rest")) with
  | .ok r => r.defaultHandle (some (.named "outer-default"))
  | .error _ => {}
def innerR : Router :=
  match ({} : Router).handle tDev (some (.named "dev")) with
  | .ok r => r.defaultHandle (some (.named "inner-default"))
  | .error _ => {}
def mv (h : Handler) : Option Str := if h = .named "mount:rest" then some ['r', 'e', 's', 't'] else none
def summary (x : NestedOutcome × MsgObj) : Option (Bool × String × Option Str × Str × Str) :=
  match x.1 with
  | .nested _ (.invoked (.named n) pat rp _) => some (true, n, pat, rp.path, varLookup (rp.vars.getD []) ['i', 'd'])
  | .plain (.invoked (.named n) pat rp _) => some (false, n, pat, rp.path, [])
  | _ => none
def first : NestedOutcome × MsgObj :=
  serveNested outerR innerR mv outerR.z innerR.z ⟨some ['/', 'a', 'p', 'i', '/', 'd', 'e', 'v', '/', '4', '2'], {}⟩

/-- `/api/dev/42` → mount → inner route `/dev/{id}` with `Path = /dev/42`, `id = 42` -/
example : summary first = some (true, "dev", some tDev, ['/', 'd', 'e', 'v', '/', '4', '2'], ['4', '2']) := by decide +kernel
/-- second dispatch of the same object after its path became `/nothing`: the outer default handler -/
example : summary (serveNested outerR innerR mv outerR.z innerR.z (first.2.setPath (some ['/', 'n', 'o', 't', 'h', 'i', 'n', 'g']))) =
    some (false, "outer-default", none, ['/', 'd', 'e', 'v', '/', '4', '2'], []) := by decide +kernel
end Example

end CoapVerif.Props.C17Nested

section Audit
open CoapVerif.Props.C17Nested
#print axioms serveWith_is_fresh
#print axioms dispatch_ignores_route_params_history
end Audit
