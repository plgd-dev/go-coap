import CoapVerif.Props.C12Paths
import CoapVerif.Model.OwnershipStale
/-!
# C12, the block-wise paths with expired-but-unswept entries (continues `Props/C12Paths.lean`)

Statement of the property (properties.jsonl, C12): "A message object is never returned to the pool twice without being
re-acquired in between, and it is never recycled while the application legitimately holds it […] The library never reads
or writes a message after releasing it, under any concurrency of requests, handlers, retransmissions and housekeeping."

`Model/OwnershipStale.lean` adds to the block-wise program the window between the end of a sending entry's validity and
the housekeeping tick that removes it (step `expire`; the element stays in the map, `LoadOrStore` replaces it), in which a
new exchange under the same token may start.

* `bwx_ok` / `bwx_spec` — every schedule of the extended program (all steps of `bwStep`, with `expire` anywhere between
  them, any number of times) is accepted by the monitor / satisfies the declarative property;
* `bwx_released_once` — per object: acquisitions = releases + (1 if still in a slot), in every run;
* `bwx_stale_release_rejected` — the seeded shape C12-V (`LoadOrStore` reports `loaded` for an element it stored in the
  place of an expired one, `startSendingMessage` releases the original it has just put into the cache): the continuation of
  the new transfer reads the message after its release — rejected with `usedAfterRelease`.
-/
namespace CoapVerif.Props.C12Stale
open CoapVerif CoapVerif.Model.Ownership CoapVerif.Model.OwnershipPaths CoapVerif.Model.OwnershipStale
open CoapVerif.Spec.Ownership (Ev specOK)
open CoapVerif.Props.C12 CoapVerif.Props.C12Paths

theorem bwxCoded_linear : bwxCoded.Linear := by
  intro c st
  cases st with
  | base s =>
    -- a base step is `bwCoded`'s step (or, if it is of a wrong shape, no operation at all)
    have h := bwCoded_linear c.base s
    simp only [bwxCoded, BwxStep.asCoded, bwxStep]
    simp only [bwCoded] at h
    by_cases hs : s.asCoded = true
    · simp only [hs, if_true] at h ⊢
      exact h
    · simp only [hs] at h ⊢
      intro op hop
      simp at hop
  | expire =>
    apply linear_of_all
    simp only [bwxCoded, BwxStep.asCoded, if_true, bwxStep]
    (repeat' split) <;> simp
  | respondStaleReleases x sm e =>
    intro op hop
    simp [bwxCoded, BwxStep.asCoded] at hop

/-- Block-wise layer with entries that expired but were not swept: every schedule of the steps of `bw_ok` with the
    end of the sending entry's validity (`expire`) anywhere in between — a new response, `WriteMessage` or `Do` under the
    same token replaces the stale element — is accepted by the monitor. -/
theorem bwx_ok (sched : List BwxStep) (c : BwxCtl) (P : Place) (m : Store) (ha : Agree P m) :
    monitor m (bwxCoded.trace c P sched) = none :=
  linear_ok bwxCoded bwxCoded_linear sched c P m ha

theorem bwx_spec (sched : List BwxStep) : specOK (bwxCoded.trace {} Place.empty sched) = true :=
  linear_spec bwxCoded bwxCoded_linear sched {}

theorem bwx_released_once (sched : List BwxStep) (k : Nat) :
    countAcq k (bwxCoded.trace {} Place.empty sched) =
      countRel k (bwxCoded.trace {} Place.empty sched) + placed (bwxCoded.run {} Place.empty sched).2.1 k :=
  linear_released_once bwxCoded bwxCoded_linear k sched {}

/-- Seeded C12-V: a response in blocks under token T was abandoned and its entry expired (not swept); a new GET under
    T is answered in blocks: the original response (object 8) is stored in the place of the stale element and released
    all the same; the request for the next block is served out of it: read after its release. -/
theorem bwx_stale_release_rejected :
    ∃ sched, monitor Store.init (bwxProg.trace {} Place.empty sched) = some (.usedAfterRelease 8) :=
  ⟨[.base (.rxStart 1 2), .base (.forward 1), .base (.forwardReturn 1), .base (.respond 1 .normal 3 0), .base (.rxEnd 1),
    .expire,
    .base (.rxStart 7 8), .base (.forward 7), .base (.forwardReturn 7), .respondStaleReleases 7 9 10, .base (.rxEnd 7),
    .base (.rxStart 11 12), .base (.contCode 11)], by decide +kernel⟩

-- the same history as the code does it: the second response is stored in the place of the stale one, nothing is released
-- but blocks, receive-path messages and responses; the continuation is cut out of object 8, which is still the layer's
example : bwxCoded.trace {} Place.empty
    [.base (.rxStart 1 2), .base (.forward 1), .base (.forwardReturn 1), .base (.respond 1 .normal 3 0), .base (.rxEnd 1),
     .expire,
     .base (.rxStart 7 8), .base (.forward 7), .base (.forwardReturn 7), .base (.respond 7 .normal 9 0), .base (.rxEnd 7),
     .base (.rxStart 11 12), .base (.contCode 11), .base (.contCreate 11 13 false), .base (.rxEnd 11)]
    = [.acq 1, .use 1, .acq 2, .hold 1, .unhold 1, .acq 3, .use 2, .use 3, .rel 3, .rel 1,
       .acq 7, .use 7, .acq 8, .hold 7, .unhold 7, .acq 9, .use 8, .use 9, .rel 9, .rel 7,
       .acq 11, .use 11, .acq 12, .use 11, .use 8, .acq 13, .use 8, .rel 12, .use 13, .rel 13, .rel 11] := by decide +kernel

-- after `expire` the sending entry is gone from the control state; its message (object 2) is the stale element, still in the map
example : (bwxCoded.run {} Place.empty
    [.base (.rxStart 1 2), .base (.forward 1), .base (.forwardReturn 1), .base (.respond 1 .normal 3 0), .base (.rxEnd 1),
     .expire]).1.stale = some 2 := by decide +kernel

-- … and after the second response has taken its place it is still in its slot: never released (left to the garbage collector)
example : placed (bwxCoded.run {} Place.empty
    [.base (.rxStart 1 2), .base (.forward 1), .base (.forwardReturn 1), .base (.respond 1 .normal 3 0), .base (.rxEnd 1),
     .expire, .base (.rxStart 7 8), .base (.forward 7), .base (.forwardReturn 7), .base (.respond 7 .normal 9 0),
     .base (.rxEnd 7)]).2.1 2 = 1 := by decide +kernel

end CoapVerif.Props.C12Stale

section Audit
open CoapVerif.Props.C12Stale
#print axioms bwxCoded_linear
#print axioms bwx_ok
#print axioms bwx_spec
#print axioms bwx_released_once
#print axioms bwx_stale_release_rejected
end Audit
