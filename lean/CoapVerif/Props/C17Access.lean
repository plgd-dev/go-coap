import CoapVerif.Go.Basic
import CoapVerif.Model.Router
import CoapVerif.Model.RouterAccess
import CoapVerif.Props.C17
import CoapVerif.Lemmas.RouterTable
/-!
# C17 — the accessors of the router agree with its history and with dispatch

Statement (properties.jsonl, C17): "For every set of registered patterns …".  WHICH patterns are registered after a history
of `Handle` / `HandleFunc` / `HandleRemove` / `DefaultHandle` / `Use` calls, and what `GetRoute`, `GetRoutes`,
`Route.GetRouteRegexp` and `SetErrorHandler` (Model/RouterAccess.lean) say about them:

* `getRoute_is_the_last_live_registration` — after ANY history, `GetRoute p` is the route of the last successful registration
  of (the filtered) `p` that no later `HandleRemove` took away: the last registration wins, a removed pattern is gone
  (`removed_pattern_is_gone`, `last_registration_wins`), refused registrations change nothing;
* `getRoutes_are_the_live_registrations` — `GetRoutes` has exactly those entries, each pattern once;
* `dispatch_route_is_listed` — the route that serves a path is an entry of `GetRoutes` and is what `GetRoute` returns for its pattern;
* `getRouteRegexp_of_stored_route` — `GetRouteRegexp` of a stored route is the expression text built from its pattern;
* `setErrorHandler_leaves_routing_alone`, `errors_go_to_the_current_handler`.
-/
namespace CoapVerif.Props.C17Access
open CoapVerif CoapVerif.Model.Router CoapVerif.Lemmas.Router

/-- `GetRoute p` returns exactly the route `Handle` built for the registration that the history leaves live for (the filtered) `p`
    (`Lemmas/RouterTable.liveRev`) — or nil. -/
theorem getRoute_is_the_last_live_registration (ops : List Op) (p : Str) :
    (({} : Router).run ops).getRoute p = (liveRev (filterPath p) ops.reverse).bind (mkRoute (filterPath p)) :=
  (tracks_run ops).2 (filterPath p)

/-- `GetRoutes` holds exactly the live registrations — an entry `(q, rt)` iff `q` is live and `rt` is the route
    of its last registration — and no pattern twice. -/
theorem getRoutes_are_the_live_registrations (ops : List Op) :
    ((({} : Router).run ops).getRoutes.map (·.1)).Nodup ∧
    ∀ q rt, (q, rt) ∈ (({} : Router).run ops).getRoutes ↔ (liveRev q ops.reverse).bind (mkRoute q) = some rt := by
  obtain ⟨hwf, ht⟩ := tracks_run ops
  refine ⟨hwf.2, ?_⟩
  intro q rt
  simp only [Router.getRoutes]
  rw [mem_iff_zGet _ hwf.2, ht q]

theorem removed_pattern_is_gone (ops : List Op) (p : Str) :
    (({} : Router).run (ops ++ [.handleRemove p])).getRoute p = none := by
  rw [getRoute_is_the_last_live_registration]
  simp [liveRev]

theorem last_registration_wins (ops : List Op) (p : Str) (h : Handler) (rx : RouteRegexp)
    (hok : newRouteRegexp (filterPath p) = .ok rx) :
    (({} : Router).run (ops ++ [.handle p (some h)])).getRoute p = some ⟨h, filterPath p, rx⟩ := by
  rw [getRoute_is_the_last_live_registration]
  simp [liveRev, accepts, mkRoute, hok]

/-- a refused registration (nil handler, ill-formed pattern) leaves every answer of `GetRoute` as it was -/
theorem refused_registration_changes_nothing (ops : List Op) (p : Str) (h : Option Handler) (e : Fail)
    (hbad : (({} : Router).run ops).handle p h = .error e) (q : Str) :
    (({} : Router).run (ops ++ [.handle p h])).getRoute q = (({} : Router).run ops).getRoute q := by
  simp only [Router.run, List.foldl_append, List.foldl_cons, List.foldl_nil, Router.apply]
  have : okOr (List.foldl Router.apply {} ops) ((List.foldl Router.apply {} ops).handle p h) = List.foldl Router.apply {} ops := by
    simp only [Router.run] at hbad
    rw [hbad]; rfl
  rw [this]

/-- After any history, whenever `ServeCOAP` invokes a route handler, that route is an
    entry of `GetRoutes` under the dispatched pattern, and `GetRoute` of that pattern returns it. -/
theorem dispatch_route_is_listed (ops : List Op) (order : List (Str × Route))
    (hperm : order.Perm (({} : Router).run ops).z) (path : Option Str) :
    match (({} : Router).run ops).serveCOAP order path with
    | .invoked h (some pat) _ _ =>
        ∃ rt, (pat, rt) ∈ (({} : Router).run ops).getRoutes ∧ rt.h = h ∧ (({} : Router).run ops).getRoute pat = some rt
    | _ => True := by
  obtain ⟨hwf, _⟩ := tracks_run ops
  have hadm := CoapVerif.Props.C17.dispatch_spec _ hwf order hperm path
  cases ho : (({} : Router).run ops).serveCOAP order path with
  | nothing => trivial
  | fail f => trivial
  | invoked h pat rp run =>
    cases pat with
    | none => trivial
    | some pat =>
      rw [ho] at hadm
      simp only [CoapVerif.Props.C17.Admissible] at hadm
      obtain ⟨⟨rt, hrt, hh⟩, _⟩ := hadm
      refine ⟨rt, hrt, hh, ?_⟩
      rw [Router.getRoute, (liveRev_some _ _ _ ((live_iff_entry ops pat h).2 ⟨rt, hrt, hh⟩)).1]
      exact (mem_iff_zGet _ hwf.2 _ _).1 hrt

/-- `GetRouteRegexp` of a route stored by `Handle`: never the "no regexp" error, but the text `^` quoted literal
    `(?P<vI>pattern)` … quoted literal `$` built from the pattern it is stored under. -/
theorem getRouteRegexp_of_stored_route (e : Str × Route) (he : RouteOK e) :
    ∃ parts trailing, parseTemplate e.1 = .ok (parts, trailing) ∧ e.2.getRouteRegexp = .ok (regexpText parts trailing) := by
  obtain ⟨parts, trailing, hp, hrx⟩ := newRouteRegexp_ok he.2
  refine ⟨parts, trailing, hp, ?_⟩
  simp only [Route.getRouteRegexp, hrx, hp]

/-- `/a.b/{x}-{y:[0-9]+}`: the dot is quoted, the groups are numbered -/
example : (match ({} : Router).handle ['/', 'a', '.', 'b', '/', '{', 'x', '}', '-', '{', 'y', ':', '[', '0', '-', '9', ']', '+', '}'] (some (.named "h")) with
    | .ok r => (match r.getRoute ['/', 'a', '.', 'b', '/', '{', 'x', '}', '-', '{', 'y', ':', '[', '0', '-', '9', ']', '+', '}'] with
        | some rt => (match rt.getRouteRegexp with | .ok t => some (String.ofList t) | .error _ => none)
        | none => none)
    | .error _ => none) = some "^/a\\.b/(?P<v0>[^/]+)-(?P<v1>[0-9]+)$" := by decide +kernel

theorem setErrorHandler_leaves_routing_alone (x : RouterE) (h : String) : (x.setErrorHandler h).r = x.r := rfl

/-- a failing response writer is reported to the handler set LAST — and only by the built-in NotFound responder: a route
    handler or an application default handler never reaches `errors` -/
theorem errors_go_to_the_current_handler (x : RouterE) (h : String) (order : List (Str × Route)) (path : Option Str) (fails : Bool) :
    (x.setErrorHandler h).errorsCalled order path fails = [] ∨
    ((x.setErrorHandler h).errorsCalled order path fails = [h] ∧ fails = true ∧
      ∃ rp run, x.r.serveCOAP order path = .invoked (.named "notfound") none rp run) := by
  simp only [RouterE.errorsCalled, RouterE.setErrorHandler]
  split
  · rename_i rp run heq
    by_cases hf : (fails && !run.panics) = true
    · right
      simp only [Bool.and_eq_true] at hf
      exact ⟨by simp [hf.1, hf.2], hf.1, rp, run, heq⟩
    · left; simp [hf]
  · left; rfl

example : (({} : RouterE).setErrorHandler "e1").errorsCalled [] (some ['/', 'x']) true = ["e1"] := by decide +kernel
example : ((({} : RouterE).setErrorHandler "e1").setErrorHandler "e2").errorsCalled [] (some ['/', 'x']) true = ["e2"] := by decide +kernel
example : (({} : RouterE).setErrorHandler "e1").errorsCalled [] (some ['/', 'x']) false = [] := by decide +kernel

/-- non-vacuity of the history theorems: register, replace, remove -/
example : ((({} : Router).run [.handle ['/', 'a'] (some (.named "h1")), .handle ['/', 'a'] (some (.named "h2")),
    .handle ['/', 'b'] (some (.named "h3")), .handleRemove ['/', 'b'], .handle ['/', '{'] (some (.named "h4"))]).getRoutes.map
      (fun e => (e.1, e.2.h))) = [(['/', 'a'], .named "h2")] := by decide +kernel

end CoapVerif.Props.C17Access

section Audit
open CoapVerif.Props.C17Access
#print axioms getRoute_is_the_last_live_registration
#print axioms getRoutes_are_the_live_registrations
#print axioms removed_pattern_is_gone
#print axioms last_registration_wins
#print axioms refused_registration_changes_nothing
#print axioms dispatch_route_is_listed
#print axioms getRouteRegexp_of_stored_route
#print axioms setErrorHandler_leaves_routing_alone
#print axioms errors_go_to_the_current_handler
end Audit
