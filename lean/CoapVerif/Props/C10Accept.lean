import CoapVerif.Model.StreamServerAccept
import CoapVerif.Props.C10Streams
/-!
# C10 — failing `Accept` calls

Statement (properties.jsonl, C10): "A server keeps serving for every sequence of well-formed and malformed datagrams, frames
and connection attempts from any number of peers: it never crashes, deadlocks or stops accepting …"

Connection attempts that fail inside `Accept` (EMFILE / ENFILE, ECONNABORTED, …) are part of "every sequence of … connection
attempts".  For ALL histories (any number of failed Accepts, at any positions, however far apart):

the server's state is that of the same history without its failed Accepts (`accept_failures_transparent`), so the next
connection is accepted and served as if none had failed (`any_number_of_failures`, `accepts_after_failures`,
`live_meets_spec_with_failures`).  Whether the loop is in `Accept` is, in the model, whether the server was not stopped:
`accepting` does not read the count of failures, so a failed Accept leaves it as it was by definition (`still_accepting`).
No quantity that grows over the server's life enters: seeded change C10-W lets the accept back-off double over the
server's whole life.

What the model does not contain is TIME: that the code's `continue` reaches `Accept` without a pause is observed on the real
servers (`streams … f …`: back in Accept within 2 s after the k-th failure, k up to 40 and in series `f*<n>`), not proved.
-/
namespace CoapVerif.Props.C10Accept
open CoapVerif.Spec.StreamServer CoapVerif.Model.StreamServer CoapVerif.Model.StreamServerAccept
open CoapVerif.Generated.ConnRegistry (RegKey)
open CoapVerif.Props.C10Streams (noStop)

theorem accept_failures_transparent (k : RegKey) (evs : List AEv) :
    ∀ s : AState, (arun k s evs).srv = run k s.srv (strip evs) := by
  induction evs with
  | nil => intro s; rfl
  | cons e t ih =>
    intro s
    cases e with
    | ev e => simp only [arun, List.foldl_cons, strip, run] ; exact ih (astep k s (.ev e))
    | acceptFail => simp only [arun, List.foldl_cons, strip] ; exact ih (astep k s .acceptFail)

/-- the model counts the failures (what C10-W's back-off would grow with); nothing reads the count -/
theorem failures_counted (k : RegKey) (evs : List AEv) :
    ∀ s : AState, (arun k s evs).failures = s.failures + evs.count .acceptFail := by
  induction evs with
  | nil => intro s; rfl
  | cons e t ih =>
    intro s
    cases e with
    | ev e =>
      have := ih (astep k s (.ev e))
      simp only [arun, List.foldl_cons] at this ⊢
      rw [this]
      simp [astep]
    | acceptFail =>
      have := ih (astep k s .acceptFail)
      simp only [arun, List.foldl_cons] at this ⊢
      rw [this]
      simp [astep]
      omega

/-- any number of failed Accepts changes nothing -/
theorem any_number_of_failures (k : RegKey) (s : AState) (n : Nat) :
    (arun k s (List.replicate n .acceptFail)).srv = s.srv := by
  rw [accept_failures_transparent]
  have : strip (List.replicate n AEv.acceptFail) = [] := by
    induction n with
    | zero => rfl
    | succ n ih => simp [List.replicate_succ, strip, ih]
  rw [this]; rfl

/-- after n failed Accepts - for every n - a connection attempt of a new peer is accepted and served -/
theorem accepts_after_failures (k : RegKey) (s : AState) (n c r l : Nat) (hrun : s.srv.stopped = false)
    (hfresh : s.srv.live.any (fun x => x.id == c) = false) :
    (arun k s (List.replicate n .acceptFail ++ [.ev (.opn c r l)])).srv.live = s.srv.live ++ [⟨c, r, l⟩] := by
  have h1 : arun k s (List.replicate n .acceptFail ++ [.ev (.opn c r l)])
      = astep k (arun k s (List.replicate n .acceptFail)) (.ev (.opn c r l)) := by
    simp [arun, List.foldl_append]
  rw [h1]
  simp only [astep, any_number_of_failures, step, hrun, hfresh]
  simp

theorem still_accepting (k : RegKey) (s : AState) : accepting (astep k s .acceptFail) = accepting s := rfl

theorem openSpecA_strip (evs : List AEv) : openSpecA evs = openSpec (strip evs) := by
  have gen : ∀ (t : List SpecConn), evs.foldl openStepA t = (strip evs).foldl openStep t := by
    induction evs with
    | nil => intro t; rfl
    | cons e tl ih =>
      intro t
      cases e with
      | ev e =>
        simp only [List.foldl_cons, strip, openStepA]
        exact ih _
      | acceptFail =>
        simp only [List.foldl_cons, strip, openStepA]
        exact ih _
  exact gen []

/-- the connections the server serves are exactly those accepted and not closed by their own peer - failed Accepts between
    them, any number of them, make no difference -/
theorem live_meets_spec_with_failures (k : RegKey) (evs : List AEv) (he : (strip evs).all noStop = true) :
    (arun k {} evs).srv.live = (openSpecA evs).map (·.conn) := by
  rw [accept_failures_transparent, openSpecA_strip evs]
  exact CoapVerif.Props.C10Streams.live_meets_spec k (strip evs) he

/-- non-vacuity: fourteen isolated failures, each followed by a peer that connects and hangs up, then a fifteenth failure and
    one more peer -/
example : (arun .connection {} ((List.range 14).flatMap (fun i => [.acceptFail, .ev (.opn i 1 1), .ev (.cls i)])
      ++ [.acceptFail, .ev (.opn 99 2 1)])).srv.live = [⟨99, 2, 1⟩] := by decide +kernel

example : (arun .connection {} (List.replicate 40 .acceptFail ++ [.ev (.opn 1 1 1)])).failures = 40 := by decide +kernel

end CoapVerif.Props.C10Accept

section Audit
open CoapVerif.Props.C10Accept
#print axioms accept_failures_transparent
#print axioms failures_counted
#print axioms any_number_of_failures
#print axioms accepts_after_failures
#print axioms still_accepting
#print axioms openSpecA_strip
#print axioms live_meets_spec_with_failures
end Audit
