import CoapVerif.Lemmas.TokenReach
/-!
# C03 — every response reaches exactly the request that carries its token

Statement (properties.jsonl): whenever any number of requests with distinct tokens are outstanding
concurrently on one connection and the peer answers them in any order with any mix of piggybacked,
separate, delayed or duplicated responses, every request call that returns successfully returns a response
carrying its own token and the content the peer produced for that request.  A response is never delivered
to a different caller or to two callers, and a second request issued with a token that is still
outstanding is rejected rather than displacing the first.

The theorems are about `Model.TokenTable`, and the property-level ones about `run h cfg evs`: **every** list of events `evs`
(any number of callers, any arrival order, duplicates, piggybacked/separate/bare ACK/RST, cancellation, close, every
interleaving of receive path and callers), **every** hash function `h` and all four configurations
(datagram/stream × block-wise on/off).  Statements about *token equality* need the hash to be injective
on the tokens in play (`HashInj`) — the code keys its table by CRC-64 of the token — and are stated with
that hypothesis explicitly; without it the statement is false (`Findings/C03.lean`, F13).
`response_reaches_request` (the title), `outstanding_iff_registered`, `late_copy_goes_to_default` and
`duplicate_token_rejected_first_kept` need the premise of the property, "requests with distinct tokens" (`DistinctRequests`):
with equal tokens an outstanding request can lose its entry (`Findings/C03.lean`, F23).  The other theorems about `run` hold
of every history, `retransmission_reaches_nobody` in particular where a token is re-used.  `second_do_rejected`,
`deliver_consumes`, `dup_resp_harmless`, `dup_dropped_when_slot_full`, `return_clears` and `leave_clears` are about one step
from any state.
The shape of the code the model follows (which table operation each path uses, under which key, with
which removal) is regenerated from the source and compared by `shape_agrees`.
-/
namespace CoapVerif.Props.C03
open CoapVerif CoapVerif.Model.TokenTable CoapVerif.Lemmas.TokenTable CoapVerif.Lemmas.TokenReach

def HashInj (h : Token → Nat) (toks : List Token) : Prop := ∀ a ∈ toks, ∀ b ∈ toks, h a = h b → a = b

/-- Hash level, no hypothesis: what a successful call returns hashes like the caller's own token, for every schedule and
    every hash function (so does what waits in a caller's channel: `Inv.hold`). -/
theorem resp_token_matches_hash (h : Token → Nat) (cfg : Cfg) (evs : List Event) (c : Nat) (cl : Caller) (m : Msg)
    (hc : (run h cfg evs).callers c = some cl) (hr : cl.res = some (.ok m)) : h m.tok = h cl.tok := by
  obtain ⟨cl', h1, h2⟩ := (inv_run h cfg evs).hold c m ⟨cl, hc, Or.inr hr⟩
  rw [hc] at h1; cases h1; exact h2

/-- If the hash separates the tokens in play, whatever a caller is handed — in its channel or as the returned response —
    carries exactly the caller's own token. -/
theorem held_token_matches (h : Token → Nat) (cfg : Cfg) (evs : List Event) (inj : HashInj h (tokensInPlay evs))
    (c : Nat) (cl : Caller) (m : Msg)
    (hc : (run h cfg evs).callers c = some cl) (hh : Holds (run h cfg evs) c m) : m.tok = cl.tok := by
  obtain ⟨cl', g1, g2⟩ := (inv_run h cfg evs).hold c m hh
  rw [hc] at g1; cases g1
  exact inj _ (held_tok_inPlay h cfg evs c m hh) _ (caller_tok_inPlay h cfg evs c cl hc) g2

/-- If the hash separates the tokens in play, a call that returns successfully returns a
    message carrying exactly its own token. -/
theorem resp_token_matches (h : Token → Nat) (cfg : Cfg) (evs : List Event) (inj : HashInj h (tokensInPlay evs))
    (c : Nat) (cl : Caller) (m : Msg)
    (hc : (run h cfg evs).callers c = some cl) (hr : cl.res = some (.ok m)) : m.tok = cl.tok :=
  held_token_matches h cfg evs inj c cl m hc ⟨cl, hc, Or.inr hr⟩

/-- One arrival (identified by its arrival number) is handed to at most one caller — neither
    as a returned response nor waiting in a caller's channel — for every schedule. -/
theorem at_most_one_receiver (h : Token → Nat) (cfg : Cfg) (evs : List Event) (c c' : Nat) (m m' : Msg)
    (h1 : Holds (run h cfg evs) c m) (h2 : Holds (run h cfg evs) c' m') (hs : m.seq = m'.seq) : c = c' :=
  (invS_run h cfg evs).uniq c c' m m' h1 h2 hs

/-- Under `HashInj`, a message carrying the token of caller `c'` is never handed to a caller
    `c` whose token is different. -/
theorem no_cross_delivery (h : Token → Nat) (cfg : Cfg) (evs : List Event) (inj : HashInj h (tokensInPlay evs))
    (c c' : Nat) (cl cl' : Caller) (m : Msg)
    (hc : (run h cfg evs).callers c = some cl) (_hc' : (run h cfg evs).callers c' = some cl')
    (hne : cl.tok ≠ cl'.tok) (hm : m.tok = cl'.tok) : ¬ Holds (run h cfg evs) c m :=
  fun hh => hne ((held_token_matches h cfg evs inj c cl m hc hh).symm.trans hm)

/-- In a reachable state, whoever is registered under the hash of the arriving message's token has not returned, and
    if its channel is empty, delivery puts the message into that channel (and, on the datagram transport, lets the caller
    stop waiting for the acknowledgement).  Under `HashInj` that caller's token *is* the message's token:
    `registered_token_eq`. -/
theorem response_reaches_caller (h : Token → Nat) (cfg : Cfg) (evs : List Event) (m : Msg) (c : Nat)
    (hreg : (run h cfg evs).table (h m.tok) = some c) :
    ∃ cl, (run h cfg evs).callers c = some cl ∧ h cl.tok = h m.tok ∧ cl.pc ≠ .returned ∧
      (cl.slot = none → ∃ cl', (deliver h cfg (run h cfg evs) m).callers c = some cl' ∧ cl'.slot = some m ∧
        cl'.tok = cl.tok ∧ cl'.pc ≠ .returned ∧ (cfg.udp = true → cl'.pc = .waitResp)) := by
  obtain ⟨cl, h1, h2, h3, _⟩ := (inv_run h cfg evs).tbl _ c hreg
  refine ⟨cl, h1, h2, h3, fun hs => ⟨_, deliver_caller h cfg _ m c cl hreg h1 hs, rfl, rfl, ?_, fun hu => ?_⟩⟩ <;> dsimp only
  · split
    · exact Pc.noConfusion
    · exact h3
  · cases hp : cl.pc
    · exact if_pos ⟨hu, rfl⟩
    · exact if_neg fun g => Pc.noConfusion g.2
    · exact absurd hp h3

theorem registered_token_eq (h : Token → Nat) (cfg : Cfg) (evs : List Event) (tok : Token)
    (inj : HashInj h (tok :: tokensInPlay evs)) (c : Nat) (hreg : (run h cfg evs).table (h tok) = some c) :
    ∃ cl, (run h cfg evs).callers c = some cl ∧ cl.tok = tok := by
  obtain ⟨cl, h1, h2, _⟩ := (inv_run h cfg evs).tbl _ c hreg
  exact ⟨cl, h1, inj _ (List.mem_cons_of_mem _ (caller_tok_inPlay h cfg evs c cl h1)) _ List.mem_cons_self h2⟩

/-- The premise of the property, "requests with distinct tokens", and — since the table is keyed by a hash — a key function
    that separates them (`HashInj h (doTokens evs)`).  Then no caller shares its key with another, which is what `InvR` needs. -/
def DistinctRequests (h : Token → Nat) (evs : List Event) : Prop :=
  (doTokens evs).Nodup ∧ ∀ a ∈ doTokens evs, ∀ b ∈ doTokens evs, h a = h b → a = b

/-- The title of the property.  For every schedule of requests with distinct tokens: if,
    after the history `evs`, caller `c` is outstanding and unanswered (its call has not returned, nothing is in its
    channel) and the oldest queued message carries `c`'s token (and is not a retransmission that the response cache
    answers), then processing that message hands it to `c`.  That `c` is registered under the key of its token is not
    assumed, as it is in `response_reaches_caller`: it is the invariant `InvR`, proved for every such history. -/
theorem response_reaches_request (h : Token → Nat) (cfg : Cfg) (evs : List Event) (hd : DistinctRequests h evs)
    (c : Nat) (cl : Caller) (hc : (run h cfg evs).callers c = some cl) (hp : cl.pc ≠ .returned) (hs : cl.slot = none)
    (m : Msg) (q : List Msg) (hq : (run h cfg evs).queue = m :: q) (hm : m.tok = cl.tok)
    (hnd : dedupHit cfg { run h cfg evs with queue := q } m = false) :
    Holds (run h cfg (evs ++ [.process])) c m := by
  have ir := invR_run h cfg evs hd.1 hd.2
  have hreg : (run h cfg evs).table (h m.tok) = some c := by rw [hm]; exact ir.reg c cl hc hp hs
  rw [run_snoc, step_process_deliver h cfg _ m q hq hnd, (remember_woken ..).holds]
  exact deliver_reaches h cfg _ m c cl hreg hc hs

/-- An outstanding request is registered (the converse of "table entries belong to callers"), for every history of
    requests with distinct tokens; and once answered or returned it is not (where delivery consumes the entry).  With equal
    tokens the first half fails: `Findings.C03.late_return_erases_successor` (F23). -/
theorem outstanding_iff_registered (h : Token → Nat) (cfg : Cfg) (evs : List Event) (hd : DistinctRequests h evs)
    (c : Nat) (cl : Caller) (hc : (run h cfg evs).callers c = some cl) :
    (cl.pc ≠ .returned → cl.slot = none → (run h cfg evs).table (h cl.tok) = some c) ∧
    (deliverDeletes cfg = true → (cl.slot ≠ none ∨ cl.pc = .returned) → (run h cfg evs).table (h cl.tok) = none) := by
  have ir := invR_run h cfg evs hd.1 hd.2
  exact ⟨ir.reg c cl hc, fun hdd hor => ir.gone hdd c cl hc hor⟩

/-- "The content the peer produced".  For every schedule: whatever a caller holds — in
    its channel or as the returned response — is, field by field (kind, token, message ID, content), a message that
    arrived from the peer in this history; with `held_token_matches` its token is the caller's own. -/
theorem held_was_sent_by_the_peer (h : Token → Nat) (cfg : Cfg) (evs : List Event) (c : Nat) (m : Msg)
    (hh : Holds (run h cfg evs) c m) : Event.arrive m.kind m.tok m.mid m.tag ∈ evs :=
  (invMsg_run h cfg evs).held c m hh

/-- Duplicates and late responses, trace level (step by step from any state: `deliver_consumes` … `leave_clears`).  For
    every schedule of requests with distinct tokens, on a connection whose delivery consumes the registration (datagram;
    stream without block-wise): once caller `c` has been answered or has returned, the next message carrying its token
    reaches no caller — the callers are untouched and the message is on the default path. -/
theorem late_copy_goes_to_default (h : Token → Nat) (cfg : Cfg) (evs : List Event) (hd : DistinctRequests h evs)
    (hdd : deliverDeletes cfg = true) (c : Nat) (cl : Caller) (hc : (run h cfg evs).callers c = some cl)
    (hdone : cl.slot ≠ none ∨ cl.pc = .returned)
    (m : Msg) (q : List Msg) (hq : (run h cfg evs).queue = m :: q) (hm : m.tok = cl.tok)
    (hnd : dedupHit cfg { run h cfg evs with queue := q } m = false) :
    (run h cfg (evs ++ [.process])).callers = (run h cfg evs).callers ∧
    (run h cfg (evs ++ [.process])).dflt = (run h cfg evs).dflt ++ [m] := by
  have ir := invR_run h cfg evs hd.1 hd.2
  have hgone : (run h cfg evs).table (h m.tok) = none := by rw [hm]; exact ir.gone hdd c cl hc hdone
  rw [run_snoc, step_process_deliver h cfg _ m q hq hnd, deliver_miss h cfg { run h cfg evs with queue := q } m hgone]
  rw [remember_eq]
  exact ⟨rfl, rfl⟩

/-- Message-ID layer, trace level.  Datagram transport, **every** history — in
    particular histories in which the token of an ended exchange is re-used by a later request, which `DistinctRequests`
    excludes and the protocol allows: once a confirmable message `m` of the peer has been processed, every later message
    of the peer with the same message ID (confirmable or not — the retransmission of `m`) is dropped before token
    matching, whatever happened in between (`evs2`: requests starting with any token, returns, cancellations, other
    arrivals): processing it changes nothing but the queue — no caller, no table entry, no default-path delivery.  So a
    retransmitted separate response cannot reach the request that has taken over its token.  (No cache expiry here:
    a history is shorter than EXCHANGE_LIFETIME; expiry is C05's.) -/
theorem retransmission_reaches_nobody (h : Token → Nat) (cfg : Cfg) (evs1 evs2 : List Event) (hudp : cfg.udp = true)
    (m : Msg) (q : List Msg) (hq : (run h cfg evs1).queue = m :: q) (hk : m.kind = .con)
    (m' : Msg) (q' : List Msg) (hq' : (run h cfg (evs1 ++ .process :: evs2)).queue = m' :: q')
    (hk' : m'.kind = .con ∨ m'.kind = .non) (hmid : m'.mid = m.mid) :
    run h cfg (evs1 ++ .process :: evs2 ++ [.process]) = { run h cfg (evs1 ++ .process :: evs2) with queue := q' } := by
  have hc : m.mid ∈ (run h cfg (evs1 ++ .process :: evs2)).cache := by
    rw [run, List.foldl_append]
    exact cache_mono_fold h cfg evs2 _ _ (process_con_cached h cfg _ m q hudp hq hk)
  have hd : dedupHit cfg { run h cfg (evs1 ++ .process :: evs2) with queue := q' } m' = true := by
    simp only [dedupHit, hudp, Bool.true_and, Bool.and_eq_true, Bool.or_eq_true, decide_eq_true_eq, List.contains_iff_mem, hmid]
    exact ⟨hk', hc⟩
  rw [run_snoc, step_process_dedup h cfg _ m' q' hq' hd]

/-- In every state, a request whose token hashes like a registered one is refused
    (`exists`, or `badToken` from the block-wise layer), and nothing else changes: the table — in particular the first
    caller's entry —, every other caller, the queue and the default-path log stay exactly as they were. -/
theorem second_do_rejected (h : Token → Nat) (cfg : Cfg) (s : State) (c c0 : Nat) (tok : Token) (con : Bool) (mid : Nat)
    (hnew : s.callers c = none) (hreg : s.table (h tok) = some c0) :
    let s' := step h cfg s (.doStart c tok con mid)
    s'.table = s.table ∧ s'.queue = s.queue ∧ s'.dflt = s.dflt ∧ s'.mids = s.mids ∧ s'.bwSend = s.bwSend ∧
    (∀ i, i ≠ c → s'.callers i = s.callers i) ∧
    (∃ r, s'.callers c = some ⟨tok, mid, .returned, none, some r⟩ ∧ (r = .exists_ ∨ r = .badToken)) := by
  intro s'
  -- the entry is in the way, so the call is neither registered nor does it get to see that the connection is closed
  have gone : s.table (h tok) ≠ none := fun e => Option.some_ne_none c0 (hreg.symm.trans e)
  rcases doStart_cases h cfg s c tok con mid hnew with ⟨r, e, hr⟩ | ⟨e, _⟩
  · rw [show s' = reject s c tok mid r from e]
    refine ⟨rfl, rfl, rfl, rfl, rfl, fun i hi => upd_other _ _ _ _ hi, r, upd_same .., ?_⟩
    rcases hr with rfl | rfl | ⟨_, e⟩
    · exact .inr rfl
    · exact .inl rfl
    · exact absurd e gone
  · exact absurd e gone

/-- Trace level.  For every schedule of requests with distinct tokens: while
    caller `c0` is outstanding and unanswered, a further request with *its* token is refused (`exists`, or `badToken`
    from the block-wise layer) and `c0` stays exactly as it was, still registered — so by `response_reaches_request`'s
    argument its response still reaches it. -/
theorem duplicate_token_rejected_first_kept (h : Token → Nat) (cfg : Cfg) (evs : List Event) (hd : DistinctRequests h evs)
    (c0 : Nat) (cl0 : Caller) (hc0 : (run h cfg evs).callers c0 = some cl0) (hp : cl0.pc ≠ .returned) (hs : cl0.slot = none)
    (c : Nat) (hnew : (run h cfg evs).callers c = none) (con : Bool) (mid : Nat) :
    let s' := run h cfg (evs ++ [.doStart c cl0.tok con mid])
    (∃ r, s'.callers c = some ⟨cl0.tok, mid, .returned, none, some r⟩ ∧ (r = .exists_ ∨ r = .badToken)) ∧
    s'.callers c0 = some cl0 ∧ s'.table (h cl0.tok) = some c0 ∧
    (∀ m : Msg, m.tok = cl0.tok → Holds (deliver h cfg s' m) c0 m) := by
  intro s'
  have ir := invR_run h cfg evs hd.1 hd.2
  have hreg := ir.reg c0 cl0 hc0 hp hs
  have e : s' = step h cfg (run h cfg evs) (.doStart c cl0.tok con mid) := run_snoc ..
  obtain ⟨t1, _, _, _, _, t6, t7⟩ := second_do_rejected h cfg (run h cfg evs) c c0 cl0.tok con mid hnew hreg
  have hne : c0 ≠ c := by intro x; subst x; rw [hnew] at hc0; cases hc0
  have hc0' : s'.callers c0 = some cl0 := by rw [e, t6 c0 hne]; exact hc0
  have ht' : s'.table (h cl0.tok) = some c0 := by rw [e, t1]; exact hreg
  refine ⟨by rw [e]; exact t7, hc0', ht', ?_⟩
  intro m hm
  exact deliver_reaches h cfg s' m c0 cl0 (by rw [hm]; exact ht') hc0' hs

/-- Duplicates and late responses, one step from any state (trace level: `late_copy_goes_to_default`).  (1) The first match
    consumes the registration (datagram transport, and stream transport without block-wise): after a message has been
    delivered, no caller is registered under its token's hash. -/
theorem deliver_consumes (h : Token → Nat) (cfg : Cfg) (s : State) (m : Msg) (hd : deliverDeletes cfg = true) :
    (deliver h cfg s m).table (h m.tok) = none := by
  cases ht : s.table (h m.tok) with
  | none => rw [deliver_miss h cfg s m ht]; exact ht
  | some c => rw [(deliver_woken h cfg s m c ht).table, matched_table, if_pos hd]; exact upd_same ..

/-- (2) A duplicate of a delivered response is harmless.  Deliver `m`, then deliver any message
    `m2` with the same token hash (a duplicate, a late copy): it is unmatched, so (`deliver_miss`) the callers are exactly as
    after the first delivery and `m2` is on the default path. -/
theorem dup_resp_harmless (h : Token → Nat) (cfg : Cfg) (s : State) (m m2 : Msg) (hd : deliverDeletes cfg = true)
    (hsame : h m2.tok = h m.tok) :
    (deliver h cfg (deliver h cfg s m) m2).callers = (deliver h cfg s m).callers ∧
    (deliver h cfg (deliver h cfg s m) m2).dflt = (deliver h cfg s m).dflt ++ [m2] := by
  have hmiss : (deliver h cfg s m).table (h m2.tok) = none := by rw [hsame]; exact deliver_consumes h cfg s m hd
  rw [deliver_miss h cfg _ m2 hmiss]
  exact ⟨rfl, rfl⟩

/-- (3) With `Load` (stream transport, block-wise negotiated) the entry stays, and a copy that arrives while the first one
    is still in the caller's channel gets as far as the hand-over, which changes nothing: the channel has one slot and the
    send does not block. -/
theorem dup_dropped_when_slot_full (s : State) (c : Nat) (cl : Caller) (m0 m : Msg)
    (hc : s.callers c = some cl) (hfull : cl.slot = some m0) : handover s c m = s := by
  unfold handover; rw [hc]; dsimp only; rw [hfull]

/-- (4) Late responses after return.  When a call returns with its response its registration is gone, so later copies are
    unmatched and go to the default path (`deliver_miss`). -/
theorem return_clears (h : Token → Nat) (s : State) (c : Nat) (cl : Caller) (m : Msg)
    (hc : s.callers c = some cl) (hpc : cl.pc = .waitResp) (hs : cl.slot = some m) :
    (finish h s c).table (h cl.tok) = none ∧ (finish h s c).callers c = some { cl with pc := .returned, slot := none, res := some (.ok m) } := by
  unfold finish; rw [hc]; dsimp only; rw [if_pos hpc, hs]
  exact ⟨by simp [upd], by simp [upd]⟩

/-- (4) for a call that ends by cancellation or because the connection closed -/
theorem leave_clears (h : Token → Nat) (s : State) (c : Nat) (cl : Caller) (r : Res)
    (hc : s.callers c = some cl) (hpc : cl.pc ≠ .returned) : (leave h s c r).table (h cl.tok) = none := by
  unfold leave; rw [hc]; dsimp only; rw [if_neg hpc]; simp [upd]

/-- The table operations the model follows are the ones in today's source: every lookup on a
    token-handler table (file, function, operation, key expression) and every registration with its removal. -/
theorem shape_agrees :
    Generated.TableShape.tokenLookups.map (fun l => (l.file, l.func, l.op, l.key)) = expectedLookups ∧
    (Generated.TableShape.insertions.filter (·.table == "tokenHandlerContainer")).map
      (fun i => (i.file, i.func, i.op, i.key, i.removal)) = expectedRegistrations := by
  decide +kernel

/-- The model's key function reproduces values computed by the real `message.Token.Hash` (regenerated
    on every run; the polynomial is regenerated too). -/
theorem crc64_check : crc64 [1, 2, 3, 4] = Generated.TokenHash.check1 ∧
    crc64 [0x31, 0x32, 0x33, 0x34, 0x35, 0x36, 0x37, 0x38, 0x39] = Generated.TokenHash.check2 := by
  decide +kernel

/-! ### Non-vacuity: concrete schedules (hash = the real CRC-64) -/

/-- three callers outstanding, answered out of order, one piggybacked, one duplicate: everybody gets its own -/
def demo : List Event := [
  .doStart 1 [0xaa] true 1, .doStart 2 [0xbb] true 2, .doStart 3 [0xcc] false 3,
  .arrive .ack [] 2 "", .arrive .con [0xcc] 40001 "x3", .process, .ret 3,
  .arrive .con [0xbb] 40002 "x2", .process, .ret 2, .arrive .con [0xbb] 40002 "x2", .process,
  .arrive .pig [0xaa] 1 "x1", .process, .ret 1, .arrive .non [0xaa] 40003 "x1", .process]

example : DistinctRequests crc64 demo := by
  refine ⟨by decide, ?_⟩
  intro a ha b hb hab
  simp only [demo, doTokens, List.mem_cons, List.mem_nil_iff, or_false] at ha hb
  rcases ha with rfl | rfl | rfl <;> rcases hb with rfl | rfl | rfl <;> first | rfl | (exfalso; revert hab; decide +kernel)
example : ((run crc64 ⟨true, false⟩ demo).callers 1).bind (·.res) = some (.ok ⟨.pig, [0xaa], 1, "x1", 4⟩) := by decide +kernel
example : ((run crc64 ⟨true, false⟩ demo).callers 2).bind (·.res) = some (.ok ⟨.con, [0xbb], 40002, "x2", 2⟩) := by decide +kernel
example : (run crc64 ⟨true, false⟩ demo).dflt.map (·.tag) = ["x1"] := by decide
/-- a second request with an outstanding token is refused; the first still gets its response -/
example : ((run crc64 ⟨true, false⟩ [.doStart 1 [0xaa] false 1, .doStart 2 [0xaa] false 2, .arrive .non [0xaa] 9 "r", .process, .ret 1]).callers 2).bind (·.res) = some .exists_ := by decide +kernel
example : ((run crc64 ⟨true, false⟩ [.doStart 1 [0xaa] false 1, .doStart 2 [0xaa] false 2, .arrive .non [0xaa] 9 "r", .process, .ret 1]).callers 1).bind (·.res) = some (.ok ⟨.non, [0xaa], 9, "r", 0⟩) := by decide +kernel

end CoapVerif.Props.C03

section Audit
open CoapVerif.Props.C03
#print axioms resp_token_matches_hash
#print axioms held_token_matches
#print axioms resp_token_matches
#print axioms at_most_one_receiver
#print axioms no_cross_delivery
#print axioms response_reaches_caller
#print axioms registered_token_eq
#print axioms response_reaches_request
#print axioms outstanding_iff_registered
#print axioms held_was_sent_by_the_peer
#print axioms late_copy_goes_to_default
#print axioms retransmission_reaches_nobody
#print axioms duplicate_token_rejected_first_kept
#print axioms second_do_rejected
#print axioms deliver_consumes
#print axioms dup_resp_harmless
#print axioms dup_dropped_when_slot_full
#print axioms return_clears
#print axioms leave_clears
#print axioms shape_agrees
#print axioms crc64_check
end Audit
