import CoapVerif.Model.ReaderReplyCache
/-!
# C11 — "never processed twice" on a busy connection: the reply cache

> Every message accepted from the network is dispatched to application handling exactly once - never dropped while the
> connection is open, never processed twice - …

On the datagram transports a copy of a message (same message ID) that arrives inside EXCHANGE_LIFETIME of the original is a
retransmission: it is answered from the reply cache, its handler does not run again — **however many other exchanges the peer
has had on the connection in between** and however often the cache was swept.  `Driver.C11` treats every `dup:<m>` as such a copy;
`copy_inside_lifetime_is_not_dispatched` is what justifies that for histories of any length (the harness's `flood` op makes them
4 096 and more exchanges long).  `bounded_cache_dispatches_twice` is the witness for the seeded change C11-W (a bound on the cache).
-/
namespace CoapVerif.Props.C11ReplyCache
open CoapVerif.Model.ReaderReplyCache

def Holds (s : St) (mid exp : Nat) : Prop := (mid, exp) ∈ s.cache

theorem found_of_holds {s : St} {mid exp : Nat} (h : Holds s mid exp) (hl : s.now < exp) : found s.cache s.now mid = true := by
  unfold found
  rw [List.any_eq_true]
  exact ⟨(mid, exp), h, by simp [hl]⟩

theorem step_keeps (life : Nat) (s : St) (e : Ev) (mid exp : Nat) (h : Holds s mid exp) (hl : (step life s e).now < exp) :
    Holds (step life s e) mid exp ∧ (step life s e).dispatched.count mid = s.dispatched.count mid := by
  cases e with
  | recv m =>
    by_cases hf : found s.cache s.now m = true
    · have hs : step life s (.recv m) = s := by simp [step, hf]
      rw [hs]; exact ⟨h, rfl⟩
    · have hs : step life s (.recv m) = { s with cache := (m, s.now + life) :: s.cache, dispatched := s.dispatched ++ [m] } := by
        simp [step, hf]
      rw [hs] at hl ⊢
      refine ⟨List.mem_cons_of_mem _ h, ?_⟩
      have hne : m ≠ mid := by
        intro heq
        subst heq
        exact hf (found_of_holds h hl)
      simp [List.count_append, hne]
  | sweep =>
    refine ⟨?_, rfl⟩
    have hl' : s.now < exp := hl
    simp only [step, Holds, List.mem_filter]
    exact ⟨h, by simp [hl']⟩
  | tick d => exact ⟨h, rfl⟩

/-- only `tick` moves the clock -/
theorem step_now (life : Nat) (s : St) (e : Ev) (es : List Ev) :
    (step life s e).now + elapsed es = s.now + elapsed (e :: es) := by
  cases e with
  | recv m => simp only [step, elapsed]; split <;> rfl
  | sweep => rfl
  | tick d => simp only [step, elapsed]; omega

theorem now_mono (life : Nat) (s : St) (e : Ev) : s.now ≤ (step life s e).now := by
  have h := step_now life s e []
  have : elapsed [] = 0 := rfl
  omega

theorem now_run (life : Nat) (s : St) (es : List Ev) : (run life s es).now = s.now + elapsed es := by
  induction es generalizing s with
  | nil => rfl
  | cons e es ih => rw [run, ih]; exact step_now life s e es

theorem elapsed_append_recv (es : List Ev) (mid : Nat) : elapsed (es ++ [.recv mid]) = elapsed es := by
  induction es with
  | nil => simp [elapsed]
  | cons e es ih => cases e <;> simp [elapsed, ih]

/-- **Never processed twice, for runs of any length.**  Once message `mid` has been received (state `s` holds its entry, expiring at
    `exp`), any sequence of further events — any number of other messages, copies, sweeps — that stays before `exp` dispatches `mid`
    not once more, and the entry is still there. -/
theorem run_keeps (life : Nat) (es : List Ev) (s : St) (mid exp : Nat) (h : Holds s mid exp) (hl : s.now + elapsed es < exp) :
    Holds (run life s es) mid exp ∧ (run life s es).dispatched.count mid = s.dispatched.count mid := by
  induction es generalizing s with
  | nil => exact ⟨h, rfl⟩
  | cons e es ih =>
    have hnow := step_now life s e es
    have hl1 : (step life s e).now < exp := by omega
    obtain ⟨h1, c1⟩ := step_keeps life s e mid exp h hl1
    obtain ⟨h2, c2⟩ := ih (step life s e) h1 (by omega)
    exact ⟨h2, by rw [run, c2, c1]⟩

/-- The clause as the histories have it: a message arrives for the first time (it is dispatched: exactly one more dispatch), then
    anything happens for less than EXCHANGE_LIFETIME — `es` is arbitrary, in particular arbitrarily many other exchanges —, then its
    copy arrives: the number of dispatches of `mid` is the same as right after the original. -/
theorem copy_inside_lifetime_is_not_dispatched (life : Nat) (s : St) (mid : Nat) (es : List Ev)
    (hnew : found s.cache s.now mid = false) (hlife : elapsed es < life) :
    (run life s (.recv mid :: es ++ [.recv mid])).dispatched.count mid = s.dispatched.count mid + 1 := by
  have h0 : Holds (step life s (.recv mid)) mid (s.now + life) := by
    simp [step, hnew, Holds]
  have hn0 : (step life s (.recv mid)).now = s.now := by simp [step, hnew]
  have hc0 : (step life s (.recv mid)).dispatched.count mid = s.dispatched.count mid + 1 := by
    simp [step, hnew, List.count_append]
  have hrun : run life s (.recv mid :: es ++ [.recv mid]) = run life (step life s (.recv mid)) (es ++ [.recv mid]) := rfl
  rw [hrun]
  have hel := elapsed_append_recv es mid
  obtain ⟨_, c⟩ := run_keeps life (es ++ [.recv mid]) (step life s (.recv mid)) mid (s.now + life) h0 (by rw [hn0, hel]; omega)
  rw [c, hc0]

/-- non-vacuity: other exchanges and two sweeps in 200 s, lifetime 247 s: message 7 is dispatched once -/
example : (run 247 {} (.recv 7 :: ((List.range 6).map (fun i => Ev.recv (100 + i)) ++ [.sweep, .tick 200, .sweep]) ++ [.recv 7])).dispatched.count 7 = 1 := by
  decide

/-- … and after the lifetime the same message ID is a new message (the statement needs `elapsed es < life`) -/
example : (run 247 {} [.recv 7, .tick 247, .recv 7]).dispatched.count 7 = 2 := by decide

/-- **The seeded shape's witness** (C11-W: at most `cap` entries, the oldest is evicted): with a bound the clause fails — the
    original, `cap` further exchanges, no time at all, and the copy is dispatched a second time. -/
theorem bounded_cache_dispatches_twice :
    (runCap 247 4 {} (.recv 7 :: (List.range 4).map (fun i => Ev.recv (100 + i)) ++ [.recv 7])).dispatched.count 7 = 2 := by
  decide

end CoapVerif.Props.C11ReplyCache

section Audit
open CoapVerif.Props.C11ReplyCache
#print axioms found_of_holds
#print axioms step_keeps
#print axioms step_now
#print axioms now_mono
#print axioms now_run
#print axioms elapsed_append_recv
#print axioms run_keeps
#print axioms copy_inside_lifetime_is_not_dispatched
#print axioms bounded_cache_dispatches_twice
end Audit
