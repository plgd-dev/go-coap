import CoapVerif.Props.C14
/-!
# C14 — what `CopyData` returns is the table at ONE instant, however big the table is

Statement (properties.jsonl): Under every interleaving of concurrent calls, the shared map and the expiring cache behave like a
sequential map in which each operation takes effect atomically at some instant between its call and its return. …

For `CopyData` "takes effect atomically at some instant" says: the map it returns is the content the table had at one instant
between call and return — for a table of three entries and for one of three thousand.  Nothing in the model or the
specification bounds the size of the table (`Entries` is a list), so the theorems of Props/C14.lean hold for tables of any size;
this file states the consequence for the copy on its own, and what a copy taken in PIECES (the read lock released and taken
again between two pieces, writers running in the gap) can return that no instant explains:

* `copyData_is_one_snapshot` – the one read-locked section of `CopyData` (`one_locked_section`, `shape_agrees`) returns the
  canonical listing of the table as it is in that section, leaves it unchanged, and that is the one transition of the
  sequential map (`copy_has_one_transition`: the specification gives a copy no intermediate steps);
* `fill_get`, `fill_length`, `fill_nodup` – the bulk operation `fill:<n>:<base>:<v>` of the harness (n `Store`s) builds a table
  of exactly n more entries: the programs of checks/c14.py build their big tables (`BIG_SIZES`) with it;
* `torn_listing_matches_no_instant` – a listing that shows the table WITHOUT an earlier store of a writer but WITH a later
  one is the content at none of the instants of that writer's run; `copyOfAB_torn` is the instance the real code is held to.

The real code is held to this by the programs of `gen_big_programs` in checks/c14.py: under the cooperative scheduler every
re-acquisition of the lock is a scheduling point, so a copy taken in pieces lets the writer run between two pieces.  Seeded change C14-W (more than 1024 entries: copied 1024 at a time) is what this rejects:
`c9:fill:2045:1000:0 … c0:copy c1:store:1:11 r1:- c1:store:2:12 r1:- … r0:d=[1=5,2=12,…]`.
-/
namespace CoapVerif.Props.C14Copy
open CoapVerif.Spec.SeqMap CoapVerif.Model.SyncMap CoapVerif.Model.Cache CoapVerif.Model.SyncSystem CoapVerif.Props.C14
open CoapVerif.Lemmas.SyncMap

/-- The specification gives `CopyData` no intermediate steps (nothing like the observations of a `Range`), whatever the size of
    the table. -/
theorem copy_has_one_transition (s : State) : fires .copyData s = [(s, .done (.dump s.m))] := rfl

/-- The model's `CopyData` is one read-locked section (that this is the shape of the source is `shape_agrees`, that it is the
    only section `one_locked_section`); it returns the canonical listing of the table of that moment and leaves the table
    alone, and this is the specification's transition — for EVERY table `m`, no bound on `m.length`. -/
theorem copyData_is_one_snapshot (m : Entries) (s : State) (hs : s.m = canon m) (hnd : NoDupKeys m) :
    mapSection .copyData m = some (m, .dump (canon m)) ∧
    (s, Outcome.done (.dump (canon m))) ∈ fires .copyData s ∧ (canon m).length = m.length := by
  refine ⟨rfl, ?_, length_canon m hnd⟩
  rw [copy_has_one_transition, hs]
  exact List.mem_singleton.2 rfl

/-! ### the bulk operation of the harness: `fill:<n>:<base>:<v>` = `Store(base, v) … Store(base+n-1, v)` -/

def fill : Nat → Nat → Val → Entries → Entries
  | 0, _, _, m => m
  | n + 1, base, v, m => fill n (base + 1) v (mset base v m)

theorem fill_get (n base : Nat) (v : Val) (m : Entries) (k : Nat) :
    mget k (fill n base v m) = if base ≤ k ∧ k < base + n then some v else mget k m := by
  induction n generalizing base m with
  | zero =>
    simp only [fill, Nat.add_zero]
    have : ¬ (base ≤ k ∧ k < base) := by omega
    rw [if_neg this]
  | succ n ih =>
    rw [fill, ih, mget_mset]
    by_cases hk : k = base
    · rw [if_neg (by omega), if_pos hk, if_pos (by omega)]
    · rw [if_neg hk]
      exact ite_congr (propext (by omega)) (fun _ => rfl) (fun _ => rfl)

theorem fill_nodup (n base : Nat) (v : Val) (m : Entries) (h : NoDupKeys m) : NoDupKeys (fill n base v m) := by
  induction n generalizing base m with
  | zero => exact h
  | succ n ih => rw [fill]; exact ih _ _ (NoDupKeys_mset h)

/-- `fill` over keys that are not in the table yet adds exactly `n` entries: a table of 3 entries filled with 2045 has 2048. -/
theorem fill_length (n base : Nat) (v : Val) (m : Entries) (h : ∀ k, base ≤ k → k < base + n → mget k m = none) :
    (fill n base v m).length = m.length + n := by
  induction n generalizing base m with
  | zero => simp [fill]
  | succ n ih =>
    rw [fill, ih]
    · rw [length_mset_absent (h base (by omega) (by omega))]; omega
    · intro k h1 h2
      rw [mget_mset]
      have : k ≠ base := by omega
      simp [this]
      exact h k (by omega) (by omega)

/-- the tables of the generated programs: three entries of the writer's, then `fill` up to the size -/
example : (fill 2045 1000 ⟨0, 0⟩ [(1, ⟨5, 0⟩), (2, ⟨6, 0⟩), (3, ⟨7, 0⟩)]).length = 2048 := by
  refine (fill_length 2045 1000 _ _ ?_).trans rfl
  intro k h1 h2
  have e1 : (1 = k) = False := by simp; omega
  have e2 : (2 = k) = False := by simp; omega
  have e3 : (3 = k) = False := by simp; omega
  simp [mget, e1, e2, e3]

/-! ### a copy that is not one instant -/

/-- A writer stores `va` under `a`, then `vb` under `b` (both new values).  The table goes through three contents: `m0`,
    `mset a va m0`, `mset b vb (mset a va m0)`.  A listing `L` that shows `a` as it was BEFORE the first store and `b` as it is
    AFTER the second one is none of the three: no instant between the copy's call and its return explains it. -/
theorem torn_listing_matches_no_instant (L m0 : Entries) (a b : Nat) (va vb : Val) (hab : a ≠ b)
    (ha : mget a m0 ≠ some va) (hb : mget b m0 ≠ some vb)
    (hLa : sget a L = mget a m0) (hLb : sget b L = some vb) :
    L ≠ canon m0 ∧ L ≠ canon (mset a va m0) ∧ L ≠ canon (mset b vb (mset a va m0)) := by
  refine ⟨?_, ?_, ?_⟩
  · intro h
    rw [h, sget_canon] at hLb
    exact hb hLb
  · intro h
    rw [h, sget_canon, mget_mset] at hLb
    have : ¬ b = a := fun e => hab e.symm
    simp [this] at hLb
    exact hb hLb
  · intro h
    rw [h, sget_canon, mget_mset, mget_mset] at hLa
    simp [hab] at hLa
    exact ha hLa.symm

/-- `torn_listing_matches_no_instant` on an instance: the table `[1=5, 2=6]`, the writer stores 11 under 1 and 12 under 2, the
    copy returns `[1=5, 2=12]` -/
theorem copyOfAB_torn :
    let m0 : Entries := [(1, ⟨5, 0⟩), (2, ⟨6, 0⟩)]
    let L : Entries := [(1, ⟨5, 0⟩), (2, ⟨12, 0⟩)]
    L ≠ canon m0 ∧ L ≠ canon (mset 1 ⟨11, 0⟩ m0) ∧ L ≠ canon (mset 2 ⟨12, 0⟩ (mset 1 ⟨11, 0⟩ m0)) :=
  torn_listing_matches_no_instant _ _ 1 2 ⟨11, 0⟩ ⟨12, 0⟩ (by decide) (by decide) (by decide) rfl rfl

/-- what the judge rejects (the shape observed under seeded C14-W, on a table small enough to be written out): the copy overlaps
    both stores and returns the second one's effect without the first one's … -/
example : judge [.call 9 (.store 1 ⟨5, 0⟩), .ret 9 .unit, .call 9 (.store 2 ⟨6, 0⟩), .ret 9 .unit,
    .call 0 .copyData, .call 1 (.store 1 ⟨11, 0⟩), .ret 1 .unit, .call 1 (.store 2 ⟨12, 0⟩), .ret 1 .unit,
    .ret 0 (.dump [(1, ⟨5, 0⟩), (2, ⟨12, 0⟩)])] = false := by decide +kernel
/-- … while each of the three contents the table went through is accepted -/
example : judge [.call 9 (.store 1 ⟨5, 0⟩), .ret 9 .unit, .call 9 (.store 2 ⟨6, 0⟩), .ret 9 .unit,
    .call 0 .copyData, .call 1 (.store 1 ⟨11, 0⟩), .ret 1 .unit, .call 1 (.store 2 ⟨12, 0⟩), .ret 1 .unit,
    .ret 0 (.dump [(1, ⟨11, 0⟩), (2, ⟨6, 0⟩)])] = true := by decide +kernel
example : judge [.call 9 (.store 1 ⟨5, 0⟩), .ret 9 .unit, .call 9 (.store 2 ⟨6, 0⟩), .ret 9 .unit,
    .call 0 .copyData, .call 1 (.store 1 ⟨11, 0⟩), .ret 1 .unit, .call 1 (.store 2 ⟨12, 0⟩), .ret 1 .unit,
    .ret 0 (.dump [(1, ⟨5, 0⟩), (2, ⟨6, 0⟩)])] = true := by decide +kernel
/-- the one section on a table kept in another order than the listing -/
example : mapSection .copyData [(2, ⟨6, 0⟩), (1, ⟨5, 0⟩)] = some ([(2, ⟨6, 0⟩), (1, ⟨5, 0⟩)], .dump [(1, ⟨5, 0⟩), (2, ⟨6, 0⟩)]) := by decide +kernel

end CoapVerif.Props.C14Copy

section Audit
open CoapVerif.Props.C14Copy
#print axioms copy_has_one_transition
#print axioms copyData_is_one_snapshot
#print axioms fill_get
#print axioms fill_nodup
#print axioms fill_length
#print axioms torn_listing_matches_no_instant
#print axioms copyOfAB_torn
end Audit
