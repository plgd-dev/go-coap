import CoapVerif.Props.C16
import CoapVerif.Model.LimiterTwoStep
import CoapVerif.Generated.SyncShape
/-!
# C16 — why an arrival (`acquireEndpoint`) may be taken as one atomic read-modify-write of the per-path entry

Statement (properties.jsonl): at every instant the number of client requests in flight on a connection is at most the
configured total limit and, per target path, at most the per-endpoint limit, **for every interleaving of arrivals, completions
and context cancellations** …

The theorems of `Props/C16.lean` are about `Model/Limiter.lean`, in which an arrival (`LoadOrStoreWithFunc` of the endpoint
table with the limiter's callback pair) is one atomic event.  This file states and proves what that rests on
(`Model/LimiterTwoStep.lean` splits the arrival into the look-up of the entry and the run of the callbacks, with arbitrary
events of the other goroutines in between):

* `current_element_refines_atomic` — if every callback run happens on the element that is CURRENTLY in the table, every run
  of the two-step system is, look-ups erased, a run of the atomic model: for all event lists, all limits.
* `one_section_is_current` / `reviewed_shape_refines_atomic` — look-up and callbacks in one critical section (`oneSection`)
  give exactly that guarantee; so every theorem about `Model/Limiter.lean` is a theorem about the two-step system of that shape
  (`endpoint_limit_two_step` spells out the first one).  That this is the shape of `LoadOrStoreWithFunc` in the reviewed source
  is `loswf_is_one_write_section`, re-read from the AST on every run; from the extracted row to `oneSection` one goes by
  reading, no proof uses it.
* `stale_element_not_refined` — WITHOUT the guarantee (the callback applied to the element that was found before the write
  lock was taken, seeded change C16-U) the atomic model is not refined: a concrete run admits a request against the counter
  of an orphaned entry and ends with two requests in flight on a path with endpoint limit 1, which no run of the atomic
  model does.

On the real code the guarantee is observed, not assumed: harness/c14 `loswfr` (the callback of `LoadOrStoreWithFunc` compares
its argument with the element in the map, C14 clause callbacks-see-current-value) and the limiter itself over the
cooperative-mutex table (harness/c14/limiter_test.go, judged by Spec/Limiter.lean).
-/
namespace CoapVerif.Props.C16Atomic
open CoapVerif.Model.Limiter CoapVerif.Model.LimiterTwoStep

/-- `LoadOrStoreWithFunc` is ONE write-locked section that contains the look-up, both callbacks and the store (extracted). -/
theorem loswf_is_one_write_section :
    Generated.SyncShape.mapMethods.lookup "LoadOrStoreWithFunc"
      = some [(.w, [.read, .cb "onLoadFunc", .cb "createFunc", .write])] := by decide +kernel

theorem run2_cons (x : S2) (e : Ev2) (es : List Ev2) : run2 x (e :: es) = run2 (step2 x e) es := rfl

theorem run_cons (s : State) (e : Event) (es : List Event) : run s (e :: es) = run (step s e) es := rfl

/-- When every run of the callback pair happens on the element that is currently in the table, the two-step
    system does exactly what the atomic model does with the look-ups erased — every interleaving, any limits. -/
theorem current_element_refines_atomic (evs : List Ev2) (x : S2) (h : GoodRun x evs) :
    (run2 x evs).s = run x.s (abs evs) := by
  induction evs generalizing x with
  | nil => rfl
  | cons e es ih =>
    obtain ⟨he, hes⟩ := h
    rw [run2_cons, ih _ hes]
    cases e with
    | lookup id k => rfl
    | other e => rfl
    | apply id k =>
      simp only [Current] at he
      simp [step2, he, lift, abs, run_cons]

/-- Look-up and callbacks in one critical section: the element found IS the current one. -/
theorem one_section_is_current (x : S2) (id : Id) (k : Key) : Current (step2 x (.lookup id k)) id k := by
  unfold Current
  simp only [step2, upd_same]
  rfl

theorem abs_oneSection (l : List ((Id × Key) ⊕ Event)) : abs (oneSection l) = atomicOf l := by
  induction l with
  | nil => rfl
  | cons e es ih =>
    cases e with
    | inl p => obtain ⟨id, k⟩ := p; simp [oneSection, abs, atomicOf, ih]
    | inr e => simp [oneSection, abs, atomicOf, ih]

theorem oneSection_good (l : List ((Id × Key) ⊕ Event)) (x : S2) : GoodRun x (oneSection l) := by
  induction l generalizing x with
  | nil => trivial
  | cons e es ih =>
    cases e with
    | inl p =>
      obtain ⟨id, k⟩ := p
      exact ⟨trivial, one_section_is_current x id k, ih _⟩
    | inr e => exact ⟨trivial, ih _⟩

/-- The reviewed shape refines the atomic model: arrivals whose look-up and callbacks are one section, interleaved in any way
    with any other events, are runs of `Model/Limiter.lean`. -/
theorem reviewed_shape_refines_atomic (l : List ((Id × Key) ⊕ Event)) (limit epLimit : Int) :
    (run2 (init2 limit epLimit) (oneSection l)).s = run (init limit epLimit) (atomicOf l) := by
  rw [current_element_refines_atomic _ _ (oneSection_good l _), abs_oneSection]
  rfl

/-- … hence, e.g., the per-path limit for the two-step system of the reviewed shape. -/
theorem endpoint_limit_two_step (l : List ((Id × Key) ⊕ Event)) (limit epLimit : Int) (k : Key) :
    (inFlight (run2 (init2 limit epLimit) (oneSection l)).s k : Int) ≤ effective epLimit := by
  rw [reviewed_shape_refines_atomic]
  exact Props.C16.endpoint_limit_inv limit epLimit _ k

/-! ### without the guarantee -/

/-- total limit 2, endpoint limit 1, path 7.  Request 0 is in flight; request 1 looks the entry up; request 0 finishes and
    `releaseEndpoint` drops the entry (counter 0, queue empty); request 1's `onLoad` runs on the dropped entry: counter 0 < 1,
    admitted; request 2 finds no entry, creates one, admitted. -/
def staleRun : List Ev2 :=
  [.lookup 0 7, .apply 0 7, .other (.step 0 .grant),
   .lookup 1 7,
   .other (.finish 0), .other (.step 0 .grant), .other (.step 0 .grant),
   .apply 1 7, .other (.step 1 .grant),
   .lookup 2 7, .apply 2 7, .other (.step 2 .grant)]

/-- the run is NOT good: when request 1's callbacks run (8th event), the element it found (stamp 1) is not in the table -/
example : let x := run2 (init2 2 1) (staleRun.take 7)
    ¬ Current x 1 7 ∧ x.found 1 = some (some 1) ∧ curStamp x 7 = none := by decide +kernel

/-- what it ends in: requests 1 and 2 both inside the wrapped function, the table's entry counts one of them, the orphan
    the other -/
theorem stale_run_result :
    let x := run2 (init2 2 1) staleRun
    inFlight x.s 7 = 2 ∧ x.s.pc 1 = .running ∧ x.s.pc 2 = .running ∧ x.s.eps 7 = some ⟨1, []⟩ ∧ x.orph 7 1 = ⟨1, []⟩ := by
  decide +kernel

/-- Without "the callback runs on the current element" the atomic model is not refined: the state the stale run
    ends in is not the state of ANY run of the atomic model with these limits. -/
theorem stale_element_not_refined : ∀ evs : List Event, (run2 (init2 2 1) staleRun).s ≠ run (init 2 1) evs := by
  intro evs h
  have h1 := Props.C16.endpoint_limit_inv 2 1 evs 7
  rw [← h] at h1
  have h2 : inFlight (run2 (init2 2 1) staleRun).s 7 = 2 := stale_run_result.1
  rw [h2] at h1
  revert h1
  decide +kernel

/-- the same arrivals with the guarantee (look-up and callbacks in one section): request 1 queues behind request 0 and is
    admitted when 0 has released, request 2 waits — one request in flight (non-vacuity of the refinement) -/
example :
    let l : List ((Id × Key) ⊕ Event) :=
      [.inl (0, 7), .inr (.step 0 .grant), .inl (1, 7), .inr (.finish 0), .inr (.step 0 .grant), .inr (.step 0 .grant),
       .inr (.step 1 .grant), .inl (2, 7)]
    let x := run2 (init2 2 1) (oneSection l)
    inFlight x.s 7 = 1 ∧ x.s.pc 1 = .running ∧ x.s.pc 2 = .epQueued ∧ x.s.eps 7 = some ⟨1, [2]⟩ := by decide +kernel

end CoapVerif.Props.C16Atomic

section Audit
open CoapVerif.Props.C16Atomic
#print axioms loswf_is_one_write_section
#print axioms run2_cons
#print axioms run_cons
#print axioms current_element_refines_atomic
#print axioms one_section_is_current
#print axioms abs_oneSection
#print axioms oneSection_good
#print axioms reviewed_shape_refines_atomic
#print axioms endpoint_limit_two_step
#print axioms stale_run_result
#print axioms stale_element_not_refined
end Audit
