import CoapVerif.Model.Framing
import CoapVerif.Lemmas.Framing
import CoapVerif.Spec.Framing
import CoapVerif.Lemmas.FramingSpec
import CoapVerif.Props.C07Opts
/-!
# C07 — Stream framing is independent of how bytes are segmented

Statement (properties.jsonl): for every sequence of messages and every way the byte stream is cut into
reads (single bytes, cuts inside headers, several messages in one read), a stream-transport connection
delivers exactly the sent messages, each once, complete and in order.  A frame whose declared length
exceeds the configured maximum message size is never delivered, nor is anything that follows it: the
connection is closed with an error as soon as the offending header is seen, without waiting for or
buffering the oversized body.

Model: `Model/Framing.lean` (`decodeHeader`, `proc` = processBuffer, `feed` = one Read, `run`).
All theorems hold for every byte string, every chunking (arbitrary `List Bytes`) and every limit.
Segmentation independence is proved once, in `Props/C07Opts.lean` (imported here), for the run whose messages carry their
options; the other theorems of this file rest on it.
-/
namespace CoapVerif.Props.C07
open CoapVerif CoapVerif.Model.Framing CoapVerif.Lemmas.Framing

/-- **Segmentation independence**: for every way of cutting the byte stream into reads, deliveries and the
    open/closed outcome are those of a single read of the whole stream.  `run` is the run that also carries the options
    (`Props/C07Opts.lean`) with the options forgotten, and that one is segmentation independent. -/
theorem run_chunk_independent (max : Nat) (cs : List Bytes) :
    (run max cs).obs = (run max [cs.flatten]).obs := by
  have h := Props.C07Opts.runO_chunk_independent max cs
  simp only [Model.FramingOpts.StO.obs, Prod.mk.injEq] at h
  rw [← Props.C07Opts.runO_erase, ← Props.C07Opts.runO_erase]
  simp only [St.obs, Model.FramingOpts.StO.erase, h.1, h.2]

/-- Two segmentations of the same stream are indistinguishable. -/
theorem run_same_stream (max : Nat) (cs ds : List Bytes) (h : cs.flatten = ds.flatten) :
    (run max cs).obs = (run max ds).obs := by
  rw [run_chunk_independent max cs, run_chunk_independent max ds, h]

/-- A frame the connection accepts: complete header, declared length = its length ≤ limit, body decodes. -/
def WellFramed (max : Nat) (f : Bytes) : Prop :=
  ∃ h m, decodeHeader f = .ok h ∧ h.msgLen = f.length ∧ f.length ≤ max ∧ decodeFrame f = some m

/-- Parsing a buffer that starts with well-framed frames delivers them in order and continues after them. -/
theorem proc_frames (max : Nat) (fs : List Bytes) (tail : Bytes) (out : List Msg)
    (hf : ∀ f ∈ fs, WellFramed max f) :
    proc max (fs.flatten ++ tail) out = proc max tail (out ++ fs.filterMap decodeFrame) := by
  induction fs generalizing out with
  | nil => simp
  | cons f fs ih =>
    obtain ⟨h, m, hh, hl, hm, hd⟩ := hf f (by simp)
    simp only [List.flatten_cons, List.append_assoc]
    rw [proc_eq, decodeHeader_append (fs.flatten ++ tail) hh nofun]
    have n1 : ¬ h.msgLen > max := by omega
    have n2 : ¬ (f ++ (fs.flatten ++ tail)).length < h.msgLen := by simp [List.length_append]; omega
    simp only [n1, n2, ↓reduceIte]
    rw [hl, List.take_left, hd, List.drop_left]
    dsimp only
    rw [ih (out ++ [m]) (fun g hg => hf g (by simp [hg]))]
    simp [hd]

/-- **Exactly the sent messages, each once, complete, in order** — for every segmentation. -/
theorem run_delivers_sent (max : Nat) (fs : List Bytes) (cs : List Bytes)
    (hf : ∀ f ∈ fs, WellFramed max f) (hc : cs.flatten = fs.flatten) :
    (run max cs).obs = (fs.filterMap decodeFrame, false) ∧ (fs.filterMap decodeFrame).length = fs.length := by
  constructor
  · rw [run_chunk_independent, hc]
    have := proc_frames max fs [] [] hf
    simp only [List.append_nil, List.nil_append] at this
    rw [run_singleton, this, proc_eq]
    rfl
  · exact List.filterMap_length_eq_length.mpr fun f hm => by
      obtain ⟨_, _, _, _, _, hd⟩ := hf f hm
      rw [hd]; rfl

/-- A header the connection closes on: complete and declaring more than the limit, or refused by `DecodeHeader` outright
    (`.invalid`: more than 32 bits can hold — or a reserved token length 9–15, which the first byte alone shows). -/
def Oversize (max : Nat) (hdr : Bytes) : Prop :=
  decodeHeader hdr = .invalid ∨ ∃ h, decodeHeader hdr = .ok h ∧ h.msgLen > max

/-- After any well-framed frames, as soon as an oversize header is in the buffer the
    connection is closed, exactly the earlier frames were delivered, and nothing that follows (`rest`: the
    body, later frames, anything) is ever delivered — for every segmentation, including `rest = []`
    (no body byte has arrived). -/
theorem oversize_closes (max : Nat) (fs : List Bytes) (hdr rest : Bytes) (cs : List Bytes)
    (hf : ∀ f ∈ fs, WellFramed max f) (ho : Oversize max hdr)
    (hc : cs.flatten = fs.flatten ++ (hdr ++ rest)) :
    (run max cs).obs = (fs.filterMap decodeFrame, true) := by
  rw [run_chunk_independent, hc]
  rw [run_singleton, proc_frames max fs (hdr ++ rest) [] hf]
  rcases ho with hi | ⟨h, hh, hgt⟩
  · rw [proc_eq, decodeHeader_append rest hi nofun]; rfl
  · rw [proc_eq, decodeHeader_append rest hh nofun]; simp [hgt, St.obs]

/-- While only part of a header is present nothing is delivered and the connection stays open (short read). -/
theorem short_waits (max : Nat) (buf : Bytes) (out : List Msg) (h : decodeHeader buf = .short) :
    proc max buf out = ⟨buf, out, false⟩ := by rw [proc_eq, h]

/-- **The code-following model meets the RFC-level specification** (`Spec/Framing.lean`, written from RFC 8323 §3.2 /
    RFC 7252 §3.1 without reference to the code, and the judge of the correspondence runs): for every byte stream, every
    segmentation and every limit, the messages delivered are exactly the frames the specification finds in the
    stream before the first offending one, the connection is open whenever the specification says it is open
    (in particular nothing is closed without an offending frame), and it is closed whenever the specification
    says the offending header / malformed frame is completely received (`mustClose`; for an oversize length
    field whose header is still incomplete the specification allows either). -/
theorem run_meets_spec (max : Nat) (cs : List Bytes) :
    (run max cs).out = (Spec.Framing.expected max cs.flatten).1.map Lemmas.FramingSpec.conv ∧
    ((Spec.Framing.expected max cs.flatten).2 = .open_ → (run max cs).closed = false) ∧
    ((Spec.Framing.expected max cs.flatten).2 = .mustClose → (run max cs).closed = true) := by
  have hobs := run_chunk_independent max cs
  rw [run_singleton] at hobs
  simp only [St.obs, Prod.mk.injEq] at hobs
  rw [hobs.1, hobs.2]
  exact Lemmas.FramingSpec.proc_eq_split max cs.flatten [] [] (cs.flatten.length + 1) rfl (by omega)

/-! Non-vacuity: a GET with token `a1` and Uri-Path "x" (frame `21 01 a1 b1 78`), a CSM `00 e1`,
    cut inside the header, against limit 1152 (the default Max-Message-Size of RFC 8323 §5.3.1, `message/tcpOptions.go`);
    and an oversize header `e0 ff ff 01` (declares 65804+4 bytes). -/
theorem ex_frame : decodeFrame [0x21, 0x01, 0xa1, 0xb1, 0x78] = some ⟨1, [0xa1], []⟩ := by
  have h : decodeHeader [0x21, 0x01, 0xa1, 0xb1, 0x78] = .ok ⟨3, 5, 1, 1⟩ := by decide
  simp [decodeFrame, h, walkOpts, parseExt, Generated.TcpFraming.extError, Generated.TcpFraming.extByteCode,
    Generated.TcpFraming.extWordCode]
example : WellFramed 1152 [0x21, 0x01, 0xa1, 0xb1, 0x78] :=
  ⟨⟨3, 5, 1, 1⟩, ⟨1, [0xa1], []⟩, by decide, by decide, by decide, ex_frame⟩
example : (run 1152 [[0x21], [0x01, 0xa1], [0xb1, 0x78]]).obs = ([⟨1, [0xa1], []⟩], false) := by
  rw [run_delivers_sent 1152 [[0x21, 0x01, 0xa1, 0xb1, 0x78]] _
    (by intro f hf; simp at hf; subst hf; exact ⟨⟨3, 5, 1, 1⟩, ⟨1, [0xa1], []⟩, by decide, by decide, by decide, ex_frame⟩)
    (by rfl) |>.1]
  simp [ex_frame]
/-! Non-vacuity of `run_meets_spec`: the specification finds the GET and the CSM in a stream; an oversize header that is
    complete must close; one whose code byte is still missing may (the model waits there: `decodeHeader [e0, ff, ff] = .short`,
    and `Oversize` asks for `.invalid` or `.ok`). -/
example : Spec.Framing.expected 1152 [0x21, 0x01, 0xa1, 0xb1, 0x78, 0x00, 0xe1]
    = ([⟨1, [0xa1], []⟩, ⟨0xe1, [], []⟩], .open_) := by decide
example : Spec.Framing.expected 1152 [0x21, 0x01, 0xa1, 0xb1, 0x78, 0xe0, 0xff, 0xff, 0x01]
    = ([⟨1, [0xa1], []⟩], .mustClose) := by decide
example : Spec.Framing.expected 1152 [0x21, 0x01, 0xa1, 0xb1, 0x78, 0xe0, 0xff, 0xff]
    = ([⟨1, [0xa1], []⟩], .mayClose) := by decide
example : Oversize 1152 [0xe0, 0xff, 0xff, 0x01] := Or.inr ⟨⟨4, 65808, 1, 0⟩, by decide, by decide⟩
example : Oversize 4294967295 [0xf0, 0xff, 0xfe, 0xfe, 0xf3, 0x01] := Or.inl (by decide)

end CoapVerif.Props.C07

section Audit
open CoapVerif.Props.C07
#print axioms run_chunk_independent
#print axioms run_same_stream
#print axioms proc_frames
#print axioms run_delivers_sent
#print axioms oversize_closes
#print axioms short_waits
#print axioms run_meets_spec
#print axioms ex_frame
end Audit
