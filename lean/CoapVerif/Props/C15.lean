import CoapVerif.Go.Basic
import CoapVerif.Model.PoolOptions
import CoapVerif.Spec.SortedMultiset
import CoapVerif.Lemmas.SortedMultiset
import CoapVerif.Lemmas.OptionsModel
import CoapVerif.Lemmas.OptionValuesModel
import CoapVerif.Lemmas.PoolOptionsModel
import CoapVerif.Lemmas.OptionGlueModel
/-!
# C15 — Option list and message builder behave like a sorted multiset model

Statement (properties.jsonl): Any sequence of option-editing operations (set, add, remove,
set-path/location-path, typed setters, reset-to, clone, message reset and reuse) leaves the option list equal to
what a simple reference list predicts: ascending by option number, insertion order kept among repeated options,
values byte-exact and unaffected by later edits or internal buffer growth. All query operations (find, has, single
and multi-value getters, path, queries, content format) answer consistently with that model and never crash, and
splitting a path into segments then joining it back returns the normalised path (one leading slash, empty segments
dropped) for every path whose segments are at most 255 bytes, longer segments being refused.

Objects.  `Model/Options.lean`: `message.Options` as a slice header `(arr, len)` over a backing array with in-place
writes, `append` reallocating exactly when `len = cap` (any growth policy `g`), checked indexing in `Except Panic`.
`Model/OptionValues.lean`: option values are *views* into a heap of byte buffers, the editing functions take a
destination buffer.  `Model/PoolOptions.lean`: the pooled message's value buffer with its cursor and growth.
`Model/OptionGlue.lean`: the library's own users of the list (`SetResponse`, `NewObservation`, the client's request
builders).  `Spec/SortedMultiset.lean`: the reference list (stable insertion `ins`, `remove`, `set`, `values`,
`segments`, `join`), one operation of a history on it (`specStep`), and what those users should produce
(`responseOptions`, `registers`, `requestOptions`).  `o.toList` is what a reader of the slice sees; `items m o` is the
list of `(number, bytes)`.

All theorems hold for every list length, every capacity, every growth policy, every buffer; nothing is sampled.
The invariants that make the statements true — `WF` (len ≤ cap), `Sorted`, `Live` (stored values lie inside their
buffers and outside the unused part of the value buffer) — are themselves proved to be preserved by every operation.
-/
namespace CoapVerif.Props.C15
open CoapVerif.Model.Options CoapVerif.Spec.SortedMultiset
open CoapVerif.Lemmas.SortedMultiset CoapVerif.Lemmas.OptionsModel CoapVerif.Lemmas.OptionValuesModel
open CoapVerif.Lemmas.PoolOptionsModel CoapVerif.Lemmas.OptionGlueModel

variable {α : Type}

/-! ## the shape of the source the theorems are about

The models branch on structural facts that the extractor reads from the AST of `message/options.go` on every run
(`Generated/OptionListShape.lean`): the comparison operator of the range loops of the multi getters and of `path`,
whether `setPath` validates before it removes, whether `ResetOptionsTo` checks the size before it overwrites.  The
theorems below are proved for the shapes stated here; if the source changes shape this theorem (and every proof that
unfolds one of the facts) stops checking, while the model keeps following the source. -/
theorem shape_agrees :
    CoapVerif.Generated.OptionListShape.getUint32sLoopStrict = true ∧
    CoapVerif.Generated.OptionListShape.getStringsLoopStrict = true ∧
    CoapVerif.Generated.OptionListShape.getBytessLoopStrict = true ∧
    CoapVerif.Generated.OptionListShape.pathLoopsStrict = true ∧
    CoapVerif.Generated.OptionListShape.setPathValidatesBeforeRemove = true ∧
    CoapVerif.Generated.OptionListShape.resetChecksSizeBeforeOverwrite = true := by decide

/-- The shape of the library's own users of the list (`Model/OptionGlue.lean`): `NewObservation` keeps a `.Clone()` of the
request's options; `ResponseWriter.SetResponse` calls `ResetOptionsTo(opts)` unconditionally; `Client.NewObserveRequest`
puts the Observe option on the built request with `SetObserve`. -/
theorem shape_agrees_glue :
    CoapVerif.Generated.OptionListShape.observationClonesOptions = true ∧
    CoapVerif.Generated.OptionListShape.setResponseAlwaysResets = true ∧
    CoapVerif.Generated.OptionListShape.newObserveRequestSetsObserve = true := by decide

/-! ## binary search (`findPosition`, `Find`) -/

/-- Termination measure + bounds invariant: on *every* list (sorted or not) within its capacity the search loop
ends within its `2·len + 2` iterations and no index is out of range. -/
theorem findPosition_total {o : Options α} (hwf : WF o) (id : Nat) : ∃ r, o.findPosition id = .ok r :=
  Lemmas.OptionsModel.findPosition_total hwf id

/-- On a sorted list the result is the open interval around the options with that number: `(last index with a smaller
number, first index with a larger number)`, with Go's encodings `-1` for "none before" / "none after" and `(-1, 0)` for
the empty list (loop invariant: `Lemmas.OptionsModel.findPivot_spec`). -/
theorem findPosition_spec {o : Options α} (hwf : WF o) (hs : Sorted o.toList) (id : Nat) :
    o.findPosition id = .ok ((lt id o.toList : Int) - 1,
      if o.len = 0 then 0 else if le id o.toList = o.len then -1 else (le id o.toList : Int)) :=
  Lemmas.OptionsModel.findPosition_spec hwf hs id

/-- What `lt` and `le` are: on a sorted list the options with a smaller number are exactly the first `lt`, those
with a number not larger exactly the first `le`. -/
theorem lt_le_characterisation {β : Type} {l : List (Nat × β)} (hs : Sorted l) (id i : Nat) (h : i < l.length) :
    (l[i].1 < id ↔ i < lt id l) ∧ (l[i].1 ≤ id ↔ i < le id l) :=
  ⟨lt_iff hs id i h, le_iff hs id i h⟩

/-- `Find` returns the index range of the specification, or `ErrOptionNotFound` when it is empty. -/
theorem find_spec {o : Options α} (hwf : WF o) (hs : Sorted o.toList) (id : Nat) :
    o.find id = .ok ((findRange id o.toList).map (fun r => ((r.1 : Int), (r.2 : Int)))) := by
  rw [Lemmas.OptionsModel.find_spec hwf hs id, findRange_eq id hs]
  by_cases c : lt id o.toList = le id o.toList
  · rw [if_pos c, if_pos c]; rfl
  · rw [if_neg c, if_neg c]; rfl

/-! ## `Set`, `Add`, `Remove` refine the reference list; sortedness is preserved -/

/-- For every capacity and growth policy, `Add` succeeds and the new slice reads as the stable
insertion into the old one. -/
theorem add_refines [Inhabited α] (g : Nat → Nat) {o : Options α} (hwf : WF o) (hs : Sorted o.toList) (x : Opt α) :
    ∃ o', o.add g x = .ok o' ∧ WF o' ∧ o'.toList = ins x o.toList := by
  obtain ⟨o', h1, h2, _, h4, _⟩ := add_spec g hwf hs x
  exact ⟨o', h1, h2, h4⟩

theorem set_refines [Inhabited α] (g : Nat → Nat) {o : Options α} (hwf : WF o) (hs : Sorted o.toList) (x : Opt α) :
    ∃ o', o.set g x = .ok o' ∧ WF o' ∧ o'.toList = Spec.SortedMultiset.set x o.toList :=
  set_spec g hwf hs x

/-- `Remove` works in place (same backing array length). -/
theorem remove_refines {o : Options α} (hwf : WF o) (hs : Sorted o.toList) (id : Nat) :
    ∃ o', o.remove id = .ok o' ∧ WF o' ∧ o'.arr.length = o.arr.length ∧ o'.toList = remove id o.toList :=
  remove_spec hwf hs id

/-- The reference operations keep the list ascending (hence, by the three refinement theorems,
so do `Set`, `Add`, `Remove`), and `ResetOptionsTo` of arbitrary — also unsorted — input produces a sorted list. -/
theorem sorted_preserved {β : Type} (x : Nat × β) (id : Nat) (inp : List (Nat × β)) {l : List (Nat × β)} (hs : Sorted l) :
    Sorted (ins x l) ∧ Sorted (Spec.SortedMultiset.set x l) ∧ Sorted (remove id l) ∧ Sorted (resetTo inp) :=
  ⟨ins_sorted x hs, set_sorted x hs, remove_sorted id hs, resetTo_sorted inp⟩

theorem sorted_preserved_model [Inhabited α] (g : Nat → Nat) {o o' : Options α} (hwf : WF o) (hs : Sorted o.toList)
    (x : Opt α) (id : Nat) (h : o.add g x = .ok o' ∨ o.set g x = .ok o' ∨ o.remove id = .ok o') : Sorted o'.toList := by
  rcases h with h | h | h
  · obtain ⟨o'', h1, _, h3⟩ := add_refines g hwf hs x
    rw [h] at h1; injection h1 with h1; subst h1; rw [h3]; exact ins_sorted x hs
  · obtain ⟨o'', h1, _, h3⟩ := set_refines g hwf hs x
    rw [h] at h1; injection h1 with h1; subst h1; rw [h3]; exact set_sorted x hs
  · obtain ⟨o'', h1, _, _, h3⟩ := remove_refines hwf hs id
    rw [h] at h1; injection h1 with h1; subst h1; rw [h3]; exact remove_sorted id hs

/-! ## getters: never panic, answer as the reference list does -/

/-- On a well-formed sorted list no query operation panics — for every option number and for a
result slice of every length `n` (0, too small, exact, larger). -/
theorem getters_no_panic (m : Mem) {o : Options View} (hwf : WF o) (hs : Sorted o.toList) (id n : Nat) :
    (∃ r, o.find id = .ok r) ∧ (∃ r, o.has id = .ok r) ∧
    (∃ r, Options.getBytes m o id = .ok r) ∧ (∃ r, Options.getUint32 m o id = .ok r) ∧
    (∃ r, Options.getBytess m o id n = .ok r) ∧ (∃ r, Options.getStrings m o id n = .ok r) ∧
    (∃ r, Options.getUint32s m o id n = .ok r) ∧
    (∃ r, Options.pathString m o id = .ok r) ∧ (∃ r, Options.queries m o = .ok r) ∧
    (∃ r, Options.contentFormatOf m o = .ok r) :=
  ⟨⟨_, Lemmas.OptionsModel.find_spec hwf hs id⟩, ⟨_, has_spec hwf hs id⟩, ⟨_, getBytes_spec m hwf hs id⟩,
    ⟨_, getUint32_spec m hwf hs id⟩, ⟨_, getBytess_spec m hwf hs id n⟩, ⟨_, getStrings_spec m hwf hs id n⟩,
    ⟨_, getUint32s_spec m hwf hs id n⟩, ⟨_, pathString_spec m hwf hs id⟩, ⟨_, queries_spec m hwf hs⟩,
    ⟨_, contentFormat_spec m hwf hs⟩⟩

/-- The single-value getters, `HasOption`, `ContentFormat`: the first value stored under the number. -/
theorem getters_spec_single (m : Mem) {o : Options View} (hwf : WF o) (hs : Sorted o.toList) (id : Nat) :
    o.has id = .ok (!(values id (items m o)).isEmpty) ∧
    Options.getBytes m o id = .ok ((values id (items m o)).head?) ∧
    Options.getUint32 m o id = .ok (((values id (items m o)).head?).map uintOf) ∧
    Options.contentFormatOf m o = .ok (((values contentFormatId (items m o)).head?).map (fun v => mediaTypeOf (uintOf v))) := by
  refine ⟨?_, getBytes_spec m hwf hs id, getUint32_spec m hwf hs id, contentFormat_spec m hwf hs⟩
  rw [has_spec hwf hs, values_items, List.isEmpty_map]

/-- The multi-value getters `GetBytess`/`GetStrings`/`GetUint32s`, `Queries`: with a result slice of
length `n` they report `ErrOptionNotFound` when nothing is stored, `(count, ErrTooSmall)` when `n < count`, and
otherwise exactly the stored values in order — never one more, never a neighbour's. -/
theorem getters_spec_multi (m : Mem) {o : Options View} (hwf : WF o) (hs : Sorted o.toList) (id n : Nat) :
    Options.getBytess m o id n = .ok (
      let vs := values id (items m o)
      if vs = [] then ((0 : Int), some Err.notFound, [])
      else if n < vs.length then ((vs.length : Int), some Err.tooSmall, []) else ((vs.length : Int), none, vs)) ∧
    Options.getStrings m o id n = Options.getBytess m o id n ∧
    Options.getUint32s m o id n = .ok (
      let vs := (values id (items m o)).map uintOf
      if vs = [] then ((0 : Int), some Err.notFound, [])
      else if n < vs.length then ((vs.length : Int), some Err.tooSmall, []) else ((vs.length : Int), none, vs)) ∧
    Options.queries m o = .ok (let vs := values uriQueryId (items m o); if vs = [] then none else some vs) :=
  ⟨getBytess_spec m hwf hs id n, by rw [getStrings_spec m hwf hs id n, getBytess_spec m hwf hs id n],
    getUint32s_spec m hwf hs id n, queries_spec m hwf hs⟩

/-! ## paths -/

/-- The model's `GetPathBufferSize` splits exactly as the specification does: it refuses iff some non-empty
segment is longer than `maxPathValue` (= 255, regenerated from the source) and otherwise returns the total length. -/
theorem getPathBufferSize_spec (p : Bytes) :
    Options.getPathBufferSize p = .ok (
      if (segments p).any (fun s => s.length > maxSegment) then .error Err.invalidLen
      else .ok (totalSeg (segments p))) :=
  getPathBufferSize_eq p

/-- `path_split_join`, editing half (`SetPath` / `SetLocationPath` on any option number `id`).  With a destination
buffer inside the heap and all stored values outside its unused part:
* a path with a segment over 255 bytes is refused with `ErrInvalidValueLength` and **list and heap are untouched**;
* a path whose segments do not fit the buffer is refused with `ErrTooSmall`, again untouched (F19);
* otherwise the options of that number are replaced by one option per non-empty segment, in order, every other
  option and every stored value stays as it was, and the invariants hold again for the rest of the buffer. -/
theorem path_split_join_set (g : Nat → Nat) {m : Mem} {o : Options View} {buf : Slice}
    (hwf : WF o) (hs : Sorted o.toList) (hbuf : SliceIn m buf) (hlive : Live m buf o) (id : Nat) (p : Bytes) :
    ∃ res, Options.setPath g m o id buf p = .ok res ∧
      match Spec.SortedMultiset.setPath id p (items m o) with
      | none => res.err = some Err.invalidLen ∧ res.mem = m ∧ res.opts = o
      | some l' =>
        if p ≠ [] ∧ totalSeg (segments p) > buf.len then res.err = some Err.tooSmall ∧ res.mem = m ∧ res.opts = o
        else
          let used := if p = [] then 0 else totalSeg (segments p)
          res.err = none ∧ res.used = (used : Int) ∧ Post m buf res.mem res.opts used ∧ items res.mem res.opts = l' :=
  setPath_spec g hwf hs hbuf hlive id p

theorem path_refused_iff (id : Nat) (p : Bytes) (l : List Item) :
    Spec.SortedMultiset.setPath id p l = none ↔ ∃ s ∈ segments p, s.length > 255 :=
  setPath_refused_iff id p l

/-- `path_split_join`, reading half: `Path()`/`LocationPath()` never panic and return the join of the stored
segments, `("", ErrOptionNotFound)` when there is none. -/
theorem path_split_join_get (m : Mem) {o : Options View} (hwf : WF o) (hs : Sorted o.toList) (id : Nat) :
    Options.pathString m o id = .ok (
      match Spec.SortedMultiset.path id (items m o) with
      | none => ([], some Err.notFound)
      | some p => (p, none)) :=
  pathString_spec m hwf hs id

/-- `path_split_join`: set a non-empty path whose segments are at most 255 bytes with a buffer that is large
enough, then read it back: the result is the normalised path — one leading slash per non-empty segment, empty
segments dropped — or `("", ErrOptionNotFound)` (the root) when the path has no non-empty segment. -/
theorem path_split_join (g : Nat → Nat) {m : Mem} {o : Options View} {buf : Slice}
    (hwf : WF o) (hs : Sorted o.toList) (hbuf : SliceIn m buf) (hlive : Live m buf o) (id : Nat) (p : Bytes)
    (hp : p ≠ []) (hseg : ∀ s ∈ segments p, s.length ≤ 255) (hfit : totalSeg (segments p) ≤ buf.len) :
    ∃ res, Options.setPath g m o id buf p = .ok res ∧ res.err = none ∧
      Options.pathString res.mem res.opts id
        = .ok (if segments p = [] then ([], some Err.notFound) else (join (segments p), none)) := by
  obtain ⟨res, h1, h2⟩ := setPath_spec g hwf hs hbuf hlive id p
  have hsi : Sorted (items m o) := (mapVal_sorted _).mpr hs
  cases hsp : Spec.SortedMultiset.setPath id p (items m o) with
  | none =>
    obtain ⟨s, hs1, hs2⟩ := (setPath_refused_iff id p _).mp hsp
    have := hseg s hs1
    unfold maxSegment at hs2; omega
  | some l' =>
    rw [hsp] at h2
    have hc : ¬ (p ≠ [] ∧ totalSeg (segments p) > buf.len) := by omega
    simp only [hc, if_false, hp] at h2
    obtain ⟨he, _, hpost, hitems⟩ := h2
    refine ⟨res, h1, he, ?_⟩
    rw [pathString_spec res.mem hpost.wf hpost.sorted id, hitems, path_setPath id p hsi hp hsp]
    by_cases c : segments p = [] <;> simp [c]

/-! ## values are byte-exact and stable (Options level: one destination buffer) -/

/-- `values_stable` for `SetBytes`/`AddBytes`/`SetString`/`AddString`: when the destination buffer lies inside the
heap and every stored value lies outside its unused part, the call succeeds, the list a reader sees is the
reference's, **every view outside the unused part of the buffer — in particular every value stored earlier — reads
exactly as before**, and the stored values again lie outside what is left of the buffer. -/
theorem values_stable_put (isSet : Bool) (g : Nat → Nat) {m : Mem} {o : Options View} {buf : Slice}
    (hwf : WF o) (hs : Sorted o.toList) (hbuf : SliceIn m buf) (hlive : Live m buf o)
    (id : Nat) (data : List UInt8) (hfit : data.length ≤ buf.len)
    (hok : ¬ (id = CoapVerif.Generated.OptionList.uriPath ∧ data.length > CoapVerif.Generated.OptionList.maxPathValue)) :
    ∃ m' o', (if isSet then Options.setBytes g m o buf id data else Options.addBytes g m o buf id data)
        = .ok ⟨m', o', data.length, none⟩ ∧
      Post m buf m' o' data.length ∧
      items m' o' = (if isSet then Spec.SortedMultiset.set (id, data) (items m o) else ins (id, data) (items m o)) :=
  putBytes_spec isSet g hwf hs hbuf hlive id data hfit hok

/-! ## the pooled message: whole histories, buffer growth, reset and reuse; `ResetOptionsTo` and `Clone` on both levels -/

/-- **Any sequence of option-editing operations** on a `pool.Message` (byte/string/uint32 setters and adders,
`SetPath`, `AddQuery`, `Remove`, `ResetOptionsTo` with arbitrary unsorted input or with a selection of the message's
own options, `Reset` followed by reuse), for every option capacity, every growth policy of `append` on the option
slice (`g`) and on the value buffer (`gb`): the run never ends in a **runtime** panic (index out of range, slice
bounds: `Msg.run … = .ok _`), the invariant (`len ≤ cap`, sorted, values inside their buffers and below the cursor)
is re-established, and the list of `(number, value bytes)` a reader sees equals the reference list obtained by
folding `Spec.SortedMultiset.specStep` over the same history.

What "never panics" does *not* mean here: the typed pool setters call `panic(fmt.Errorf(…))` *on purpose* when the
wrapped `Options` method refuses (the only reachable case: `SetOptionString`/`AddOptionString` with a Uri-Path value
over 255 bytes).  `Msg.step` models that deliberate panic as a refusal that the caller recovers from — the message is
left as the method left it and the history goes on — and `specStep` leaves the list unchanged for it; `SetPath` returns
its error instead of panicking and is treated the same way.  So the statement is "no runtime error and, after every
step including refused ones, list = reference", not "no Go `panic` statement is ever executed". -/
theorem history_refines (g : Nat → Nat) (gb : Nat → Nat → Nat) (ops : List Msg.Op) {r : Msg} (hinv : MsgInv r) :
    ∃ r', Msg.run g gb r ops = .ok r' ∧ MsgInv r' ∧
      items r'.mem r'.opts = ops.foldl specStep (items r.mem r.opts) ∧ Sorted (items r'.mem r'.opts) := by
  obtain ⟨r', h1, h2, h3, _⟩ := run_spec g gb ops hinv
  exact ⟨r', h1, h2, h3, (mapVal_sorted _).mpr h2.sorted⟩

/-- `history_refines` from a new message of any option capacity (`NewMessage` has 16; `SetMessage` gives others). -/
theorem history_refines_new (g : Nat → Nat) (gb : Nat → Nat → Nat) (ops : List Msg.Op) (optCap : Nat) :
    ∃ r', Msg.run g gb (Msg.new [] optCap) ops = .ok r' ∧ items r'.mem r'.opts = ops.foldl specStep [] := by
  obtain ⟨r', h1, _, h3, _⟩ := run_spec g gb ops (msgInv_new [] optCap)
  refine ⟨r', h1, ?_⟩
  rw [h3]
  simp [items, Msg.new, Mem.alloc, Options.make, Options.toList, mapVal]

/-- The values stored in a message (their views lie inside their buffers and below the cursor of
the value buffer — the invariant) are **never changed by later edits or by growth of the value buffer**: after any
history without `Reset` every such view still reads the same bytes, is still inside its buffer and still below the
cursor.  (Below-the-cursor alone suffices, the stored values need not be pairwise disjoint, because the code only ever
writes at or above the cursor or into fresh buffers.) -/
theorem values_stable (g : Nat → Nat) (gb : Nat → Nat → Nat) (ops : List Msg.Op) {r : Msg} (hinv : MsgInv r)
    (hnr : Spec.OptionOp.Op.reset ∉ ops) :
    ∃ r', Msg.run g gb r ops = .ok r' ∧
      ∀ x ∈ r.opts.toList, r'.mem.read x.2 = r.mem.read x.2 ∧ InB r'.mem x.2 ∧ Below r'.vb.bid r'.vb.off x.2 := by
  obtain ⟨r', h1, _, _, h4⟩ := run_spec g gb ops hinv
  refine ⟨r', h1, fun x hx => ?_⟩
  obtain ⟨a, b⟩ := hinv.live x hx
  exact (h4 hnr).views x.2 a b

/-- `history_refines` and `values_stable` for a single operation (`specStep` spells out the reference). -/
theorem step_refines (g : Nat → Nat) (gb : Nat → Nat → Nat) {r : Msg} (hinv : MsgInv r) (op : Msg.Op) :
    ∃ r', r.step g gb op = .ok r' ∧ MsgInv r' ∧ items r'.mem r'.opts = specStep (items r.mem r.opts) op ∧
      (op ≠ .reset → Keeps r.mem r.vb r'.mem r'.vb) := by
  obtain ⟨r', h1, h2, h3, h4, _⟩ := step_spec g gb hinv op
  exact ⟨r', h1, h2, h3, h4⟩

/-- `pool.Message.SetPath` (F19): a refused path (`ErrInvalidValueLength`) leaves the message **exactly** as it
was; otherwise — also when the value buffer has to grow while the message already carries a path — the call
succeeds and the list is the reference's. -/
theorem pool_setPath_refines (g : Nat → Nat) (gb : Nat → Nat → Nat) {r : Msg} (hinv : MsgInv r) (p : Bytes) :
    ∃ r' e, r.setPath g gb p = .ok (r', e) ∧ MsgInv r' ∧ Keeps r.mem r.vb r'.mem r'.vb ∧
      match Spec.SortedMultiset.setPath uriPathId p (items r.mem r.opts) with
      | none => e = some Err.invalidLen ∧ r' = r
      | some l' => e = none ∧ items r'.mem r'.opts = l' := by
  obtain ⟨r', e, h1, h2, h3, h4, _⟩ := msg_setPath_spec g gb hinv p
  exact ⟨r', e, h1, h2, h3, h4⟩

/-- `ResetOptionsTo` on the `Options` level (finding C15-resetto): with too small a buffer nothing is overwritten. -/
theorem resetOptionsTo_refused_untouched (g : Nat → Nat) (m : Mem) (o : Options View) (buf : Slice)
    (inp : List (Opt View)) (h : buf.len < Options.totalLen inp) :
    Options.resetOptionsTo g m o buf inp = .ok ⟨m, o, Options.totalLen inp, some Err.tooSmall⟩ :=
  (contract_reset g inp).small m o buf h

/-- `Options.Clone()`: the clone reads as the original, lives in buffers allocated by the call (so no later edit
of the original can reach it), and nothing the original stores is changed. -/
theorem clone_refines (g : Nat → Nat) {m : Mem} {o : Options View} (hwf : WF o) (hs : Sorted o.toList)
    (hin : ∀ x ∈ o.toList, InB m x.2) :
    ∃ m' c, Options.clone g m o = .ok (m', c, none) ∧ WF c ∧ Sorted c.toList ∧ items m' c = items m o ∧
      (∀ v, InB m v → m'.read v = m.read v ∧ InB m' v) ∧
      (∀ x ∈ c.toList, InB m' x.2 ∧ m.length ≤ x.2.bid) := by
  obtain ⟨m', c, h1, h2, h3, h4, h5, h6, _⟩ := clone_spec g hs hin
  exact ⟨m', c, h1, h2, h3, h4, h5, h6⟩

/-- `pool.Message.Clone(dst)` (its option part, `dst.ResetOptionsTo(src.Options())`): when the source's values lie
outside the unused part of the destination's value buffer, the destination ends up with the source's list, and the
source's values are not changed. -/
theorem pool_clone_refines (g : Nat → Nat) (gb : Nat → Nat → Nat) {dst : Msg} (hinv : MsgInv dst)
    (src : Options View) (hs : Sorted src.toList)
    (hsrc : ∀ x ∈ src.toList, InB dst.mem x.2 ∧ Below dst.vb.bid dst.vb.off x.2) :
    ∃ r' e, dst.resetOptionsTo g gb src.toList = .ok (r', e) ∧ e = none ∧ MsgInv r' ∧
      items r'.mem r'.opts = items dst.mem src ∧
      ∀ x ∈ src.toList, r'.mem.read x.2 = dst.mem.read x.2 := by
  obtain ⟨r', h1, h2, h3, h4, _⟩ := msg_resetOptionsTo_spec g gb hinv src.toList hsrc
  refine ⟨r', none, h1, rfl, h2, ?_, fun x hx => (h3.views x.2 (hsrc x hx).1 (hsrc x hx).2).1⟩
  rw [h4]
  exact resetTo_of_sorted ((mapVal_sorted _).mpr hs)

/-- `ResetOptionsTo` fed from a selection of the message's **own** options — option structs copied by index (subset,
permutation or repetition) into a slice of their own, whose *values* are still views into the message's own value
buffer (value aliasing): the result is the stable sort of the selected options with their values byte-exact, because
the copies are written at/above the cursor and every source lies below it; selecting every index in order gives the
list back unchanged.  (Here the input *slice* is a separate array; the case where it is a slice of the message's own
option array, `m.ResetOptionsTo(m.Options()[k:k+n])`, is `resetOptionsTo_own_slice_benign` below.) -/
theorem pool_resetSelf_refines (g : Nat → Nat) (gb : Nat → Nat → Nat) {r : Msg} (hinv : MsgInv r) (idxs : List Nat) :
    ∃ r', r.step g gb (.resetSelf idxs) = .ok r' ∧ MsgInv r' ∧
      items r'.mem r'.opts = resetTo (Spec.SortedMultiset.selectOwn (items r.mem r.opts) idxs) ∧
      (idxs = List.range (items r.mem r.opts).length → items r'.mem r'.opts = items r.mem r.opts) := by
  obtain ⟨r', h1, h2, h3, _⟩ := step_spec g gb hinv (.resetSelf idxs)
  refine ⟨r', h1, h2, h3, fun hi => ?_⟩
  rw [h3, hi]
  show resetTo (Spec.SortedMultiset.selectOwn _ _) = _
  rw [selectOwn_range _ (Nat.le_refl _), List.take_length]
  exact resetTo_of_sorted ((mapVal_sorted _).mpr hinv.sorted)

/-- **Array aliasing.** `options.ResetOptionsTo(buf, options[k:k+n])`, where the input is a slice of the receiver's own
backing array, is modelled with the read index and the write index of the Go loop over one shared array
(`Options.resetLoopAliased`): iteration `j` reads element `k+j` of the array as it is at that moment, after `j` in-place
`Add`s.  It is benign: the call behaves exactly like `ResetOptionsTo` on a private copy of those options, because the
`Add`s so far have touched only indices `< j` (`add_spec`). -/
theorem resetOptionsTo_own_slice_benign (g : Nat → Nat) (m : Mem) {o : Options View} (hwf : WF o) (buf : Slice) {k n : Nat}
    (h : k + n ≤ o.len) :
    Options.resetOptionsToAliased g m o buf k n = Options.resetOptionsTo g m o buf ((o.toList.drop k).take n) := by
  rw [resetOptionsToAliased_cap g m o buf (Nat.le_trans h hwf), take_drop_toList h]

/-- The aliased call on a pooled message: `m.ResetOptionsTo(m.Options()[k:k+n])` never panics, keeps the invariant and
leaves exactly the options `k … k+n-1` of the old list with their values; with `k = 0`, `n = len` it is the identity. -/
theorem pool_resetOwnSlice_refines (g : Nat → Nat) (gb : Nat → Nat → Nat) {r : Msg} (hinv : MsgInv r) {k n : Nat}
    (h : k + n ≤ r.opts.len) :
    ∃ r' e, r.resetOptionsToOwnSlice g gb k n = .ok (r', e) ∧ e = none ∧ MsgInv r' ∧
      items r'.mem r'.opts = ((items r.mem r.opts).drop k).take n := by
  -- on the message's own header the call with the aliasing input is the call on a private copy of it
  obtain ⟨r', e, h1, h2, _, ⟨he, h4⟩, _⟩ := retry_spec gb hinv (contract_reset g ((r.opts.toList.drop k).take n))
    (f' := fun m o b => Options.resetOptionsToAliased g m o b k n) (fun m b => resetOptionsTo_own_slice_benign g m hinv.wf b h)
    (List.forall_mem_map.mpr fun x hx => hinv.live x (List.mem_of_mem_drop (List.mem_of_mem_take hx)))
  refine ⟨r', e, h1, he, h2, ?_⟩
  rw [h4]
  have e1 : ((r.opts.toList.drop k).take n).map (fun x => (x.1, r.mem.read x.2)) = ((items r.mem r.opts).drop k).take n := by
    unfold items mapVal; rw [List.map_take, List.map_drop]
  rw [e1]
  apply resetTo_of_sorted
  have hs : Sorted (items r.mem r.opts) := (mapVal_sorted _).mpr hinv.sorted
  exact List.Pairwise.sublist ((List.take_sublist _ _).trans (List.drop_sublist _ _)) hs

/-! ## clone / reset-to through the library's own users of the list -/

/-- `ResponseWriter.SetResponse(code, contentFormat, body, opts…)` on a response message in any state — options left by
an earlier `SetResponse` or set through `Message()` — leaves exactly the given options (stable sort) plus
Content-Format when there is a body: **also when no options are given** the old ones are gone. -/
theorem setResponse_refines (g : Nat → Nat) (gb : Nat → Nat → Nat) {r : Msg} (hinv : MsgInv r) (cf : Nat) (hcf : cf < 65536)
    (hasBody : Bool) (inp : List (Opt View))
    (hext : ∀ v ∈ inp.map (·.2), InB r.mem v ∧ Below r.vb.bid r.vb.off v) :
    ∃ r', r.setResponse g gb cf hasBody inp = .ok (r', none) ∧ MsgInv r' ∧
      items r'.mem r'.opts = responseOptions cf hasBody (inp.map (fun x => (x.1, r.mem.read x.2))) :=
  setResponse_spec g gb hinv cf hcf hasBody inp hext

/-- An observation is registered exactly for a request whose Observe option is 0, and the options it keeps are those
of the request at that moment: **no later history on the request message** — edits, growth of its value buffer, `Reset`
when it goes back to the pool, reuse for another request — **changes them** (`Observation.Request`,
`GetObservationRequest` and `Cancel` read from these kept options). -/
theorem observation_keeps_request_options (g : Nat → Nat) (gb : Nat → Nat → Nat) {r : Msg} (hinv : MsgInv r) :
    ∃ res, observeRequest g r.mem r.opts = .ok res ∧
      (res.2.isSome ↔ registers (items r.mem r.opts) = true) ∧
      ∀ kept, res.2 = some kept →
        items res.1 kept = items r.mem r.opts ∧
        MsgInv ({ r with mem := res.1 } : Msg) ∧
        ∀ (ops : List Msg.Op) (r' : Msg), Msg.run g gb { r with mem := res.1 } ops = .ok r' →
          items r'.mem kept = items r.mem r.opts :=
  observation_keeps g gb hinv

/-- The general fact behind `observation_keeps_request_options`: a view in a buffer that is neither the current nor the
original value buffer of a message is never changed by any history on that message, `Reset` included. -/
theorem foreign_values_untouched (g : Nat → Nat) (gb : Nat → Nat → Nat) (ops : List Msg.Op) {r r' : Msg} (hinv : MsgInv r)
    (h : Msg.run g gb r ops = .ok r') {v : View} (hf : Foreign r v) : r'.mem.read v = r.mem.read v :=
  (foreign_run g gb ops hinv h hf).1

/-- The message builders of the generic client, `New{Get,Post,Put,Delete,Observe}Request(path, [cf, payload,] opts…)`:
never a runtime panic; refused exactly for a path with a segment over 255 bytes; otherwise the built request carries the
caller's options (stable sort), the path, Content-Format for a POST/PUT with payload, and for an observe request
**exactly one Observe option with value 0 — set, not add — whatever the caller's options contain**.  (That the caller's
own option slices are left alone is outside the model — the model copies the values it is given — and is checked on the
real code by the `build` operation: a sibling slice over the caller's backing array must come back unchanged.) -/
theorem buildRequest_refines (g : Nat → Nat) (gb : Nat → Nat → Nat) (m : Mem) (k : ReqKind) (p : Bytes) (cf : Nat)
    (hcf : cf < 65536) (hasBody : Bool) (inp : List Item) :
    ∃ m', buildRequest g gb m k p cf hasBody inp = .ok (m', requestOptions (kindName k) p cf hasBody inp) :=
  buildRequest_spec g gb m k p cf hcf hasBody inp

/-! ## Non-vacuity: concrete instances of the hypotheses and of each conclusion -/

section Examples
def exG (c : Nat) : Nat := 2 * c + 1
/-- a full slice of capacity 3 holding `8:1 11:2 11:3` -/
def exO : Options Nat := ⟨[(8, 1), (11, 2), (11, 3)], 3⟩

example : WF exO ∧ Sorted exO.toList := by
  refine ⟨by unfold WF; decide, ?_⟩
  simp [Sorted, exO, Options.toList]
example : exO.findPosition 11 = .ok (0, -1) ∧ exO.findPosition 9 = .ok (0, 1) ∧ exO.findPosition 3 = .ok (-1, 0) := by decide +kernel
example : exO.find 11 = .ok (some (1, 3)) ∧ exO.find 12 = .ok none := by decide +kernel
-- Add reallocates (len = cap) and inserts after the equal numbers; Set replaces both; Remove compacts in place
example : (exO.add exG (11, 9)).map (·.toList) = .ok [(8, 1), (11, 2), (11, 3), (11, 9)] := by decide +kernel
example : (exO.add exG (9, 9)).map (·.toList) = .ok [(8, 1), (9, 9), (11, 2), (11, 3)] := by decide +kernel
example : (exO.set exG (11, 9)).map (·.toList) = .ok [(8, 1), (11, 9)] := by decide +kernel
example : (exO.remove 11).map (·.toList) = .ok [(8, 1)] := by decide +kernel
example : ins (11, 9) exO.toList = [(8, 1), (11, 2), (11, 3), (11, 9)] := by decide +kernel
-- multi getter at the end of the list with an exactly sized result slice (the F1 position)
example : exO.getMulti true 11 2 = .ok (2, none, [2, 3]) ∧ exO.getMulti true 11 1 = .ok (2, some .tooSmall, []) ∧
    exO.getMulti true 11 7 = .ok (2, none, [2, 3]) := by decide +kernel
-- "//a//bc/" splits into "a","bc" and joins to "/a/bc"; "//" has no segment (the root)
example : segments [47, 47, 97, 47, 47, 98, 99, 47] = [[97], [98, 99]] := by decide +kernel
example : join (segments [47, 47, 97, 47, 47, 98, 99, 47]) = [47, 97, 47, 98, 99] := by decide +kernel
example : segments [47, 47] = [] := by decide +kernel
example : Spec.SortedMultiset.setPath 11 [47, 120] [(11, [97]), (11, [98]), (15, [113])] = some [(11, [120]), (15, [113])] := by decide +kernel
set_option maxRecDepth 10000 in
example : Spec.SortedMultiset.setPath 11 (47 :: List.replicate 256 120) [(11, [97])] = none := by
  rw [setPath_refused_iff]; exact ⟨List.replicate 256 120, by decide +kernel, by decide +kernel⟩
-- a pooled message with option capacity 0: history with growth of the option slice, a path edit on a message that
-- already carries a path, a refused path, a typed setter, reset and reuse
def exGb (c need : Nat) : Nat := max (2 * c) need
example : MsgInv (Msg.new [] 0) := msgInv_new [] 0
set_option maxRecDepth 100000 in
example : ((Msg.run exG exGb (Msg.new [] 0)
      [.setPath [47, 97, 47, 98], .addBytes 15 [113], .setPath [47, 120], .setUint32 12 50, .remove 15]).map Msg.items)
    = .ok [(11, [120]), (12, [50])] := by decide +kernel
example : [Spec.OptionOp.Op.setPath [47, 97, 47, 98], .addBytes 15 [113], .setPath [47, 120], .setUint32 12 50, .remove 15].foldl specStep []
    = [(11, [120]), (12, [50])] := by decide +kernel
-- values set in non-ascending number order (query before path), then the message is reset to its own options
-- (identity) and to a reordered subset of them
set_option maxRecDepth 100000 in
example : ((Msg.run exG exGb (Msg.new [] 2)
      [.addBytes 15 [105, 102], .setUint32 6 42, .setPath [47, 111, 47, 114], .resetSelf [0, 1, 2, 3], .resetSelf [3, 0]]).map Msg.items)
    = .ok [(6, [42]), (15, [105, 102])] := by decide +kernel
-- the input is a slice of the receiver's own array: read index 1.. while the writes go to 0..
example : ((Options.resetOptionsToAliased exG [[1, 2, 3, 0, 0, 0, 0, 0]]
      ⟨[(4, ⟨0, 0, 1⟩), (8, ⟨0, 1, 1⟩), (11, ⟨0, 2, 1⟩)], 3⟩ ⟨0, 3, 5⟩ 1 2).map
        (fun r => r.opts.toList.map (fun x => (x.1, r.mem.read x.2)))) = .ok [(8, [2]), (11, [3])] := by decide +kernel
-- a response prepared with ETag and Location-Path, then replaced by an error response without options and body
set_option maxRecDepth 100000 in
example : (do
    let r0 := Msg.new [[170], [108]] 16
    let (r1, _) ← r0.setResponse exG exGb 50 true [(4, ⟨0, 0, 1⟩), (8, ⟨1, 0, 1⟩)]
    let (r2, _) ← r1.setResponse exG exGb 0 false []
    pure (r1.items, r2.items) : M _) = .ok ([(4, [170]), (8, [108]), (12, [50])], []) := by decide +kernel
-- an observe request built from options that already contain Observe = 5: exactly one Observe, value 0
example : requestOptions "observe" [47, 97] 0 false [(15, [113]), (6, [5])] = some [(6, []), (11, [97]), (15, [113])] := by decide +kernel
example : deregistrationOptions [(6, []), (11, [97])] [74, 74, 74] = some [(4, [74, 74, 74]), (6, [1]), (11, [97])] := by decide +kernel
example : registers [(6, []), (11, [97])] = true ∧ registers [(6, [5])] = false ∧ registers [(11, [97])] = false := by decide +kernel
example : deregistrationOptions [(6, []), (11, [97]), (11, [98]), (15, [113])] = some [(6, [1]), (11, [97]), (11, [98])] := by decide +kernel
end Examples

end CoapVerif.Props.C15

section Audit
open CoapVerif.Props.C15
#print axioms shape_agrees
#print axioms shape_agrees_glue
#print axioms findPosition_total
#print axioms findPosition_spec
#print axioms lt_le_characterisation
#print axioms find_spec
#print axioms add_refines
#print axioms set_refines
#print axioms remove_refines
#print axioms sorted_preserved
#print axioms sorted_preserved_model
#print axioms getters_no_panic
#print axioms getters_spec_single
#print axioms getters_spec_multi
#print axioms getPathBufferSize_spec
#print axioms path_split_join_set
#print axioms path_refused_iff
#print axioms path_split_join_get
#print axioms path_split_join
#print axioms values_stable_put
#print axioms history_refines
#print axioms history_refines_new
#print axioms values_stable
#print axioms step_refines
#print axioms pool_setPath_refines
#print axioms resetOptionsTo_refused_untouched
#print axioms clone_refines
#print axioms pool_clone_refines
#print axioms pool_resetSelf_refines
#print axioms resetOptionsTo_own_slice_benign
#print axioms pool_resetOwnSlice_refines
#print axioms setResponse_refines
#print axioms observation_keeps_request_options
#print axioms foreign_values_untouched
#print axioms buildRequest_refines
end Audit
