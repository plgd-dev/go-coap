import CoapVerif.Lemmas.Tables
/-!
# C13 — no per-exchange state outlives the exchange

Statement (properties.jsonl): after all exchanges on a connection have ended — successfully, by error, by
cancellation, or by expiry once the housekeeping tick has passed their deadline — the connection retains nothing for
them: no waiting token or message-ID continuations, no block-wise reassembly or send buffers, no limiter queue
entries, no per-ID locks and no observation entries other than observations that are still live.  Cached replies
disappear after the exchange lifetime, so memory held per peer is bounded by live work, not by history.

`bracketed` is about **today's source**: the list of insertions into per-exchange tables and of the removals paired
with them is re-read from the AST on every run (`Generated/TableShape.lean`); the theorem says that every insertion
has a removal on every exit path, or lives in an expiring cache, or is a live registration with an error-guarded
clean-up.  `quiescent_empty` then holds for every history of the table model over those sites (any number of
exchanges, any interleaving of insertions, early removals, returns, cancellations and ticks) that is `WellTimed`: no
insertion is made on behalf of an exchange that has already returned or been cancelled (`late_insert_leaks` shows that
this is needed; the harness asserts it on the real code).  `bracket_entries_have_active_owner` is the bound by live work;
the `request_message_ids_*` theorems read it for the one table `requestMessageIDs`, all of whose sites are brackets.  The
lock map and the limiter's endpoint entries have their own reference-count theorems.  The real tables are compared with this on every
run through the size accessors (hook h2).
-/
namespace CoapVerif.Props.C13
open CoapVerif CoapVerif.Model.Tables CoapVerif.Lemmas.Tables

/-- Every insertion into a per-exchange table in today's source is paired with a removal on every exit
    path (deferred / `closeFns` / cancel closure / reference-counted unlock), or goes into an expiring cache, or is a
    live registration removed on failure and on cancel. -/
theorem bracketed : bracketedB = true := by decide +kernel

theorem every_site_classified (i : Nat) (hi : i < sites.length) : (siteCls i).isSome = true := by
  have h := bracketed
  unfold bracketedB at h
  rw [List.all_eq_true] at h
  unfold siteCls
  rw [List.getElem?_eq_getElem hi]
  exact h _ (List.getElem_mem hi)

/-- The continuations, lock, limiter, discovery and `blockwise.Do` entries — the sites the model
    (and the harness's "bounded by live work" clauses) treat as brackets — are brackets in today's source. -/
theorem bracket_sites_agree : bracketSitesAgreeB = true := by decide +kernel

/-- The two `AsyncPing` registrations are removed by a cancel closure handed to the caller
    (class `handle`: the model's "return of the exchange" is the invocation of that closure), and the library's own
    caller of `AsyncPing`, `Client.Ping`, defers it in today's source.  Direct users of `AsyncPing` carry that
    obligation themselves; it is outside this theorem. -/
theorem handle_sites_agree : handleSitesAgreeB = true := by decide +kernel

/-- The sites of the token → message-ID table of the confirmable requests that are being written (`udp/client/conn.go`
    `requestMessageIDs`, the repair of F42: `writeMessage` inserts the entry, its deferred `Delete` removes it, `Conn.handle` only
    reads it) exist in today's source and every one of them is a bracket: nothing but a deferred removal in the inserting
    function pairs with the insertion. -/
theorem request_message_ids_bracketed :
    (∃ s ∈ sites, s.func = "Conn.writeMessage" ∧ s.table = "requestMessageIDs") ∧
    ∀ s ∈ sites, s.table = "requestMessageIDs" → s.func = "Conn.writeMessage" ∧ classify s.removal = some .bracket := by
  decide +kernel

/-- Bracket entries belong to work in progress (memory is bounded by live work): in every reachable state an entry
    of a bracketed site belongs to an exchange whose function has not returned. -/
theorem bracket_entries_have_active_owner (evs : List TEvent) (hw : WellTimed {} evs) (e : Entry)
    (he : e ∈ (trun evs).entries) (hb : isBracket (siteCls e.site) = true) : e.owner ∉ (trun evs).ended :=
  (invT_run evs hw).br e he hb

/-- After any history, once housekeeping runs at a time `now`: an entry whose exchange has ended and whose deadline has
    passed can only be a live registration (an observation whose registering call succeeded and that has not been
    cancelled).  For every history, every number of exchanges, every interleaving.  That the tables are then empty when no
    live registration is left is `quiescent_nothing_retained`. -/
theorem quiescent_empty (evs : List TEvent) (hw : WellTimed {} evs) (now : Int) (e : Entry)
    (he : e ∈ (trun (evs ++ [.tick now])).entries)
    (hsite : e.site < sites.length)
    (hended : e.owner ∈ (trun (evs ++ [.tick now])).ended)
    (hdead : e.deadline < now) :
    isLive (siteCls e.site) = true ∧ e.owner ∉ (trun (evs ++ [.tick now])).failed ∧
      e.owner ∉ (trun (evs ++ [.tick now])).cancelled := by
  rw [trun_append] at he hended ⊢
  exact (invT_run evs hw).swept he (every_site_classified e.site hsite) hended hdead

/-- If moreover every remaining entry belongs to an exchange that has ended, with its deadline passed, and that failed or was
    cancelled (for an observation: it is no longer live), the tables are empty. -/
theorem quiescent_nothing_retained (evs : List TEvent) (hw : WellTimed {} evs) (now : Int)
    (hall : ∀ e ∈ (trun (evs ++ [.tick now])).entries,
      e.site < sites.length ∧ e.owner ∈ (trun (evs ++ [.tick now])).ended ∧ e.deadline < now ∧
      (e.owner ∈ (trun (evs ++ [.tick now])).failed ∨ e.owner ∈ (trun (evs ++ [.tick now])).cancelled)) :
    (trun (evs ++ [.tick now])).entries = [] := by
  apply List.eq_nil_iff_forall_not_mem.mpr
  intro e he
  obtain ⟨h1, h2, h3, h4⟩ := hall e he
  have := quiescent_empty evs hw now e he h1 h2 h3
  rcases h4 with h4 | h4
  · exact this.2.1 h4
  · exact this.2.2 h4

/-- In every reachable state of every well-timed history an entry of
    `requestMessageIDs` belongs to a `writeMessage` that has not returned — with success, with the error of its context, of the
    connection or of the write: `finish` removes the entry whatever its outcome flag.  (When a response acknowledges the request
    the message-ID continuation is consumed; the woken `writeMessage` returns and takes this entry with it.) -/
theorem request_message_ids_never_left_behind (evs : List TEvent) (hw : WellTimed {} evs) (e : Entry)
    (he : e ∈ (trun evs).entries) (s : Generated.TableShape.Insertion) (hs : sites[e.site]? = some s)
    (ht : s.table = "requestMessageIDs") : e.owner ∉ (trun evs).ended := by
  apply bracket_entries_have_active_owner evs hw e he
  unfold siteCls
  rw [hs, Option.bind_some, (request_message_ids_bracketed.2 s (List.mem_of_getElem? hs) ht).2]
  rfl

/-- … so the table is empty whenever the owner of every entry, of whatever table, has returned. -/
theorem request_message_ids_empty_when_idle (evs : List TEvent) (hw : WellTimed {} evs)
    (hidle : ∀ e ∈ (trun evs).entries, e.owner ∈ (trun evs).ended) : tableSize (trun evs) "requestMessageIDs" = 0 := by
  unfold tableSize
  rw [List.length_eq_zero_iff, List.filter_eq_nil_iff]
  intro e he hx
  cases hs : sites[e.site]? with
  | none => rw [hs] at hx; cases hx
  | some s =>
    rw [hs] at hx
    exact request_message_ids_never_left_behind evs hw e he s hs (by simpa using hx) (hidle e he)

def lateTok : Nat := (sites.findIdx? (fun s => s.func == "Conn.doInternal" && s.table == "tokenHandlerContainer")).getD 0
/-- registered, returned (entry removed by the deferred delete), then inserted again on behalf of the ended call -/
def lateEvs : List TEvent := [.insert lateTok 7 1 0, .finish 1 true, .insert lateTok 7 1 0]

/-- The hypothesis `WellTimed` is needed (and is what the harness asserts on the real code): one insertion on behalf of an
    exchange that has already returned — a deferred delete followed by an asynchronous re-insert — leaves a bracket
    entry behind for ever, whatever housekeeping does. -/
theorem late_insert_leaks :
    ¬ WellTimed {} lateEvs ∧ (trun (lateEvs ++ [.tick 1000000])).entries = [⟨lateTok, 7, 1, 0⟩] := by
  refine ⟨fun h => ?_, by decide +kernel⟩
  have h3 : (1 : Nat) ∉ (tstep (tstep {} (.insert lateTok 7 1 0)) (.finish 1 true)).ended := h.2.2.1.1
  exact h3 List.mem_cons_self

/-- For every history of `Lock`/`Unlock` in which only holders unlock (the code's
    `l := Lock(k); defer l.Unlock()`), `Unlock` never panics and the map holds exactly the keys that somebody holds or
    waits for, each with that count: an entry exists iff its count is positive. -/
theorem mutexmap_refcount (es : List LEvent) (hv : LValid (fun _ => 0) es) :
    ∃ m, lrun (fun _ => none) es = some m ∧ ∀ k, m k = if hrun (fun _ => 0) es k = 0 then none else some (hrun (fun _ => 0) es k) :=
  ⟨_, lrun_ofCounts es _ hv, fun _ => rfl⟩

/-- … hence the lock map is empty whenever nobody holds a lock. -/
theorem mutexmap_empty_when_idle (es : List LEvent) (hv : LValid (fun _ => 0) es)
    (hidle : ∀ k, hrun (fun _ => 0) es k = 0) : ∃ m, lrun (fun _ => none) es = some m ∧ ∀ k, m k = none := by
  obtain ⟨m, h1, h2⟩ := mutexmap_refcount es hv
  exact ⟨m, h1, fun k => by rw [h2 k, hidle k]; rfl⟩

/-- For every history of acquire / release / withdrawn waiter (each release by a request that holds or
    was handed a slot, each withdrawal by a queued request), an endpoint entry exists exactly while requests hold or
    wait for it — its counter is positive and counter + waiters is their number —, so when every request has left
    the entry is gone. -/
theorem limiter_idle (limit : Nat) (es : List QEvent) :
    ∀ (q : Queues) (c : Nat → Nat), QRep q c →
      (∀ (pre : List QEvent) (e : QEvent) (post : List QEvent), es = pre ++ e :: post → QValidEv (pre.foldl (qstep limit) q) e) →
      QRep (es.foldl (qstep limit) q) (es.foldl ostep c) := by
  induction es with
  | nil => intro q c rep _; exact rep
  | cons e es ih =>
    intro q c rep hv
    have hv0 := hv [] e es rfl
    apply ih _ _ (qstep_rep limit q c e rep hv0)
    intro pre e' post heq
    have := hv (e :: pre) e' post (by rw [heq]; rfl)
    simpa using this

def siteOf (fn table : String) : Nat := (sites.findIdx? (fun s => s.func == fn && s.table == table)).getD 0
-- a history over today's sites: a Do registers limiter, block-wise send, token and message-ID entries, is answered (token
-- entry consumed), returns; a reply is cached and is what a tick before its deadline leaves; the tick after the deadline removes it
example : (trun [
    .insert (siteOf "LimitParallelRequests.acquireEndpoint" "endpointQueues") 7 1 0,
    .insert (siteOf "BlockWise.Do" "sendingMessagesCache") 11 1 30,
    .insert (siteOf "Conn.doInternal" "tokenHandlerContainer") 11 1 0,
    .insert (siteOf "Conn.prepareWriteMessage" "midHandlerContainer") 101 1 0,
    .insert (siteOf "messageCache.Store" "c") 5000 2 247,
    .consume (siteOf "Conn.prepareWriteMessage" "midHandlerContainer") 101,
    .consume (siteOf "Conn.doInternal" "tokenHandlerContainer") 11,
    .tick 100,
    .finish 1 true, .finish 2 true]).entries.length = 1 := by decide +kernel
example : (trun [
    .insert (siteOf "messageCache.Store" "c") 5000 2 247, .finish 2 true, .tick 100, .tick 248]).entries = [] := by decide +kernel
example : (trun [
    .insert (siteOf "Handler.NewObservation" "observations") 9 3 0, .finish 3 true, .tick 1000]).entries.length = 1 := by decide +kernel
example : (trun [
    .insert (siteOf "Handler.NewObservation" "observations") 9 3 0, .finish 3 false, .tick 1000]).entries = [] := by decide +kernel
-- a confirmable request written through `WriteMessage`: message-ID continuation and token → message-ID entry; the response
-- acknowledges (continuation consumed), `writeMessage` returns; the same with an error return (context ended while waiting)
example : (trun [
    .insert (siteOf "Conn.prepareWriteMessage" "midHandlerContainer") 101 1 0,
    .insert (siteOf "Conn.writeMessage" "requestMessageIDs") 11 1 0,
    .consume (siteOf "Conn.prepareWriteMessage" "midHandlerContainer") 101]).entries.length = 1 := by decide +kernel
example : (trun [
    .insert (siteOf "Conn.prepareWriteMessage" "midHandlerContainer") 101 1 0,
    .insert (siteOf "Conn.writeMessage" "requestMessageIDs") 11 1 0,
    .consume (siteOf "Conn.prepareWriteMessage" "midHandlerContainer") 101, .finish 1 true]).entries = [] := by decide +kernel
example : (trun [
    .insert (siteOf "Conn.prepareWriteMessage" "midHandlerContainer") 101 1 0,
    .insert (siteOf "Conn.writeMessage" "requestMessageIDs") 11 1 0, .finish 1 false]).entries = [] := by decide +kernel
example : (lrun (fun _ => none) [.lock 5, .lock 5, .unlock 5, .lock 6, .unlock 5, .unlock 6]).map (fun m => (m 5, m 6)) = some (none, none) := by decide
example : ((([QEvent.acquire 1, .acquire 1, .acquire 1, .cancelWaiter 1, .release 1, .release 1] : List QEvent).foldl (qstep 1) (fun _ => none)) 1) = none := by decide

end CoapVerif.Props.C13

section Audit
open CoapVerif.Props.C13
#print axioms bracketed
#print axioms every_site_classified
#print axioms bracket_sites_agree
#print axioms handle_sites_agree
#print axioms request_message_ids_bracketed
#print axioms bracket_entries_have_active_owner
#print axioms quiescent_empty
#print axioms quiescent_nothing_retained
#print axioms request_message_ids_never_left_behind
#print axioms request_message_ids_empty_when_idle
#print axioms late_insert_leaks
#print axioms mutexmap_refcount
#print axioms mutexmap_empty_when_idle
#print axioms limiter_idle
end Audit
