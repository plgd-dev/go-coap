import CoapVerif.Lemmas.Observe
/-!
# C08 — any number of simultaneous observations, cancelled down one by one

Statement (properties.jsonl, quantifier): "... any number of simultaneous observations, cancel at every point of the
stream"; clause: "once cancellation has returned (or registration has failed) no notification arriving later reaches
the callback".

`silent_after_cancel` / `silent_after_failure` (Props/C08) hold for every history, whatever the number of
registrations.  What this file adds is the *table* side of it, the part the real code delegates to its container
(`pkg/sync.Map.LoadAndDelete` behind `pullOutObservation`): in the model a removal takes out exactly the entry under
its token and nothing else, for a table of any size and with any past.  (Seeded change C08-V makes the container's
`Delete` depend on both: it rebuilds a map that shrank below a quarter of its peak and deletes from the stale alias.)
`step_frame` / `run_frame` are the frame property.  `burst_cancel_down` is the whole burst, from `step_frame` by induction
over the registrations (`regs_observed`) and over the cancellations (`cancels_clear`); `cancelled_goes_to_default` /
`kept_reaches_its_callback` are its observable side: the next message for a cancelled token goes to the default handler,
the next one for a kept token is the business of the registration stored under it.

The correspondence between this table and the real one is what the burst histories of `checks/c08.py` (`burst_cases`) test
on the real connections.
-/
namespace CoapVerif.Props.C08Burst
open CoapVerif CoapVerif.Model.Observe CoapVerif.Lemmas.Observe
open CoapVerif.Spec.Observe (Obs)

def evTok : Ev → Nat
  | .reg tok => tok
  | .arrive tok _ _ _ _ => tok
  | .regDone tok _ => tok
  | .regAbort tok _ => tok
  | .cancel tok _ => tok

def holder (t : List Entry) (tok : Nat) : Option Nat := (lookup t tok).map (·.id)

/-- An event about one token leaves the registration stored under every other token in place, for a table of any
    size: no step consults how full the table is or was. -/
theorem step_frame (s : State) (ev : Ev) (tok' : Nat) (h : tok' ≠ evTok ev) :
    holder (step s ev).1.table tok' = holder s.table tok' := by
  rcases step_cases s ev with ⟨_, c⟩ | ⟨_, c⟩ | ⟨_, c⟩ | ⟨tok, c⟩ | ⟨c⟩
  · rw [c.step_eq]
  · rw [c.step_eq]
    rw [c.ev_eq] at h
    exact congrArg _ (lookup_append_other s.table (Ne.symm h))
  · rw [c.step_eq, holder, lookup_update, Option.map_map]
    exact congrArg (Option.map · _) (funext fun e => upd_id e _ _)
  · have : tok' ≠ tok := by rcases c.ev_eq with rfl | rfl | rfl <;> exact h
    rw [c.step_eq, holder, lookup_remove, if_neg this]
    rfl
  · rw [c.step_eq]

/-- the frame over whole histories: whatever happens to other tokens - any number of them, registered, notified, failing,
    cancelled - the registration under `tok'` stays where it is -/
theorem run_frame (evs : List Ev) (tok' : Nat) (h : ∀ ev ∈ evs, tok' ≠ evTok ev) :
    ∀ s : State, holder (run s evs).1.table tok' = holder s.table tok' := by
  induction evs with
  | nil => intro s; rfl
  | cons e es ih =>
    intro s
    rw [isRun.cons, ih fun ev he => h ev (List.mem_cons_of_mem _ he), step_frame s e tok' (h e List.mem_cons_self)]

/-- after `Observation.Cancel`'s clean-up nothing is stored under the token -/
theorem cancel_clears (s : State) (tok id : Nat) : lookup (step s (.cancel tok id)).1.table tok = none := by
  rw [step_cancel, lookup_remove, if_pos rfl]

/-- the same for a registration call that leaves by its context / the connection's end -/
theorem abort_clears (s : State) (tok id : Nat) : lookup (step s (.regAbort tok id)).1.table tok = none := by
  rw [step_regAbort, lookup_remove, if_pos rfl]

theorem holder_isSome (t : List Entry) (tok : Nat) : (holder t tok).isSome = (lookup t tok).isSome := by
  simp [holder]

theorem step_frame_isSome (s : State) (ev : Ev) (tok' : Nat) (h : tok' ≠ evTok ev) :
    (lookup (step s ev).1.table tok').isSome = (lookup s.table tok').isSome := by
  rw [← holder_isSome, step_frame s ev tok' h, holder_isSome]

/-- registering a list of tokens (any number; a token registered twice is refused the second time and the first entry
    stays): afterwards a token is observed iff it is in the list or was observed before -/
theorem regs_observed (toks : List Nat) (tok : Nat) : ∀ s : State,
    (lookup (run s (toks.map Ev.reg)).1.table tok).isSome = (toks.contains tok || (lookup s.table tok).isSome) := by
  induction toks with
  | nil => intro s; simp [run]
  | cons a r ih =>
    intro s
    simp only [List.map_cons, isRun.cons]
    rw [ih]
    by_cases h : tok = a
    · subst h
      have : (lookup (step s (.reg tok)).1.table tok).isSome = true := by
        simp only [step]
        cases h2 : lookup s.table tok with
        | some e => simp [h2]
        | none => exact congrArg Option.isSome (lookup_append_new (e := ⟨tok, s.nextId, {}⟩) h2)
      simp [this]
    · have h4 : decide (tok = a) = false := by simp [h]
      simp [step_frame_isSome s (.reg a) tok h, h4]

/-- cancelling a list of observations (token, handle) in any order: a token is cleared iff it is among them -/
theorem cancels_clear (cs : List (Nat × Nat)) (tok : Nat) : ∀ s : State,
    (lookup (run s (cs.map fun c => Ev.cancel c.1 c.2)).1.table tok).isSome
      = (!(cs.any fun c => c.1 == tok) && (lookup s.table tok).isSome) := by
  induction cs with
  | nil => intro s; simp [run]
  | cons a r ih =>
    intro s
    simp only [List.map_cons, isRun.cons]
    rw [ih]
    by_cases h : a.1 = tok
    · subst h
      simp [cancel_clears]
    · have h5 : (a.1 == tok) = false := by simp [h]
      simp [List.any_cons, step_frame_isSome s (.cancel a.1 a.2) tok (Ne.symm h), h5]

/-- Register any number of tokens on a fresh connection, then cancel any list of observations one by one, in any
    order: exactly the tokens registered and not cancelled are still observed, whatever the sizes and the order. -/
theorem burst_cancel_down (toks : List Nat) (cs : List (Nat × Nat)) (tok : Nat) :
    (lookup (run {} (toks.map Ev.reg ++ cs.map fun c => Ev.cancel c.1 c.2)).1.table tok).isSome
      = (toks.contains tok && !(cs.any fun c => c.1 == tok)) := by
  rw [isRun.append, cancels_clear, regs_observed]
  have : lookup ({} : State).table tok = none := rfl
  simp [this, Bool.and_comm]

/-- observable side, cancelled token: the next message that arrives for it is handed to the default handler - no callback -/
theorem cancelled_goes_to_default (toks : List Nat) (cs : List (Nat × Nat)) (tok code : Nat) (seq : Option Nat) (now : Int)
    (tag : Nat) (h : (cs.any fun c => c.1 == tok) = true) :
    (step (run {} (toks.map Ev.reg ++ cs.map fun c => Ev.cancel c.1 c.2)).1 (.arrive tok code seq now tag)).2
      = [.toDefault tok tag] := by
  have h1 := burst_cancel_down toks cs tok
  rw [h, Bool.not_true, Bool.and_false] at h1
  -- of the state after the burst only `h1` is used
  generalize (run {} _).1 = s at h1 ⊢
  cases h3 : lookup s.table tok with
  | none => simp only [step, h3]
  | some e => rw [h3] at h1; cases h1

/-- observable side, kept token: a message for it is not handed to the default handler (it is the business of the
    registration stored under the token: callback or, if stale, nothing) -/
theorem kept_reaches_its_callback (toks : List Nat) (cs : List (Nat × Nat)) (tok code : Nat) (seq : Option Nat) (now : Int)
    (tag : Nat) (hin : toks.contains tok = true) (h : (cs.any fun c => c.1 == tok) = false) :
    ∃ e, lookup (run {} (toks.map Ev.reg ++ cs.map fun c => Ev.cancel c.1 c.2)).1.table tok = some e ∧
      ((step (run {} (toks.map Ev.reg ++ cs.map fun c => Ev.cancel c.1 c.2)).1 (.arrive tok code seq now tag)).2
          = [.cb e.id tok seq now tag] ∨
       (step (run {} (toks.map Ev.reg ++ cs.map fun c => Ev.cancel c.1 c.2)).1 (.arrive tok code seq now tag)).2 = []) := by
  have h1 := burst_cancel_down toks cs tok
  rw [h, hin] at h1
  generalize (run {} _).1 = s at h1 ⊢
  cases h3 : lookup s.table tok with
  | none => rw [h3] at h1; cases h1
  | some e =>
    refine ⟨e, rfl, ?_⟩
    simp only [step, h3]
    split
    · exact .inl rfl
    · exact .inr rfl

/-! non-vacuity: 80 observations at once, the first 60 cancelled: the 60th (token 159) is gone, the 61st (token 160) stays;
    its next notification reaches callback 60.  (`decide` on the 20-entry table needs the raised recursion limit.) -/
def burst80 : List Ev :=
  (List.range 80).map (fun k => Ev.reg (100 + k)) ++ (List.range 60).map (fun k => Ev.cancel (100 + k) k)

/-- The run is evaluated in two halves (`burst80_final` starts from this table): evaluated in one piece, every `step`
    would recompute the state before it from the start of the history. -/
theorem burst80_registered : (run {} ((List.range 80).map fun k => Ev.reg (100 + k))).1
    = { table := (List.range 80).map fun k => ⟨100 + k, k, {}⟩, nextId := 80 } := by decide +kernel

theorem burst80_final : (run {} burst80).1 = { table := (List.range 20).map fun k => ⟨160 + k, 60 + k, {}⟩, nextId := 80 } := by
  rw [burst80, isRun.append, burst80_registered]
  decide +kernel

set_option maxRecDepth 100000 in
example : (lookup (run {} burst80).1.table 159).isSome = false := by rw [burst80_final]; decide
set_option maxRecDepth 100000 in
example : (lookup (run {} burst80).1.table 160).map (·.id) = some 60 := by rw [burst80_final]; decide
set_option maxRecDepth 100000 in
example : (run {} burst80).1.table.length = 20 := by rw [burst80_final]; decide
set_option maxRecDepth 100000 in
example : (step (run {} burst80).1 (.arrive 159 69 (some 6) 1000 65)).2 = [.toDefault 159 65] := by rw [burst80_final]; decide
set_option maxRecDepth 100000 in
example : (step (run {} burst80).1 (.arrive 160 69 (some 6) 1000 65)).2 = [.cb 60 160 (some 6) 1000 65] := by
  rw [burst80_final]; decide

end CoapVerif.Props.C08Burst

section Audit
open CoapVerif.Props.C08Burst
#print axioms step_frame
#print axioms run_frame
#print axioms cancel_clears
#print axioms abort_clears
#print axioms holder_isSome
#print axioms step_frame_isSome
#print axioms regs_observed
#print axioms cancels_clear
#print axioms burst_cancel_down
#print axioms cancelled_goes_to_default
#print axioms kept_reaches_its_callback
#print axioms burst80_registered
#print axioms burst80_final
end Audit
