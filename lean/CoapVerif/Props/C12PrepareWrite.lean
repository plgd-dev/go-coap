import CoapVerif.Props.C12Paths
import CoapVerif.Model.OwnershipPrepareWrite
/-!
# C12, path program of `prepareWriteMessage` and the hand-over to the `midElement` (udp/client/conn.go)

(continues `Props/C12.lean` / `Props/C12Paths.lean`.)  `Model/OwnershipPrepareWrite.lean` writes every exit of
`prepareWriteMessage` — no copy (non-confirmable), `Clone` fails (the copy is released, once), no free NSTART slot / message
ID in use (the copy is dropped), stored in the mid element — and the element's further life (release attempts,
retransmission copies) as a program of linear slot operations.

* `pw_ok` — every schedule of calls with every outcome, of release attempts, retransmissions and completions, for any
  number of requests under way, is accepted by the monitor; `pw_spec`: the declarative property.
* `pw_released_once` — every object acquired on these paths is released exactly once or still in a slot (a stored copy whose
  element nobody released yet; a copy dropped on the NSTART / message-ID exits).
* `pw_clone_failure_releases_copy_once` — the `Clone`-failure exit: the copy is acquired once and released once, nothing stays.
* `pw_seeded_double_release_rejected`, `pw_seeded_double_release_rejected'` — seeded shape C12-T (deferred release on every early
  return + the explicit release of the `Clone`-failure branch): the trace of one such call is rejected, `doubleRelease`;
  for every object identity the declarative property is violated.

Tie: `scn udp badbody[bw] …` of harness/c12 (request bodies that fail on Read / Seek, confirmable and not, Post / Do /
WriteMessage, block-wise off and on) on real connections with hook h1, judged by the monitor.
-/
namespace CoapVerif.Props.C12PrepareWrite
open CoapVerif CoapVerif.Model.Ownership CoapVerif.Model.OwnershipPaths
open CoapVerif.Spec.Ownership (Ev specOK)
open CoapVerif.Props.C12 CoapVerif.Props.C12Paths

theorem pwCoded_linear : pwCoded.Linear := by
  intro c st
  apply linear_of_all
  unfold pwCoded pwStep PwStep.asCoded
  cases st <;> simp only [Bool.false_eq_true, if_false, if_true] <;> (repeat' split) <;> rfl

theorem pw_ok (sched : List PwStep) (c : PwCtl) (P : Place) (m : Store) (ha : Agree P m) :
    monitor m (pwCoded.trace c P sched) = none :=
  linear_ok pwCoded pwCoded_linear sched c P m ha

theorem pw_spec (sched : List PwStep) : specOK (pwCoded.trace {} Place.empty sched) = true :=
  linear_spec pwCoded pwCoded_linear sched {}

theorem pw_released_once (sched : List PwStep) (k : Nat) :
    countAcq k (pwCoded.trace {} Place.empty sched) =
      countRel k (pwCoded.trace {} Place.empty sched) + placed (pwCoded.run {} Place.empty sched).2.1 k :=
  linear_released_once pwCoded pwCoded_linear k sched {}

/-- The `Clone`-failure exit, for every request and copy: acquired once, released once, not kept. -/
theorem pw_clone_failure_releases_copy_once (r msg : Nat) (h : r ≠ msg) :
    pwCoded.trace {} Place.empty [.appAcquire r, .prepare r msg .cloneFail]
      = [.acq r, .acq msg, .use r, .use msg, .rel msg] ∧
    placed (pwCoded.run {} Place.empty [.appAcquire r, .prepare r msg .cloneFail]).2.1 msg = 0 := by
  simp [Prog.trace, Prog.run, pwCoded, PwStep.asCoded, pwStep, execOps, Op.guard, Op.apply, Op.evs, Place.set, Place.empty,
    Place.inSlot, placed, h, Ne.symm h]

/-- Negative (seeded C12-T): the copy is released by the explicit release of the `Clone`-failure branch and again by the
    deferred release: rejected. -/
theorem pw_seeded_double_release_rejected :
    ∃ sched, monitor Store.init (pwProg.trace {} Place.empty sched) = some (.doubleRelease 2) :=
  ⟨[.appAcquire 1, .prepareSeeded 1 2 .cloneFail], by decide +kernel⟩

/-- … for every object identity, and the declarative property is violated as well. -/
theorem pw_seeded_double_release_rejected' (r msg : Nat) (h : r ≠ msg) :
    specOK (pwProg.trace {} Place.empty [.appAcquire r, .prepareSeeded r msg .cloneFail]) = false := by
  simp [Prog.trace, Prog.run, pwProg, pwStep, execOps, Op.guard, Op.apply, Op.evs, Place.set, Place.empty,
    Place.inSlot, h, Ne.symm h, specOK, Spec.Ownership.okAfterRel, Spec.Ownership.okAfterAcq]

-- two requests under way; one acknowledged, one retransmitted and then expired; a third whose body cannot be read
example : pwCoded.trace {} Place.empty
    [.appAcquire 1, .prepare 1 2 .stored, .appAcquire 3, .prepare 3 4 .stored, .release 2, .getMessage 4 5 false, .finish 5,
     .release 4, .release 4, .getMessage 4 6 false, .appAcquire 7, .prepare 7 8 .cloneFail, .appRelease 7, .prepare 1 9 .non]
  = [.acq 1, .acq 2, .use 1, .use 2, .acq 3, .acq 4, .use 3, .use 4, .rel 2, .acq 5, .use 4, .use 5, .use 5, .rel 5, .rel 4,
     .acq 7, .acq 8, .use 7, .use 8, .rel 8, .rel 7, .use 1] := by decide +kernel
-- the exits that drop the copy: it is still in its slot (never released)
example : placed (pwCoded.run {} Place.empty [.appAcquire 1, .prepare 1 2 .nstartFail]).2.1 2 = 1 := by decide +kernel
-- the seeded shape's other early exits are accepted: there its deferred release gives back a copy that the code as it is drops
example : monitor Store.init (pwProg.trace {} Place.empty [.appAcquire 1, .prepareSeeded 1 2 .midInUse, .prepareSeeded 1 3 .nstartFail]) = none := by decide +kernel
example : pwProg.trace {} Place.empty [.appAcquire 1, .prepareSeeded 1 2 .cloneFail] = [.acq 1, .acq 2, .use 1, .use 2, .rel 2, .rel 2] := by decide +kernel

end CoapVerif.Props.C12PrepareWrite

section Audit
open CoapVerif.Props.C12PrepareWrite
#print axioms pwCoded_linear
#print axioms pw_ok
#print axioms pw_spec
#print axioms pw_released_once
#print axioms pw_clone_failure_releases_copy_once
#print axioms pw_seeded_double_release_rejected
#print axioms pw_seeded_double_release_rejected'
end Audit
