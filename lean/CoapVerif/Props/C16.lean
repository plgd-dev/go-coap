import CoapVerif.Model.Limiter
import CoapVerif.Lemmas.Limiter
import CoapVerif.Lemmas.LimiterOrder
import CoapVerif.Generated.LimiterWiring
import CoapVerif.Model.LimiterWiring
/-!
# C16 — parallel-request limits are never exceeded and never leak

Statement (properties.jsonl): at every instant the number of client requests in flight on a connection is at most the
configured total limit and, per target path, at most the per-endpoint limit, for every interleaving of arrivals,
completions and context cancellations.  Requests waiting for the same path are admitted in arrival order, a cancelled
waiter neither takes nor gives away a slot it does not own, and once all calls have returned the limiter is idle again
so that a new request is admitted immediately.

The theorems are about `Model/Limiter.lean` (the event system of `limitParallelRequests.go` after the F6 repair:
`acquireEndpoint`'s `ctx.Done()` branch removes its own waiter, or releases if it was admitted concurrently).  They
quantify over **arbitrary event lists** – every interleaving of arrivals, cancellations, completions and internal steps
of all goroutines, both outcomes of every two-way `select` – for any number of requests, paths and any limits (a limit
≤ 0 means "unlimited", as in `New`).  `semaphore.Weighted` is modelled (FIFO, `notifyWaiters` loop), not verified.
`arrive_appends` and `cancelled_never_starts` are facts about one step from any state `s`, reachable or not.
After them come the obligations about the connection: how its constructors hand out the request paths, and who sets the limits
(decided over `Generated/LimiterWiring.lean`).
-/
namespace CoapVerif.Props.C16
open CoapVerif.Model.Limiter CoapVerif.Lemmas.Limiter

/-- Per path, the requests inside the wrapped function never exceed the endpoint limit. -/
theorem endpoint_limit_inv (limit epLimit : Int) (evs : List Event) (k : Key) :
    (inFlight (run (init limit epLimit) evs) k : Int) ≤ effective epLimit := by
  have h := Inv_reachable limit epLimit evs
  have hel : (run (init limit epLimit) evs).epLimit = effective epLimit := (run_limits evs _).2
  generalize run (init limit epLimit) evs = s at h hel
  have hle := inFlight_le_holders s k
  have := h.holders_le k
  omega

/-- The requests inside the wrapped function never exceed the total limit. -/
theorem total_limit_inv (limit epLimit : Int) (evs : List Event) :
    (inFlightTotal (run (init limit epLimit) evs) : Int) ≤ effective limit := by
  have h := Inv_reachable limit epLimit evs
  have hl : (run (init limit epLimit) evs).limit = effective limit := (run_limits evs _).1
  generalize run (init limit epLimit) evs = s at h hl
  have hle := inFlightTotal_le_semHolders s
  have h1 := h.sem.cur
  have h2 := h.sem.le
  rw [hl] at h2
  omega

/-- The queue of a path is always exactly the list of its parked requests in arrival order (`ids` is the arrival order). -/
theorem queue_is_arrival_order (limit epLimit : Int) (evs : List Event) (k : Key) (ep : Ep)
    (h : (run (init limit epLimit) evs).eps k = some ep) :
    ep.queue = waitingFor (run (init limit epLimit) evs) k :=
  ((Inv_reachable limit epLimit evs).ep.of_some k ep h).2.2.2.1

/-- Arrival appends to `ids`: whoever is already in `ids` arrived before the newcomer. -/
theorem arrive_appends (s : State) (id : Id) (k : Key) (h : s.pc id = .idle ∧ id ∉ s.ids) :
    (step s (.arrive id k)).ids = s.ids ++ [id] := by
  obtain ⟨v, e', _, e⟩ := epRegister_does s id k
  rw [show step s (.arrive id k) = _ from if_pos h, e]
  rfl

/-!
### Arrival order — what is promised and what is not

"Requests waiting for the same path are admitted in arrival order" is a statement about the **per-path queue**: requests
that wait *for the path* (all slots of the path are taken) get the path's slots in the order in which they arrived
(`Before s.ids a b`: `a` registered with the limiter before `b`).  It is proved in three forms: one event
(`fifo_per_path`), every reachable state (`no_overtake_at_endpoint`), and in terms of what a client can observe
(`fifo_observable`, what the judge's `fifo` clause tests).

It is **not** a promise about the order in which requests that already own a slot of their path enter the wrapped
function: with an endpoint limit ≥ 2 two requests of one path can both own a path slot and then race for the total limit
(`semaphore.Acquire`); the one whose goroutine calls `Acquire` first wins, whatever the arrival order (`example` below;
the real limiter shows this readily when two requests arrive in the same scheduling window).  The semaphore itself is
first-come-first-served in the order of the `Acquire` calls, which is not the arrival order.
-/

/-- FIFO per path, one event: while an earlier request for the same path is still parked in the path's queue, no event
    admits a later one to the path. -/
theorem fifo_per_path (limit epLimit : Int) (evs : List Event) (ev : Event) (a b : Id) :
    let s := run (init limit epLimit) evs
    s.pc a = .epQueued → s.pc b = .epQueued → s.key a = s.key b → Before s.ids a b →
    (step s ev).pc b ≠ .epGranted := by
  intro s ha hb hk hbef
  exact fifo_step (Inv_reachable limit epLimit evs) ev a b ha hb hk hbef

/-- FIFO per path, every reachable state: nobody owns a slot of a path (let alone is in flight) while a request that
    arrived earlier for the same path is still parked in the path's queue. -/
theorem no_overtake_at_endpoint (limit epLimit : Int) (evs : List Event) (a b : Id) :
    let s := run (init limit epLimit) evs
    Before s.ids a b → s.key a = s.key b → s.pc a = .epQueued → epHolder (s.pc b) = false := by
  intro s hbef hk ha
  exact NoOvertake_reachable limit epLimit evs a b hbef hk ha

/-- FIFO per path, as a client observes it (the `fifo` clause of the judge, Spec/Limiter.lean, tests this for an `a` that was not
    cancelled): when all slots of a path are in flight, a request of that path that arrived earlier and has neither started nor
    returned is waiting *for the path*, and then no request that arrived later for the same path is in flight. -/
theorem fifo_observable (limit epLimit : Int) (evs : List Event) (a b : Id) :
    let s := run (init limit epLimit) evs
    Before s.ids a b → s.key a = s.key b →
    s.pc a ≠ .running → isDone (s.pc a) = false →
    (inFlight s (s.key a) : Int) = effective epLimit →
    s.pc b ≠ .running := by
  intro s hbef hk hnr hnd hfull hb
  have h : Inv s := Inv_reachable limit epLimit evs
  have hel : s.epLimit = effective epLimit := (run_limits evs _).2
  obtain ⟨hma, hmb⟩ := Before_mem hbef
  -- a owns no slot: otherwise the path would have more owners than slots
  have hna : epHolder (s.pc a) = false := by
    cases hh : epHolder (s.pc a) with
    | false => rfl
    | true =>
      exfalso
      have hlt := inFlight_lt_holders hma hh (by cases hp : s.pc a <;> simp [isRunning] <;> exact absurd hp hnr)
      have := h.holders_le (s.key a)
      omega
  -- so it is parked in the path's queue, and nobody who arrived later owns a slot
  have hqa : s.pc a = .epQueued := by
    have hni : s.pc a ≠ .idle := (h.base.arrived a).mp hma
    cases hp : s.pc a <;> simp [hp, epHolder, isDone] at hna hnd hni ⊢
  have := NoOvertake_reachable limit epLimit evs a b hbef hk hqa
  rw [hb] at this
  simp [epHolder] at this

/-- Not promised (and false): the order in which requests that own a slot of their path obtain the total limit.  Total limit 1,
    endpoint limit 2: request 9 (path 5) is in flight; 0 and then 1 arrive for path 7 and both get a path slot; the goroutine
    of 1 reaches `semaphore.Acquire` first; when 9 finishes, 1 is in flight and the earlier 0 still waits for the semaphore. -/
example : let s := run (init 1 2) [.arrive 9 5, .step 9 .grant, .arrive 0 7, .arrive 1 7, .step 1 .grant, .step 0 .grant,
      .finish 9, .step 9 .grant, .step 1 .grant]
    s.ids = [9, 0, 1] ∧ s.pc 1 = .running ∧ s.pc 0 = .semQueued ∧ inFlight s 7 = 1 := by decide +kernel

/-! ### Cancelled waiters, the idle limiter, no lost capacity -/

/-- A cancelled request that is still parked for its path owns nothing: resolving its cancellation removes it from the
    queue and changes **nothing else** – no other request moves, no counter, no semaphore unit, no other queue. -/
theorem cancel_neutral (limit epLimit : Int) (evs : List Event) (w : Id) :
    let s := run (init limit epLimit) evs
    s.pc w = .epQueued → s.cancelled w = true →
    let s' := step s (.step w .cancel)
    s'.pc w = .done .ctx ∧ (∀ j, j ≠ w → s'.pc j = s.pc j) ∧
    s'.semCur = s.semCur ∧ s'.semWaiters = s.semWaiters ∧
    (∀ k, k ≠ s.key w → s'.eps k = s.eps k) ∧
    (∃ ep, s.eps (s.key w) = some ep ∧ s'.eps (s.key w) = some { ep with queue := ep.queue.erase w }) ∧
    (∀ k, inFlight s' k = inFlight s k) := by
  intro s hw hc s'
  have h : Inv s := Inv_reachable limit epLimit evs
  obtain ⟨ep, he, hmem, _⟩ := h.parked hw
  have e : s' = setPc { s with eps := upd s.eps (s.key w) (some { ep with queue := ep.queue.erase w }) } w (.done .ctx) := by
    simp only [s', step, hw, hc, if_true, epCancel, he, hmem]
  rw [e]
  refine ⟨upd_same _ _ _, fun j hj => upd_other _ _ _ _ hj, rfl, rfl, fun k hk => upd_other _ _ _ _ hk,
    ⟨ep, he, upd_same _ _ _⟩, ?_⟩
  intro k
  apply List.countP_congr
  intro x _
  show (isRunning (upd s.pc w (.done .ctx) x) && s.key x == k) = true ↔ _
  by_cases hx : x = w
  · subst hx; rw [upd_same, hw]; simp [isRunning]
  · rw [upd_other _ _ _ _ hx]

/-- A cancelled request parked in the semaphore owns an endpoint slot but no semaphore unit: resolving its cancellation
    takes it out of the semaphore queue, gives no unit to anybody, and leaves it with the release of its own slot. -/
theorem cancel_neutral_sem (limit epLimit : Int) (evs : List Event) (w : Id) :
    let s := run (init limit epLimit) evs
    s.pc w = .semQueued → s.cancelled w = true →
    let s' := step s (.step w .cancel)
    s'.pc w = .relEp .ctx ∧ (∀ j, j ≠ w → s'.pc j = s.pc j) ∧
    s'.semCur = s.semCur ∧ s'.semWaiters = s.semWaiters.erase w ∧ s'.eps = s.eps := by
  intro s hw hc s'
  have h : Inv s := Inv_reachable limit epLimit evs
  have hfull := (h.sem.parked hw).2
  have hno : ¬ (s.semWaiters.head? = some w ∧ s.limit > s.semCur) := by intro hh; omega
  have hng : s.pc w ≠ .semGranted := by rw [hw]; simp
  have e : s' = setPc { s with semWaiters := s.semWaiters.erase w } w (.relEp .ctx) := by
    show step s (.step w .cancel) = _
    simp only [step, hw, hc, if_true]
    unfold semCancel
    rw [if_neg hng]
    simp only [hno, if_false]
  rw [e]
  exact ⟨upd_same _ _ _, fun j hj => upd_other _ _ _ _ hj, rfl, rfl, rfl⟩

/-- A request whose context is done does not enter the wrapped function: no event takes it to `running`.  (One step; "never
    afterwards" follows because no event clears `cancelled`, which is read off `step` and not stated.) -/
theorem cancelled_never_starts (s : State) (ev : Event) (id : Id)
    (hc : s.cancelled id = true) (hr : s.pc id ≠ .running) : (step s ev).pc id ≠ .running := by
  obtain ⟨side, hd⟩ := step_does s ev
  generalize step s ev = s' at hd
  intro h
  -- nobody is woken into the function, and the acting request enters it only with a context that is not done
  have own : ∀ {S : State} {i : Id}, S.pc = s.pc → s.cancelled i = false → (setPc S i .running).pc id = .running → False := by
    intro S i e hci h
    by_cases hi : id = i
    · rw [hi, hci] at hc; cases hc
    · exact hr (e ▸ (upd_other _ _ _ _ hi).symm.trans h)
  -- nor does its own move to any other place, whatever was done to the others before
  have other : ∀ {f : Id → Pc} {i : Id} {v : Pc}, upd f i v id = .running → Le (· = .running) s.pc f → v ≠ .running → False :=
    fun h le hv => hr ((le.upd (fun e => absurd e hv)).le id h)
  cases hd with
  | skip | flag => exact hr h
  | arrive _ _ _ _ _ _ hreg => exact other h .rfl (by rcases hreg.pc with rfl | rfl <;> simp)
  | start _ _ hci | semTake _ _ hci => exact own rfl hci h
  | finish | epRefuse | epLeave | semRefuse | semPark | semLeave | epGone | epGive => exact other h .rfl (by simp)
  | semLeaveNotify | semRelease => exact other h (Moves.notify rfl (fun e => by cases e)) (by simp)
  | epHand _ _ _ _ w => exact other h (Moves.wakeEp _ w (fun e => by cases e)) (by simp)

/-- Once every call has returned the limiter holds nothing: no endpoint entry, no semaphore unit, no waiter. -/
theorem idle_after_all (limit epLimit : Int) (evs : List Event)
    (hall : allReturned (run (init limit epLimit) evs)) : isIdle (run (init limit epLimit) evs) := by
  have h := Inv_reachable limit epLimit evs
  generalize run (init limit epLimit) evs = s at h hall
  have hnoHold : ∀ k, holders s k = 0 := by
    intro k
    apply List.countP_eq_zero.mpr
    intro x hx
    simp [(done_holds (hall x hx)).1]
  refine ⟨?_, ?_, ?_⟩
  · intro k
    cases he : s.eps k with
    | none => rfl
    | some ep =>
      obtain ⟨a, b, _, _⟩ := h.ep.of_some k ep he
      have := hnoHold k
      omega
  · have : semHolders s = 0 := by
      apply List.countP_eq_zero.mpr
      intro x hx
      simp [(done_holds (hall x hx)).2]
    have h1 := h.sem.cur
    omega
  · cases hw : s.semWaiters with
    | nil => rfl
    | cons w t =>
      have hq : s.pc w = .semQueued := (h.sem.mem w).mp (by rw [hw]; simp)
      have hm : w ∈ s.ids := mem_ids_of_pc h.base hq (by simp)
      have := hall w hm
      rw [hq] at this; simp [isDone] at this

/-- … so that a new request is admitted immediately: in an idle limiter a fresh request is inside the wrapped function
    after its own two steps, whatever its path. -/
theorem fresh_admitted (limit epLimit : Int) (evs : List Event) (id : Id) (k : Key) :
    let s := run (init limit epLimit) evs
    isIdle s → id ∉ s.ids → s.cancelled id = false →
    (run s [.arrive id k, .step id .grant]).pc id = .running := by
  intro s hidle hn hc
  have h : Inv s := Inv_reachable limit epLimit evs
  have hp : s.pc id = .idle := by
    by_cases hh : s.pc id = .idle
    · exact hh
    · exact absurd ((h.base.arrived id).mpr hh) hn
  obtain ⟨he, hcur, hws⟩ := hidle
  have hlim := h.base.limit_pos
  have e1 : step s (.arrive id k) =
      { s with key := upd s.key id k, ids := s.ids ++ [id], eps := upd s.eps k (some ⟨1, []⟩), pc := upd s.pc id .epGranted } := by
    simp only [step, hp, hn, not_false_eq_true, and_self, if_true, epRegister, he k]
  show (step (step s (.arrive id k)) (.step id .grant)).pc id = .running
  rw [e1]
  have hl0 : s.limit - 0 ≥ 1 := by omega
  simp only [step, upd_same, semAcquire, hc, hcur, hws, setPc, hl0, and_self, if_true, Bool.false_eq_true, if_false]

/-- nothing can happen without a new arrival, cancellation or completion: no goroutine has an enabled internal step -/
def Quiescent (s : State) : Prop := ∀ id ∈ s.ids, enabledBranches s id = []

/-- No capacity is lost: whenever everything has settled, a request that still waits (and was not cancelled) is held back
    by a limit that is really exhausted — its path has `endpointLimit` requests in flight, or the connection has
    `limit` requests in flight. -/
theorem waiting_justified (limit epLimit : Int) (evs : List Event) (w : Id) :
    let s := run (init limit epLimit) evs
    Quiescent s → (s.pc w = .epQueued ∨ s.pc w = .semQueued) →
    (inFlight s (s.key w) : Int) = effective epLimit ∨ (inFlightTotal s : Int) = effective limit := by
  intro s hq hw
  have h : Inv s := Inv_reachable limit epLimit evs
  have hl : s.limit = effective limit := (run_limits evs _).1
  have hel : s.epLimit = effective epLimit := (run_limits evs _).2
  -- at quiescence an arrived request is parked, running or done
  have hclass : ∀ j ∈ s.ids, s.pc j = .epQueued ∨ s.pc j = .semQueued ∨ s.pc j = .running ∨ ∃ r, s.pc j = .done r := by
    intro j hj
    have he := hq j hj
    have hne : s.pc j ≠ .idle := (h.base.arrived j).mp hj
    cases hp : s.pc j <;> simp [enabledBranches, hp] at he hne ⊢
  have hsem : semHolders s = inFlightTotal s := by
    apply List.countP_congr
    intro j hj
    rcases hclass j hj with hp | hp | hp | ⟨r, hp⟩ <;> simp [hp, semHolder, isRunning]
  -- if somebody is parked in the semaphore, the semaphore is full and all its units are in flight
  have hsemfull : ∀ j, s.pc j = .semQueued → (inFlightTotal s : Int) = effective limit := by
    intro j hj
    have := (h.sem.parked hj).2
    have hc := h.sem.cur
    rw [← hl, ← hsem]; omega
  rcases hw with hw | hw
  · -- parked for its path
    obtain ⟨ep, he, _, hfull⟩ := h.parked hw
    have hc := (h.ep.of_some _ ep he).1
    by_cases hex : ∃ j ∈ s.ids, s.pc j = .semQueued
    · obtain ⟨j, _, hj⟩ := hex
      exact Or.inr (hsemfull j hj)
    · left
      have : holders s (s.key w) = inFlight s (s.key w) := by
        apply List.countP_congr
        intro j hj
        rcases hclass j hj with hp | hp | hp | ⟨r, hp⟩
        · simp [hp, epHolder, isRunning]
        · exact absurd ⟨j, hj, hp⟩ hex
        · simp [hp, epHolder, isRunning]
        · simp [hp, epHolder, isRunning]
      rw [← hel, ← this]; omega
  · exact Or.inr (hsemfull w hw)

/-! ### Wiring: every request path of a connection is the limited one

The theorems above are about the limiter object.  The property is about the **connection**, so the tie also covers how
the connection constructors (`udp/client`, also used by DTLS, and `tcp/client`: `NewConnWithOpts`) hand out the functions
through which client requests leave: the extractor lists them from the AST on every run (Generated/LimiterWiring.lean) and
the obligation is decided over that list. -/

/-- A client package is wired through the limiter when
* the limiter wraps exactly the raw `cc.do` and `cc.doObserve`;
* the observation handler (whose `do` sends the deregistration GET of `Observation.Cancel`) is given `limiter.Do`;
* `client.New` receives the limiter (`Do`, `DoObserve`, `Get`, `Post`, `Put`, `Delete`, `Observe` of the connection are
  promoted from it), nothing on `Conn` shadows `Do` / `DoObserve`, and there is no second constructor of `Conn`;
* the raw functions are mentioned nowhere else in the package, except `doInternal` inside `do` (the single exchange,
  block-wise continuations included, that runs *inside* the limiter's slot). -/
def wiredThroughLimiter (w : Generated.LimiterWiring.Wiring) : Bool :=
  w.limiterWraps == ["cc.do", "cc.doObserve"] && w.handlerDo == .limiter && w.clientLimiter == .limiter &&
  w.otherRefs.all (· == ("do", "doInternal")) && w.shadowing.isEmpty && w.connLiterals == ["NewConnWithOpts"]

/-- Every request-issuing path that a connection hands to a component or exposes to its user is the limited one
    (for the datagram client, which DTLS shares, and the stream client). -/
theorem every_request_path_is_limited :
    Generated.LimiterWiring.wirings.map (·.pkg) = ["udp/client", "tcp/client"] ∧
    Generated.LimiterWiring.wirings.all wiredThroughLimiter = true ∧
    Generated.LimiterWiring.clientEmbedsLimiter = true ∧ Generated.LimiterWiring.clientOwnDo = [] := by decide +kernel

/-- the obligation is not vacuous: handing the raw function to the observation handler (seeded change C16-D) is rejected -/
def seededWiring : Generated.LimiterWiring.Wiring where
  pkg := "tcp/client"
  limiterWraps := ["cc.do", "cc.doObserve"]
  handlerDo := .raw
  handlerDoSrc := "cc.do"
  clientLimiter := .limiter
  clientLimiterSrc := "limitParallelRequests"
  otherRefs := [("do", "doInternal")]
  shadowing := []
  connLiterals := ["NewConnWithOpts"]

example : wiredThroughLimiter seededWiring = false := by decide +kernel

/-! ### Connections made by the real constructors: options and servers

For a connection **accepted by a server** the property reads: at most the limits the *server* was configured with
(`options.WithLimitClientParallelRequest`, `WithLimitClientEndpointParallelRequest`).  The servers build the Config of an
accepted connection from the client package's `DefaultConfig`; at the reviewed revision they assign neither limit, so accepted
connections run with the defaults 1 / 1 — stricter than any configuration, hence within it.  A server may also hand down its
own setting **of the same limit**; anything else (e.g. the total limit used as the per-path limit) is rejected by
`server_and_option_wiring`, and `accepted_connection_within_configured` concludes the limits for whatever the extractor
found. -/

/-- a server may only leave a limit at its default or assign it from its own configuration of the same name -/
def serverWiredOk (w : Generated.LimiterWiring.ServerWiring) : Bool :=
  (w.base == "udpClient.DefaultConfig" || w.base == "client.DefaultConfig") &&
  w.sets.all (fun a => (a.1 == "LimitClientParallelRequests" || a.1 == "LimitClientEndpointParallelRequests") && a.2 == "s.cfg." ++ a.1)

/-- an `Apply` method of a limit option sets the Config field of its own limit from its own field
    (`a` = (option type, method, field assigned, source), as `Generated.LimiterWiring.optionApplies` lists them) -/
def optionApplyOk (a : String × String × String × String) : Bool :=
  (a.1 == "LimitClientParallelRequestOpt" && a.2.2.1 == "cfg.LimitClientParallelRequests" && a.2.2.2 == "o.limitClientParallelRequests") ||
  (a.1 == "LimitClientEndpointParallelRequestOpt" && a.2.2.1 == "cfg.LimitClientEndpointParallelRequests" &&
    a.2.2.2 == "o.limitClientEndpointParallelRequests")

/-- The set-up of a connection by servers and options (harness connections built with `NewConnWithOpts` and a Config of their own
    do not run it), read from the source on every run: the three servers build accepted connections from `DefaultConfig` and
    assign a limit only from their own setting of that limit; the defaults are 1 / 1 (the smallest limits there are); every
    `…Apply` method of the two limit options (client and server Configs of all transports) and both `With…` constructors set the
    right field from the right value. -/
theorem server_and_option_wiring :
    Generated.LimiterWiring.serverWirings.map (·.pkg) = ["dtls/server", "tcp/server", "udp/server"] ∧
    Generated.LimiterWiring.serverWirings.all serverWiredOk = true ∧
    Generated.LimiterWiring.udpDefaultLimits = (1, 1) ∧ Generated.LimiterWiring.tcpDefaultLimits = (1, 1) ∧
    Generated.LimiterWiring.optionApplies.all optionApplyOk = true ∧
    Generated.LimiterWiring.optionApplies.map (fun a => (a.1, a.2.1)) =
      [("LimitClientParallelRequestOpt", "TCPServerApply"), ("LimitClientParallelRequestOpt", "TCPClientApply"),
       ("LimitClientParallelRequestOpt", "UDPServerApply"), ("LimitClientParallelRequestOpt", "DTLSServerApply"),
       ("LimitClientParallelRequestOpt", "UDPClientApply"),
       ("LimitClientEndpointParallelRequestOpt", "TCPServerApply"), ("LimitClientEndpointParallelRequestOpt", "TCPClientApply"),
       ("LimitClientEndpointParallelRequestOpt", "UDPServerApply"), ("LimitClientEndpointParallelRequestOpt", "DTLSServerApply"),
       ("LimitClientEndpointParallelRequestOpt", "UDPClientApply")] ∧
    Generated.LimiterWiring.optionCtors =
      [("WithLimitClientParallelRequest", "LimitClientParallelRequestOpt", "limitClientParallelRequests", "param"),
       ("WithLimitClientEndpointParallelRequest", "LimitClientEndpointParallelRequestOpt", "limitClientEndpointParallelRequests", "param")] := by
  decide +kernel

/-- the seeded slip (C16-G: the DTLS server assigns the per-path limit from its total limit) is rejected -/
def seededServerWiring : Generated.LimiterWiring.ServerWiring where
  pkg := "dtls/server"
  fn := "createConn"
  base := "udpClient.DefaultConfig"
  sets := [("LimitClientParallelRequests", "s.cfg.LimitClientParallelRequests"),
           ("LimitClientEndpointParallelRequests", "s.cfg.LimitClientParallelRequests")]

example : serverWiredOk seededServerWiring = false := by decide +kernel

/-- one place that can change a limit field of a Config (`w` = (file, function, field, how, value), as
    `Generated.LimiterWiring.limitFieldWrites` lists them) is legitimate when it is: the `Apply` method of the limit option of this
    very field, assigning the option's own value (`optionApplies`, judged by `optionApplyOk` above); a server's connection
    set-up handing down its own setting of the same limit; or the defaults (1) in `config.NewCommon` -/
def limitWriteOk (w : String × String × String × String × String) : Bool :=
  (w.1 == "options/commonOptions.go" && w.2.2.2.1 == "assign" &&
    Generated.LimiterWiring.optionApplies.any (fun a => a.1 ++ "." ++ a.2.1 == w.2.1 && a.2.2.1 == "cfg." ++ w.2.2.1 && a.2.2.2 == w.2.2.2.2)) ||
  (w.2.2.2.1 == "assign" && w.2.2.2.2 == "s.cfg." ++ w.2.2.1 &&
    Generated.LimiterWiring.serverWirings.any (fun s => s.pkg ++ "/server.go" == w.1 && "Server." ++ s.fn == w.2.1)) ||
  (w.1 == "options/config/common.go" && w.2.1 == "NewCommon" && w.2.2.2.1 == "literal" && w.2.2.2.2 == "1")

/-- The converse of `server_and_option_wiring`: NOBODY ELSE writes the two limit fields. Over all non-test Go files of the
    repository, every assignment / increment / address-of / literal initialisation of `LimitClientParallelRequests` or
    `LimitClientEndpointParallelRequests` is one of the legitimate ones - so whatever other options stand before or after the
    limit options in an option list, the limiter is constructed with the limits the limit options gave (or the defaults). -/
theorem limits_written_only_by_limit_options :
    Generated.LimiterWiring.limitFieldWrites.all limitWriteOk = true ∧
    (Generated.LimiterWiring.limitFieldWrites.filter (fun w => w.2.2.2.1 != "literal")).length =
      Generated.LimiterWiring.optionApplies.length +
      (Generated.LimiterWiring.serverWirings.map (·.sets.length)).foldl (· + ·) 0 := by
  decide +kernel

/-- the seeded interaction (C16-L: `WithTransmission` raising the total limit to NSTART on the udp client Config) is rejected -/
example : limitWriteOk ("options/udpOptions.go", "TransmissionOpt.UDPClientApply", "LimitClientParallelRequests", "assign", "nStart") = false := by
  decide +kernel

/-- On a connection accepted by a server configured with `L` / `E` — whichever of the two limits the server hands down, the
    other staying at its default 1 — the requests the server has in flight never exceed `E` per path nor `L` in total, in every
    interleaving. -/
theorem accepted_connection_within_configured (w : Generated.LimiterWiring.ServerWiring) (L E : Int) (evs : List Event) (k : Key) :
    let lim := Model.LimiterWiring.acceptedLimits w (1, 1) L E
    (inFlight (run (init lim.1 lim.2) evs) k : Int) ≤ effective E ∧
    (inFlightTotal (run (init lim.1 lim.2) evs) : Int) ≤ effective L := by
  intro lim
  have h1 := endpoint_limit_inv lim.1 lim.2 evs k
  have h2 := total_limit_inv lim.1 lim.2 evs
  have e2 : effective lim.2 ≤ effective E := by
    simp only [lim, Model.LimiterWiring.acceptedLimits]
    split
    · exact Int.le_refl _
    · exact effective_one_le E
  have e1 : effective lim.1 ≤ effective L := by
    simp only [lim, Model.LimiterWiring.acceptedLimits]
    split
    · exact Int.le_refl _
    · exact effective_one_le L
  omega

def plainServerWiring : Generated.LimiterWiring.ServerWiring where
  pkg := "dtls/server"
  fn := "createConn"
  base := "udpClient.DefaultConfig"
  sets := []

def handingDownServerWiring : Generated.LimiterWiring.ServerWiring where
  pkg := "dtls/server"
  fn := "createConn"
  base := "udpClient.DefaultConfig"
  sets := [("LimitClientParallelRequests", "s.cfg.LimitClientParallelRequests"),
           ("LimitClientEndpointParallelRequests", "s.cfg.LimitClientEndpointParallelRequests")]

/-- a server that assigns neither limit (the reviewed revision) gives its accepted connections 1 / 1 whatever it was configured with;
    one that hands both down gives them its configuration; a client constructor's connection runs with the options' values -/
example : Model.LimiterWiring.acceptedLimits plainServerWiring (1, 1) 4 1 = (1, 1) ∧
    Model.LimiterWiring.acceptedLimits handingDownServerWiring (1, 1) 4 1 = (4, 1) ∧
    serverWiredOk plainServerWiring = true ∧ serverWiredOk handingDownServerWiring = true ∧
    Model.LimiterWiring.limitsFor "tcpcli" 4 1 = (4, 1) := by decide +kernel

/-! ### Non-vacuity: concrete histories (limit 2, endpoint limit 1, three requests for one path) -/

/-- the F6 scenario: owner 0 in flight, 1 and 2 parked, the non-head waiter 2 is cancelled -/
def exampleEvs : List Event :=
  [.arrive 0 7, .step 0 .grant, .arrive 1 7, .arrive 2 7, .cancel 2, .step 2 .cancel]

example : let s := run (init 2 1) exampleEvs
    s.pc 0 = .running ∧ s.pc 1 = .epQueued ∧ s.pc 2 = .done .ctx ∧ s.eps 7 = some ⟨1, [1]⟩ ∧ inFlight s 7 = 1 := by decide +kernel

/-- hypotheses of `fifo_per_path` / `cancel_neutral` are satisfiable: before the cancel both 1 and 2 wait, 1 before 2 -/
example : let s := run (init 2 1) (exampleEvs.take 5)
    s.pc 1 = .epQueued ∧ s.pc 2 = .epQueued ∧ s.key 1 = s.key 2 ∧ s.cancelled 2 = true ∧ s.ids = [0, 1, 2] := by decide +kernel

example : Before [0, 1, 2] 1 2 := ⟨[0], [2], rfl, by simp⟩

/-- hypotheses of `fifo_observable`: all slots of path 7 in flight (request 0), 1 and 2 waiting, 1 before 2 -/
example : let s := run (init 2 1) (exampleEvs.take 4)
    s.ids = [0, 1, 2] ∧ s.key 1 = s.key 2 ∧ s.pc 1 ≠ .running ∧ isDone (s.pc 1) = false ∧
      (inFlight s (s.key 1) : Int) = effective 1 ∧ s.pc 2 ≠ .running := by decide +kernel

/-- a settled state with a waiter: 0 in flight, 1 parked behind it (hypotheses of `waiting_justified`) -/
example : let s := run (init 2 1) [.arrive 0 7, .step 0 .grant, .arrive 1 7]
    (∀ id ∈ s.ids, enabledBranches s id = []) ∧ s.pc 1 = .epQueued ∧ inFlight s 7 = 1 := by decide +kernel

/-- the owner finishes: the head waiter is admitted, and after everybody returned the limiter is idle -/
example : let s := run (init 2 1) (exampleEvs ++ [.finish 0, .step 0 .grant, .step 0 .grant, .step 1 .grant])
    s.pc 0 = .done .ok ∧ s.pc 1 = .running := by decide +kernel

example : let s := run (init 2 1) (exampleEvs ++ [.finish 0, .step 0 .grant, .step 0 .grant, .step 1 .grant,
      .finish 1, .step 1 .grant, .step 1 .grant])
    (∀ id ∈ s.ids, isDone (s.pc id) = true) ∧ s.eps 7 = none ∧ s.semCur = 0 ∧ s.semWaiters = [] := by decide +kernel

/-- a request parked in the semaphore (total limit 1, two paths) that is cancelled: hypotheses of `cancel_neutral_sem` -/
example : let s := run (init 1 1) [.arrive 0 1, .step 0 .grant, .arrive 1 2, .step 1 .grant, .cancel 1]
    s.pc 1 = .semQueued ∧ s.cancelled 1 = true ∧ s.semWaiters = [1] := by decide +kernel

end CoapVerif.Props.C16

section Audit
open CoapVerif.Props.C16
#print axioms endpoint_limit_inv
#print axioms total_limit_inv
#print axioms queue_is_arrival_order
#print axioms arrive_appends
#print axioms fifo_per_path
#print axioms no_overtake_at_endpoint
#print axioms fifo_observable
#print axioms cancel_neutral
#print axioms cancel_neutral_sem
#print axioms cancelled_never_starts
#print axioms idle_after_all
#print axioms fresh_admitted
#print axioms waiting_justified
#print axioms every_request_path_is_limited
#print axioms server_and_option_wiring
#print axioms limits_written_only_by_limit_options
#print axioms accepted_connection_within_configured
end Audit
