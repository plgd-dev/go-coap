import CoapVerif.Model.Lifecycle
/-!
# C09 — Blocking calls always end on cancellation or close; close is clean   (**partial**)

Statement (properties.jsonl): every blocking client operation (request, observe registration and cancellation, ping,
one-way write, discovery) returns within a bounded delay once its context is cancelled or expires or the connection is
closed by either side, whatever the peer does — silence, garbage, a half-open stream, an acknowledgement without a
response.  Closing a connection or stopping a server is idempotent and safe while operations are in flight: it completes
the connection's done signal and runs every registered on-close callback exactly once.

What is proved (continued in `Props/C09Registry.lean`: a server's `Stop` reaches every accepted connection, and
`Props/C09Reader.lean`: the reader of a connection comes back from decoding whatever it has read):
* `waits_cover_ctx_and_conn` — every blocking point read from the AST of /repo on every run
  (`Generated/BlockingWaits.lean`) is in one of the four classes of `waitOK` (`Model/Lifecycle.lean`): it listens to the
  request context **and** the connection context, or does not block (`covered`); it is on the receive path and listens
  to the connection context — the queue-draining loop may listen to the done signal (`conndone`) instead; it is a slot
  wait (limiter, per-endpoint queue, NSTART) and listens to the request context; it is `Conn.handshake` and listens to its
  caller's context.  That the waits of a class end is the business of the theorems below (covered: `returns_after_cancel`;
  receive path: `receive_wait_fires`; slot: `slot_queue_drains`; handshake: `handshake_returns_*`; the drain loop's
  `conndone` wait ends with `done_completes`, `fires` knows no such signal).  The pairing is made here, in prose:
  `waitOK` is the hypothesis of no theorem.
* `returns_after_cancel` — once either signal has fired, a list of `covered` waits (each listens to both contexts, or
  does not block) is worked off within as many steps as it has waits, for **every** behaviour of the peer (adversarial
  result schedule); `receive_wait_fires` is the
  single step for a wait that listens to the connection context.  `slot_queue_drains` — requests parked behind a slot
  (FIFO model `qrun`) return after the finite chain of covered holders; `slot_chain_drains` is `returns_after_cancel` on
  the holders' programs laid end to end.
* `socket_and_done_at_most_once`, `onclose_at_most_once`, `onclose_exactly_once_at_completion` — for every interleaving
  of any number of `Close()` callers, the reader and `AddOnClose` calls.  `close_idempotent` — a `Close()` on a state
  whose two flags are set is the identity.  `done_completes` — the reader's shutdown, taken without interruption
  (`readerSched`), completes the done signal; `close_does_not_disturb_shutdown` — a `Close()` leaves the fields it works
  on alone (the two are not composed into one statement about every interleaving).
* `close_never_waits_for_writer`, `close_unblocks_stalled_write`, `locked_close_deadlocks` — a frame write blocked in
  the transport (peer stopped reading): `Close` does not take the lock the writer holds (fact read from the source), so
  it returns and the writer is released; would it take the lock, no schedule ever ends either of them.
  (That the blocked write ignores the request context is finding F26, `Findings/C09.lean`.)
* `handshake_returns_on_ctx`, `handshake_returns_on_close`, `direct_handshake_call_waits_for_reader` — the DTLS / TLS
  handshake gate: with the `select` on the caller's context (`handshake_waits_for_ctx`, read from the source) an operation
  leaves an unanswered handshake when its context ends; without it (F32) only a close releases it.

Not modelled (hence partial): which waits an operation passes in which order (`returns_after_cancel` speaks of any list
of covered waits; the anchored functions are not turned into such lists); a parked request whose own context ends (the
queue of `qrun` has one pair of signals for all); OS-level blocking in socket reads; the DTLS / TLS transports themselves
(that closing the socket ends a handshake in progress is trusted) and a server's `Stop` while handshakes are in progress;
the bound on real time.
-/
namespace CoapVerif.Props.C09
open CoapVerif CoapVerif.Model.Lifecycle CoapVerif.Generated.BlockingWaits

/-- `waitOK` (its classes: see the head of the file), evaluated over the complete list extracted from the current source. -/
theorem waits_cover_ctx_and_conn : ∀ w ∈ waits, waitOK w = true := by decide +kernel

theorem covered_fires (w : Wait) (sg : Signals) (r : Bool) (hc : covered w = true)
    (hs : sg.reqCancelled = true ∨ sg.connClosed = true) : fires w sg r = true := by
  simp only [covered, Bool.or_eq_true, Bool.and_eq_true] at hc
  simp only [fires, Bool.or_eq_true, Bool.and_eq_true]
  rcases hc with h | ⟨h1, h2⟩
  · exact Or.inl (Or.inl (Or.inl h))
  · rcases hs with hs | hs
    · exact Or.inl (Or.inl (Or.inr ⟨h1, hs⟩))
    · exact Or.inl (Or.inr ⟨h2, hs⟩)

/-- Once the request context is cancelled or the connection is closed, an operation whose
    remaining blocking points are all covered has returned after at most as many steps as it has blocking points left —
    for every behaviour of the peer (`adv` is the adversary's schedule of results, of any length ≥ the number of waits). -/
theorem returns_after_cancel (prog : List Wait) (sg : Signals) (adv : List Bool)
    (hc : ∀ w ∈ prog, covered w = true) (hs : sg.reqCancelled = true ∨ sg.connClosed = true)
    (hlen : prog.length ≤ adv.length) : runProg sg prog adv = [] := by
  induction prog generalizing adv with
  | nil => cases adv <;> rfl
  | cons w ws ih =>
    cases adv with
    | nil => simp at hlen
    | cons r rs =>
      have hf := covered_fires w sg r (hc w (by simp)) hs
      simp only [runProg, hf, if_true]
      exact ih rs (fun x hx => hc x (by simp [hx])) (by simpa using hlen)

/-- The receive-path class of `waitOK`: a wait that listens to the connection context fires once the connection is closed.
    (The drain loop's wait listens to `conndone` instead, about which `fires` says nothing.) -/
theorem receive_wait_fires (w : Wait) (sg : Signals) (r : Bool) (hc : w.cases.contains "connctx" = true)
    (hs : sg.connClosed = true) : fires w sg r = true := by
  simp only [fires, Bool.or_eq_true, Bool.and_eq_true]
  exact Or.inl (Or.inr ⟨hc, hs⟩)

/-- Operations that run one after the other: after the signal, all have returned after the sum of their remaining
    blocking points. -/
theorem slot_chain_drains (queue : List (List Wait)) (sg : Signals) (adv : List Bool)
    (hc : ∀ p ∈ queue, ∀ w ∈ p, covered w = true) (hs : sg.reqCancelled = true ∨ sg.connClosed = true)
    (hlen : queue.flatten.length ≤ adv.length) : runProg sg queue.flatten adv = [] :=
  returns_after_cancel queue.flatten sg adv
    (fun w hw => by
      obtain ⟨p, hp, hwp⟩ := List.mem_flatten.mp hw
      exact hc p hp w hwp) hs hlen

theorem qrun_nil (sg : Signals) (rs : List Bool) : qrun sg [] rs = [] := by
  induction rs with
  | nil => rfl
  | cons r rs ih => simpa [qrun, qstep] using ih

/-- Requests parked behind a slot do not listen to the connection themselves, yet after the
    connection is closed (or the contexts are cancelled) the whole FIFO has returned within `qcost` steps, whatever the
    peer does: the holder's covered waits fire, it releases, the next one acquires and its covered waits fire, and so on.
    This is the release chain the slot waits of `waits_cover_ctx_and_conn` rely on. -/
theorem slot_queue_drains (sg : Signals) (hs : sg.reqCancelled = true ∨ sg.connClosed = true) (rs : List Bool) :
    ∀ (q : List (List Wait)), (∀ p ∈ q, ∀ w ∈ p, covered w = true) → qcost q ≤ rs.length → qrun sg q rs = [] := by
  induction rs with
  | nil =>
    intro q _ hlen
    cases q with
    | nil => rfl
    | cons p rest => simp [qcost] at hlen
  | cons r rs ih =>
    intro q hc hlen
    cases q with
    | nil => exact qrun_nil sg _
    | cons p rest =>
      cases p with
      | nil =>
        simp only [qrun, List.foldl_cons, qstep]
        apply ih rest (fun p hp => hc p (List.mem_cons_of_mem _ hp))
        simp only [qcost, List.map_cons, List.sum_cons, List.length_nil, List.length_cons] at hlen ⊢
        omega
      | cons w ws =>
        have hf := covered_fires w sg r (hc (w :: ws) (List.mem_cons_self) w (List.mem_cons_self)) hs
        simp only [qrun, List.foldl_cons, qstep, hf, if_true]
        apply ih (ws :: rest)
        · intro p hp x hx
          rcases List.mem_cons.mp hp with rfl | hp
          · exact hc (w :: p) (List.mem_cons_self) x (List.mem_cons_of_mem _ hx)
          · exact hc p (List.mem_cons_of_mem _ hp) x hx
        · simp only [qcost, List.map_cons, List.sum_cons, List.length_cons] at hlen ⊢
          omega

/-- what the signal is for: the holder's wait is covered, but while neither signal is set and the adversary never delivers
    the result, the request parked behind it waits for as long as the silence lasts (`qstep` leaves the queue as it is
    while the head's wait does not fire; 50 steps here); with the connection closed the same queue drains -/
example : qrun ⟨false, false⟩ [[⟨"f", "g", "select", ["connctx", "reqctx", "result"]⟩], []] (List.replicate 50 false)
    = [[⟨"f", "g", "select", ["connctx", "reqctx", "result"]⟩], []] := by decide +kernel
example : qrun ⟨false, true⟩ [[⟨"f", "g", "select", ["connctx", "reqctx", "result"]⟩], []] [false, false, false] = [] := by decide +kernel

/-- The invariant of the close protocol, kept by every event (`step_sound`).  `readerPc` counts the stages of the reader's
    shutdown (`Sess`, `Model/Lifecycle.lean`): 0 reading, 1 left the loop, 2 callback list taken, 3 callbacks run, 4 done signal
    completed. -/
structure Inv (s : Sess) : Prop where
  sock : s.socketClosed ≤ 1 ∧ (s.socketClosed = 1 ↔ s.casFlag = true)
  done : s.doneClosed ≤ 1 ∧ (s.doneClosed = 1 ↔ s.readerPc = 4)
  pc : s.readerPc ≤ 4
  popped : s.readerPc < 2 → s.popped = [] ∧ s.ran = []
  afterRun : s.readerPc ≥ 3 → s.popped = []

theorem inv_init : Inv {} := ⟨by simp, by simp, by simp, by simp, by simp⟩

/-- Both outcomes of the CAS as one update: `Close()` writes the context flag, the CAS flag and the socket, and leaves
    the callback lists, the done signal and the reader's stage alone. -/
theorem doClose_eq (s : Sess) :
    doClose s = { s with
      cancelled := true, casFlag := true
      socketClosed := if s.casFlag then s.socketClosed else s.socketClosed + 1 } := by
  unfold doClose
  cases s with
  | mk c sc cf oc po ra dc pc => cases cf <;> rfl

theorem doClose_inv {s : Sess} (h : Inv s) : Inv (doClose s) := by
  rw [doClose_eq]
  refine ⟨?_, h.done, h.pc, h.popped, h.afterRun⟩
  have hs := h.sock
  cases hc : s.casFlag
  · rw [hc] at hs; simp at hs ⊢; omega
  · rw [hc] at hs; simpa using hs

/-- The reader moves from stage `a` to stage `pc'`, both before the last: the done signal stays as it is.  `a` is a
    parameter of its own so that the event's guard (`hpc`) makes it a literal and the two `by decide` close. -/
theorem done_before_last {d pc a : Nat} (h : d ≤ 1 ∧ (d = 1 ↔ pc = 4)) (hpc : pc = a) (pc' : Nat)
    (ha : a < 4 := by decide) (h' : pc' < 4 := by decide) : d ≤ 1 ∧ (d = 1 ↔ pc' = 4) := by omega

def AllCbs (s : Sess) : List Nat := s.ran ++ s.popped ++ s.onClose

def registered : List Step → List Nat
  | [] => []
  | .addOnClose f :: r => f :: registered r
  | _ :: r => registered r

theorem registered_cons (st : Step) (r : List Step) : registered (st :: r) = registered [st] ++ registered r := by
  cases st <;> simp [registered]

/-- An event that is not enabled leaves the state as it is: only the enabled case needs an argument.  The conclusion
    is spelt `… ++ []` so that it is `step_sound`'s `… ++ registered [st]` for an event that registers nothing. -/
theorem guarded {p : Prop} [Decidable p] {s t : Sess} (h : Inv s) (ht : p → Inv t ∧ AllCbs t = AllCbs s ++ []) :
    Inv (if p then t else s) ∧ AllCbs (if p then t else s) = AllCbs s ++ [] := by
  by_cases hp : p
  · rw [if_pos hp]; exact ht hp
  · rw [if_neg hp]; exact ⟨h, (List.append_nil _).symm⟩

/-- One event keeps the invariant and conserves the callbacks: `pop` and `runOne` hand them from one list to the next,
    `addOnClose` appends one, the others leave the three lists alone. -/
theorem step_sound (s : Sess) (st : Step) (h : Inv s) :
    Inv (step s st) ∧ AllCbs (step s st) = AllCbs s ++ registered [st] := by
  have idle : AllCbs s = AllCbs s ++ [] := (List.append_nil _).symm
  cases st with
  | close => exact ⟨doClose_inv h, by rw [show step s .close = _ from doClose_eq s]; exact idle⟩
  | readerSeesClose =>
    refine guarded h fun hc => ?_
    have hd := doClose_inv h
    rw [doClose_eq] at hd ⊢
    exact ⟨⟨hd.sock, done_before_last h.done hc.1 1, by simp, fun _ => h.popped (by omega), by simp⟩, idle⟩
  | pop =>
    refine guarded h fun hc => ?_
    exact ⟨⟨h.sock, done_before_last h.done hc 2, by simp, by simp, by simp⟩,
      by simp [AllCbs, (h.popped (by omega)).1]⟩
  | runOne =>
    refine guarded h fun hc => ?_
    cases hp : s.popped with
    | nil => exact ⟨⟨h.sock, done_before_last h.done hc 3, by simp, by simp, fun _ => rfl⟩, by simp [AllCbs, hp]⟩
    | cons f r => exact ⟨⟨h.sock, h.done, h.pc, by simp [hc], by simp [hc]⟩, by simp [AllCbs, hp]⟩
  | closeDone =>
    refine guarded h fun hc => ?_
    have d0 : s.doneClosed = 0 := by have := h.done; omega
    exact ⟨⟨h.sock, by simp [d0], by simp, by simp, fun _ => h.afterRun (by omega)⟩, idle⟩
  | addOnClose f => exact ⟨⟨h.sock, h.done, h.pc, h.popped, h.afterRun⟩, (List.append_assoc _ _ _).symm⟩

theorem run_sound (sched : List Step) :
    ∀ s, Inv s → Inv (run s sched) ∧ AllCbs (run s sched) = AllCbs s ++ registered sched := by
  induction sched with
  | nil => intro s h; exact ⟨h, (List.append_nil _).symm⟩
  | cons st r ih =>
    intro s h
    have hs := step_sound s st h
    have hr := ih _ hs.1
    exact ⟨hr.1, by rw [registered_cons, ← List.append_assoc, ← hs.2]; exact hr.2⟩

/-- For every interleaving of any number of `Close()` calls, the reader
    and `AddOnClose` calls, the socket is closed at most once and the done signal is completed at most once (a second
    `close(done)` would panic). -/
theorem socket_and_done_at_most_once (sched : List Step) :
    (run {} sched).socketClosed ≤ 1 ∧ (run {} sched).doneClosed ≤ 1 :=
  have inv := (run_sound sched {} inv_init).1
  ⟨inv.sock.1, inv.done.1⟩

/-- A `Close()` on a state whose two flags are set changes nothing.  (A hypothesis on the state: `Inv` does not relate
    `casFlag` and `cancelled`.) -/
theorem close_idempotent (s : Sess) (h : s.cancelled = true ∧ s.casFlag = true) : step s .close = s := by
  obtain ⟨c, sc, cf, oc, po, ra, dc, pc⟩ := s
  simp only at h
  simp [step, doClose, h.1, h.2]

/-- In every interleaving `ran ++ popped ++ onClose` is exactly the registration list: what has run is a sub-multiset of
    what was registered, so a callback registered once has run at most once. -/
theorem onclose_at_most_once (sched : List Step) : AllCbs (run {} sched) = registered sched :=
  (run_sound sched {} inv_init).2

/-- When the reader has finished its shutdown (done signal completed), nothing is left in the list it took, and what
    has run followed by what is still registered is the registration list: no callback ran twice or out of order.  What
    is still in `onClose` then was registered after the shutdown took the list and never runs (the example below). -/
theorem onclose_exactly_once_at_completion (sched : List Step) (h : (run {} sched).doneClosed = 1) :
    (run {} sched).popped = [] ∧ (run {} sched).ran ++ (run {} sched).onClose = registered sched := by
  have inv := (run_sound sched {} inv_init).1
  have hp := inv.afterRun (by rw [inv.done.2.mp h]; decide)
  refine ⟨hp, ?_⟩
  rw [← onclose_at_most_once sched, AllCbs, hp, List.append_nil]

/-- running the popped callbacks one by one; the `+ 1` is the `runOne` that finds `popped = []` and moves to stage 3 -/
theorem run_runOnes (s : Sess) (rest : List Step) (l : List Nat) : ∀ ra,
    run { s with popped := l, ran := ra, readerPc := 2 } (List.replicate (l.length + 1) .runOne ++ rest) =
      run { s with popped := [], ran := ra ++ l, readerPc := 3 } rest := by
  induction l with
  | nil => intro ra; rw [List.append_nil]; rfl
  | cons f r ih => intro ra; exact (ih (ra ++ [f])).trans (by rw [List.append_assoc]; rfl)

/-- the reader's part of the shutdown, for `k` registered callbacks -/
def readerSched (k : Nat) : List Step := [.readerSeesClose, .pop] ++ List.replicate (k + 1) .runOne ++ [.closeDone]

/-- Once `Close()` was called (context cancelled / socket closed), the reader's shutdown — it sees its
    read fail, takes the callback list, runs each callback, completes the done signal — ends with the done signal
    completed exactly once and every callback that was registered by then run exactly once, in order; no step of it can
    block (each is enabled when its turn comes). -/
theorem done_completes (s : Sess) (hi : Inv s) (hpc : s.readerPc = 0) (hc : s.cancelled = true ∨ s.casFlag = true) :
    (run s (readerSched s.onClose.length)).doneClosed = s.doneClosed + 1 ∧
    (run s (readerSched s.onClose.length)).ran = s.onClose ∧
    (run s (readerSched s.onClose.length)).onClose = [] ∧
    (run s (readerSched s.onClose.length)).readerPc = 4 := by
  have h1 : step (step s .readerSeesClose) .pop =
      { s with cancelled := true, casFlag := true, socketClosed := (doClose s).socketClosed,
               onClose := [], popped := s.onClose, readerPc := 2 } := by
    rw [show step s .readerSeesClose = _ from if_pos ⟨hpc, hc⟩, doClose_eq]; rfl
  have hrun : run s (readerSched s.onClose.length) =
      run (step (step s .readerSeesClose) .pop) (List.replicate (s.onClose.length + 1) .runOne ++ [.closeDone]) := by
    simp only [readerSched, run, List.cons_append, List.nil_append, List.foldl_cons]
  rw [hrun, h1, run_runOnes { s with cancelled := true, casFlag := true, socketClosed := (doClose s).socketClosed, onClose := [] },
    (hi.popped (hpc ▸ by decide)).2]
  exact ⟨rfl, rfl, rfl, rfl⟩

/-- The frame of `.close`: it leaves the five fields the reader's shutdown works on as they are, so closers racing with
    the shutdown do not disturb it. -/
theorem close_does_not_disturb_shutdown (s : Sess) :
    (step s .close).popped = s.popped ∧ (step s .close).ran = s.ran ∧ (step s .close).readerPc = s.readerPc ∧
    (step s .close).onClose = s.onClose ∧ (step s .close).doneClosed = s.doneClosed := by
  rw [show step s .close = _ from doClose_eq s]
  exact ⟨rfl, rfl, rfl, rfl, rfl⟩

/-- a callback registered after the shutdown took the list is never run (observation, see docs/notes/C09.md): -/
example : (run {} [.addOnClose 1, .close, .readerSeesClose, .pop, .addOnClose 2, .runOne, .runOne, .closeDone]).ran = [1] ∧
    (run {} [.addOnClose 1, .close, .readerSeesClose, .pop, .addOnClose 2, .runOne, .runOne, .closeDone]).onClose = [2] := by
  decide +kernel

/-! Non-vacuity: two concurrent closers, a reader, two callbacks. -/
example : (run {} [.addOnClose 1, .addOnClose 2, .close, .close, .readerSeesClose, .close, .pop, .runOne, .runOne, .runOne, .closeDone, .close]).ran = [1, 2] := by decide +kernel
example : (run {} [.addOnClose 1, .close, .readerSeesClose, .pop, .runOne, .runOne, .closeDone]).doneClosed = 1 := by decide +kernel

/-- fact read from `net/conn.go` on every run: `Close` closes the socket without first taking the write lock -/
theorem close_never_waits_for_writer : closeTakesWriteLock = false := by decide

/-- Close is safe and effective while a write is stalled: whatever happened before, one `Close()` returns and the
    next time the blocked writer is scheduled it leaves `Write` — for every history of earlier events. -/
theorem close_unblocks_stalled_write (arms : Bool) (s : WState) (evs : List WEv) :
    let s' := wrun closeTakesWriteLock arms s (evs ++ [.callClose, .sched])
    s'.closeReturned = true ∧ s'.writerBlocked = false := by
  simp only [wrun, List.foldl_append, List.foldl_cons, List.foldl_nil, close_never_waits_for_writer]
  simp [wstep]

/-- If `Close` took the writer's lock, a stalled writer and `Close` would wait for each other for ever: no sequence of
    close calls and scheduling changes anything (the request context cannot help either unless a deadline is armed). -/
theorem locked_close_deadlocks (evs : List WEv) (s : WState) (hb : s.writerBlocked = true) (hs : s.socketClosed = false) :
    let s' := wrun true false s evs
    s'.writerBlocked = true ∧ s'.socketClosed = false ∧ s'.closeReturned = s.closeReturned := by
  refine List.foldlRecOn (motive := fun t : WState => t.writerBlocked = true ∧ t.socketClosed = false ∧
    t.closeReturned = s.closeReturned) evs _ ⟨hb, hs, rfl⟩ ?_
  intro t ⟨tb, ts, tc⟩ e _
  cases e <;> simp [wstep, tb, ts, tc]

/-- Non-vacuity: the stalled writer, two racing Close calls, then the writer runs. -/
example : wrun closeTakesWriteLock writeArmsDeadline {} [.callClose, .callClose, .sched]
    = { writerBlocked := false, socketClosed := true, ctxDone := false, closeReturned := true } := by decide

/-- the source fact: `handshake()` waits for its caller's context, not only for the transport -/
theorem handshake_waits_for_ctx : handshakeWaitsForCtx = true := by decide

theorem hrun_append (f : Bool) (s : HState) (a b : List HEv) : hrun f s (a ++ b) = hrun f (hrun f s a) b := by
  simp [hrun, List.foldl_append]

theorem hstep_returned (f : Bool) (s : HState) (e : HEv) (h : s.opWaiting = false) : (hstep f s e).opWaiting = false := by
  cases e <;> simp [hstep, h]

theorem hrun_returned (f : Bool) (evs : List HEv) (s : HState) (h : s.opWaiting = false) :
    (hrun f s evs).opWaiting = false :=
  List.foldlRecOn (motive := fun t => t.opWaiting = false) evs _ h fun t ht e _ => hstep_returned f t e ht

theorem hstep_ctxDone (f : Bool) (s : HState) (e : HEv) (h : s.opCtxDone = true) : (hstep f s e).opCtxDone = true := by
  cases e <;> simp [hstep, h]
  split <;> simp

theorem hrun_ctxDone (f : Bool) (evs : List HEv) : ∀ s : HState, s.opCtxDone = true → (hrun f s evs).opCtxDone = true :=
  fun _ h => List.foldlRecOn (motive := fun t => t.opCtxDone = true) evs _ h fun t ht e _ => hstep_ctxDone f t e ht

/-- With the select (the code as it is): whatever happened before and whoever holds the transport's handshake mutex, once
    the operation's context has ended the next time it is scheduled it returns - for every history `pre`, every later
    history `post`. -/
theorem handshake_returns_on_ctx (s : HState) (pre post : List HEv) :
    (hrun true s (pre ++ [.ctxEnds] ++ [.sched] ++ post)).opWaiting = false := by
  rw [hrun_append, hrun_append, hrun_append]
  apply hrun_returned
  generalize hrun true s pre = t
  cases hw : t.opWaiting <;> simp [hrun, hstep, hw]

/-- Closing the connection ends the wait with or without the select.  The statement schedules twice after the close; in
    the model the first is enough (`h1`: `hstep` ends the reader's handshake and lets the operation leave in the same
    step), so with `post` arbitrary the statement with one `.sched` is the stronger one and is what the proof shows. -/
theorem handshake_returns_on_close (f : Bool) (s : HState) (pre post : List HEv) :
    (hrun f s (pre ++ [.close] ++ [.sched, .sched] ++ post)).opWaiting = false := by
  have h1 (t : HState) (ht : t.closed = true) : (hstep f t .sched).opWaiting = false := by
    cases hw : t.opWaiting <;> simp [hstep, hw, ht]
  rw [hrun_append, hrun_append, hrun_append]
  exact hrun_returned f post _ (hstep_returned f _ .sched (h1 (hstep f _ .close) rfl))

/-- What the select is for (F32, the code before the repair called the transport directly): while the reader's handshake
    holds the mutex and nobody closes the connection, the operation never returns, although its context has ended. -/
theorem direct_handshake_call_waits_for_reader (evs : List HEv) (hnc : HEv.close ∉ evs) :
    ∀ s : HState, s.readerIn = true → s.opWaiting = true → s.closed = false →
      (hrun false s evs).opWaiting = true := by
  intro s hr hw hc
  refine (List.foldlRecOn (motive := fun t : HState => t.readerIn = true ∧ t.opWaiting = true ∧ t.closed = false) evs _
    ⟨hr, hw, hc⟩ ?_).2.1
  intro t ⟨tr, tw, tc⟩ e he
  cases e with
  | close => exact absurd he hnc
  | ctxEnds => exact ⟨tr, tw, tc⟩
  | sched => simp [hstep, tr, tw, tc]

-- non-vacuity: a silent peer, the context ends; nobody closes, then somebody does
example : (hrun true {} [.sched, .ctxEnds, .sched]).opWaiting = false := by decide
example : (hrun false {} [.sched, .ctxEnds, .sched, .sched, .sched]).opWaiting = true := by decide
example : (hrun false {} [.ctxEnds, .close, .sched, .sched]).opWaiting = false := by decide

end CoapVerif.Props.C09

section Audit
open CoapVerif.Props.C09
#print axioms waits_cover_ctx_and_conn
#print axioms covered_fires
#print axioms returns_after_cancel
#print axioms receive_wait_fires
#print axioms slot_chain_drains
#print axioms qrun_nil
#print axioms slot_queue_drains
#print axioms inv_init
#print axioms doClose_eq
#print axioms doClose_inv
#print axioms done_before_last
#print axioms registered_cons
#print axioms guarded
#print axioms step_sound
#print axioms run_sound
#print axioms socket_and_done_at_most_once
#print axioms close_idempotent
#print axioms onclose_at_most_once
#print axioms onclose_exactly_once_at_completion
#print axioms run_runOnes
#print axioms done_completes
#print axioms close_does_not_disturb_shutdown
#print axioms close_never_waits_for_writer
#print axioms close_unblocks_stalled_write
#print axioms locked_close_deadlocks
#print axioms handshake_waits_for_ctx
#print axioms hrun_append
#print axioms hstep_returned
#print axioms hrun_returned
#print axioms hstep_ctxDone
#print axioms hrun_ctxDone
#print axioms handshake_returns_on_ctx
#print axioms handshake_returns_on_close
#print axioms direct_handshake_call_waits_for_reader
end Audit
