import CoapVerif.Go.Basic
import CoapVerif.Model.BlockOpt
import CoapVerif.Spec.BlockOpt
import CoapVerif.Lemmas.Bits
/-!
# C19 — Block option value codec is the RFC 7959 mapping on its whole domain

Statement (properties.jsonl): encoding and decoding of Block1/Block2 option values implement exactly
the RFC 7959 §2.2 layout: decoding is defined for every 24-bit value and returns its (size exponent,
block number, more) triple, encoding accepts every triple with exponent 0-7 and a 20-bit block
number, and the two are mutually inverse.  Values or arguments outside that domain are refused with
an error instead of being wrapped or truncated, and the byte size associated with exponent s is
2^(s+4) (1024 for BERT, whose blocks are whole multiples of 1024 bounded by the maximum message size).

All theorems quantify over unbounded `Nat`/`Int`; the only evaluation is over the eight exponents of the size table
(`size_pow2`).  The model (`Model/BlockOpt.lean`) uses the constants regenerated from /repo (`Generated/Blockwise.lean`),
the specification (`Spec/BlockOpt.lean`) does not.
-/
namespace CoapVerif.Props.C19
open CoapVerif CoapVerif.Model.BlockOpt CoapVerif.Generated.Blockwise CoapVerif.Lemmas

theorem ok_of_toOption {ε α : Type} {x : Except ε α} {a : α} (h : x.toOption = some a) : x = .ok a := by
  cases x with
  | error e => cases h
  | ok b => cases h; rfl

theorem error_of_toOption {ε α : Type} {x : Except ε α} (h : x.toOption = none) : ∃ e, x = .error e := by
  cases x with
  | error e => exact ⟨e, rfl⟩
  | ok b => cases h

/-- Decoder = RFC mapping on *all* naturals (covers: total on 24-bit values, refuses everything else). -/
theorem decode_eq_spec (v : Nat) : (decodeBlock v).toOption = Spec.BlockOpt.decode v := by
  unfold decodeBlock Spec.BlockOpt.decode
  simp only [maxBlockValue, maxBlockNumber, szxMask, moreMask, and_7, and_8_ne_zero, shr_4]
  by_cases h : v < 2 ^ 24
  · have h1 : ¬ v > 16777215 := by omega
    have h2 : ¬ v / 16 > 1048575 := by omega
    simp [h, h1, h2, Except.toOption]
  · have h1 : v > 16777215 := by omega
    simp [h, h1, Except.toOption]

/-- Decoding is defined for every 24-bit value and returns the RFC triple. -/
theorem decode_total (v : Nat) (h : v < 2 ^ 24) :
    decodeBlock v = .ok (v % 8, v / 16, v / 8 % 2 == 1) :=
  ok_of_toOption ((decode_eq_spec v).trans (if_pos h))

theorem decode_rejects (v : Nat) (h : 2 ^ 24 ≤ v) : ∃ e, decodeBlock v = .error e :=
  error_of_toOption ((decode_eq_spec v).trans (if_neg (Nat.not_lt.mpr h)))

/-- Encoder = RFC mapping on all arguments (accepts exactly exponent 0..7 and 20-bit numbers, no wrap). -/
theorem encode_eq_spec (szx : Nat) (num : Int) (more : Bool) :
    (encodeBlock szx num more).toOption = Spec.BlockOpt.encode szx num more := by
  unfold encodeBlock Spec.BlockOpt.encode u32
  simp only [maxBlockNumber, szxBERT]
  by_cases hs : szx ≤ 7 ∧ 0 ≤ num ∧ num < 2 ^ 20
  · obtain ⟨a, b, c⟩ := hs
    have h1 : ¬ szx > 7 := by omega
    have h2 : ¬ num < 0 := by omega
    have h3 : ¬ num > ((1048575 : Nat) : Int) := by omega
    have hn : num.toNat < 1048576 := by omega
    have hs' : szx ≤ 7 ∧ 0 ≤ num ∧ num < 2 ^ 20 := ⟨a, b, c⟩
    simp only [h1, h2, h3, hs', ↓reduceIte, Except.toOption]
    congr 1
    cases more <;> simp <;> omega
  · simp only [hs, ↓reduceIte]
    by_cases h1 : szx > 7
    · simp only [h1, ↓reduceIte, Except.toOption]
    · by_cases h2 : num < 0
      · simp only [h1, h2, ↓reduceIte, Except.toOption]
      · have h3 : num > ((1048575 : Nat) : Int) := by omega
        simp only [h1, h2, h3, ↓reduceIte, Except.toOption]

theorem encode_total (szx : Nat) (num : Int) (more : Bool)
    (hs : szx ≤ 7) (h0 : 0 ≤ num) (h1 : num < 2 ^ 20) :
    encodeBlock szx num more = .ok (num.toNat * 16 + (if more then 8 else 0) + szx) :=
  ok_of_toOption ((encode_eq_spec szx num more).trans (if_pos ⟨hs, h0, h1⟩))

theorem encode_rejects (szx : Nat) (num : Int) (more : Bool)
    (h : 7 < szx ∨ num < 0 ∨ 2 ^ 20 ≤ num) : ∃ e, encodeBlock szx num more = .error e :=
  error_of_toOption ((encode_eq_spec szx num more).trans (if_neg (by omega)))

theorem decode_encode (szx : Nat) (num : Int) (more : Bool) (v : Nat)
    (h : encodeBlock szx num more = .ok v) : decodeBlock v = .ok (szx, num.toNat, more) := by
  by_cases hd : szx ≤ 7 ∧ 0 ≤ num ∧ num < 2 ^ 20
  · obtain ⟨hs, h0, h1⟩ := hd
    rw [encode_total szx num more hs h0 h1] at h
    cases h
    obtain ⟨e1, e2, e3⟩ := blockValue_fields num.toNat more hs
    rw [decode_total _ (by cases more <;> simp <;> omega), e1, e2, e3]
  · obtain ⟨e, he⟩ := encode_rejects szx num more (by omega)
    rw [he] at h
    cases h

/-- the value a peer writes for (szx, n, m) decodes to that triple -/
theorem decode_value {s n : Nat} (m : Bool) (hs : s ≤ 7) (hn : n < 2 ^ 20) :
    decodeBlock (n * 16 + (if m then 8 else 0) + s) = .ok (s, n, m) :=
  decode_encode s n m _ (encode_total s n m hs (Int.natCast_nonneg n) (by omega))

theorem encode_decode (v szx num : Nat) (more : Bool)
    (h : decodeBlock v = .ok (szx, num, more)) : encodeBlock szx (num : Int) more = .ok v := by
  by_cases hv : v < 2 ^ 24
  · rw [decode_total v hv] at h
    cases h
    rw [encode_total _ _ _ (by omega) (by omega) (by omega), Int.toNat_natCast, blockValue_join]
  · obtain ⟨e, he⟩ := decode_rejects v (by omega)
    rw [he] at h
    cases h

/-- The byte size of exponent s is 2^(s+4); 1024 for BERT; -1 ("unknown") otherwise. -/
theorem size_pow2 (s : Nat) : szxSize s = Spec.BlockOpt.size s := by
  by_cases h : s < 8
  · exact (by decide : ∀ s, s < 8 → szxSize s = Spec.BlockOpt.size s) s h
  · unfold szxSize Spec.BlockOpt.size
    have h1 : ¬ s < 7 := by omega
    have h2 : ¬ s = 7 := by omega
    have e : ∀ k, k < 8 → (s == k) = false := by intro k hk; simp; omega
    have : szxToSize.lookup s = none := by
      simp [szxToSize, List.lookup, e]
    simp [this, h1, h2]

/-- BERT blocks are whole multiples of 1024 bounded by the maximum message size;
    every other exponent has its fixed size. -/
theorem bert_buffer_multiple (maxSize : Nat) :
    bufferSize 7 maxSize = 1024 * ((maxSize / 1024 : Nat) : Int) ∧ bufferSize 7 maxSize ≤ maxSize
    ∧ (maxSize : Int) - bufferSize 7 maxSize < 1024 := by
  have hs : szxSize 7 = 1024 := by decide
  unfold bufferSize
  simp only [szxBERT, hs, Nat.lt_irrefl, if_false]
  omega

theorem buffer_fixed (s maxSize : Nat) (h : s < 7) : bufferSize s maxSize = ((2 ^ (s + 4) : Nat) : Int) := by
  unfold bufferSize
  simp only [szxBERT, h, if_true]
  rw [size_pow2]; simp [Spec.BlockOpt.size, h]

/-! Non-vacuity: concrete instances in the interior and on the edges of each domain. -/
example : decodeBlock 0xFFFFFF = .ok (7, 0xFFFFF, true) := by decide
example : encodeBlock 7 0xFFFFF true = .ok 0xFFFFFF := by decide
example : encodeBlock 3 5 false = .ok 83 ∧ decodeBlock 83 = .ok (3, 5, false) := by decide
example : bufferSize 7 2500 = 2048 := by decide

end CoapVerif.Props.C19

section Audit
open CoapVerif.Props.C19
#print axioms ok_of_toOption
#print axioms error_of_toOption
#print axioms decode_eq_spec
#print axioms decode_total
#print axioms decode_rejects
#print axioms encode_eq_spec
#print axioms encode_total
#print axioms encode_rejects
#print axioms decode_encode
#print axioms decode_value
#print axioms encode_decode
#print axioms size_pow2
#print axioms bert_buffer_multiple
#print axioms buffer_fixed
end Audit
