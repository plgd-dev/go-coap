import CoapVerif.Props.C12
import CoapVerif.Model.OwnershipPaths
/-!
# C12, path programs of the observation callbacks and of the block-wise layer

(continues `Props/C12.lean`; statement of the property: see there.)

`Model/OwnershipPaths.lean` writes the message-handling paths of net/observation and net/blockwise as transition systems
over schedules, in a language of *linear slot operations* (every release / use / hand-over names the slot the pointer is
taken from and only happens if the object is there).

Proved here, for **every** schedule (any number of steps of any goroutines in any interleaving of their critical
sections), every control state and every placement that agrees with the ownership state:

* `linear_ok` — a program whose steps consist of linear operations only is accepted by the typestate monitor;
  `obs_ok`, `bw_ok` — the observation program and the block-wise program, as the code is, are such programs
  (`obs_spec`, `bw_spec`: the same in the words of the declarative property, through `monitor_sound`);
* `linear_conservation` — in every run, for every object: acquisitions + (1 if the program owned it at the start) =
  releases + (1 if it is still in a slot at the end); `obs_released_once`, `bw_released_once`: from a start where the
  program owns nothing, every acquired object is released exactly once or is still in a slot (never released: left
  to the garbage collector / still in use) — never twice;
* `accepted_rel_le_acq` — for every trace the monitor accepts (so: every recorded trace that passes the check), every
  object is released at most once per acquisition;
* negative theorems, one realistic wrong shape each: `bw_expire_release_rejected` (the `onExpire` callback of a
  reassembly entry releases the message while a handler works on it under the guard: the completed message is handed to
  the application after its release — seeded C12-M), `bw_write_double_release_rejected` (seeded C12-F),
  `bw_cont_releases_request_rejected` (a failing continuation releases the request the caller of `Do` holds — seeded
  C12-R), `obs_release_hijacked_rejected` (the receive path releases a notification its callback hijacked).

Not proved: that the Go code is an instance of these programs.  That is observed: harness/c12 (`paths_test.go`, the
scenarios `scn obs …` / `scn bw …` of `TestC12`) runs the real `blockwise.BlockWise` and the real `observation.Handler`
over a tracking pool, step by step (and with steps of two goroutines interleaved), and the driver compares each step's
recorded acquire/release/hold events with the program's (`path_steps_matched`); real connections with hook h1 run the
same situations under the monitor.
-/
namespace CoapVerif.Props.C12Paths
open CoapVerif CoapVerif.Model.Ownership CoapVerif.Model.OwnershipPaths
open CoapVerif.Spec.Ownership (Ev specOK)
open CoapVerif.Props.C12

/-- What the placement of one object says about its typestate: in no slot — the pool may hand it out (`free`, or never
    seen); in a slot — `Owned`; in a slot and held by the application — held once (a linear `hold` asks for an object that is not held). -/
def AgreeAt : Option (Nat × Bool) → TS → Prop
  | none, t => t = .free ∨ t = .held false
  | some (_, false), t => ∃ out, t = .held out
  | some (_, true), t => ∃ out, t = .app out 0

def Agree (P : Place) (m : Store) : Prop := ∀ k, AgreeAt (P k) (m k)

theorem pset_same (P : Place) (k : Nat) (v) : (P.set k v) k = v := by simp [Place.set]
theorem pset_other (P : Place) (k x : Nat) (v) (h : x ≠ k) : (P.set k v) x = P x := by simp [Place.set, h]

theorem agree_set {P : Place} {m : Store} (h : Agree P m) (k : Nat) (v : Option (Nat × Bool)) (t : TS)
    (hv : AgreeAt v t) : Agree (P.set k v) (m.set k t) := by
  intro x
  by_cases hx : x = k
  · rw [hx, pset_same, set_same]; exact hv
  · rw [pset_other _ _ _ _ hx, set_other _ _ _ _ hx]; exact h x

theorem agree_empty : Agree Place.empty Store.init := fun _ => Or.inr rfl

theorem inSlot_some {P : Place} {s k : Nat} (h : P.inSlot s k = true) : ∃ b, P k = some (s, b) := by
  unfold Place.inSlot at h
  cases hp : P k with
  | none => simp [hp] at h
  | some v =>
    obtain ⟨s', b⟩ := v
    simp only [hp, beq_iff_eq] at h
    exact ⟨b, by rw [h]⟩

theorem op_ok (op : Op) (P : Place) (m : Store) (hl : op.linear = true) (hg : op.guard P = true) (ha : Agree P m) :
    ∃ m', (∀ tail, monitor m (op.evs ++ tail) = monitor m' tail) ∧ Agree (op.apply P) m' := by
  cases op with
  | acq s k =>
    simp only [Op.guard, Option.isNone_iff_eq_none] at hg
    have hk := ha k
    rw [hg] at hk
    exact ⟨m.set k (.held true), fun tail => by simp only [Op.evs, List.cons_append, List.nil_append]; exact monitor_acq_avail m k tail hk,
      agree_set ha k _ _ ⟨true, rfl⟩⟩
  | rel s k =>
    simp only [Op.guard, beq_iff_eq] at hg
    have hk := ha k
    rw [hg] at hk
    exact ⟨m.set k .free, fun tail => by simp only [Op.evs, List.cons_append, List.nil_append]; exact monitor_rel_owned m k tail hk,
      agree_set ha k _ _ (Or.inl rfl)⟩
  | use s k =>
    simp only [Op.guard] at hg
    obtain ⟨b, hb⟩ := inSlot_some hg
    have hk := ha k
    rw [hb] at hk
    refine ⟨m, fun tail => ?_, ha⟩
    simp only [Op.evs, List.cons_append, List.nil_append]
    apply monitor_use_live
    cases b <;> (obtain ⟨o, ho⟩ := hk; rw [ho]; simp)
  | mv s s' k =>
    simp only [Op.guard] at hg
    obtain ⟨b, hb⟩ := inSlot_some hg
    refine ⟨m, fun tail => by simp [Op.evs], ?_⟩
    intro x
    by_cases hx : x = k
    · simp only [Op.apply]; rw [hx, pset_same, hb]
      have hk := ha k
      rw [hb] at hk
      cases b <;> exact hk
    · simp only [Op.apply]; rw [pset_other _ _ _ _ hx]; exact ha x
  | hold s k | unhold s k =>
    simp only [Op.guard, beq_iff_eq] at hg
    have hk := ha k
    rw [hg] at hk
    obtain ⟨o, ho⟩ := hk
    refine ⟨_, fun tail => ?_, agree_set ha k _ _ ⟨o, rfl⟩⟩
    simp only [Op.evs, List.cons_append, List.nil_append]
    exact monitor_cons_ok _ _ _ _ (by simp [stepM, stepTS, objOf, ho])
  | relAlias k | useAlias k | holdAlias k => cases hl

theorem execOps_cons {op : Op} {r : List Op} {P P' : Place} {e : List Ev} (h : execOps P (op :: r) = some (P', e)) :
    op.guard P = true ∧ ∃ e1, execOps (op.apply P) r = some (P', e1) ∧ e = op.evs ++ e1 := by
  simp only [execOps] at h
  split at h
  · rename_i hg
    split at h
    · rename_i P1 e1 hr
      simp only [Option.some.injEq, Prod.mk.injEq] at h
      exact ⟨hg, e1, by rw [hr, h.1], h.2.symm⟩
    · cases h
  · cases h

/-- The traces of guarded linear operations, with the placements they lead from and to. -/
inductive Lin : Place → List Ev → Place → Prop
  | nil (P : Place) : Lin P [] P
  | op {P P' : Place} {e : List Ev} (o : Op) : o.linear = true → o.guard P = true → Lin (o.apply P) e P' → Lin P (o.evs ++ e) P'

theorem Lin.append {P P' P'' : Place} {e e' : List Ev} (h : Lin P e P') (h' : Lin P' e' P'') : Lin P (e ++ e') P'' := by
  induction h with
  | nil => exact h'
  | op o hl hg _ ih => rw [List.append_assoc]; exact .op o hl hg (ih h')

theorem execOps_lin (ops : List Op) : ∀ (P P' : Place) (e : List Ev),
    (∀ op ∈ ops, op.linear = true) → execOps P ops = some (P', e) → Lin P e P' := by
  induction ops with
  | nil => intro P P' e _ h; cases h; exact .nil P
  | cons op r ih =>
    intro P P' e hl h
    obtain ⟨hg, e1, hr, rfl⟩ := execOps_cons h
    exact .op op (hl op List.mem_cons_self) hg (ih _ P' e1 (fun o ho => hl o (List.mem_cons_of_mem _ ho)) hr)

theorem run_cons {C St : Type} (p : Prog C St) (c : C) (P : Place) (st : St) (r : List St) :
    p.run c P (st :: r) =
      match execOps P (p.step c st).2 with
      | some (P', e) => ((p.run (p.step c st).1 P' r).1, (p.run (p.step c st).1 P' r).2.1, e ++ (p.run (p.step c st).1 P' r).2.2)
      | none => p.run c P r := by
  simp only [Prog.run]
  cases execOps P (p.step c st).2 with
  | none => rfl
  | some v => rfl

theorem run_lin {C St : Type} (p : Prog C St) (hp : p.Linear) (sched : List St) : ∀ (c : C) (P : Place),
    Lin P (p.trace c P sched) (p.run c P sched).2.1 := by
  unfold Prog.trace
  induction sched with
  | nil => intro c P; exact .nil P
  | cons st r ih =>
    intro c P
    rw [run_cons]
    cases hr : execOps P (p.step c st).2 with
    | none => exact ih c P
    | some v => exact (execOps_lin _ P v.1 v.2 (hp c st) hr).append (ih _ v.1)

theorem Lin.ok {P P' : Place} {e : List Ev} (h : Lin P e P') : ∀ m, Agree P m →
    ∃ m', (∀ tail, monitor m (e ++ tail) = monitor m' tail) ∧ Agree P' m' := by
  induction h with
  | nil => exact fun m ha => ⟨m, fun _ => rfl, ha⟩
  | op o hl hg _ ih =>
    intro m ha
    obtain ⟨m1, hm1, ha1⟩ := op_ok o _ m hl hg ha
    obtain ⟨m2, hm2, ha2⟩ := ih m1 ha1
    exact ⟨m2, fun tail => by rw [List.append_assoc, hm1, hm2], ha2⟩

theorem monitor_nil (m : Store) : monitor m [] = none := rfl

/-- What the files of C12 about path programs rest on: a program whose steps consist of linear operations only is
    accepted by the monitor, on every schedule, from every control state and every placement that agrees with the
    ownership state — each guarded linear operation keeps `Agree` (`op_ok`), so no event meets a refusing typestate. -/
theorem linear_ok {C St : Type} (p : Prog C St) (hp : p.Linear) (sched : List St) (c : C) (P : Place) (m : Store)
    (ha : Agree P m) : monitor m (p.trace c P sched) = none := by
  obtain ⟨m', h, _⟩ := (run_lin p hp sched c P).ok m ha
  rw [← List.append_nil (p.trace c P sched), h, monitor_nil]

/-- `linear_ok` in the words of the declarative property, from the start of a trace. -/
theorem linear_spec {C St : Type} (p : Prog C St) (hp : p.Linear) (sched : List St) (c : C) :
    specOK (p.trace c Place.empty sched) = true :=
  (monitor_sound _).mp (linear_ok p hp sched c Place.empty Store.init agree_empty)

theorem linear_of_all {ops : List Op} (h : ops.all Op.linear = true) : ∀ op ∈ ops, op.linear = true :=
  List.all_eq_true.mp h

theorem obsCoded_linear : obsCoded.Linear := by
  intro c st
  apply linear_of_all
  -- every branch of the step function ends in a literal list of operations, on which `List.all Op.linear` evaluates
  unfold obsCoded obsStep ObsStep.asCoded
  cases st <;> simp only [Bool.false_eq_true, if_false, if_true] <;> (repeat' split) <;> rfl

theorem bwCoded_linear : bwCoded.Linear := by
  intro c st
  apply linear_of_all
  unfold bwCoded bwStep BwStep.asCoded BwCtl.leave
  cases st <;> simp only [Bool.false_eq_true, if_false, if_true] <;> (repeat' split) <;> rfl

/-- Observation callbacks: every schedule of registrations, deliveries (notifications and the response to the
    registration, with or without a call of the callback), hijacks, callback returns (udp / tcp release order), releases by
    the application, `Cancel` calls (with their response or failure), `GetObservationRequest` copies and their release by
    the block-wise layer, in any interleaving, is accepted by the monitor. -/
theorem obs_ok (sched : List ObsStep) (c : ObsCtl) (P : Place) (m : Store) (ha : Agree P m) :
    monitor m (obsCoded.trace c P sched) = none :=
  linear_ok obsCoded obsCoded_linear sched c P m ha

/-- Block-wise layer: every schedule of `Do` calls and returns (also returns while the transfer is under way),
    continuations, `WriteMessage`, responses cut into blocks, reassembly under the guard by any number of receive-path
    invocations, `next` calls, expiry sweeps between any two critical sections, is accepted by the monitor. -/
theorem bw_ok (sched : List BwStep) (c : BwCtl) (P : Place) (m : Store) (ha : Agree P m) :
    monitor m (bwCoded.trace c P sched) = none :=
  linear_ok bwCoded bwCoded_linear sched c P m ha

theorem obs_spec (sched : List ObsStep) : specOK (obsCoded.trace {} Place.empty sched) = true :=
  linear_spec obsCoded obsCoded_linear sched {}

theorem bw_spec (sched : List BwStep) : specOK (bwCoded.trace {} Place.empty sched) = true :=
  linear_spec bwCoded bwCoded_linear sched {}

def countAcq (o : Nat) : List Ev → Nat
  | [] => 0
  | .acq o' :: r => (if o' = o then 1 else 0) + countAcq o r
  | _ :: r => countAcq o r

theorem countAcq_append (o : Nat) (a b : List Ev) : countAcq o (a ++ b) = countAcq o a + countAcq o b := by
  induction a with
  | nil => simp [countAcq]
  | cons e a ih => cases e <;> simp [countAcq, ih, Nat.add_assoc]

def placed (P : Place) (k : Nat) : Nat := if (P k).isSome then 1 else 0

theorem placed_le_one (P : Place) (k : Nat) : placed P k ≤ 1 := by unfold placed; split <;> omega

theorem op_conserve (op : Op) (P : Place) (k : Nat) (hl : op.linear = true) (hg : op.guard P = true) :
    countAcq k op.evs + placed P k = countRel k op.evs + placed (op.apply P) k := by
  cases op with
  | acq s k' | rel s k' | hold s k' | unhold s k' =>
    -- the guard says what is stored under `k'`; the operation says what is stored there afterwards
    simp only [Op.guard, Option.isNone_iff_eq_none, beq_iff_eq] at hg
    by_cases h : k' = k
    · subst h; simp [Op.evs, Op.apply, countAcq, countRel, placed, pset_same, hg]
    · simp [Op.evs, Op.apply, countAcq, countRel, placed, pset_other _ _ _ _ (Ne.symm h), h]
  | use s k' => simp [Op.evs, Op.apply, countAcq, countRel]
  | mv s s' k' =>
    simp only [Op.guard] at hg
    obtain ⟨b, hb⟩ := inSlot_some hg
    by_cases h : k' = k
    · subst h; simp [Op.evs, Op.apply, countAcq, countRel, placed, pset_same, hb]
    · simp [Op.evs, Op.apply, countAcq, countRel, placed, pset_other _ _ _ _ (Ne.symm h)]
  | relAlias k' | useAlias k' | holdAlias k' => cases hl

theorem Lin.conserve {P P' : Place} {e : List Ev} (h : Lin P e P') (k : Nat) :
    countAcq k e + placed P k = countRel k e + placed P' k := by
  induction h with
  | nil => rfl
  | op o hl hg _ ih =>
    have a := op_conserve o _ k hl hg
    rw [countAcq_append, countRel_append]
    omega

/-- Conservation: in every run of a linear program, for every object: what was acquired (plus what the program owned
    at the start) is what was released plus what is still in a slot at the end.  With `placed_le_one`: releases exceed
    acquisitions by at most what the program owned at the start. -/
theorem linear_conservation {C St : Type} (p : Prog C St) (hp : p.Linear) (k : Nat) (sched : List St) : ∀ (c : C) (P : Place),
    countAcq k (p.trace c P sched) + placed P k = countRel k (p.trace c P sched) + placed (p.run c P sched).2.1 k :=
  fun c P => (run_lin p hp sched c P).conserve k

/-- From a start where the program owns nothing: every object is released as often as it was acquired, except that its
    last acquisition may still be in a slot. -/
theorem linear_released_once {C St : Type} (p : Prog C St) (hp : p.Linear) (k : Nat) (sched : List St) (c : C) :
    countAcq k (p.trace c Place.empty sched) =
      countRel k (p.trace c Place.empty sched) + placed (p.run c Place.empty sched).2.1 k := by
  simpa [placed, Place.empty] using linear_conservation p hp k sched c Place.empty

/-- Observation paths: what may still be in a slot is a hijacked notification the application has not released yet, or
    the messages of a `Cancel` still under way. -/
theorem obs_released_once (sched : List ObsStep) (k : Nat) :
    countAcq k (obsCoded.trace {} Place.empty sched) =
      countRel k (obsCoded.trace {} Place.empty sched) + placed (obsCoded.run {} Place.empty sched).2.1 k :=
  linear_released_once obsCoded obsCoded_linear k sched {}

/-- Block-wise paths: what is still in a slot at the end of a run was never released by the layer (reassembly messages,
    cached originals, `WriteMessage`'s copy: left to the garbage collector) or is in the application's hands. -/
theorem bw_released_once (sched : List BwStep) (k : Nat) :
    countAcq k (bwCoded.trace {} Place.empty sched) =
      countRel k (bwCoded.trace {} Place.empty sched) + placed (bwCoded.run {} Place.empty sched).2.1 k :=
  linear_released_once bwCoded bwCoded_linear k sched {}

/-- Only a release sends an object to the pool, and only from outside it. -/
theorem step_balance (e : Ev) (t t' : TS) (h : stepTS (objOf e) t e = .ok t') :
    countRel (objOf e) [e] + (if t' = .free then 0 else 1) ≤ countAcq (objOf e) [e] + (if t = .free then 0 else 1) := by
  cases e <;> rcases t with _ | (_ | _) | ⟨_, _ | _⟩ <;> cases h <;> simp [countRel, countAcq, objOf]

theorem count_other {e : Ev} {o : Nat} (h : objOf e ≠ o) : countRel o [e] = 0 ∧ countAcq o [e] = 0 := by
  cases e <;> simp_all [countRel, countAcq, objOf]

/-- For every trace the monitor accepts (every recorded trace that passes the check): an object is released at most
    once per acquisition (plus once if it was out at the start). -/
theorem accepted_rel_le_acq (o : Nat) (es : List Ev) : ∀ (m : Store), monitor m es = none →
    countRel o es ≤ countAcq o es + (if m o = .free then 0 else 1) := by
  induction es with
  | nil => intro m _; simp [countRel]
  | cons e es ih =>
    intro m h
    unfold monitor stepM at h
    cases ht : stepTS (objOf e) (m (objOf e)) e with
    | error v => rw [ht] at h; cases h
    | ok t =>
      rw [ht] at h
      have hi := ih _ h
      have hr := countRel_append o [e] es
      have ha := countAcq_append o [e] es
      rw [List.singleton_append] at hr ha
      by_cases ho : objOf e = o
      · subst ho
        have hb := step_balance e _ _ ht
        rw [set_same] at hi
        omega
      · rw [set_other _ _ _ _ (Ne.symm ho)] at hi
        have hz := count_other ho
        omega

/-- Seeded C12-M: the `onExpire` callback of a reassembly entry releases the message through the entry's pointer.  A
    sweep that runs while the last block is being appended (the handler holds the guard) gives the message back to the
    pool; the handler then completes it and hands it to `next`: read (and handed to the application) after its release. -/
theorem bw_expire_release_rejected :
    ∃ sched, monitor Store.init (bwProg.trace {} Place.empty sched) = some (.usedAfterRelease 3) :=
  ⟨[.rxStart 1 2, .reasmEnter 1 3 false, .reasmAppend 1, .reasmMore 1 4, .rxEnd 1,
    .rxStart 5 6, .reasmEnter 5 0 false, .sweepRelease, .reasmAppend 5, .reasmComplete 5 false], by decide +kernel⟩

/-- Seeded C12-F: `WriteMessage` releases its working copy on the error return although `startSendingMessage` already
    did (token in use). -/
theorem bw_write_double_release_rejected :
    ∃ sched, monitor Store.init (bwProg.trace {} Place.empty sched) = some (.doubleRelease 4) :=
  ⟨[.appAcquire 1, .write 1 2 .normal 3, .writeDoubleRelease 1 4 5], by decide +kernel⟩

/-- Seeded C12-R: a continuation that fails releases the message of the sending entry — the request the caller of `Do`
    still holds; the caller's own release is then the second one. -/
theorem bw_cont_releases_request_rejected :
    ∃ sched, monitor Store.init (bwProg.trace {} Place.empty sched) = some (.doubleRelease 1) :=
  ⟨[.appAcquire 1, .doStart 1 true 2, .rxStart 3 4, .contCode 3, .contFailReleasesRequest 3 5, .rxEnd 3, .doReturn,
    .appRelease 1], by decide +kernel⟩

/-- The receive path releases a notification although its callback hijacked it: released while the application holds it. -/
theorem obs_release_hijacked_rejected :
    ∃ sched, monitor Store.init (obsProg.trace {} Place.empty sched) = some (.releasedWhileAppHolds 3) :=
  ⟨[.observeStart 1, .deliver 3 4 true, .hijack 3, .cbReturnIgnoringHijack 3], by decide +kernel⟩

-- a notification, cancelled while in its callback; the response to the deregistration; a hijacked notification
example : obsCoded.trace {} Place.empty
    [.observeStart 1, .deliver 2 3 true, .cbReturn false 2, .observeEnd true, .deliver 4 5 true, .cancel 6, .cancelResp 7,
     .cancelEnd, .cbReturn false 4, .deliver 8 9 true, .hijack 8, .cbReturn false 8, .appRelease 8]
  = [.acq 1, .use 1, .acq 2, .use 2, .acq 3, .hold 2, .unhold 2, .rel 3, .rel 2, .rel 1,
     .acq 4, .use 4, .acq 5, .hold 4, .acq 6, .use 6, .acq 7, .use 7, .use 7, .rel 7, .rel 6, .unhold 4, .rel 5, .rel 4,
     .acq 8, .use 8, .acq 9, .hold 8, .use 8, .rel 9, .unhold 8, .rel 8] := by decide +kernel
-- a second Cancel does nothing; a copy for the block-wise layer is made only while registered
example : obsCoded.trace {} Place.empty [.observeStart 1, .observeEnd true, .getRequest 2, .tmpRelease 2, .cancel 3, .cancel 4, .getRequest 5]
  = [.acq 1, .use 1, .rel 1, .acq 2, .use 2, .rel 2, .acq 3, .use 3] := by decide +kernel
-- Do with a body of several blocks, one continuation, given up by its context, the late 2.31 finds nothing
example : bwCoded.trace {} Place.empty
    [.appAcquire 1, .doStart 1 true 2, .rxStart 3 4, .contCode 3, .contCreate 3 5 false, .rxEnd 3, .doReturn,
     .rxStart 6 7, .contCode 6, .contCreate 6 8 false, .rxEnd 6, .appRelease 1]
  = [.acq 1, .use 1, .acq 2, .use 1, .use 2, .acq 3, .use 3, .acq 4, .use 3, .use 1, .acq 5, .use 1, .rel 4, .use 5, .rel 5, .rel 3,
     .rel 2, .acq 6, .use 6, .acq 7, .use 7, .rel 7, .rel 6, .rel 1] := by decide +kernel
-- reassembly: first block, the entry expires while the last block is appended, completion, handed to the application
example : bwCoded.trace {} Place.empty
    [.rxStart 1 2, .reasmEnter 1 3 false, .reasmAppend 1, .reasmMore 1 4, .rxEnd 1,
     .rxStart 5 6, .reasmEnter 5 0 false, .sweep, .reasmAppend 5, .reasmComplete 5 false, .reasmLeave 5, .rxEnd 5]
  = [.acq 1, .use 1, .acq 2, .acq 3, .use 1, .use 3, .use 1, .use 3, .acq 4, .rel 2, .use 4, .rel 4, .rel 1,
     .acq 5, .use 5, .acq 6, .use 3, .use 5, .use 3, .use 3, .hold 3, .unhold 3, .use 6, .rel 6, .rel 5] := by decide +kernel
-- … the reassembly message was never released: it is still in its slot
example : placed (bwCoded.run {} Place.empty
    [.rxStart 1 2, .reasmEnter 1 3 false, .reasmAppend 1, .reasmMore 1 4, .rxEnd 1]).2.1 3 = 1 := by decide +kernel
-- the guard: a second invocation cannot enter while the first works on the message
example : bwCoded.trace {} Place.empty [.rxStart 1 2, .reasmEnter 1 3 false, .rxStart 5 6, .reasmEnter 5 0 false]
  = [.acq 1, .use 1, .acq 2, .acq 3, .use 1, .use 3, .acq 5, .use 5, .acq 6] := by decide +kernel
-- wrong-shape steps do nothing in the program "as coded"
example : bwCoded.trace {} Place.empty [.rxStart 1 2, .reasmEnter 1 3 false, .sweepRelease] = [.acq 1, .use 1, .acq 2, .acq 3, .use 1, .use 3] := by decide +kernel
-- the monitor and the counters of `accepted_rel_le_acq` on bare traces
example : monitor Store.init [.acq 1, .rel 1, .rel 1] = some (.doubleRelease 1) := by decide +kernel
example : countRel 1 [.acq 1, .rel 1, .acq 1, .rel 1] ≤ countAcq 1 [.acq 1, .rel 1, .acq 1, .rel 1] + 1 := by decide +kernel

end CoapVerif.Props.C12Paths

section Audit
open CoapVerif.Props.C12Paths
#print axioms pset_same
#print axioms pset_other
#print axioms agree_set
#print axioms agree_empty
#print axioms inSlot_some
#print axioms op_ok
#print axioms execOps_cons
#print axioms Lin.append
#print axioms execOps_lin
#print axioms run_cons
#print axioms run_lin
#print axioms Lin.ok
#print axioms monitor_nil
#print axioms linear_ok
#print axioms linear_spec
#print axioms linear_of_all
#print axioms obsCoded_linear
#print axioms bwCoded_linear
#print axioms obs_ok
#print axioms bw_ok
#print axioms obs_spec
#print axioms bw_spec
#print axioms countAcq_append
#print axioms placed_le_one
#print axioms op_conserve
#print axioms Lin.conserve
#print axioms linear_conservation
#print axioms linear_released_once
#print axioms obs_released_once
#print axioms bw_released_once
#print axioms step_balance
#print axioms count_other
#print axioms accepted_rel_le_acq
#print axioms bw_expire_release_rejected
#print axioms bw_write_double_release_rejected
#print axioms bw_cont_releases_request_rejected
#print axioms obs_release_hijacked_rejected
end Audit
