/-!
Specification vocabulary for C10 on the connection-oriented servers (tcp/server, dtls/server), written from the words of
the property: "messages from one remote address are handled by one logical connection per (remote, local) address pair",
"… the closure of one peer never change[s] what other peers receive", "never crashes, deadlocks or stops accepting".

A history is a list of events on ONE server.  A connection is identified by the harness' number `c`; it carries the
(remote, local) address pair the listener reported for it.  What the specification says:

* a connection is *open* from the event that accepts it to the event in which ITS OWN peer closes it (or the server is
  stopped) - no event of any other connection, whatever its addresses, ends it (`openStep`);
* a request on an open connection is answered, and the answer is produced by that connection (it names its own pair);
* `Stop` ends `Serve`;
* a housekeeping pass visits exactly the open connections (every one of them: keep-alive and inactivity monitoring are
  part of how a connection is served, and no other connection - whatever its addresses - may take them away).

`SpecConn.shared` (was another connection with the same remote address open during this one's life?) is not used by the
judge; it is the hypothesis of the partial theorems about a registry keyed by the remote address only
(`Props/C10Streams.lean`, the part after section `Identity` - the code before b69b0e7, finding F40).
-/
namespace CoapVerif.Spec.StreamServer

structure SConn where
  id : Nat
  remote : Nat
  loc : Nat
  deriving Repr, DecidableEq

inductive Ev
  | opn (c r l : Nat)   -- the listener hands the server a connection from remote `r` to its local address `l`
  | req (c : Nat)       -- a request arrives on connection `c`
  | cls (c : Nat)       -- the peer of connection `c` closes it
  | sweep               -- one housekeeping pass (PeriodicRunner)
  | stop                -- Server.Stop()
  deriving Repr, DecidableEq

structure SpecConn where
  conn : SConn
  shared : Bool         -- was another connection with the same remote address open at some moment of this one's life?
  deriving Repr, DecidableEq

/-- the open connections, in the order in which they were accepted -/
def openStep (t : List SpecConn) : Ev → List SpecConn
  | .opn c r l =>
    if t.any (fun x => x.conn.id == c) then t
    else
      let sh := t.any (fun x => x.conn.remote == r)
      t.map (fun x => if x.conn.remote == r then { x with shared := true } else x) ++ [⟨⟨c, r, l⟩, sh⟩]
  | .req _ => t
  | .cls c => t.filter (fun x => x.conn.id != c)
  | .sweep => t
  | .stop => []

def openSpec (evs : List Ev) : List SpecConn := evs.foldl openStep []

end CoapVerif.Spec.StreamServer
