import CoapVerif.Model.PoolRetry
import CoapVerif.Spec.CodecJudge
/-!
# C01 — known finding F15: the last sentence of the property is false of the current code

"Anything outside the preconditions (oversized token, invalid type or message ID) is refused with an
error rather than silently truncated."  `message.ValidateType` admits 0..255, `udp/coder.Encode` then
writes `byte(m.Type) << 4` into a header that has two type bits.  The repository's own test
(`udp/coder/coder_test.go: TestMarshalMessage`) requires `Type: 255` to encode without error, so the
defect is recorded, not fixed.  Witnesses (on the model, which the correspondence check ties to the
code; replay on the real code: `rt udp 4 7 1 1 - - 0`, `enc udp 4 4 0 0 - - 0`):
-/
namespace CoapVerif.Findings.C01
open CoapVerif.Model CoapVerif.Model.OptionCodec CoapVerif.Spec.Wire CoapVerif.Spec.CodecJudge

/-- Type 7 is accepted and sent as type 3 (Reset). -/
theorem type7_sent_as_reset :
    UdpCoder.encode ⟨7, 1, 1, [], [], []⟩ [0, 0, 0, 0] = .ok ⟨4, false, [0x70, 1, 0, 1]⟩ := by decide

/-- Type 4 is accepted and sent as type 0 (Confirmable). -/
theorem type4_sent_as_confirmable :
    UdpCoder.encode ⟨4, 0, 0, [], [], []⟩ [0, 0, 0, 0] = .ok ⟨4, false, [0x40, 0, 0, 0]⟩ := by decide

/-- Type 9 is accepted and also overwrites the version bits (0xD0 = version 3). -/
theorem type9_clobbers_version :
    UdpCoder.encode ⟨9, 1, 1, [], [], []⟩ [0, 0, 0, 0] = .ok ⟨4, false, [0xD0, 1, 0, 1]⟩ := by decide

/-- Negation of the full refusal statement (`Props.C01.udp_rejects_partial` is the part that holds). -/
theorem full_refusal_statement_is_false :
    ¬ (∀ (m : Msg) (buf : Bytes), mustRefuse .udp m = true → ∃ e, UdpCoder.encode m buf = .error e) := by
  intro h
  obtain ⟨e, he⟩ := h ⟨7, 1, 1, [], [], []⟩ [0, 0, 0, 0] (by decide)
  rw [type7_sent_as_reset] at he
  cases he

end CoapVerif.Findings.C01

section Audit
open CoapVerif.Findings.C01
#print axioms type7_sent_as_reset
#print axioms type4_sent_as_confirmable
#print axioms type9_clobbers_version
#print axioms full_refusal_statement_is_false
end Audit
