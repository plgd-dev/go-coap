import CoapVerif.Model.Monitor
/-!
C18: finding O3 (a counter-example to the full statement) and, after it, observation O4 (no violation).

Finding O3 (C18, datagram server only): `udp/server/server.go: getConn` checks expiry at `now + 10 ms` when a
datagram of a known peer arrives.  The full statement "closed only if no message was received for a full period"
is therefore false for that call site: witness below (period 100 ms, previous message at 0, datagram at 95 ms).
The proved part is `Props.C18.datagram_close_bound_partial` (silence > period − look-ahead).
-/
namespace CoapVerif.Findings.C18
open CoapVerif.Model.Monitor CoapVerif.Spec.Monitor

theorem datagram_closes_before_period_elapsed :
    ∃ (cfg : Cfg) (s : St) (t : Int), s.closed = false ∧ Out.close ∈ (step cfg s (.datagram t)).2 ∧
      ¬ (t > s.last + cfg.period) :=
  ⟨⟨100000000, none⟩, init 0, 95000000, by decide⟩

/-!
Observation O4 (keep-alive timing; NOT a violation of C18 as worded, recorded so that nobody reads more into the
theorems than they say): `KeepAlive.OnInactive` does not refresh `lastActivity`, so after the idle period has elapsed
every further housekeeping tick is an idle firing.  Pings are therefore spaced by the housekeeping interval (default
runner: 4 s, the `time.Sleep` of `PeriodicRunner` in `options/config/common.go`; any configured `PeriodicRunner`), not by
the monitor period, and the connection is closed `maxRetries + 1` ticks after the period elapsed — e.g.
`WithKeepAlive(2, 60 s)` (period 20 s: `options/commonOptions.go` makes it `timeout / (maxRetries + 1)`) with the default
4 s runner closes a silent peer after about 32 s, each ping having had 4 s.  With period 100, two retries and ticks 1 ns apart: -/
theorem keepalive_firings_need_no_time_between_them :
    (run ⟨100, some 2⟩ (init 0) [.tick 101, .tick 102, .tick 103]).2
      = [.ping 1, .cancelPing 1, .ping 2, .cancelPing 2, .close] := by decide

/-- and when nothing can be sent the connection is closed without a single ping having left -/
theorem keepalive_closes_without_a_ping_sent :
    (run ⟨100, some 2⟩ (init 0) [.tickFail 101, .tickFail 102, .tick 103]).2 = [.pingFailed 1, .pingFailed 2, .close] := by
  decide

end CoapVerif.Findings.C18
#print axioms CoapVerif.Findings.C18.datagram_closes_before_period_elapsed
#print axioms CoapVerif.Findings.C18.keepalive_firings_need_no_time_between_them
#print axioms CoapVerif.Findings.C18.keepalive_closes_without_a_ping_sent
