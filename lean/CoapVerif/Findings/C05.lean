import CoapVerif.Model.Dedup
import CoapVerif.Spec.Dedup
import CoapVerif.Model.DedupLock
/-!
# Findings F9 and F28 (C05), fixed in /repo — kept as proven counter-examples of the unfixed code; and what the
per-message-ID mutex is needed for

## F9: the store key

Before the fix `processResponse` stored the reply under the **reply's** message ID
(`addResponseToCache(resp)` → `strconv.Itoa(int(resp.MessageID()))`).  With that key choice
(`storeKeyIsRequestMID := false`) the model violates the property; both violations below were first observed
on the real code by the judge (corpus/C05/f9-*.json: the same message IDs and tokens, with handler behaviour `pb` where the
witnesses here have `pbe`) and are decided here by evaluation of the model:

* a duplicated non-confirmable request that got a reply is handed to the handler twice (`rehandled`);
* a confirmable request whose message ID equals the endpoint's own message ID used for an earlier reply is
  answered from the cache with the *other* request's reply and never reaches the handler (`notFresh`).

With the key the code has (`Generated.Dedup.storeKeyIsRequestMID = true`) Props/C05.lean proves the property.
-/
namespace CoapVerif.Findings.C05
open CoapVerif.Spec.Dedup CoapVerif.Model.Dedup

/-- The parameters of the code before the fix. -/
def f9Params : Params := { params with storeKeyIsRequestMID := false }

def f9Run (msgID : Nat) (evs : List Ev) : List Obs := (runFrom f9Params (init msgID) evs).trace.reverse

theorem f9_duplicate_non_rehandled :
    judge (f9Run (initMsgID 0 32767) [.recv .non 1234 [0xa1, 0xb2] .pbe 0, .recv .non 1234 [0xa1, 0xb2] .pbe 0]) = .rehandled := by
  decide

/-- 32870 is the own message ID of the first reply: the counter starts at 100 − 32767 ≡ 32869 (mod 2¹⁶), the reply takes the
    next value. -/
theorem f9_own_mid_crosstalk :
    judge (f9Run (initMsgID 100 32767) [.recv .non 5 [0xa1] .pbe 0, .recv .con 32870 [0xb7] .pbe 0]) = .notFresh := by
  decide

/-- The same histories conform with the request-MID key. -/
theorem fixed_conforms :
    judge (run (initMsgID 0 32767) [.recv .non 1234 [0xa1, 0xb2] .pbe 0, .recv .non 1234 [0xa1, 0xb2] .pbe 0]).trace.reverse = .ok ∧
    judge (run (initMsgID 100 32767) [.recv .non 5 [0xa1] .pbe 0, .recv .con 32870 [0xb7] .pbe 0]).trace.reverse = .ok := by
  decide

/-! ## F28 (fixed): an empty (0.00) / reset reply was not cached -/

/-- The parameters of the code before the F28 fix. -/
def f28Params : Params := { params with emptyReplyCached := false }

/-- A confirmable request answered with code 0.00 and duplicated 1 µs later was handed to the handler twice (observed on the
    real code with corpus/C05/f28-empty-reply.json, `own 0 | recv con 7 a1 empty | sleep 1000 | recv con 7 a1 empty`; the witness
    here is the same history with own counter 7, message ID 9, token 01). -/
theorem f28_empty_reply_rehandled :
    judge (runFrom f28Params (init 7) [.recv .con 9 [1] .empty 0, .sleep 1000, .recv .con 9 [1] .empty 0]).trace.reverse
      = .rehandled := by decide

/-! ## without the per-message-ID mutex two concurrent copies can both reach the handler -/

/-- Schedule A-lock, A-check, B-lock, B-check, A-handle, B-handle on the program without lock / unlock. -/
theorem nolock_two_handler_runs :
    (CoapVerif.Model.DedupLock.exec false (CoapVerif.Model.DedupLock.init false) [false, false, true, true, false, true]).runs = 2 := by
  decide

end CoapVerif.Findings.C05

section Audit
open CoapVerif.Findings.C05
#print axioms f9_duplicate_non_rehandled
#print axioms f9_own_mid_crosstalk
#print axioms f28_empty_reply_rehandled
#print axioms nolock_two_handler_runs
#print axioms fixed_conforms
end Audit
