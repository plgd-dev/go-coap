import CoapVerif.Model.PoolRetry
import CoapVerif.Spec.Rfc8323Parse
import CoapVerif.Lemmas.CoderDecode
/-!
# C02 — findings F2, F16, F17 (fixed in /repo): what the pre-fix code did, as proven facts

* F2  `pool.Message.decode` retried with `make(Options, 0, len(options)*2)`: at capacity 0 the new
  capacity is 0 again, the decoder is deterministic, so the loop repeats the same state forever.
* F16 `tcp/coder.DecodeHeader` had no TKL check: the reference calls TKL 9..15 malformed.
* F17 `tcp/coder.Decode` passed `data[header.Length:]`: bytes behind the declared frame became payload.
The post-fix models are the ones in `Model/`.  `oldNewCap` is the old capacity step; F16 and F17 are recorded as
what the reference parser says of the witness inputs (the old decoders are not modelled).
-/
namespace CoapVerif.Findings.C02
open CoapVerif.Model CoapVerif.Model.OptionCodec CoapVerif.Model.PoolMessage CoapVerif.Spec

/-- The capacity step of the loop before the fix. -/
def oldNewCap (cap : Nat) : Nat := cap * 2

/-- F2: the old step has a fixed point at 0, so the measure `len(data) − cap` cannot decrease there
(the fact `newCap_gt` that `decodeRetry`'s termination proof needs is false for it) … -/
theorem old_retry_stuck : oldNewCap 0 = 0 ∧ ¬ (∀ cap, cap < oldNewCap cap) := by
  refine ⟨rfl, ?_⟩
  intro h; have := h 0; simp [oldNewCap] at this

/-- … and capacity 0 does report the capacity error on a datagram with one option, so the old loop
re-enters the identical state (same capacity, same data) forever. -/
theorem old_retry_reenters :
    UdpCoder.decode 0 [0x40, 0x01, 0x12, 0x34, 0x01, 0x01] = .error .optCap ∧
    UdpCoder.decode (oldNewCap 0) [0x40, 0x01, 0x12, 0x34, 0x01, 0x01] = .error .optCap := by
  have h : UdpCoder.decode 0 [0x40, 0x01, 0x12, 0x34, 0x01, 0x01] = .error .optCap := by
    -- `decide` is stuck on the well-founded `unmarshalLoop`; the list-level reading evaluates by its equations
    rw [CoapVerif.Lemmas.CoderDecode.udp_decode_eq]
    simp [CoapVerif.Lemmas.CoderDecode.framed, CoapVerif.Lemmas.CoderDecode.udpFrame, CoapVerif.Lemmas.OptionCodec.decLoop_cons,
      CoapVerif.Lemmas.OptionCodec.decOpt, CoapVerif.Lemmas.OptionCodec.decExt]
  exact ⟨h, h⟩

/-- F16: the reference parser calls a first byte with TKL 9 malformed, whatever follows. -/
theorem tkl9_malformed (t : Wire.Bytes) : Rfc8323.parseHead (0x09 :: t) = .malformed := by
  simp [Rfc8323.parseHead]

/-- F17: the frame `00 00` followed by `00` is one empty message occupying two bytes. -/
theorem trailing_byte_not_consumed :
    Rfc8323.parse [0x00, 0x00, 0x00] = some (⟨0, 0, 0, [], [], []⟩, 2) := by
  simp [Rfc8323.parse, Rfc8323.parseHead, Rfc8323.headRest, Rfc8323.extOf, Rfc7252.parseBody, Rfc7252.tokens,
    Rfc7252.absolute, Rfc7252.lenient]

end CoapVerif.Findings.C02

section Audit
open CoapVerif.Findings.C02
#print axioms old_retry_stuck
#print axioms old_retry_reenters
#print axioms tkl9_malformed
#print axioms trailing_byte_not_consumed
end Audit
