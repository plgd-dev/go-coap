import CoapVerif.Model.Lifecycle
/-!
# Finding F26 (C09): a frame write blocked in the transport ignores the request context

`net/conn.go: Conn.WriteWithContext` checks `ctx.Done()` only between calls of `c.connection.Write`; no write deadline is
armed from the context (fact `writeArmsDeadline`, read from the source on every run).  When the peer of a stream
connection stops reading and the socket buffers are full, the operation stays inside `Write` after its context was
cancelled or expired; it ends only when the connection is closed.  Every other operation of the connection then waits
for the write lock.  Reproduced on the real code by the cases `case tcp <op> stalled cancel|deadline`.
-/
namespace CoapVerif.Findings.C09
open CoapVerif.Model.Lifecycle CoapVerif.Generated.BlockingWaits

theorem write_arms_no_deadline : writeArmsDeadline = false := by decide

/-- after the context has ended, however often the writer is scheduled, it is still blocked (no Close, peer silent) -/
theorem stalled_write_ignores_ctx (n : Nat) :
    (wrun closeTakesWriteLock writeArmsDeadline {} (.ctxEnds :: List.replicate n .sched)).writerBlocked = true := by
  refine (List.foldlRecOn (motive := fun t : WState => t.socketClosed = false ∧ t.writerBlocked = true)
    (List.replicate n WEv.sched) (wstep closeTakesWriteLock writeArmsDeadline) (b := { ctxDone := true })
    ⟨rfl, rfl⟩ ?_).2
  intro t ⟨ts, tb⟩ e he
  rw [List.eq_of_mem_replicate he]
  simp [wstep, ts, tb, write_arms_no_deadline]

/-- with a deadline armed from the context the same history ends the write: the repair direction -/
theorem armed_deadline_would_end_it : (wrun false true {} [.ctxEnds, .sched]).writerBlocked = false := by decide

end CoapVerif.Findings.C09

section Audit
open CoapVerif.Findings.C09
#print axioms write_arms_no_deadline
#print axioms stalled_write_ignores_ctx
#print axioms armed_deadline_would_end_it
end Audit
