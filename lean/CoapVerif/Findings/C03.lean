import CoapVerif.Model.TokenTable
/-!
# C03 findings — why the two hypotheses of `Props/C03.lean` cannot be dropped

F13: the token table is keyed by a hash of the token, and the hash is not injective.
`Props/C03.lean` proves `resp_token_matches` / `no_cross_delivery` under the hypothesis `HashInj`.  Without it the
full statement of C03 ("every request call that returns successfully returns a response carrying its own token",
"requests with distinct tokens may be outstanding concurrently") is **false of the model, hence of the code it
follows**: for *any* key function with one collision between two distinct tokens there is a schedule in which a call
returns a response that carries the other token, and a schedule in which a request with a distinct token is
refused as a duplicate.  The real key function (CRC-64/ISO, `message.Token.Hash`) has such collisions between
tokens of different lengths; one pair is exhibited.  The same histories are replayed on the real connection by
`checks/c03.py` (scenarios with `inj=0`).

F23 (text above its theorems): the trace-level theorems assume `DistinctRequests`.  With two requests under one token,
`late_return_erases_successor` is a history after which an outstanding unanswered caller is not registered, against the
first half of `outstanding_iff_registered`.
-/
namespace CoapVerif.Findings.C03
open CoapVerif.Model.TokenTable

-- the findings are histories on which the model is evaluated, with `h` and the tokens left open
attribute [local simp] run step init register reject receive bump enqueue wakeMid dedupHit deliver deliverDeletes handover
  wakeCaller remember finish upd

/-- the history: caller 1 (token `t1`) is answered and returns; caller 2 (token `t2`) starts; a late duplicate of the
    answer to caller 1 arrives -/
def crossHistory (t1 t2 : Token) : List Event := [
  .doStart 1 t1 false 1, .arrive .non t1 9 "for-1", .process, .ret 1,
  .doStart 2 t2 false 2, .arrive .non t1 10 "for-1", .process, .ret 2]

/-- Negation of `resp_token_matches` without `HashInj`, by witness.  For every key function that maps two distinct
    non-empty tokens to the same key, caller 2 returns successfully with a message that carries caller 1's token. -/
theorem f13_cross_delivery (h : Token → Nat) (t1 t2 : Token) (h1 : t1 ≠ []) (h2 : t2 ≠ []) (hcoll : h t2 = h t1) :
    ((run h ⟨true, false⟩ (crossHistory t1 t2)).callers 2) =
      some ⟨t2, 2, .returned, none, some (.ok ⟨.non, t1, 10, "for-1", 1⟩)⟩ := by
  simp [crossHistory, h1, h2, hcoll]

/-- … so the conclusion of the property fails whenever the two tokens differ. -/
theorem f13_wrong_token (h : Token → Nat) (t1 t2 : Token) (h1 : t1 ≠ []) (h2 : t2 ≠ []) (hne : t1 ≠ t2) (hcoll : h t2 = h t1) :
    ∃ evs c cl m, (run h ⟨true, false⟩ evs).callers c = some cl ∧ cl.res = some (.ok m) ∧ m.tok ≠ cl.tok :=
  ⟨crossHistory t1 t2, 2, _, _, f13_cross_delivery h t1 t2 h1 h2 hcoll, rfl, hne⟩

/-- Second face: a request with a distinct token is refused as a duplicate while the colliding one is outstanding.  (`hbw`:
    with block-wise transfer the send cache, keyed by the same hash, refuses first, with `badToken`.) -/
theorem f13_distinct_rejected (h : Token → Nat) (cfg : Cfg) (t1 t2 : Token) (h1 : t1 ≠ []) (h2 : t2 ≠ []) (hcoll : h t2 = h t1)
    (hbw : cfg.bw = false) :
    ((run h cfg [.doStart 1 t1 false 1, .doStart 2 t2 false 2]).callers 2) = some ⟨t2, 2, .returned, none, some .exists_⟩ := by
  simp [h1, h2, hcoll, hbw]

/-- The real key function collides on two distinct tokens (lengths 4 and 8). -/
theorem crc64_collision : crc64 [0x42, 0x2f, 0xf4, 0x42, 0x01, 0x02, 0x03, 0xf4] = crc64 [0x01, 0x02, 0x03, 0x04] := by
  decide +kernel

/-- F13 on the real key function: with CRC-64 the call with token `422ff442010203f4` returns the response that
    carries token `01020304`. -/
theorem f13_on_crc64 :
    ∃ evs c cl m, (run crc64 ⟨true, false⟩ evs).callers c = some cl ∧ cl.res = some (.ok m) ∧ m.tok ≠ cl.tok :=
  f13_wrong_token crc64 [0x01, 0x02, 0x03, 0x04] [0x42, 0x2f, 0xf4, 0x42, 0x01, 0x02, 0x03, 0xf4]
    (by decide) (by decide) (by decide) crc64_collision

/-- The unrestricted statement (token equality for every key function and every schedule) is refuted. -/
theorem not_resp_token_matches_without_inj :
    ¬ (∀ (h : Token → Nat) (cfg : Cfg) (evs : List Event) (c : Nat) (cl : Caller) (m : Msg),
        (run h cfg evs).callers c = some cl → cl.res = some (.ok m) → m.tok = cl.tok) := by
  intro hall
  obtain ⟨evs, c, cl, m, g1, g2, g3⟩ := f13_on_crc64
  exact g3 (hall crc64 _ evs c cl m g1 g2)

/-! ### F23 (C03) — late return erases the successor

`doInternal`'s deferred `LoadAndDelete(token.Hash())` deletes *whatever* is filed under the hash, not the entry the call
registered.  Between the moment a response consumes the entry (`LoadAndDelete` in `handle`) and the moment the woken
call returns, a second request with the *same* token is accepted (the first exchange is answered, so the judge does
not object); the first call's return then removes the **second** caller's registration: the second request is
displaced although it is outstanding and unanswered, its response goes to the default handler, and a third request
with the same token is accepted instead of rejected.  Equal caller-chosen tokens only.

On the datagram transport a response also acknowledges its request (RFC 7252 §5.2.2), so the woken call returns at once
and the window is the scheduling gap between the two goroutines; the model, where a schedule may put any event in
between, exhibits it. -/

/-- caller 1 (confirmable) gets a separate response before any ACK; caller 2 starts with the same token; caller 1 returns -/
def windowHistory (t : Token) : List Event := [
  .doStart 1 t true 1, .arrive .con t 9 "early", .process,
  .doStart 2 t false 2, .ret 1]

/-- F23: after `windowHistory` caller 2 is outstanding and unanswered, and nothing is filed under its key. -/
theorem late_return_erases_successor (h : Token → Nat) (t : Token) (ht : t ≠ []) :
    let s := run h ⟨true, false⟩ (windowHistory t)
    s.callers 2 = some ⟨t, 2, .waitResp, none, none⟩ ∧ s.table (h t) = none ∧
    s.callers 1 = some ⟨t, 1, .returned, none, some (.ok ⟨.con, t, 9, "early", 0⟩)⟩ := by
  simp [windowHistory, ht]

/-- … and then a third request with the same token is accepted while the second one is outstanding and unanswered:
    the clause "a request issued with a token that is still outstanding is rejected" fails. -/
theorem third_request_accepted (h : Token → Nat) (t : Token) (ht : t ≠ []) :
    let s := run h ⟨true, false⟩ (windowHistory t ++ [.doStart 3 t false 3])
    s.callers 2 = some ⟨t, 2, .waitResp, none, none⟩ ∧ s.callers 3 = some ⟨t, 3, .waitResp, none, none⟩ ∧
    s.table (h t) = some 3 := by
  simp [windowHistory, ht]

end CoapVerif.Findings.C03

section Audit
open CoapVerif.Findings.C03
#print axioms f13_cross_delivery
#print axioms f13_wrong_token
#print axioms f13_distinct_rejected
#print axioms crc64_collision
#print axioms f13_on_crc64
#print axioms not_resp_token_matches_without_inj
#print axioms late_return_erases_successor
#print axioms third_request_accepted
end Audit
