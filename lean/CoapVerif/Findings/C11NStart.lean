import CoapVerif.Model.Reader
import CoapVerif.Model.ReaderPrograms
import CoapVerif.Model.ReaderNStart
import CoapVerif.Lemmas.Reader
import CoapVerif.Lemmas.ReaderPrograms
import CoapVerif.Findings.C11
import CoapVerif.Props.C11NStart
/-!
# C11 — F41: the NSTART wait without a hand-over before it (repaired in /repo a2d1ac6; signature on a relapse `C11:nested-stall:nstart`)

Before the repair `prepareWriteMessage` waited for an NSTART slot (`acquireOutstandingInteraction`) with no `TryToReplaceLoop` before
the wait (`Generated.WaitShape`: `Conn.acquireOutstandingInteraction / acquire`, `precededByReplace`).  A handler's nested
confirmable request then waits for the slot on the loop goroutine.  Giving the slot back needs only the socket reader
(`Props.C11NStart.release_after_ack_read`) — but the socket reader stands behind a full receive queue that only the waiting
handler's loop could drain: nobody reads the holder's acknowledgement, nor anything else, until the holder's request runs into its
deadline.  As for F11 / F12 / F24 the statements are relative to the regenerated source facts: the stall half is about a source
without the hand-over (it is what a relapse would mean), the well-formedness half about one with it — there
`Props.C11NStart.nstart_wait_never_keeps_a_queued_message` is the full statement.  Both halves build on either tree.
-/
namespace CoapVerif.Findings.C11NStart
open CoapVerif.Model.Reader CoapVerif.Model.ReaderPrograms CoapVerif.Model.ReaderNStart CoapVerif.Lemmas.Reader
open CoapVerif.Findings.C11 (currentBlocked hs)
open CoapVerif.Lemmas.ReaderPrograms

/-- without a hand-over before the NSTART wait a nested confirmable `Do` on the datagram transport is not a well-formed handler
    program, even with the parallel-request limiter switched off -/
theorem nstart_doProg_not_wf : nstartWaitPreceded = false → waitsPreceded (doProgN true 1 0 0 1 1) = false := by
  decide +kernel

/-- with one it is, for every NSTART that is in force -/
theorem nstart_fixed_wf (h : nstartWaitPreceded = true) (key n k : Nat) : waitsPreceded (doProgN true key 0 0 (n + 1) k) = true :=
  Props.C11NStart.do_nstart_wf h true key (n + 1) k

/-- an application goroutine (slot 1 of the loop table, not a reader loop) -/
def app (prog : List Act) : Loop := { idleLoop with doneClosed := true, pc := .running, prog := prog }

def stallInbox : List Msg := [⟨1, .req (doProgN true 1 0 0 1 1)⟩, ⟨2, .req []⟩, ⟨101, .ack 9⟩, ⟨102, .sep 9⟩]

/-- NSTART 1, receive queue of size 0, limiter off.  The application's confirmable request 9 is written (it holds the slot and
    waits for its ACK); request 1 arrives, its handler issues a nested confirmable request and waits for the slot on the one and
    only loop; request 2 arrives: the socket reader holds it and cannot hand it over -/
def stallSchedule : List Event :=
  hs 1 7 ++ [.feederRead, .loopTake 0] ++ hs 0 5 ++ [.feederRead, .feederPush, .feederRead]

/-- The stall on the model, for a source without a hand-over before the NSTART wait: the current loop is blocked in the
    semaphore, the slot's holder waits for an acknowledgement that is on the wire *behind* the message in the socket reader's
    hand, the connection is open — and no event other than the passing of time changes that (every event is a no-op). -/
theorem nstart_stall :
    nstartWaitPreceded = false →
    (let s := run { setLoop (init 0 true stallInbox) 1 (app (doProgN true 1 0 0 1 9)) with nloops := 2 } stallSchedule
     currentBlocked s = true ∧ waitsForSlot s 0 = true ∧ holdsSlotInAckWait s 1 9 = true ∧ s.hand.map (·.id) = some 2 ∧
     s.inbox.map (·.id) = [101, 102] ∧ s.closed = false ∧ s.current = 0 ∧
     ([Event.feederRead, .feederPush, .loopTake 0, .loopExit 0, .handlerStep 0, .handlerStep 1].all fun e =>
        let s' := step s e
        s'.inbox == s.inbox && s'.hand == s.hand && s'.queue == s.queue && s'.holders == s.holders && s'.acked == s.acked &&
        s'.started == s.started && s'.loops 0 == s.loops 0 && s'.loops 1 == s.loops 1) = true) := by
  decide +kernel

/-- The unrestricted statement is refuted (what `Props.C11NStart.release_after_ack_read` assumes — a free socket reader — cannot be
    dropped for such a source): there is a state — reached by `stallSchedule` from an initial state with an application goroutine
    put in loop slot 1 — in which a holder stands in its acknowledgement wait, the acknowledgement is on the wire,
    and one step of the socket reader plus two of the holder do *not* give the slot back. -/
theorem not_release_without_free_reader :
    nstartWaitPreceded = false →
    ¬ (∀ (s : State) (l k : Nat), holdsSlotInAckWait s l k = true → (∃ m ∈ s.inbox, m.kind = .ack k) →
        slotsInUse (run s [.feederRead, .handlerStep l, .handlerStep l]) < slotsInUse s) := by
  intro h hall
  have stalled : nstartWaitPreceded = false →
      let s := run { setLoop (init 0 true stallInbox) 1 (app (doProgN true 1 0 0 1 9)) with nloops := 2 } stallSchedule
      holdsSlotInAckWait s 1 9 = true ∧ ⟨101, .ack 9⟩ ∈ s.inbox ∧
        ¬ slotsInUse (run s [.feederRead, .handlerStep 1, .handlerStep 1]) < slotsInUse s := by
    decide +kernel
  obtain ⟨h1, h2, h3⟩ := stalled h
  exact h3 (hall _ 1 9 h1 ⟨_, h2, rfl⟩)

end CoapVerif.Findings.C11NStart

section Audit
open CoapVerif.Findings.C11NStart
#print axioms nstart_doProg_not_wf
#print axioms nstart_fixed_wf
#print axioms nstart_stall
#print axioms not_release_without_free_reader
end Audit
