import CoapVerif.Model.Reader
import CoapVerif.Model.ReaderPrograms
import CoapVerif.Lemmas.Reader
import CoapVerif.Lemmas.ReaderPrograms
/-!
# F11, F12 and F24 (C11) — library operations that block before asking for a replacement loop

`Props/C11.lean` proves that the connection never stalls when every handler's first blocking construct is preceded by a
call of `TryToReplaceLoop`.  `doInternal` and `waitForAcknowledge` have that form.  Three other blocking operations a
handler may call on its own connection wait at a place of their own, and need a hand-over of the reader loop before it;
whether the source has one is re-read from the working tree (`Generated/WaitShape.lean`; `limiterHandsOver`,
`observeHandsOver`, `pingHandsOver` below):

* **F11** `limitParallelRequests.Do/DoObserve`: `acquireEndpoint`'s select and `limit.Acquire` — with limits in force
  (default 1/1) a handler's nested request waits for a slot, and without a `TryToReplaceLoop` before that it does so
  while it is the only reader;
* **F12** `NewObservation`: the select on the first notification; on the datagram transport the preceding confirmable
  write asks for a replacement, on stream transports nothing else does;
* **F24** `Client.Ping`: the select on the pong; the pong itself is read inline by the socket reader, but not while
  that reader is stuck behind a full receive queue.

Each comes as conditional theorems.  Without the hand-over a concrete schedule reaches a state in which the current loop is
blocked although a message (the awaited answer) is waiting — the negation of `current_never_blocked` for the unrestricted
statement; the same histories stall the real connection (`checks/c11.py`, fixed scenarios) — and, for F11 and F12, the program
the model runs is not well-formed (`f11_doProg_not_wf`, `f12_observeProg_wf`).  With it the program is well-formed.  In
today's source the limiter has no hand-over (F11 is open), `NewObservation` and `Ping` have one on both transports (F12 and F24
are repaired).
-/
namespace CoapVerif.Findings.C11
open CoapVerif.Model.Reader CoapVerif.Model.ReaderPrograms CoapVerif.Lemmas.Reader CoapVerif.Generated.WaitShape
open CoapVerif.Lemmas.ReaderPrograms

/-- the current loop runs a handler whose next action cannot be taken -/
def currentBlocked (s : State) : Bool :=
  match s.loops s.current with
  | some lp => lp.pc == .running &&
    (match lp.prog with
     | act :: rest => (doAct s s.current lp act rest).isNone
     | [] => false)
  | none => false

-- `n` steps in a row of the handler on loop `l`; the counts in the schedules below take a handler to the wait it blocks in
def hs (l n : Nat) : List Event := List.replicate n (.handlerStep l)

/-- the source hands the reader loop over before the limiter waits of `fn` (inside `acquireEndpoint`, or by the hook the
    connection installs, called first thing in `fn`) -/
def limiterHandsOver (udp : Bool) (fn : String) : Bool :=
  preceded "LimitParallelRequests.acquireEndpoint" "select" || handed udp fn "LimitParallelRequests.acquireEndpoint"

/-- … on the way to the select on the first notification: in its only caller `Conn.doObserve` (before the request is
    written), or in `NewObservation` right before the select (on the datagram transport the write's wait for the ACK comes
    first and must have its own) -/
def observeHandsOver (udp : Bool) : Bool :=
  handed udp "Conn.doObserve" "Handler.NewObservation" ||
  (preceded "Handler.NewObservation" "select" && (!udp || preceded "Conn.waitForAcknowledge" "select"))

/-- … before the select on the pong (in `Client.Ping`, or in the `Conn.Ping` that wraps it) -/
def pingHandsOver (udp : Bool) : Bool :=
  if pingOwnWait udp then pingOwnPreceded udp else handed udp "Conn.Ping" "Client.Ping" || preceded "Client.Ping" "select"

/-- if the limiter's waits have no replacement request before them, a nested `Do` under limits is not a well-formed
    handler program (either transport) -/
theorem f11_doProg_not_wf :
    (limiterHandsOver false "LimitParallelRequests.Do" = false → waitsPreceded (doProg false 1 1 1 1) = false) ∧
    (limiterHandsOver true "LimitParallelRequests.Do" = false → waitsPreceded (doProg true 1 1 1 1) = false) := by
  decide +kernel

/-- if they have one, a nested `Do` is well-formed under every limit, on that transport -/
theorem f11_fixed_wf (udp : Bool) (h : limiterHandsOver udp "LimitParallelRequests.Do" = true) (key epLimit limit k : Nat) :
    waitsPreceded (doProg udp key epLimit limit k) = true := by
  simp only [limiterHandsOver] at h
  simp -implicitDefEqProofs only [doProg, List.append_assoc, List.cons_append, List.nil_append, waitsPreceded_cons, waitsPreceded_limiterPart, h,
    Bool.true_or]

theorem f11_fixed_wf_observe (udp : Bool) (h : limiterHandsOver udp "LimitParallelRequests.DoObserve" = true) (key epLimit limit k : Nat) :
    waitsPreceded (observeProg udp key epLimit limit k) = true := by
  simp only [limiterHandsOver] at h
  simp -implicitDefEqProofs only [observeProg, List.append_assoc, List.cons_append, List.nil_append, waitsPreceded_cons, waitsPreceded_limiterPart, h,
    Bool.true_or]

def f11Inbox : List Msg := [⟨1, .req (doProg false 1 1 1 1)⟩, ⟨2, .req (doProg false 1 1 1 2)⟩, ⟨101, .resp 1⟩]

/-- request 1's handler issues a nested call (holds the endpoint slot, asked for a replacement loop); request 2's handler,
    run by that replacement loop, issues a nested call to the same endpoint and waits for the slot; the answer to
    call 1 arrives -/
def f11Schedule : List Event :=
  [.feederRead, .feederPush, .loopTake 0] ++ hs 0 7 ++ [.feederRead, .feederPush, .loopTake 1] ++ hs 1 2 ++
  [.feederRead, .feederPush]

/-- F11 on the model (default limits 1/1, stream transport), for a source without hand-over before the limiter: the
    answer to the first nested call is in the queue, the connection is open, and the current loop is blocked in the limiter. -/
theorem f11_stall :
    limiterHandsOver false "LimitParallelRequests.Do" = false →
    (let s := run (init 16 false f11Inbox) f11Schedule
     currentBlocked s = true ∧ (waiting s).map (·.id) = [101] ∧ s.closed = false ∧ s.current = 1) := by
  decide +kernel

/-- without a hand-over before the first-notification wait, `DoObserve` on a stream transport (even without limits) is not
    well-formed; on the datagram transport the confirmable write of the request asks for a replacement anyway -/
theorem f12_observeProg_wf :
    ((limiterHandsOver false "LimitParallelRequests.DoObserve" || observeHandsOver false) = false →
      waitsPreceded (observeProg false 1 0 0 1) = false) ∧
    waitsPreceded (observeProg true 1 0 0 1) = true := by
  decide +kernel

/-- with one, `DoObserve` without limits is well-formed on that transport -/
theorem f12_fixed_wf (udp : Bool) (h : observeHandsOver udp = true) (key k : Nat) :
    waitsPreceded (observeProg udp key 0 0 k) = true := by
  -- the first blocking construct after the limiter (off): the hand-over of `doObserve` comes before it, or it has its own
  simp -implicitDefEqProofs only [observeProg, List.append_assoc, List.cons_append, List.nil_append, waitsPreceded_cons, waitsPreceded_limiterPart,
    waitsPreceded_rep, waitsPreceded_ackPart]
  simp only [observeHandsOver, Bool.or_eq_true, Bool.and_eq_true] at h
  rcases h with h | ⟨h4, h5⟩
  · simp [h]
  · cases udp <;> simp_all

def f12Inbox : List Msg := [⟨1, .req (observeProg false 1 0 0 1)⟩, ⟨2, .req []⟩, ⟨101, .resp 1⟩]

def f12Schedule : List Event := [.feederRead, .feederPush, .loopTake 0] ++ hs 0 4 ++ [.feederRead, .feederPush, .feederRead]

/-- F12 on the model (stream transport, no limits, queue capacity 1), for a source without hand-over on the way to the
    first-notification wait: the handler of request 1 waits for the first notification of its observation in the one
    and only loop; request 2 is queued and the notification itself is in the reader's hand. -/
theorem f12_stall :
    (limiterHandsOver false "LimitParallelRequests.DoObserve" || observeHandsOver false) = false →
    (let s := run (init 1 false f12Inbox) f12Schedule
     currentBlocked s = true ∧ (waiting s).map (·.id) = [2, 101] ∧ s.closed = false ∧ s.current = 0) := by
  decide +kernel

theorem ping_fixed_wf (udp : Bool) (h : pingHandsOver udp = true) : waitsPreceded (pingProg udp) = true := by
  cases h0 : pingOwnWait udp
  · simpa -implicitDefEqProofs [pingHandsOver, pingProg, h0, waitsPreceded_rep, waitsPreceded_cons] using h
  · simpa -implicitDefEqProofs [pingHandsOver, pingProg, h0, waitsPreceded_rep, waitsPreceded_cons] using h

def pingInbox : List Msg := [⟨1, .req (pingProg false)⟩, ⟨2, .req []⟩, ⟨101, .pong⟩]

def pingSchedule : List Event := [.feederRead, .loopTake 0] ++ hs 0 2 ++ [.feederRead]

/-- Ping inside a handler (queue capacity 0), for a source without hand-over before the wait for the pong: the loop
    waits for the pong; the socket reader is stuck handing request 2 over, so the pong behind it is never read. -/
theorem ping_stall :
    pingHandsOver false = false →
    (let s := run (init 0 false pingInbox) pingSchedule
     currentBlocked s = true ∧ s.hand.map (·.id) = some 2 ∧ s.inbox.map (·.id) = [101] ∧ s.ponged = false) := by
  decide +kernel

/-- a handler written by hand that waits for the answer to its own request without asking for a replacement loop -/
def rawWaiter : List Act := [.startCall 1 30000, .send 1, .wait (.delivered 1) true, .endCall 1]

def rawInbox : List Msg := [⟨1, .req rawWaiter⟩, ⟨101, .resp 1⟩]

def rawSchedule : List Event := [.feederRead, .feederPush, .loopTake 0] ++ hs 0 2 ++ [.feederRead, .feederPush]

theorem raw_stall :
    let s := run (init 16 false rawInbox) rawSchedule
    currentBlocked s = true ∧ (waiting s).map (·.id) = [101] ∧ s.closed = false := by
  decide +kernel

/-- Whatever the source looks like, some handler blocks the current loop (`raw_stall`).  `currentBlocked s = true` contradicts
    the second conjunct of `Props.C11.current_never_blocked` at `s` (read off the definition: running, a next action,
    `doAct … = none`; no lemma states it), so that theorem fails without `hwf`. -/
theorem not_current_never_blocked_without_wf :
    ¬ (∀ (cap : Nat) (udp : Bool) (inbox : List Msg) (evs : List Event),
        currentBlocked (run (init cap udp inbox) evs) = false) := by
  intro h
  have hb := raw_stall.1
  rw [h 16 false rawInbox rawSchedule] at hb; cases hb

end CoapVerif.Findings.C11

section Audit
open CoapVerif.Findings.C11
#print axioms f11_doProg_not_wf
#print axioms f11_fixed_wf
#print axioms f11_fixed_wf_observe
#print axioms f11_stall
#print axioms f12_observeProg_wf
#print axioms f12_fixed_wf
#print axioms f12_stall
#print axioms ping_fixed_wf
#print axioms ping_stall
#print axioms raw_stall
#print axioms not_current_never_blocked_without_wf
end Audit
