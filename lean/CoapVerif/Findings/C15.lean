import CoapVerif.Go.Basic
import CoapVerif.Model.PoolOptions
import CoapVerif.Spec.SortedMultiset
/-!
# C15 — findings: the code as it was before the repairs, and why the property was false of it

The shapes `message/options.go` had before three small repairs are branches of the model itself (`getMulti false` in
`Model/Options.lean`; `setPathUnchecked`, `resetOptionsToUnchecked` in `Model/OptionValues.lean`), selected by the facts
the extractor reads from the AST; on the current source those facts select the repaired branches
(`Props/C15.lean: shape_agrees`).  This file names the old branches (`getMultiOld`, `setPathOld`, `resetOptionsToOld`;
only `poolSetPathOld`, `pool.Message.SetPath` over the old `setPath`, is a definition of its own) and evaluates them on
concrete witnesses, on which they violate the statements that `Props/C15.lean` proves for the repaired code; the
`*_repaired` theorems evaluate the repaired branches on the same inputs.  Each witness is also a regression case in
`corpus/C15/` (replayed on the real code by every run of the check).

* **F1** `Options.GetUint32s`: loop bound `i <= lastIdx` — one iteration too many.
* **F19** `setPath`: `options.Remove(optionID)` ran (in place) *before* the path was validated and the buffer
  checked; every error return handed back the caller's old header over the compacted array.
* **C15-resetto** `Options.ResetOptionsTo`: values were copied and options overwritten one by one, and `ErrTooSmall`
  discovered half-way returned the caller's old header over the partly overwritten array.
-/
namespace CoapVerif.Findings.C15
open CoapVerif.Model.Options CoapVerif.Spec.SortedMultiset CoapVerif.Generated.OptionList

/-! ## F1 -/

/-- `GetUint32s` with the old bound `for i := firstIdx; i <= lastIdx; i++` is `getMulti false` of the model. -/
def getMultiOld {α : Type} (o : Options α) (id : Nat) (n : Nat) := o.getMulti false id n

def f1List : Options Nat := ⟨[(8, 1), (11, 2), (11, 3)], 3⟩

/-- well-formed, sorted list; result slice of exactly the right size; the option is last in the list: panic -/
theorem f1_panics_at_end_of_list : getMultiOld f1List 11 2 = .error .index := by decide +kernel
/-- mid-list with an exactly sized slice: panic (write past the result slice) -/
theorem f1_panics_mid_list : getMultiOld f1List 8 1 = .error .index := by decide +kernel
/-- mid-list with a larger slice: no panic, but a value of a *different* option is returned as well -/
theorem f1_foreign_value : getMultiOld f1List 8 4 = .ok (2, none, [1, 2]) := by decide +kernel
/-- the repaired loop on the same inputs -/
theorem f1_repaired : f1List.getMulti true 11 2 = .ok (2, none, [2, 3]) ∧ f1List.getMulti true 8 1 = .ok (1, none, [1]) ∧
    f1List.getMulti true 8 4 = .ok (1, none, [1]) := by decide +kernel

/-! ## F19 -/

/-- `setPath` in the old order (remove first, validate afterwards, return `options` on error) is the model's
`setPathUnchecked`, the branch `Options.setPath` takes when the AST says so. -/
def setPathOld := @Options.setPathUnchecked

def g0 (c : Nat) : Nat := 2 * c + 1
/-- heap: buffer 0 holds "abq" + 5 unused bytes -/
def f19Mem : Mem := [[97, 98, 113, 0, 0, 0, 0, 0]]
/-- `11:"a" 11:"b" 15:"q"`, capacity 4 -/
def f19Opts : Options View := ⟨[(11, ⟨0, 0, 1⟩), (11, ⟨0, 1, 1⟩), (15, ⟨0, 2, 1⟩), (0, ⟨0, 0, 0⟩)], 3⟩
def f19Buf : Slice := ⟨0, 3, 5⟩
/-- "/xxxxxx": six bytes do not fit the five that are left -/
def f19Path : List UInt8 := [47, 120, 120, 120, 120, 120, 120]

def itemsOf (m : Mem) (o : Options View) : List Item := o.toList.map (fun x => (x.1, m.read x.2))

theorem f19_before : itemsOf f19Mem f19Opts = [(11, [97]), (11, [98]), (15, [113])] := by decide +kernel

/-- The old `setPath` refuses (`ErrTooSmall`) and hands back a list that is no longer the one it was given:
`15:q 11:b 15:q` — unsorted, one path segment lost, one option duplicated. -/
theorem f19_refusal_corrupts_list :
    (setPathOld g0 f19Mem f19Opts 11 f19Buf f19Path).map (fun r => (r.err, itemsOf r.mem r.opts))
      = .ok (some .tooSmall, [(15, [113]), (11, [98]), (15, [113])]) := by decide +kernel

/-- The repaired `setPath` on the same input refuses and leaves the list untouched. -/
theorem f19_repaired :
    (Options.setPathChecked g0 f19Mem f19Opts 11 f19Buf f19Path).map (fun r => (r.err, itemsOf r.mem r.opts))
      = .ok (some .tooSmall, [(11, [97]), (11, [98]), (15, [113])]) := by decide +kernel

/-- `pool.Message.SetPath` with the old `setPath`: grows the buffer and retries on the corrupted header. -/
def poolSetPathOld (g : Nat → Nat) (gb : Nat → Nat → Nat) (r : Msg) (p : List UInt8) : M (Msg × Option Err) := do
  let res ← setPathOld g r.mem r.opts uriPath r.vb p
  match res.err with
  | some .tooSmall =>
    match ← Options.getPathBufferSize p with
    | .error e => pure (r, some e)
    | .ok expandBy =>
      let (m', vb') := appendZeros gb res.mem r.vb expandBy
      let res' ← setPathOld g m' res.opts uriPath vb' p
      match res'.err with
      | some e => pure ({ r with mem := res'.mem, vb := vb' }, some e)
      | none => pure ({ r with mem := res'.mem, opts := res'.opts, vb := ← vb'.tail res'.used.toNat }, none)
  | some e => pure (r, some e)
  | none => pure ({ r with mem := res.mem, opts := res.opts, vb := ← r.vb.tail res.used.toNat }, none)

def gb0 (c need : Nat) : Nat := max (2 * c) need

/-- The full F19 scenario on a pooled message: it already carries a path, the value buffer must grow, the call
*succeeds* — and the message ends up with four options `11:x… 15:q 11:b 15:q`, duplicated and unsorted. -/
theorem f19_pool_grow_duplicates :
    (poolSetPathOld g0 gb0 ⟨f19Mem, f19Opts, f19Buf, ⟨0, 0, 8⟩⟩ f19Path).map (fun r => (r.2, (itemsOf r.1.mem r.1.opts).map (·.1)))
      = .ok (none, [11, 15, 11, 15]) := by decide +kernel

/-! ## C15-resetto (ResetOptionsTo) -/

/-- `ResetOptionsTo` in the old form is the model's `resetOptionsToUnchecked`. -/
def resetOptionsToOld := @Options.resetOptionsToUnchecked

/-- heap: buffer 0 = the message's values "ab" + 2 unused bytes; buffer 1 = the caller's input values -/
def resettoMem : Mem := [[170, 187, 0, 0], [204, 221, 221, 221, 221]]
def resettoOpts : Options View := ⟨[(1, ⟨0, 0, 1⟩), (2, ⟨0, 1, 1⟩)], 2⟩
def resettoIn : List (Opt View) := [(5, ⟨1, 0, 1⟩), (6, ⟨1, 1, 4⟩)]

/-- The old `ResetOptionsTo` refuses (`ErrTooSmall`) after it has already overwritten the first option. -/
theorem resetto_refusal_corrupts_list :
    (resetOptionsToOld g0 resettoMem resettoOpts ⟨0, 2, 2⟩ resettoIn).map (fun r => (r.err, itemsOf r.mem r.opts))
      = .ok (some .tooSmall, [(5, [204]), (2, [187])]) := by decide +kernel

theorem resetto_repaired :
    (Options.resetOptionsToChecked g0 resettoMem resettoOpts ⟨0, 2, 2⟩ resettoIn).map (fun r => (r.err, itemsOf r.mem r.opts))
      = .ok (some .tooSmall, [(1, [170]), (2, [187])]) := by decide +kernel

end CoapVerif.Findings.C15

section Audit
open CoapVerif.Findings.C15
#print axioms f1_panics_at_end_of_list
#print axioms f1_panics_mid_list
#print axioms f1_foreign_value
#print axioms f1_repaired
#print axioms f19_before
#print axioms f19_refusal_corrupts_list
#print axioms f19_repaired
#print axioms f19_pool_grow_duplicates
#print axioms resetto_refusal_corrupts_list
#print axioms resetto_repaired
end Audit
