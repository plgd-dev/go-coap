import CoapVerif.Generated.OptionList
/-!
Model of `message/options.go` (everything except `Marshal`/`Unmarshal`): `findPosition`, `Find`, `Set`, `Add`,
`Remove`, the getters' index loops, over the **header/array** representation of DESIGN §3.

* `Options α` is a Go slice header `(arr, len)` over a backing array; `cap = arr.length`.  The backing array is a
  `List` of fixed length (chosen over `Array` only because core has the richer `take/drop/set` lemma library; all
  accesses are by index and *checked*: they return `Panic` exactly where the Go runtime would panic).
* `α` is the representation of an option value.  In `Model/OptionValues.lean` it is a *view* `(buffer, offset,
  length)` into the message's value buffers, as the Go code stores sub-slices; here it is abstract, because the
  list code never looks at a value.
* Writes are in place (`setAt`), `append` writes in place when `len < cap` and reallocates (fresh array, old one
  untouched) exactly when `len = cap`; the new capacity is given by an arbitrary growth policy `g` (Go: runtime
  `growslice`); every theorem holds for every policy.
* Loops that are `for` loops over an index in Go are recursions on the iteration count; the binary-search loop of
  `findPosition`, which has no syntactic bound, takes explicit fuel (`2·len + 2`) and `Props/C15.lean` proves it
  never runs out (termination measure `2·(max − min) + [pivot ∈ {min,max}]`).
-/
namespace CoapVerif.Model.Options

inductive Err | notFound | tooSmall | invalidLen
  deriving DecidableEq, Repr

/-- Ways a Go operation can crash. `explicit` = `panic(fmt.Errorf(..: %w, err))` in `pool.Message` setters. -/
inductive Panic | index | slice | explicit (e : Err) | fuel
  deriving DecidableEq, Repr

abbrev M := Except Panic

/-- `message.Option{ID, Value}`. -/
abbrev Opt (α : Type) := Nat × α

/-- `message.Options` = slice header over a backing array. -/
structure Options (α : Type) where
  arr : List (Opt α)
  len : Nat
  deriving Repr

variable {α : Type}

namespace Options

def cap (o : Options α) : Nat := o.arr.length

/-- `make(Options, 0, cap)` -/
def make [Inhabited α] (cap : Nat) : Options α := ⟨List.replicate cap default, 0⟩

/-- The Go value `options[0:len]` as a list: what a reader of the slice sees. -/
def toList (o : Options α) : List (Opt α) := o.arr.take o.len

/-- `options[i]` (read), `i` a Go `int` known to be non-negative. -/
def get (o : Options α) (i : Nat) : M (Opt α) :=
  if i < o.len then
    match o.arr[i]? with
    | some x => .ok x
    | none => .error .index
  else .error .index

/-- `options[i]` (read) for a Go `int` that may be negative. -/
def getI (o : Options α) (i : Int) : M (Opt α) :=
  if i < 0 then .error .index else o.get i.toNat

/-- `options[i] = x` -/
def setAt (o : Options α) (i : Nat) (x : Opt α) : M (Options α) :=
  if i < o.len ∧ i < o.arr.length then .ok ⟨o.arr.set i x, o.len⟩ else .error .index

def setAtI (o : Options α) (i : Int) (x : Opt α) : M (Options α) :=
  if i < 0 then .error .index else o.setAt i.toNat x

/-- `options[:n]` -/
def reslice (o : Options α) (n : Nat) : M (Options α) :=
  if n ≤ o.arr.length then .ok ⟨o.arr, n⟩ else .error .slice

def resliceI (o : Options α) (n : Int) : M (Options α) :=
  if n < 0 then .error .slice else o.reslice n.toNat

/-- `append(options, x)`: in place when `len < cap`; otherwise a fresh array of capacity `max (g cap) (len+1)`. -/
def append [Inhabited α] (g : Nat → Nat) (o : Options α) (x : Opt α) : Options α :=
  if o.len < o.arr.length then ⟨o.arr.set o.len x, o.len + 1⟩
  else
    let n := max (g o.arr.length) (o.len + 1)
    ⟨o.arr.take o.len ++ x :: List.replicate (n - (o.len + 1)) default, o.len + 1⟩

/-- The `for { switch … }` loop of `findPosition` up to the point where it enters its first case: returns the pivot. -/
def findPivot (o : Options α) (id : Nat) : Nat → Nat → Nat → Nat → M Nat
  | 0, _, _, _ => .error .fuel
  | fuel + 1, minIdx, maxIdx, pivot => do
    let p ← o.get pivot
    if id = p.1 ∨ (maxIdx - minIdx) / 2 = 0 then pure pivot
    else if id < p.1 then findPivot o id fuel minIdx pivot (pivot - (pivot - minIdx) / 2)
    else findPivot o id fuel pivot maxIdx (pivot + (maxIdx - pivot) / 2)

/-- `for maxIdx = pivot; maxIdx < len(options) && options[maxIdx].ID <= id; { maxIdx++ }` (`k` = iterations left) -/
def scanRight (o : Options α) (id : Nat) : Nat → Nat → M Nat
  | 0, i => pure i
  | k + 1, i =>
    if i < o.len then do
      let x ← o.get i
      if x.1 ≤ id then scanRight o id k (i + 1) else pure i
    else pure i

/-- `for minIdx = pivot; minIdx >= 0 && options[minIdx].ID >= id; { minIdx-- }` -/
def scanLeft (o : Options α) (id : Nat) : Nat → M Int
  | 0 => do
    let x ← o.get 0
    if x.1 ≥ id then pure (-1) else pure 0
  | i + 1 => do
    let x ← o.get (i + 1)
    if x.1 ≥ id then scanLeft o id i else pure ((i + 1 : Nat) : Int)

/-- `findPosition(id) (minIdx, maxIdx int)` -/
def findPosition (o : Options α) (id : Nat) : M (Int × Int) :=
  if o.len = 0 then pure (-1, 0)
  else do
    let pivot ← findPivot o id (2 * o.len + 2) 0 o.len 0
    let mx ← scanRight o id (o.len - pivot) pivot
    let mx : Int := if mx = o.len then -1 else (mx : Int)
    let mn ← scanLeft o id pivot
    pure (mn, mx)

/-- `Find(id) (int, int, error)`; the error is always `ErrOptionNotFound`. -/
def find (o : Options α) (id : Nat) : M (Option (Int × Int)) := do
  let (idxPre, idxPost) ← o.findPosition id
  if idxPre = -1 ∧ idxPost = 0 then pure none
  else if idxPre = (o.len : Int) - 1 ∧ idxPost = -1 then pure none
  else if idxPre < idxPost ∧ idxPost - idxPre = 1 then pure none
  else pure (some (idxPre + 1, if idxPost < 0 then (o.len : Int) else idxPost))

/-- `for i := hi; i > lo; i-- { options[i] = options[i-1]; updateIdx++ }` with `k = hi - lo` iterations. -/
def shiftRight : Options α → Nat → Int → Int → M (Options α × Int)
  | o, 0, _, u => pure (o, u)
  | o, k + 1, i, u => do
    let x ← o.getI (i - 1)
    let o' ← o.setAtI i x
    shiftRight o' k (i - 1) (u + 1)

/-- `for i := from; i < to; i++ { options[updateIdx] = options[i]; updateIdx++ }` with `k = to - from` iterations. -/
def shiftLeft : Options α → Nat → Int → Int → M (Options α × Int)
  | o, 0, _, u => pure (o, u)
  | o, k + 1, i, u => do
    let x ← o.getI i
    let o' ← o.setAtI u x
    shiftLeft o' k (i + 1) (u + 1)

/-- `if len(options) == cap(options) { options = append(options, Option{}) } else { options = options[:len(options)+1] }` -/
def growOne [Inhabited α] (g : Nat → Nat) (o : Options α) : M (Options α) :=
  if o.len = o.arr.length then pure (o.append g default) else o.reslice (o.len + 1)

/-- The `switch` of `Set`: `(insertPosition, updateTo, updateFrom, replace-in-place-and-return)`; the variables keep
their zero values when no case matches. -/
def setSwitch (optsLength idxPre idxPost : Int) : Int × Int × Int × Bool :=
  if idxPre = -1 ∧ idxPost ≥ 0 then (0, 1, idxPost, false)
  else if idxPre = idxPost then (idxPre, idxPre + 1, idxPre, false)
  else if idxPre ≥ 0 then
    let updateFrom := if idxPost < 0 then optsLength else idxPost
    (idxPre + 1, idxPre + 2, updateFrom, idxPre + 2 = updateFrom)
  else (0, 0, 0, false)

/-- The part of `Set` after the `switch`: grow by one, "replace + move", store, cut to `updateIdx`. -/
def setMove [Inhabited α] (g : Nat → Nat) (o : Options α) (opt : Opt α) (insertPosition updateTo updateFrom : Int) :
    M (Options α) := do
  let optsLength : Int := o.len
  let o1 ← growOne g o
  let (o2, updateIdx) ←
    if updateFrom < updateTo then shiftRight o1 (optsLength - updateFrom).toNat optsLength updateTo
    else shiftLeft o1 (optsLength - updateFrom).toNat updateFrom updateTo
  let o3 ← o2.setAtI insertPosition opt
  o3.resliceI updateIdx

/-- `Set(opt) Options` -/
def set [Inhabited α] (g : Nat → Nat) (o : Options α) (opt : Opt α) : M (Options α) := do
  let (idxPre, idxPost) ← o.findPosition opt.1
  if idxPre = -1 ∧ idxPost = -1 then
    -- options = append(options[:0], opt)
    let o0 ← o.reslice 0
    pure (o0.append g opt)
  else
    let (insertPosition, updateTo, updateFrom, early) := setSwitch o.len idxPre idxPost
    if early then o.setAtI insertPosition opt
    else setMove g o opt insertPosition updateTo updateFrom

/-- `Add(opt) Options` -/
def add [Inhabited α] (g : Nat → Nat) (o : Options α) (opt : Opt α) : M (Options α) := do
  let (_, idxPost) ← o.findPosition opt.1
  let idxPost : Int := if idxPost = -1 then o.len else idxPost
  let o1 ← growOne g o
  -- for i := len(options) - 1; i > idxPost; i-- { options[i] = options[i-1] }
  let (o2, _) ← shiftRight o1 ((o1.len : Int) - 1 - idxPost).toNat ((o1.len : Int) - 1) 0
  o2.setAtI idxPost opt

/-- `Remove(id) Options` -/
def remove (o : Options α) (id : Nat) : M (Options α) := do
  match ← o.find id with
  | none => pure o
  | some (idxPre, idxPost) =>
    let (o1, _) ← shiftLeft o ((o.len : Int) - idxPost).toNat idxPost idxPre
    o1.resliceI ((o.len : Int) - (idxPost - idxPre))

/-- `HasOption(id)` -/
def has (o : Options α) (id : Nat) : M Bool := do
  return (← o.find id).isSome

/-- The single-value getters (`GetUint32`, `GetString`, `GetBytes`): `options[firstIdx].Value` or `ErrOptionNotFound`. -/
def getFirst (o : Options α) (id : Nat) : M (Option α) := do
  match ← o.find id with
  | none => pure none
  | some (firstIdx, _) => return some (← o.getI firstIdx).2

/-- `for i := firstIdx; i < lastIdx; i++ { r[idx] = options[i].Value; idx++ }` — `r` has length `n`; returns what was
written to `r[0:idx]` (in order). -/
def collect (o : Options α) (n : Nat) : Nat → Int → List α → M (List α)
  | 0, _, acc => pure acc.reverse
  | k + 1, i, acc => do
    let x ← o.getI i
    if acc.length < n then collect o n k (i + 1) (x.2 :: acc) else .error .index

/-- The multi-value getters (`GetUint32s`, `GetStrings`, `GetBytess`) on a result slice of length `n`:
`(count, err, r[0:count])`.  `strict` says whether the loop is `for i := firstIdx; i < lastIdx; i++` (true) or
`i <= lastIdx` (false, the form `GetUint32s` had before F1); it is read from the AST per function
(`Generated/OptionListShape.lean`). -/
def getMulti (strict : Bool) (o : Options α) (id : Nat) (n : Nat) : M (Int × Option Err × List α) := do
  match ← o.find id with
  | none => pure (0, some .notFound, [])
  | some (firstIdx, lastIdx) =>
    if (n : Int) < lastIdx - firstIdx then pure (lastIdx - firstIdx, some .tooSmall, [])
    else
      let vs ← collect o n ((lastIdx - firstIdx).toNat + (if strict then 0 else 1)) firstIdx []
      pure (vs.length, none, vs)

end Options
end CoapVerif.Model.Options
