import CoapVerif.Spec.Ownership
/-!
C12 model, part 1: the typestate monitor that is run over the lifecycle traces recorded from the real code
(hook h1 in message/pool: `acq`/`rel`/`poison`; `hold`/`unhold` are emitted by the harness around every place the
application is handed a message).

Per object the monitor knows
* `free`        — released, sits in the pool;
* `held out`    — owned by some code of the library or of the application, no application hold in progress.
                  `out = true`: the pool handed it out (`acq`) and it was not released since; `out = false`: nothing
                  seen yet, or only events of an object that did not come out of the pool (`pool.NewMessage`: the
                  tracker logs `acq` only for objects taken from the sync.Pool);
* `app out n`   — as `held out`, and the application holds it `n+1` times (counted holds).
`Store.init` = nothing seen yet = every object `held false`.

Part 2: the message-handling paths of the library routines as small programs over these events, parameterised by
what the application's handler does (`HandlerOp`), see `handlerTrace` / `processReceived`.

Part 3: `midElement` (udp/client/conn.go), the pending confirmable's stored clone with its lock, as a small
transition system over arbitrary schedules of release attempts and retransmissions.
-/
namespace CoapVerif.Model.Ownership
open CoapVerif.Spec.Ownership (Ev)

inductive TS
  | free
  | held (out : Bool)
  | app (out : Bool) (n : Nat)
  deriving Repr, DecidableEq

inductive Viol
  | doubleRelease (o : Nat)
  | releasedWhileAppHolds (o : Nat)
  | handedOutReleased (o : Nat)
  | writtenAfterRelease (o : Nat)
  | handedOutTwice (o : Nat)       -- the pool hands out an object that is still out (no release since its last hand-out)
  | usedAfterRelease (o : Nat)     -- the library reads/writes an object that sits in the pool
  deriving Repr, DecidableEq

abbrev Store := Nat → TS

/-- Nothing seen yet. -/
def Store.init : Store := fun _ => .held false
def Store.set (m : Store) (o : Nat) (t : TS) : Store := fun x => if x = o then t else m x

/-- The object an event is about. -/
def objOf : Ev → Nat
  | .acq o | .rel o | .hold o | .unhold o | .poisonBad o | .use o => o

/-- One step of the typestate of object `o` under an event about `o`. -/
def stepTS (o : Nat) (t : TS) : Ev → Except Viol TS
  | .acq _ =>
    match t with
    | .app _ _ => .error (.releasedWhileAppHolds o)     -- recycled while the application holds it
    | .held true => .error (.handedOutTwice o)          -- second owner without a release in between
    | .held false => .ok (.held true)
    | .free => .ok (.held true)
  | .rel _ =>
    match t with
    | .free => .error (.doubleRelease o)
    | .app _ _ => .error (.releasedWhileAppHolds o)
    | .held _ => .ok .free
  | .hold _ =>
    match t with
    | .free => .error (.handedOutReleased o)
    | .held out => .ok (.app out 0)
    | .app out n => .ok (.app out (n + 1))
  | .unhold _ =>
    match t with
    | .app out 0 => .ok (.held out)
    | .app out (n + 1) => .ok (.app out n)
    | t => .ok t
  | .poisonBad _ => .error (.writtenAfterRelease o)
  | .use _ =>
    match t with
    | .free => .error (.usedAfterRelease o)
    | t => .ok t

def stepM (m : Store) (e : Ev) : Except Viol Store :=
  match stepTS (objOf e) (m (objOf e)) e with
  | .error v => .error v
  | .ok t => .ok (m.set (objOf e) t)

def monitor (m : Store) : List Ev → Option Viol
  | [] => none
  | e :: es =>
    match stepM m e with
    | .error v => some v
    | .ok m' => monitor m' es

/-! ### Part 2: routines as path programs -/

/-- What an application handler may do with the response writer and the request it is given. -/
inductive HandlerOp
  | setMessage (fresh : Nat)   -- w.SetMessage(m): the library releases the current response, m (object `fresh`, owned by the handler) replaces it
  | swap (fresh : Nat)         -- w.Swap(m): replaces without releasing; the handler keeps the old one and must release it itself
  | releaseSwapped             -- the handler releases the message it got back from Swap
  | hijack                     -- req.Hijack(): the handler keeps the request beyond its return and releases it later
  deriving Repr, DecidableEq

structure PathState where
  resp : Nat                   -- object currently installed in the response writer
  swapped : List Nat := []     -- objects handed back to the handler by Swap, not yet released by it
  hijacked : Bool := false
  deriving Repr

/-- Events caused by the handler's operations (the handler itself holds `req` for its whole duration). -/
def handlerTrace (s : PathState) : List HandlerOp → PathState × List Ev
  | [] => (s, [])
  | .setMessage f :: r =>
    let (s', t) := handlerTrace { s with resp := f } r
    (s', .rel s.resp :: t)
  | .swap f :: r =>
    let (s', t) := handlerTrace { s with resp := f, swapped := s.resp :: s.swapped } r
    (s', t)
  | .releaseSwapped :: r =>
    match s.swapped with
    | [] => handlerTrace s r
    | o :: rest =>
      let (s', t) := handlerTrace { s with swapped := rest } r
      (s', .rel o :: t)
  | .hijack :: r =>
    let (s', t) := handlerTrace { s with hijacked := true } r
    (s', t)

/-- `ProcessReceivedMessageWithHandler`: acquire a response, run the handler on (w, req), write the response if
    modified, release whatever response is installed and release the request unless it was hijacked.
    udp/client releases the response first (both releases are deferred, LIFO), tcp/client releases the request
    first (the release of the response is deferred to the end of the function). -/
def processReceived (tcp : Bool) (req resp : Nat) (ops : List HandlerOp) : List Ev :=
  let (s, t) := handlerTrace { resp := resp } ops
  let relReq : List Ev := if s.hijacked then [] else [.rel req]
  .acq resp :: .hold req :: (t ++ (.unhold req ::
    (if tcp then relReq ++ [.rel s.resp] else [.rel s.resp] ++ relReq)))

/-- `doInternal` hand-over: the token handler hijacks the received response `r`, the receive path therefore does
    not release it, the caller gets it, uses it and releases it. -/
def doHandover (r resp : Nat) : List Ev :=
  processReceived false r resp [.hijack] ++ [.hold r, .unhold r, .rel r]

/-! ### Part 3: `midElement` — the stored clone of a pending confirmable, under its lock

udp/client/conn.go: `prepareWriteMessage` acquires a message, clones the request into it and stores it in a
`midElement` (`private.msg`, guarded by `private.Mutex`).
* `midElement.ReleaseMessage` (callers: `handleSpecialMessages` on ACK/RST, the response path, `checkMidHandlerContainer`
  on expiry and on a retransmission error, the close function of a failed/finished write): lock; if `private.msg != nil`
  release it and set it to nil; unlock.
* `midElement.GetMessage` (caller: `checkMidHandlerContainer`, retransmission): lock; if `private.msg == nil` return;
  acquire a message from the pool; clone `private.msg` into it (on error release the copy); unlock.  The caller writes
  the copy to the session and releases it.

Model: the state is (stored clone present?, pointers taken and not yet cloned, copies in flight); the lock is modelled by
its granularity: a step of the schedule is one whole critical section (or one lock-free action of a caller).  A schedule
is an arbitrary list of steps: any number of release attempts and retransmissions in any interleaving.  The objects
the pool hands to `AcquireMessage` are named by the schedule (`k`); that the pool hands out only objects nobody owns
is the pool's side of C12 (clause `okAfterAcq`, checked on the real traces), so a step proposing the stored clone or a
copy still in flight as the acquired object is not a behaviour of the system and does nothing.

`takePtr`/`cloneUnlocked` are NOT what the code does: they are the shape of the seeded change C12-A (`GetMessage`
reads the pointer under the lock but clones after unlocking), kept in the same transition system so that the negative
theorem (`midElement_unlocked_clone_rejected`) speaks about the same model. -/
inductive MidStep
  | release                          -- one `midElement.ReleaseMessage` (ACK, RST, response, expiry, write error)
  | getMessage (k : Nat) (fail : Bool) -- one `midElement.GetMessage`; the pool hands out `k`; `fail`: Clone returns an error
  | finish (k : Nat)                 -- the retransmission wrote copy `k` to the session and releases it
  | takePtr                          -- (seeded shape) lock; p := private.msg; unlock
  | cloneUnlocked (k : Nat)          -- (seeded shape) if p != nil: acquire `k`, clone p into it — outside the lock
  deriving Repr, DecidableEq

/-- The steps of the code as it is: every access to the stored clone is inside the critical section. -/
def MidStep.underLock : MidStep → Bool
  | .takePtr | .cloneUnlocked _ => false
  | _ => true

structure MidState where
  stored : Bool := true      -- `private.msg != nil`
  ptrs : Nat := 0            -- (seeded shape) non-nil pointers read under the lock and not yet cloned
  copies : List Nat := []    -- copies made for a retransmission, not yet released
  deriving Repr

/-- Is `k` an object the pool may hand out now, as far as this element knows: not the stored clone while it is
    stored (once released it is in the pool and may well come back as a copy), not a copy in flight. -/
def MidState.poolMayGive (clone : Nat) (s : MidState) (k : Nat) : Bool :=
  (k != clone || !s.stored) && !s.copies.contains k

def midStep (clone : Nat) (s : MidState) : MidStep → MidState × List Ev
  | .release =>
    if s.stored then ({ s with stored := false }, [.rel clone]) else (s, [])
  | .getMessage k fail =>
    if s.stored && s.poolMayGive clone k then
      if fail then (s, [.acq k, .use clone, .use k, .rel k])
      else ({ s with copies := k :: s.copies }, [.acq k, .use clone, .use k])
    else (s, [])
  | .finish k =>
    if s.copies.contains k then ({ s with copies := s.copies.erase k }, [.use k, .rel k]) else (s, [])
  | .takePtr =>
    if s.stored then ({ s with ptrs := s.ptrs + 1 }, []) else (s, [])
  | .cloneUnlocked k =>
    if s.ptrs != 0 && s.poolMayGive clone k then
      ({ s with ptrs := s.ptrs - 1, copies := k :: s.copies }, [.acq k, .use clone, .use k])
    else (s, [])

def midRun (clone : Nat) (s : MidState) : List MidStep → List Ev
  | [] => []
  | st :: r => (midStep clone s st).2 ++ midRun clone (midStep clone s st).1 r

/-- Life of the stored clone: acquired and filled by `prepareWriteMessage`, then whatever the schedule does. -/
def midElementTrace (clone : Nat) (sched : List MidStep) : List Ev :=
  .acq clone :: .use clone :: midRun clone {} sched

end CoapVerif.Model.Ownership
