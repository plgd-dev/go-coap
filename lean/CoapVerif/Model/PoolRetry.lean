import CoapVerif.Model.PoolMessage
import CoapVerif.Lemmas.CoderDecode
/-!
# Model of the capacity retry loop of `pool.Message.decode` and of `UnmarshalWithDecoder`

`decodeRetry` is a well-founded recursion: its measure is `len(data) - cap`, justified by
`decode_optCap_lt` (the decoders report `ErrOptionsTooSmall` only while `cap` is below the input
length) and by `newCap_gt` (the new capacity is strictly larger).  The second fact is what fails for
the loop `cap ↦ 2·len(options)` at capacity 0 (DESIGN §6-F2): with that step Lean rejects the definition.
-/
set_option linter.unusedVariables false
namespace CoapVerif.Model.PoolMessage
open CoapVerif.Spec.Wire (Bytes Opt Msg)
open CoapVerif.Model.OptionCodec

/-- Needs the shape facts of the source: the capacity at least doubles, 0 is replaced by a positive value, and there
is NO cap on the capacity (with a cap that is not an error the loop re-enters the same state forever). -/
theorem newCap_gt (cap : Nat) : cap < newCap cap := by
  unfold newCap
  simp only [CoapVerif.Generated.PoolRetry.retryFactor, CoapVerif.Generated.PoolRetry.retryZeroCap,
    CoapVerif.Generated.PoolRetry.retryCapLimit]
  by_cases h : cap * 2 = 0 <;> simp [h] <;> omega

theorem decode_optCap_lt {c : Coder} {cap : Nat} {data : Bytes} (h : c.decode cap data = .error .optCap) :
    cap < data.length :=
  CoapVerif.Lemmas.CoderDecode.decode_optCap h

/-- `Message.decode(decoder)`: retry with a larger option slice while the decoder reports
`ErrOptionsTooSmall`.  Returns the decoder's result and the final option capacity. -/
def decodeRetry (c : Coder) (cap : Nat) (data : Bytes) : Except Err (Msg × Nat) × Nat :=
  match h : c.decode cap data with
  | .error .optCap => decodeRetry c (newCap cap) data
  | r => (r, cap)
termination_by data.length - cap
decreasing_by
  have h1 := decode_optCap_lt h
  have h2 := newCap_gt cap
  omega

/-- `UnmarshalWithDecoder(decoder, data)`: copy `data` into the message's own buffer, decode from
the copy.  Returns the consumed count and the new state. -/
def unmarshalWithDecoder (c : Coder) (r : PoolMsg) (data : Bytes) : Except Err (Nat × PoolMsg) := do
  let bu := if r.bufferUnmarshal.length < data.length
    then grow r.bufferUnmarshal (data.length - r.bufferUnmarshal.length) else r.bufferUnmarshal
  let bu := goCopy bu data
  let bu ← sliceTo bu data.length
  let (res, cap) := decodeRetry c r.optCap bu
  match res with
  | .error e => .error e
  | .ok (m, n) => .ok (n, { r with optCap := cap, bufferUnmarshal := bu, msg := m })

end CoapVerif.Model.PoolMessage
