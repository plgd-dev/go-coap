import CoapVerif.Model.OptionCodec
/-!
# Model of `udp/coder/coder.go`: `Size`, `Encode`, `Decode`

Statement by statement, with checked slicing (see `Model/OptionCodec.lean`).  `Encode` works on the
contents of the destination buffer (`len(buf)` = list length) and returns the contents afterwards, so
"writes nothing outside the buffer" is "never `Err.panic`" (every write is bounds-checked) and the
returned list always has the length of the buffer.  Each `buf = buf[k:]` opens a `withSub` scope.
-/
set_option linter.unusedVariables false
namespace CoapVerif.Model.UdpCoder
open CoapVerif.Generated.Codec CoapVerif.Generated.OptionDefs
open CoapVerif.Spec.Wire (Bytes Opt Msg)
open CoapVerif.Model.OptionCodec

/-- `message.ValidateMID` -/
def validateMID (mid : Int) : Bool := decide (0 ≤ mid) && decide (mid ≤ (maxMID : Int))

/-- `message.ValidateType`: (0 <= typ <= 255) -/
def validateType (typ : Int) : Bool := decide (0 ≤ typ) && decide (typ ≤ 255)

/-- `Coder.Size(m)` -/
def size (m : Msg) : Except Err Nat :=
  if m.token.length > maxTokenSize then .error .badToken
  else do
    let size := 4 + m.token.length
    let payloadLen := m.payload.length
    let (optionsLen, small, _) ← optionsMarshal none m.options
    if !small then .error .panic        -- `!errors.Is(err, ErrTooSmall)`: would return (-1, nil); unreachable, see `optionsMarshal_nil`
    else
      let payloadLen := if payloadLen > 0 then payloadLen + 1 else payloadLen
      .ok (size + payloadLen + optionsLen)

/-- Result of an encoder call: the returned count, `ErrTooSmall` or nil, and the buffer contents. -/
structure EncRes where
  n : Nat
  tooSmall : Bool
  buf : Bytes
deriving Repr, DecidableEq

/-- `Coder.Encode(m, buf)`.  `.error` = the call returned `(-1, err)` (or `Err.panic`). -/
def encode (m : Msg) (buf : Bytes) : Except Err EncRes :=
  if !validateMID m.mid then .error .badMID
  else if !validateType m.typ then .error .badType
  else if m.code > 255 then .error .badCode                   -- `codes.Code` is a uint16, the header has one byte
  else
    match size m with
    | .error e => .error e
    | .ok size =>
      if buf.length < size then .ok ⟨size, true, buf⟩
      else do
        let mid := (m.mid % 65536).toNat                       -- math.CastTo[uint16](m.MessageID)
        let b ← setAt buf 0 (((1 : UInt8) <<< 6) ||| (byteOfInt m.typ <<< 4) ||| UInt8.ofNat (0xf &&& m.token.length))
        let b ← setAt b 1 (UInt8.ofNat m.code)
        let b ← setAt b 2 (UInt8.ofNat (mid / 256))
        let b ← setAt b 3 (UInt8.ofNat (mid % 256))
        let (r, b) ← withSub b 4 fun buf =>                     -- buf = buf[4:]
          if m.token.length > maxTokenSize then .error .badToken
          else
            let buf := goCopy buf m.token
            withSub buf m.token.length fun buf => do            -- buf = buf[len(m.Token):]
              let (optionsLen, small, buf) ← optionsMarshal (some buf) m.options
              if small then .ok (true, buf)                     -- return size, ErrTooSmall
              else
                withSub buf optionsLen fun buf =>               -- buf = buf[optionsLen:]
                  if m.payload.length > 0 then do
                    let buf ← setAt buf 0 0xff
                    withSub buf 1 fun buf => .ok (false, goCopy buf m.payload)
                  else .ok (false, goCopy buf m.payload)
        .ok ⟨size, r, b⟩

/-- `Coder.Decode(data, m)` into a message whose option slice has `len = 0`, `cap = cap`. -/
def decode (cap : Nat) (data : Bytes) : Except Err (Msg × Nat) :=
  let size := data.length
  if size < 4 then .error .truncated
  else do
    let b0 ← idx data 0
    if b0 >>> 6 ≠ 1 then .error .badVersion
    else
      let typ := ((b0 >>> 4) &&& 0x3).toNat
      let tokenLen := (b0 &&& 0xf).toNat
      if tokenLen > 8 then .error .badToken
      else do
        let code ← idx data 1
        let d24 ← sliceTo data 4
        let d24 ← sliceFrom d24 2
        let messageID ← getU16 d24
        let data ← sliceFrom data 4
        if data.length < tokenLen then .error .truncated
        else do
          let token ← sliceTo data tokenLen
          let data ← sliceFrom data tokenLen
          let (opts, proc) ← optionsUnmarshal coapOptionDefs cap 0 data
          let data ← sliceFrom data proc
          .ok (⟨(typ : Int), (messageID : Int), code.toNat, token, opts, data⟩, size)

end CoapVerif.Model.UdpCoder
