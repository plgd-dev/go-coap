/-!
Model of the writing side of a stream connection (`tcp/client/session.go: Session.WriteMessage` →
`net/conn.go: Conn.WriteWithContext`): several goroutines write messages on one connection; each `WriteMessage` marshals its
message into one frame and hands the WHOLE frame to `WriteWithContext` in a single call, which holds the connection's write
lock until every byte of it is written (facts `writeMessageSingleWrite`, read from the AST on every run, and C09's
`writeHoldsLock`).  So the unit of interleaving is the frame: a schedule names, step by step, the writer whose next frame
goes out.

The negative result (`Props.C07Write.split_write_interleaves`: what a `WriteMessage` that calls `WriteWithContext` per piece
could produce) does not run this machine; it feeds the receiver a stream written out by hand.
-/
namespace CoapVerif.Model.WritePath

abbrev Bytes := List UInt8

/-- what is left to write per writer, and what went out so far (writer, frame) -/
structure St where
  queues : List (List Bytes)
  out : List (Nat × Bytes) := []
  deriving Repr

/-- writer `i` writes its next frame (a step for a writer with nothing left changes nothing) -/
def step (s : St) (i : Nat) : St :=
  match s.queues[i]? with
  | some (f :: rest) => { queues := s.queues.set i rest, out := s.out ++ [(i, f)] }
  | _ => s

def run (queues : List (List Bytes)) (sched : List Nat) : St := sched.foldl step { queues := queues }

/-- the byte stream the peer reads -/
def stream (s : St) : Bytes := (s.out.map (·.2)).flatten

/-- the frames writer `i` has written, in the order they went out -/
def writtenBy (s : St) (i : Nat) : List Bytes := (s.out.filter (·.1 == i)).map (·.2)

def drained (s : St) : Bool := s.queues.all (·.isEmpty)

end CoapVerif.Model.WritePath
