import CoapVerif.Generated.TcpFraming
/-!
Model of the stream framing path:
`tcp/coder/coder.go: DecodeHeader` (header pre-parse, short-read signalling, 64-bit length check),
`tcp/coder/coder.go: Decode` + `message/options.go: Options.Unmarshal` *as far as accept/reject and the
position of the payload are concerned* (option values/IDs are the business of C01/C02),
`tcp/client/session.go: processBuffer / seekBufferToNextMessage / Run` (accumulate-then-parse loop).
Thresholds and addends come from `Generated/TcpFraming.lean`.
-/
namespace CoapVerif.Model.Framing
open CoapVerif.Generated.TcpFraming

abbrev Bytes := List UInt8

structure Hdr where
  len : Nat      -- MessageHeader.Length: bytes of Len/TKL byte + extended length + code + token
  msgLen : Nat   -- MessageHeader.MessageLength: length of the whole frame
  code : Nat
  tkl : Nat
  deriving Repr, DecidableEq

inductive HdrRes
  | short                -- message.ErrShortRead
  | invalid              -- reserved token length, or declared length does not fit 32 bits: an error other than short read
  | ok (h : Hdr)
  deriving Repr, DecidableEq

/-- The `switch` on the Len nibble: returns (hdrOff after the extended length, opLen) or `none` = short read.
    The cases are tested in source order; a nibble matching no case leaves opLen = 0. -/
def lenField (lenNib : Nat) (rest : Bytes) : Option (Nat × Nat) :=
  if lenNib < len13Base then some (1, lenNib)
  else if lenNib = 13 then
    match rest with
    | b :: _ => some (2, len13Base + b.toNat)
    | [] => none
  else if lenNib = 14 then
    match rest with
    | b0 :: b1 :: _ => some (3, len14Base + (b0.toNat * 256 + b1.toNat))
    | _ => none
  else if lenNib = 15 then
    match rest with
    | b0 :: b1 :: b2 :: b3 :: _ => some (5, len15Base + (((b0.toNat * 256 + b1.toNat) * 256 + b2.toNat) * 256 + b3.toNat))
    | _ => none
  else some (1, 0)

/-- Second half of `Coder.DecodeHeader`, after the extended length was consumed. -/
def mkHdr (bs : Bytes) (tkl hdrOff opLen : Nat) : HdrRes :=
  if hdrOff + 1 + tkl + opLen > 4294967295 then .invalid          -- 64-bit sum does not fit uint32
  else if bs.length < hdrOff + 1 then .short                      -- code byte missing
  else if bs.length < hdrOff + 1 + tkl then .short                -- token incomplete
  else .ok ⟨hdrOff + 1 + tkl, hdrOff + 1 + tkl + opLen, (bs.getD hdrOff 0).toNat, tkl⟩

/-- `Coder.DecodeHeader`. -/
def decodeHeader (bs : Bytes) : HdrRes :=
  match bs with
  | [] => .short
  | first :: rest =>
    -- token lengths above MaxTokenSize are refused as soon as the first byte is seen (message.ErrInvalidTokenLen)
    if headerChecksTkl && first.toNat % 16 > maxTokenSize then .invalid
    else
    match lenField (first.toNat / 16) rest with
    | none => .short
    | some (hdrOff, opLen) => mkHdr bs (first.toNat % 16) hdrOff opLen

/-- `parseExtOpt`. -/
def parseExt (opt : Nat) (bs : Bytes) : Option (Nat × Bytes) :=
  if opt = extByteCode then
    match bs with
    | b :: r => some (b.toNat + extByteAddend, r)
    | [] => none
  else if opt = extWordCode then
    match bs with
    | b0 :: b1 :: r => some (b0.toNat * 256 + b1.toNat + extWordAddend, r)
    | _ => none
  else some (opt, bs)

theorem parseExt_len {opt : Nat} {bs : Bytes} {v : Nat} {r : Bytes} (h : parseExt opt bs = some (v, r)) :
    r.length ≤ bs.length := by
  unfold parseExt at h
  by_cases h1 : opt = extByteCode
  · rw [if_pos h1] at h
    match bs, h with
    | _ :: _, h => cases h; exact Nat.le_succ _
  rw [if_neg h1] at h
  by_cases h2 : opt = extWordCode
  · rw [if_pos h2] at h
    match bs, h with
    | _ :: _ :: _, h => cases h; exact Nat.le_add_right _ 2
  rw [if_neg h2] at h
  cases h; exact Nat.le_refl _

/-- `Options.Unmarshal` reduced to: does it return an error, and where does the payload start?
    `some p` = accepted with payload bytes `p` (bytes after the 0xFF marker; `[]` when there is none). -/
def walkOpts (prev : Nat) (bs : Bytes) : Option Bytes :=
  match bs with
  | [] => some []
  | b :: t =>
    if b = 0xff then some t else
    let d := b.toNat / 16
    let l := b.toNat % 16
    if d = extError ∨ l = extError then none else
    match hd : parseExt d t with
    | none => none
    | some (delta, t1) =>
      match hl : parseExt l t1 with
      | none => none
      | some (len, t2) =>
        if t2.length < len then none
        else if prev + delta > 65535 then none      -- math.SafeCastTo[OptionID] (uint16)
        else walkOpts (prev + delta) (t2.drop len)
termination_by bs.length
decreasing_by
  have h1 := parseExt_len hd
  have h2 := parseExt_len hl
  simp [List.length_drop]; omega

structure Msg where
  code : Nat
  token : Bytes
  payload : Bytes
  deriving Repr, DecidableEq

/-- `Coder.Decode` on a slice holding exactly one frame (as `processBuffer` passes it). -/
def decodeFrame (frame : Bytes) : Option Msg :=
  match decodeHeader frame with
  | .ok h =>
    if frame.length < h.msgLen then none
    else
      match walkOpts 0 (frame.drop h.len) with
      | some pay => some ⟨h.code, (frame.drop (h.len - h.tkl)).take h.tkl, pay⟩
      | none => none
  | _ => none

theorem lenField_pos {n : Nat} {r : Bytes} {a b : Nat} (h : lenField n r = some (a, b)) : 1 ≤ a := by
  -- every case of the `switch` that returns at all returns a positive literal
  unfold lenField at h
  by_cases h1 : n < len13Base
  · rw [if_pos h1] at h; cases h; decide
  rw [if_neg h1] at h
  by_cases h2 : n = 13
  · rw [if_pos h2] at h
    match r, h with
    | _ :: _, h => cases h; decide
  rw [if_neg h2] at h
  by_cases h3 : n = 14
  · rw [if_pos h3] at h
    match r, h with
    | _ :: _ :: _, h => cases h; decide
  rw [if_neg h3] at h
  by_cases h4 : n = 15
  · rw [if_pos h4] at h
    match r, h with
    | _ :: _ :: _ :: _ :: _, h => cases h; decide
  rw [if_neg h4] at h
  cases h; decide

theorem mkHdr_msgLen {bs : Bytes} {tkl hdrOff opLen : Nat} {h : Hdr} (e : mkHdr bs tkl hdrOff opLen = .ok h) :
    h.msgLen = hdrOff + 1 + tkl + opLen ∧ h.len = hdrOff + 1 + tkl ∧ h.tkl = tkl ∧ h.len ≤ bs.length
      ∧ h.msgLen ≤ 4294967295 := by
  unfold mkHdr at e
  by_cases h1 : hdrOff + 1 + tkl + opLen > 4294967295
  · rw [if_pos h1] at e; cases e
  rw [if_neg h1] at e
  by_cases h2 : bs.length < hdrOff + 1
  · rw [if_pos h2] at e; cases e
  rw [if_neg h2] at e
  by_cases h3 : bs.length < hdrOff + 1 + tkl
  · rw [if_pos h3] at e; cases e
  rw [if_neg h3] at e
  cases e
  exact ⟨rfl, rfl, rfl, Nat.le_of_not_lt h3, Nat.le_of_not_lt h1⟩

theorem decodeHeader_msgLen_pos {bs : Bytes} {h : Hdr} (e : decodeHeader bs = .ok h) : 2 ≤ h.msgLen := by
  cases bs with
  | nil => cases e
  | cons first rest =>
    unfold decodeHeader at e
    dsimp only at e
    by_cases ht : (headerChecksTkl && decide (first.toNat % 16 > maxTokenSize)) = true
    · rw [if_pos ht] at e; cases e
    rw [if_neg ht] at e
    cases hl : lenField (first.toNat / 16) rest with
    | none => rw [hl] at e; cases e
    | some p =>
      rw [hl] at e
      have := lenField_pos (a := p.1) (b := p.2) hl
      have := (mkHdr_msgLen e).1
      omega

structure St where
  buf : Bytes
  out : List Msg
  closed : Bool
  deriving Repr, DecidableEq

/-- `Session.processBuffer`: parse as many complete frames as the buffer holds. -/
def proc (max : Nat) (buf : Bytes) (out : List Msg) : St :=
  match hh : decodeHeader buf with
  | .short => ⟨buf, out, false⟩                       -- wait for more bytes
  | .invalid => ⟨buf, out, true⟩                      -- error → Run returns → connection closed
  | .ok hd =>
    if hd.msgLen > max then ⟨buf, out, true⟩          -- limit checked on the header, before the body
    else if hlt : buf.length < hd.msgLen then ⟨buf, out, false⟩   -- wait for the body
    else
      match decodeFrame (buf.take hd.msgLen) with
      | none => ⟨buf, out, true⟩
      | some m => proc max (buf.drop hd.msgLen) (out ++ [m])   -- consume exactly MessageLength bytes
termination_by buf.length
decreasing_by
  have := decodeHeader_msgLen_pos hh
  simp [List.length_drop]; omega

/-- One `Read` of the `Run` loop: append, then `processBuffer`. A closed session ignores further input. -/
def feed (max : Nat) (s : St) (chunk : Bytes) : St :=
  if s.closed then s else proc max (s.buf ++ chunk) s.out

def init : St := ⟨[], [], false⟩

/-- The session fed with the byte stream cut into `chunks`. -/
def run (max : Nat) (chunks : List Bytes) : St := chunks.foldl (feed max) init

/-- What an observer can see: deliveries, whether the connection was closed, and (while open) nothing else. -/
def St.obs (s : St) : List Msg × Bool := (s.out, s.closed)

end CoapVerif.Model.Framing
