import CoapVerif.Model.Blockwise
import CoapVerif.Model.BlockwiseObserve
/-!
The two-endpoint system with the observe-aware layer (`OWorld`, `Model/BlockwiseObserve.lean`) under a script of operations:
exactly the steps the driver `Driver/C04.lean` executes for `net …` (`OWorld.fault`), `write` (`OWorld.startWrite`), `do`
(`World.startDo` on the underlying world), `sleep`, `tick`.  Same `Op` as the plain system, so that the two can be compared
script by script (`Lemmas/BlockwiseConservSys.lean`).
-/
namespace CoapVerif.Model.BlockwiseObserve
open CoapVerif.Model.Blockwise

/-- an operation of the plain world that does not go through `Handle` / `startSendingMessage`, carried over -/
def OWorld.lift (o : OWorld) (r : World × List Event) : OWorld × List Event := ({ o with w := r.1 }, r.2)

def OWorld.op (o : OWorld) : Op → OWorld × List Event
  | .fault f => o.fault f
  | .doReq r => o.lift (o.w.startDo r)
  | .writeReq r => o.startWrite .A r
  | .sleep d => o.lift (o.w.sleep d)
  | .tick s => o.lift (o.w.tick s, [])

/-- the observe-aware system after a script of operations, and everything that was observed -/
def OWorld.run : OWorld → List Op → OWorld × List Event
  | o, [] => (o, [])
  | o, x :: xs => ((OWorld.run (o.op x).1 xs).1, (o.op x).2 ++ (OWorld.run (o.op x).1 xs).2)

end CoapVerif.Model.BlockwiseObserve
