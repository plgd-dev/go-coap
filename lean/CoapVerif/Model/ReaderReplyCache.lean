/-!
Model of the reply cache of a datagram connection as far as C11 needs it ("never processed twice"): what decides whether a
received confirmable / non-confirmable message is handed to the application's handler or answered from the cache
(`udp/client/conn.go`: `handleReq` → `checkResponseCache`, `processResponse` → `addResponseToCache`, `CheckExpirations`).

An entry is a message ID with the time at which it expires (store time + EXCHANGE_LIFETIME).  Nothing but the clock removes an
entry: `sweep` (CheckExpirations) drops what has expired.  The number of entries is not bounded — a connection may see any number
of exchanges inside one lifetime (the message-ID space allows 65 536, the eleventh seeded round's C11-W put a bound of 4 096 on
the cache and evicted the oldest entry).  `stepCap` / `runCap` are that bounded variant, kept as the witness that the bound breaks the clause.
-/
namespace CoapVerif.Model.ReaderReplyCache

/-- message ID ↦ expiry time, newest first -/
abbrev Cache := List (Nat × Nat)

structure St where
  cache : Cache := []
  now : Nat := 0
  dispatched : List Nat := []     -- message IDs handed to the application's handler, one element per dispatch
  deriving Repr

/-- a live entry answers the copy -/
def found (c : Cache) (now mid : Nat) : Bool := c.any fun e => e.1 == mid && now < e.2

inductive Ev
  | recv (mid : Nat)      -- a confirmable / non-confirmable message of the peer with this message ID has been taken from the queue
  | sweep                 -- CheckExpirations
  | tick (d : Nat)        -- time passes
  deriving Repr, DecidableEq

/-- `life` = EXCHANGE_LIFETIME.  A message that is not found is dispatched and its reply stored (every handler of the histories
    in question answers; LoadOrStore: the entry is new because the look-up just failed or found only an expired one). -/
def step (life : Nat) (s : St) : Ev → St
  | .recv mid =>
    if found s.cache s.now mid then s
    else { s with cache := (mid, s.now + life) :: s.cache, dispatched := s.dispatched ++ [mid] }
  | .sweep => { s with cache := s.cache.filter fun e => s.now < e.2 }
  | .tick d => { s with now := s.now + d }

def run (life : Nat) : St → List Ev → St
  | s, [] => s
  | s, e :: es => run life (step life s e) es

/-- the bounded variant: at most `cap` entries, the oldest makes room -/
def stepCap (life cap : Nat) (s : St) : Ev → St
  | .recv mid =>
    if found s.cache s.now mid then s
    else { s with cache := ((mid, s.now + life) :: s.cache).take cap, dispatched := s.dispatched ++ [mid] }
  | e => step life s e

def runCap (life cap : Nat) : St → List Ev → St
  | s, [] => s
  | s, e :: es => runCap life cap (stepCap life cap s e) es

def elapsed : List Ev → Nat
  | [] => 0
  | .tick d :: es => d + elapsed es
  | _ :: es => elapsed es

end CoapVerif.Model.ReaderReplyCache
