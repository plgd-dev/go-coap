import CoapVerif.Model.Reader
import CoapVerif.Model.ReaderPrograms
import CoapVerif.Generated.WaitShape
/-!
NSTART (RFC 7252 §4.7, `udp/client/conn.go`): slot accounting for the library operations of `Model.ReaderPrograms`.

`Conn.acquireOutstandingInteraction` / `releaseOutstandingInteraction` are a counting semaphore of `nStart` slots
(`semaphore.Weighted`: first come, first served; the waiter leaves when its request's context ends).  In the source

* the only caller of `acquireOutstandingInteraction` is `prepareWriteMessage`, in the `Confirmable` branch, for the codes
  GET..DELETE, *before* the message is written; whether a `TryToReplaceLoop` comes before the wait is the regenerated fact
  `precededByReplace` of the construct `Conn.acquireOutstandingInteraction / acquire` (`Generated.WaitShape`);
* the slot is given back by the function `prepareWriteMessage` returns, which `writeMessage` defers: when
  `waitForAcknowledge` has returned — the acknowledgement was matched by the *socket reader* (`handleSpecialMessages`, inline:
  `Model.Reader.inlinePart`), or a response under the request's token was dispatched first (`Model.Reader.dispatch`, `.sep`), or
  the request's context / the connection ended (then the call fails and `endCall` gives everything back);
* a non-confirmable request takes no slot (the `TODO` in `prepareWriteMessage`), nor does a ping, a response, an empty message.

So a slot is held exactly over `[.send k] ++ ackPart`: `acquire nstartKey n · send k · (replace) · wait (acked k) · release nstartKey`.
`nstart = 0` stands for "not limiting" (the harness default is NSTART 1000, which fewer than 1000 concurrent requests never
reach): the programs are then those of `ReaderPrograms` (`Props.C11NStart.nstart_zero_programs`).  The stream transport has no NSTART.
-/
namespace CoapVerif.Model.ReaderNStart
open CoapVerif.Model.Reader CoapVerif.Model.ReaderPrograms CoapVerif.Generated.WaitShape

/-- limiter entry of the NSTART semaphore (0 = total limit, 1 and 100+k = endpoint entries) -/
def nstartKey : Nat := 2

/-- does the source ask for a replacement loop before it waits for an NSTART slot? -/
def nstartWaitPreceded : Bool := preceded "Conn.acquireOutstandingInteraction" "acquire"

/-- the slot is taken before a confirmable request is written … -/
def takeSlot (udp : Bool) (nstart : Nat) : List Act :=
  if udp && nstart != 0 then rep nstartWaitPreceded ++ [.acquire nstartKey nstart] else []

/-- … and given back when its acknowledgement wait is over -/
def giveSlot (udp : Bool) (nstart : Nat) : List Act :=
  if udp && nstart != 0 then [.release nstartKey] else []

/-- the confirmable write: slot, registration + write, acknowledgement wait, slot back -/
def conWrite (udp : Bool) (nstart k : Nat) : List Act :=
  takeSlot udp nstart ++ [.send k] ++ ackPart udp k ++ giveSlot udp nstart

def doProgN (udp : Bool) (epKey epLimit limit nstart k : Nat) : List Act :=
  [.startCall k 30000] ++ limiterPart udp "LimitParallelRequests.Do" epKey epLimit limit ++ conWrite udp nstart k ++
  rep (preceded "Conn.doInternal" "select") ++ [.wait (.delivered k) (wakesOnClose "Conn.doInternal")] ++ [.endCall k]

/-- a non-confirmable request takes no slot: the program does not depend on NSTART -/
def doNonProgN (udp : Bool) (epKey epLimit limit _nstart k : Nat) : List Act :=
  doNonProg udp epKey epLimit limit k

def writeProgN (udp : Bool) (nstart k : Nat) : List Act :=
  [.startCall k 30000] ++ conWrite udp nstart k ++ [.endCall k]

def observeProgN (udp : Bool) (epKey epLimit limit nstart k : Nat) : List Act :=
  [.startCall k 20000] ++ limiterPart udp "LimitParallelRequests.DoObserve" epKey epLimit limit ++
  rep (handed udp "Conn.doObserve" "Handler.NewObservation") ++ conWrite udp nstart k ++
  rep (preceded "Handler.NewObservation" "select") ++ [.wait (.delivered k) (wakesOnClose "Handler.NewObservation")] ++ [.endCall k]

/-- number of NSTART slots in use -/
def slotsInUse (s : State) : Nat := (s.holders.filter (· == nstartKey)).length

/-- is the handler of loop `l` waiting in the NSTART semaphore? -/
def waitsForSlot (s : State) (l : Nat) : Bool :=
  match s.loops l with
  | some lp => lp.pc == .running && (match lp.prog with
      | .acquire key _ :: _ => key == nstartKey && s.waitq.contains (key, l)
      | _ => false)
  | none => false

/-- the goroutine of loop `l` holds a slot and stands in the acknowledgement wait of exchange `k`: what is left of its
    program is `wait (acked k) · release nstartKey · …` -/
def holdsSlotInAckWait (s : State) (l k : Nat) : Bool :=
  match s.loops l with
  | some lp => lp.pc == .running && lp.held.contains nstartKey && (match lp.prog with
      | .wait (.acked k') _ :: .release key :: _ => k' == k && key == nstartKey
      | _ => false)
  | none => false

end CoapVerif.Model.ReaderNStart
