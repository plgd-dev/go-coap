import CoapVerif.Generated.WaitShape
/-!
Model of the replaceable single consumer of the receive queue (C11):

* `net/client/receivedMessageReader.go`: `loop` (select on its own `loopDone`, the queue, the connection's
  `Done`; `readingMessages := false` while a message is processed; set back to `true` under the mutex),
  `TryToReplaceLoop` (under the mutex: nothing if the *current* loop is reading, otherwise close the current
  `loopDone`, make a new `(loopDone, readingMessages)` pair current and start a loop on it);
* `udp/client/conn.go: Process` / `tcp/client/conn.go: pushToReceivedMessageQueue`: one socket reader hands messages
  over in arrival order; messages it handles inline (bare ACK, ping/pong, signals) never enter the queue; the
  hand-over blocks while the queue is full;
* handlers as programs: `replace` is a call of `TryToReplaceLoop`, `wait c` a blocking construct (a `select` /
  semaphore acquire) that can only proceed once `c` holds or its deadline has passed.

One `Event` is one atomic step of one goroutine (both critical sections of the mutex are single steps); a schedule
is an arbitrary `List Event`.  A loop whose `loopDone` is closed may still *take* a message if the queue is ready at
the same time (Go's `select` picks among ready cases at random) — the model allows both.
-/
namespace CoapVerif.Model.Reader

/-- what a blocked goroutine is waiting for; evaluated on the connection state -/
inductive Cond
  | acked (k : Nat)        -- the message-ID continuation of exchange k has been woken (inline, by the socket reader)
  | delivered (k : Nat)    -- the response of exchange k has been handed over (by a loop dispatching it)
  | ponged                 -- the pong has been read (inline)
  | slotFree (key limit : Nat)   -- fewer than `limit` holders of limiter entry `key` (limit 0 = unlimited)
  deriving Repr, DecidableEq

inductive Act
  | replace                         -- TryToReplaceLoop
  | startCall (k dur : Nat)         -- a nested blocking call begins (deadline = now + dur)
  | acquire (key limit : Nat)       -- wait for a limiter slot, then hold it
  | send (k : Nat)                  -- the request of exchange k is registered and written (k = 0: a ping, forgets old pongs)
  | wait (c : Cond) (onClose : Bool) -- blocking wait (ends on c, at the call's deadline, or — if the select has the
                                    -- connection context among its cases — when the connection closes: the call fails)
  | endCall (k : Nat)               -- the nested call returns (slots released, result logged)
  | release (key : Nat)             -- one held slot of entry `key` is given back while the call goes on (NSTART: the slot a
                                    -- confirmable request took before it was written, released when its acknowledgement wait ends)
  deriving Repr, DecidableEq

inductive MKind
  | req (prog : List Act)   -- a request: the application handler runs `prog`
  | resp (k : Nat)          -- a response of exchange k that also acknowledges (piggybacked / stream response)
  | ack (k : Nat)           -- bare acknowledgement: handled inline, never queued
  | sep (k : Nat)           -- separate response of exchange k (a `Do`: it also acknowledges the request)
  | note (k : Nat)          -- first notification of observation k sent separately (the observation handler does not acknowledge)
  | pong                    -- handled inline, never queued
  deriving Repr, DecidableEq

structure Msg where
  id : Nat
  kind : MKind
  deriving Repr, DecidableEq

inductive LPc | atSelect | running | exited
  deriving Repr, DecidableEq

structure Loop where
  doneClosed : Bool        -- this loop's `loopDone` is closed
  reading : Bool           -- this loop's `readingMessages`
  pc : LPc
  cur : Option Msg         -- the message being processed
  prog : List Act          -- what is left of its handler
  deadline : Nat           -- deadline of the nested call in progress
  callStart : Nat          -- when it began
  failed : Nat             -- 0 = fine, 1 = the nested call in progress hit its deadline, 2 = the connection closed
  held : List Nat          -- limiter entries held by the nested call in progress
  deriving Repr, DecidableEq

inductive LogEv
  | start (m : Nat) | finish (m : Nat) | nested (k : Nat) (result : Nat) (elapsed : Nat)
  deriving Repr, DecidableEq

structure State where
  cap : Nat
  udp : Bool
  inbox : List Msg            -- on the wire, in order
  hand : Option Msg           -- read by the socket reader, inline part done, waiting for room in the queue
  queue : List Msg
  accepted : List Msg         -- queueable messages in the order the socket reader read them (while the connection is open)
  lost : List Msg             -- accepted, but still in the reader's hand when the connection closed: discarded
  started : List Msg          -- messages taken by loops, in take order
  finished : List Msg
  loops : Nat → Option Loop
  nloops : Nat
  current : Nat               -- the loop `r.private.(loopDone, readingMessages)` belongs to
  acked : List Nat
  delivered : List Nat
  sent : List Nat             -- exchanges whose request is out and whose call has not returned
  ponged : Bool
  holders : List Nat          -- limiter: one element per held slot (its key)
  waitq : List (Nat × Nat)    -- limiter: (key, loop) in the order the goroutines started to wait (both levels are FIFO)
  now : Nat
  closed : Bool
  log : List LogEv

def idleLoop : Loop := ⟨false, true, .atSelect, none, [], 0, 0, 0, []⟩

def init (cap : Nat) (udp : Bool) (inbox : List Msg) : State :=
  { cap := cap, udp := udp, inbox := inbox, hand := none, queue := [], accepted := [], lost := [], started := [], finished := [],
    loops := fun i => if i = 0 then some idleLoop else none, nloops := 1, current := 0,
    acked := [], delivered := [], sent := [], ponged := false, holders := [], waitq := [], now := 0, closed := false, log := [] }

inductive Event
  | feederRead            -- the socket reader reads the next message and does its inline part
  | feederPush            -- … puts the message in its hand into the queue (room permitting)
  | loopTake (l : Nat)    -- loop l, at its select, receives from the queue (or directly from the blocked sender)
  | loopExit (l : Nat)    -- loop l, at its select, sees its loopDone closed / the connection done
  | handlerStep (l : Nat) -- the handler running in loop l performs its next action
  | tick (dt : Nat)
  | close
  deriving Repr, DecidableEq

def setLoop (s : State) (l : Nat) (lp : Loop) : State :=
  { s with loops := fun i => if i = l then some lp else s.loops i }

def holds (c : Cond) (s : State) : Bool :=
  match c with
  | .acked k => s.acked.contains k
  | .delivered k => s.delivered.contains k
  | .ponged => s.ponged
  | .slotFree key limit => limit == 0 || (s.holders.filter (· == key)).length < limit

/-- is the message handled entirely by the socket reader?  A bare ACK that finds a pending message-ID continuation is
    *not*: `handleSpecialMessages` returns false for it and it travels through the queue (to be dropped by `handle`). -/
def inlineOnly (s : State) : MKind → Bool
  | .ack k => !(s.sent.contains k && !s.acked.contains k)
  | .pong => !s.udp      -- stream: a signal, handled inline; datagram: a Reset, which always travels through the queue
  | _ => false

/-- the inline part of reading a message (`handleSpecialMessages` / `handleSignals`) -/
def inlinePart (s : State) (m : Msg) : State :=
  match m.kind with
  | .ack k => { s with acked := k :: s.acked }
  | .resp k => if s.udp then { s with acked := k :: s.acked } else s
  | .pong => if s.sent.contains 0 then { s with ponged := true } else s    -- only a pending ping has a continuation
  | _ => s

/-- dispatch of a message by a loop, before any handler code: responses are handed to the waiting call -/
def dispatch (s : State) (m : Msg) : State :=
  match m.kind with
  | .resp k => if s.sent.contains k then { s with delivered := k :: s.delivered } else s
  -- a response also acknowledges its request (RFC 7252 §5.2.2, the token closure of doInternal wakes the writer)
  | .sep k => if s.sent.contains k then { s with delivered := k :: s.delivered, acked := k :: s.acked } else s
  -- a notification of an observation whose registration request is still waiting for its acknowledgement: `Conn.handle`
  -- acknowledges by the response's token before it dispatches (repair of F42; regenerated fact, false = the shape before it)
  | .note k => if s.sent.contains k then
      { s with delivered := k :: s.delivered,
               acked := if CoapVerif.Generated.WaitShape.handleAcknowledgesByToken then k :: s.acked else s.acked } else s
  | _ => s

def progOf : MKind → List Act
  | .req p => p
  | _ => []

/-- `TryToReplaceLoop` -/
def tryReplace (s : State) : State :=
  match s.loops s.current with
  | some cur =>
    if cur.reading then s
    else
      let s := setLoop s s.current { cur with doneClosed := true }
      let s := setLoop s s.nloops idleLoop
      { s with current := s.nloops, nloops := s.nloops + 1 }
  | none => s

def removeOne (x : Nat) : List Nat → List Nat
  | [] => []
  | y :: ys => if x = y then ys else y :: removeOne x ys

/-- a failed call returns at once: everything up to its `endCall` is skipped -/
def skipToEnd : List Act → List Act
  | [] => []
  | .endCall k :: rest => .endCall k :: rest
  | _ :: rest => skipToEnd rest

/-- one action of the handler running in loop l (the loop record is `lp`, with `act` at the head of its program);
    `none` = the goroutine is blocked -/
def doAct (s : State) (l : Nat) (lp : Loop) (act : Act) (rest : List Act) : Option State :=
  match act with
  | .replace => some (tryReplace (setLoop s l { lp with prog := rest }))
  | .startCall _ dur => some (setLoop s l { lp with prog := rest, deadline := s.now + dur, callStart := s.now, failed := 0, held := [] })
  | .acquire key limit =>
    if limit = 0 then some (setLoop s l { lp with prog := rest })
    else if !s.waitq.contains (key, l) then some { s with waitq := s.waitq ++ [(key, l)] }     -- takes its place in the line
    else if holds (.slotFree key limit) s && (s.waitq.find? (·.1 == key)) == some (key, l) then
      some (setLoop { s with holders := key :: s.holders, waitq := s.waitq.filter (· ≠ (key, l)) } l
        { lp with prog := rest, held := key :: lp.held })
    else if s.now ≥ lp.deadline then
      some (setLoop { s with waitq := s.waitq.filter (· ≠ (key, l)) } l { lp with prog := skipToEnd rest, failed := 1 })
    else none
  | .send k =>
    some (setLoop { s with sent := k :: s.sent, ponged := if k = 0 then false else s.ponged } l { lp with prog := rest })
  | .wait c onClose =>
    if holds c s then some (setLoop s l { lp with prog := rest })
    else if onClose && s.closed then some (setLoop s l { lp with prog := skipToEnd rest, failed := 2 })
    else if s.now ≥ lp.deadline then some (setLoop s l { lp with prog := skipToEnd rest, failed := 1 })
    else none
  | .endCall k =>
    let s := { s with holders := lp.held.foldl (fun h key => removeOne key h) s.holders,
                      sent := s.sent.filter (· ≠ k),
                      log := s.log ++ [.nested k lp.failed (s.now - lp.callStart)] }
    some (setLoop s l { lp with prog := rest, held := [], failed := 0 })
  | .release key =>
    some (setLoop { s with holders := removeOne key s.holders } l { lp with prog := rest, held := removeOne key lp.held })

def step (s : State) : Event → State
  | .feederRead =>
    match s.hand, s.inbox with
    | none, m :: rest =>
      let only := inlineOnly s m.kind
      let s := inlinePart { s with inbox := rest } m
      -- `select { case queue <- req: case <-cc.Context().Done(): }`: once the connection is closed the message is discarded
      if only || s.closed then s else { s with hand := some m, accepted := s.accepted ++ [m] }
    | _, _ => s
  | .feederPush =>
    match s.hand with
    | some m =>
      if s.closed then { s with hand := none, lost := s.lost ++ [m] }
      else if s.queue.length < s.cap then { s with queue := s.queue ++ [m], hand := none } else s
    | none => s
  | .loopTake l =>
    match s.loops l with
    | some lp =>
      if lp.pc = .atSelect then
        let take (m : Msg) (s : State) : State :=
          let s := dispatch { s with started := s.started ++ [m], log := s.log ++ [.start m.id] } m
          setLoop s l { lp with reading := false, pc := .running, cur := some m, prog := progOf m.kind }
        match s.queue with
        | m :: q => take m { s with queue := q }
        | [] =>
          match s.hand with
          | some m => take m { s with hand := none }
          | none => s
      else s
    | none => s
  | .loopExit l =>
    match s.loops l with
    | some lp => if lp.pc = .atSelect && (lp.doneClosed || s.closed) then setLoop s l { lp with pc := .exited } else s
    | none => s
  | .handlerStep l =>
    match s.loops l with
    | some lp =>
      if lp.pc = .running then
        match lp.prog with
        | [] =>
          -- ProcessReceivedMessage returned: `mutex.Lock(); readingMessages.Store(true); mutex.Unlock()`, back to select
          match lp.cur with
          | some m =>
            setLoop { s with finished := s.finished ++ [m], log := s.log ++ [.finish m.id] } l
              { lp with reading := true, pc := .atSelect, cur := none }
          | none => setLoop s l { lp with reading := true, pc := .atSelect }
        | act :: rest =>
          match doAct s l lp act rest with
          | some s' => s'
          | none => s
      else s
    | none => s
  | .tick dt => { s with now := s.now + dt }
  | .close => { s with closed := true }

def run (s : State) (evs : List Event) : State := evs.foldl step s

/-- the first blocking construct of a program is preceded (in the same program) by a replacement request -/
def waitsPreceded : List Act → Bool
  | [] => true
  | .replace :: _ => true
  | .wait _ _ :: _ => false
  | .acquire _ 0 :: rest => waitsPreceded rest       -- limit 0 = unlimited: never blocks
  | .acquire _ (_ + 1) :: _ => false
  | .startCall _ _ :: rest => waitsPreceded rest
  | .send _ :: rest => waitsPreceded rest
  | .endCall _ :: rest => waitsPreceded rest
  | .release _ :: rest => waitsPreceded rest

/-- … for every suffix that starts right after a point where the loop may have become current again: since a loop never
    becomes current again once replaced, it is enough that the *first* blocking construct is preceded. -/
def WFProg (p : List Act) : Bool := waitsPreceded p

end CoapVerif.Model.Reader
