import CoapVerif.Lemmas.RouterCompile
import CoapVerif.Lemmas.RouterSegments
import CoapVerif.Lemmas.RouterTable
import CoapVerif.Model.RouterNested
/-!
# C17 lemmas — one dispatch

The three readings of "matches" (`pathMatch`: the compiled expression; `Matches`; `SpecMatches`) agree on stored routes; the scan
over the route table returns the first of the longest matching entries; the middleware loop is a `foldr`; `serve_cases` puts
these together into what one `ServeCOAP` does — stated for `serveWithRp`, the dispatch of a message whose `RouteParams` hold
anything; `serveWith` is the case of the fresh object (`Props/C17Nested.serveWith_is_fresh`).
-/
namespace CoapVerif.Lemmas.Router
open CoapVerif.Model.Router
open CoapVerif.Spec.Router hiding byteLen

/-- "the pattern matches the entire path": `TplMatches` of the specification, along the MODEL's cut of the pattern (`parseTemplate`) -/
def Matches (pattern path : Str) : Prop :=
  ∃ parts trailing b, parseTemplate pattern = .ok (parts, trailing) ∧ TplMatches (toSegs parts trailing) path b

/-- the same read by the specification alone: `TplMatches` along its own cut of the template text (`segments`) -/
def SpecMatches (tpl path : Str) : Prop := ∃ segs b, segments tpl = .ok segs ∧ TplMatches segs path b

theorem matches_iff_spec {tpl : Str} {rx : RouteRegexp} (h : newRouteRegexp tpl = .ok rx) (path : Str) :
    Matches tpl path ↔ SpecMatches tpl path := by
  obtain ⟨parts, trailing, hp, _⟩ := newRouteRegexp_ok h
  obtain ⟨segs, hs, hse⟩ := segments_of_accepted h hp
  constructor
  · rintro ⟨parts', trailing', b, hp', hb⟩
    rw [hp] at hp'
    cases hp'
    exact ⟨segs, b, hs, (tplMatches_segsEq hse path b).2 hb⟩
  · rintro ⟨segs', b, hs', hb⟩
    rw [hs] at hs'
    cases hs'
    exact ⟨parts, trailing, b, hp, (tplMatches_segsEq hse path b).1 hb⟩

theorem pathMatch_iff {e : Str × Route} (he : RouteOK e) (path : Str) : pathMatch e.2 path = true ↔ Matches e.1 path := by
  obtain ⟨parts, trailing, hp, hrx⟩ := newRouteRegexp_ok he.2
  simp only [pathMatch, hrx, matchString_compile]
  constructor
  · rintro ⟨b, hb⟩; exact ⟨parts, trailing, b, hp, hb⟩
  · rintro ⟨parts', trailing', b, hp', hb⟩
    rw [hp] at hp'
    simp only [Except.ok.injEq, Prod.mk.injEq] at hp'
    obtain ⟨rfl, rfl⟩ := hp'
    exact ⟨b, hb⟩

/-- the scan's accumulator after the entries `seen`: nothing matched, or the first of the longest matching entries -/
def ScanInv (path : Str) (seen : List (Str × Route)) : Option (Str × Route) × Nat → Prop
  | (none, _) => ∀ x ∈ seen, pathMatch x.2 path = false
  | (some e, n) => seen.find? (fun x => pathMatch x.2 path && byteLen x.1 == n) = some e ∧
      ∀ x ∈ seen, pathMatch x.2 path = true → byteLen x.1 ≤ n

theorem scanStep_inv (path : Str) (seen : List (Str × Route)) (acc : Option (Str × Route) × Nat) (x : Str × Route)
    (h : ScanInv path seen acc) : ScanInv path (seen ++ [x]) (scanStep path acc x) := by
  obtain ⟨best, n⟩ := acc
  -- when `x` becomes the best entry no earlier entry has its length: none matched, or all were shorter
  have hnew : (∀ y ∈ seen, pathMatch y.2 path = true → byteLen y.1 < byteLen x.1) → pathMatch x.2 path = true →
      ScanInv path (seen ++ [x]) (some x, byteLen x.1) := fun hlt hm =>
    ⟨by
      have hnone : seen.find? (fun y => pathMatch y.2 path && byteLen y.1 == byteLen x.1) = none :=
        List.find?_eq_none.2 fun y hy hp => by
          rw [Bool.and_eq_true, beq_iff_eq] at hp
          exact Nat.ne_of_lt (hlt y hy hp.1) hp.2
      simp [List.find?_append, hm, hnone],
      by simpa only [List.forall_mem_append, List.forall_mem_singleton] using
        ⟨fun y hy hmy => Nat.le_of_lt (hlt y hy hmy), fun _ => Nat.le_refl _⟩⟩
  unfold scanStep
  by_cases hm : pathMatch x.2 path = true
  · rw [hm, Bool.not_true, if_neg Bool.false_ne_true]
    cases best with
    | none => rw [if_pos (.inl rfl)]; exact hnew (fun y hy hmy => by rw [h y hy] at hmy; cases hmy) hm
    | some b =>
      by_cases hg : byteLen x.1 > n
      · rw [if_pos (.inr hg)]; exact hnew (fun y hy hmy => Nat.lt_of_le_of_lt (h.2 y hy hmy) hg) hm
      · rw [if_neg (by simpa using hg)]
        exact ⟨by simp [List.find?_append, h.1], by
          simpa only [List.forall_mem_append, List.forall_mem_singleton] using ⟨h.2, fun _ => Nat.le_of_not_gt hg⟩⟩
  · have hm' : pathMatch x.2 path = false := by simpa using hm
    rw [hm', Bool.not_false, if_pos rfl]
    cases best with
    | none => simpa only [ScanInv, List.forall_mem_append, List.forall_mem_singleton] using ⟨h, hm'⟩
    | some b =>
      exact ⟨by simp [List.find?_append, h.1], by
        simpa only [List.forall_mem_append, List.forall_mem_singleton, hm', Bool.false_eq_true, false_imp_iff, and_true] using h.2⟩

theorem foldl_scan_inv (path : Str) : ∀ (rest seen : List (Str × Route)) (acc : Option (Str × Route) × Nat),
    ScanInv path seen acc → ScanInv path (seen ++ rest) (rest.foldl (scanStep path) acc)
  | [], seen, acc, h => by simpa using h
  | x :: rest, seen, acc, h => by
    have := foldl_scan_inv path rest (seen ++ [x]) (scanStep path acc x) (scanStep_inv path seen acc x h)
    simpa [List.append_assoc] using this

theorem scan_first_longest (order : List (Str × Route)) (path : Str) :
    match scan order path with
    | none => ∀ x ∈ order, pathMatch x.2 path = false
    | some e => order.find? (fun x => pathMatch x.2 path && byteLen x.1 == byteLen e.1) = some e ∧
        ∀ x ∈ order, pathMatch x.2 path = true → byteLen x.1 ≤ byteLen e.1 := by
  have := foldl_scan_inv path order [] (none, 0) (fun _ h => by cases h)
  rw [List.nil_append] at this
  unfold scan
  generalize order.foldl (scanStep path) (none, 0) = r at this
  obtain ⟨best, n⟩ := r
  cases best with
  | none => exact this
  | some e =>
    have hn := List.find?_some this.1
    rw [Bool.and_eq_true, beq_iff_eq] at hn
    exact hn.2 ▸ this

theorem scan_head_wins (e : Str × Route) (rest : List (Str × Route)) (path : Str)
    (hm : pathMatch e.2 path = true)
    (hmax : ∀ e' ∈ rest, pathMatch e'.2 path = true → byteLen e'.1 ≤ byteLen e.1) :
    scan (e :: rest) path = some e := by
  have := scan_first_longest (e :: rest) path
  split at this
  · rw [this e (List.mem_cons_self ..)] at hm; cases hm
  · rename_i e' heq
    obtain ⟨hf, hn⟩ := this
    have hp := List.find?_some hf
    rw [Bool.and_eq_true] at hp
    -- `e` has the greatest length too, so the search for the first entry of that length stops at it
    have hen : byteLen e.1 = byteLen e'.1 := Nat.le_antisymm (hn e (List.mem_cons_self ..) hm) (by
      rcases List.mem_cons.1 (List.mem_of_find?_eq_some hf) with rfl | he'
      · exact Nat.le_refl _
      · exact hmax e' he' hp.1)
    rw [List.find?_cons_of_pos (by simp [hm, hen])] at hf
    rw [heq, hf]

theorem wrapLoopG_eq {M H : Type} (apply : M → H → H) : ∀ (l : List M) (h : H),
    wrapLoopG apply l h = l.reverse.foldr apply h
  | [], h => rfl
  | m :: before, h => by
    simp only [wrapLoopG, List.reverse_cons, List.foldr_append, List.foldr_cons, List.foldr_nil]
    exact wrapLoopG_eq apply before (apply m h)

theorem foldr_applyMw_ok : ∀ (mws : List String) (evs : List Ev),
    mws.foldr applyMw ⟨evs, false⟩ = ⟨mws.map Ev.enter ++ evs ++ mws.reverse.map Ev.exit, false⟩
  | [], evs => by simp
  | m :: t, evs => by
    simp only [List.foldr_cons, foldr_applyMw_ok t evs, applyMw]
    simp

theorem foldr_applyMw_panic : ∀ (mws : List String) (evs : List Ev),
    mws.foldr applyMw ⟨evs, true⟩ = ⟨mws.map Ev.enter ++ evs, true⟩
  | [], evs => by simp
  | m :: t, evs => by
    simp only [List.foldr_cons, foldr_applyMw_panic t evs, applyMw]
    simp

/-- One `ServeCOAP` runs the entry `e` of the table `z`, whose pattern is cut into `parts`, `trailing` and decomposes the path
    as `b` (so it matches: `cut`, `chosen.1`): it is at least as long as every matching entry, and the handler sees `Path`,
    `PathTemplate` and the preferred decomposition written over the object, whatever the message's `RouteParams` held. -/
structure RouteRuns (mws : List String) (dflt : Option Handler) (z order : List (Str × Route)) (path : Option Str)
    (e : Str × Route) (parts : List CPart) (trailing : Str) (b : List (Str × Str)) : Prop where
  mem : e ∈ z
  longest : ∀ e' ∈ z, Matches e'.1 (filterPath (path.getD [])) → byteLen e'.1 ≤ byteLen e.1
  cut : parseTemplate e.1 = .ok (parts, trailing)
  chosen : Chosen (toSegs parts trailing) (filterPath (path.getD [])) b
  out : ∀ rp, serveWithRp mws dflt order path rp =
    .invoked e.2.h (some e.1) ⟨filterPath (path.getD []), some (bindAll b (rp.vars.getD [])), e.1⟩ (mws.foldr applyMw e.2.h.run)

/-- What one `ServeCOAP` does, for a table `z` whose routes were compiled from their keys, ranged over in the order `order`:
    either some entry runs, or none matches and the default handler (if any) sees the object untouched. -/
theorem serve_cases (mws : List String) (dflt : Option Handler) {z order : List (Str × Route)}
    (hz : ∀ e ∈ z, RouteOK e) (hperm : order.Perm z) (path : Option Str) :
    (∃ e parts trailing b, RouteRuns mws dflt z order path e parts trailing b) ∨
    ((∀ e ∈ z, ¬ Matches e.1 (filterPath (path.getD []))) ∧
        ∀ rp, serveWithRp mws dflt order path rp =
          (match dflt with
           | none => .nothing
           | some h => .invoked h none rp (mws.foldr applyMw h.run))) := by
  have hmem : ∀ e, e ∈ order ↔ e ∈ z := fun e => hperm.mem_iff
  have hpm : ∀ e ∈ z, (pathMatch e.2 _ = true ↔ Matches e.1 _) := fun e he => pathMatch_iff (hz e he) (filterPath (path.getD []))
  have hsc := scan_first_longest order (filterPath (path.getD []))
  cases hs : scan order (filterPath (path.getD [])) with
  | none =>
    rw [hs] at hsc
    refine .inr ⟨fun e he hm => ?_, fun rp => ?_⟩
    · have := hsc e ((hmem e).2 he)
      rw [(hpm e he).2 hm] at this
      cases this
    · simp only [serveWithRp, matchRoute, hs, wrapLoop, wrapLoopG_eq, List.reverse_reverse]
      cases dflt <;> rfl
  | some e =>
    rw [hs] at hsc
    have he := (hmem e).1 (List.mem_of_find?_eq_some hsc.1)
    have hme := List.find?_some hsc.1
    rw [Bool.and_eq_true] at hme
    obtain ⟨parts, trailing, hp, hrx⟩ := newRouteRegexp_ok (hz e he).2
    obtain ⟨b, hb, _, hex⟩ := extractRouteParams_chosen parts trailing e.1 _ (by simpa [pathMatch, hrx] using hme.1)
    refine .inl ⟨e, parts, trailing, b,
      { mem := he, longest := fun e' he' hm => hsc.2 e' ((hmem e').2 he') ((hpm e' he').2 hm),
        cut := hp, chosen := hb, out := fun rp => ?_ }⟩
    simp only [serveWithRp, matchRoute, hs, hrx, hex, bind, Except.bind, pure, Except.pure, Option.map_some, wrapLoop,
      wrapLoopG_eq, List.reverse_reverse, Option.getD_some]

end CoapVerif.Lemmas.Router
