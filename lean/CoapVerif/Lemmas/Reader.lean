import CoapVerif.Model.Reader
/-! The reader model (`Model/Reader.lean`) for `Props/C11.lean`.  What one action and one event can do (`doAct_cases`,
`step_cases`: up to a `Frame`), and that the head of a well-formed program never blocks (`doAct_ready`).  Then, in this order:
(Q) queue discipline; (C) the one current loop; (W) handlers whose first blocking construct is preceded by a replacement request,
and on (C) and (W) the progress argument (`advance`, `distToSelect`, `head_taken`): the current loop alone takes the oldest waiting
message; (A) the accounting of taken messages across loop replacement, through `KeepsHeld`.  Last, for `Props/C11NStart.lean`, what
the socket reader's step does when an acknowledgement is next on the wire (`feederRead_ack`).
`Loop.cur` is the message a loop holds; the fields `InvC.cur` and `InvW.cur` speak of the current loop. -/
namespace CoapVerif.Lemmas.Reader
open CoapVerif.Model.Reader

/-- the part of the state that tells where every accepted message is -/
structure QView where
  accepted : List Msg
  started : List Msg
  queue : List Msg
  hand : Option Msg
  lost : List Msg
  inbox : List Msg
  closed : Bool
  deriving DecidableEq

def qview (s : State) : QView := ⟨s.accepted, s.started, s.queue, s.hand, s.lost, s.inbox, s.closed⟩

theorem setLoop_qview (s : State) (l : Nat) (lp : Loop) : qview (setLoop s l lp) = qview s := rfl

/-- `qview s' = qview s` in the form `rw` takes: one equation per field, between fields of the states -/
structure SameQView (s' s : State) : Prop where
  accepted : s'.accepted = s.accepted
  started : s'.started = s.started
  queue : s'.queue = s.queue
  hand : s'.hand = s.hand
  lost : s'.lost = s.lost
  inbox : s'.inbox = s.inbox
  closed : s'.closed = s.closed

theorem qview_inj {s s' : State} (h : qview s' = qview s) : SameQView s' s :=
  ⟨congrArg QView.accepted h, congrArg QView.started h, congrArg QView.queue h, congrArg QView.hand h, congrArg QView.lost h,
    congrArg QView.inbox h, congrArg QView.closed h⟩

/-- `s'` is `s` but for what no invariant looks at: the bookkeeping of exchanges and limiter slots, the clock, the log -/
structure Frame (s' s : State) : Prop where
  loops : s'.loops = s.loops
  current : s'.current = s.current
  nloops : s'.nloops = s.nloops
  finished : s'.finished = s.finished
  qview : qview s' = qview s

theorem loops_setLoop {s : State} {l i : Nat} {lp x : Loop} (h : (setLoop s l lp).loops i = some x) :
    (i = l ∧ lp = x) ∨ (i ≠ l ∧ s.loops i = some x) := by
  by_cases e : i = l
  · simp only [setLoop, e, if_true, Option.some.injEq] at h; exact Or.inl ⟨e, h⟩
  · simp only [setLoop, e, if_false] at h; exact Or.inr ⟨e, h⟩

theorem setLoop_self (s : State) (l : Nat) (lp : Loop) : (setLoop s l lp).loops l = some lp := if_pos rfl

theorem setLoop_ne (s : State) {l i : Nat} (lp : Loop) (h : i ≠ l) : (setLoop s l lp).loops i = s.loops i := if_neg h

theorem setLoop_same {s : State} {l : Nat} {lp : Loop} (h : s.loops l = some lp) : (setLoop s l lp).loops = s.loops :=
  funext fun i => if e : i = l then (if_pos e).trans (e ▸ h).symm else if_neg e

theorem init_loops {cap : Nat} {udp : Bool} {inbox : List Msg} {l : Nat} {lp : Loop}
    (h : (init cap udp inbox).loops l = some lp) : l = 0 ∧ lp = idleLoop := by
  by_cases e : l = 0
  · exact ⟨e, (Option.some.inj ((if_pos e).symm.trans h)).symm⟩
  · exact absurd ((if_neg e).symm.trans h) (Option.some_ne_none lp).symm

theorem tryReplace_reading (s : State) (cur : Loop) (hcur : s.loops s.current = some cur) (hr : cur.reading = true) :
    tryReplace s = s := by
  unfold tryReplace; rw [hcur]; simp [hr]

theorem tryReplace_busy (s : State) (cur : Loop) (hcur : s.loops s.current = some cur) (hr : cur.reading = false) :
    tryReplace s = { setLoop (setLoop s s.current { cur with doneClosed := true }) s.nloops idleLoop with
      current := s.nloops, nloops := s.nloops + 1 } := by
  unfold tryReplace; rw [hcur]; dsimp only; rw [hr]; rfl

theorem tryReplace_qview_finished (s : State) : qview (tryReplace s) = qview s ∧ (tryReplace s).finished = s.finished := by
  cases hcur : s.loops s.current with
  | none => unfold tryReplace; rw [hcur]; exact ⟨rfl, rfl⟩
  | some cur =>
    cases hr : cur.reading
    · rw [tryReplace_busy s cur hcur hr]; exact ⟨by dsimp only [qview, setLoop], by dsimp only [setLoop]⟩
    · rw [tryReplace_reading s cur hcur hr]; exact ⟨rfl, rfl⟩

/-- the fields of a loop record that (C) and (W) look at; `cur`, which only (A) looks at, is a conjunct of its own in
    `doAct_cases` -/
def CoreEq (lp lp' : Loop) : Prop := lp'.doneClosed = lp.doneClosed ∧ lp'.reading = lp.reading ∧ lp'.pc = lp.pc

/-- what a non-`replace` action does to what the invariants look at: it puts in the place of loop `l`'s record one that keeps its
    place in the replacement protocol and its message -/
theorem doAct_cases (s : State) (l : Nat) (lp : Loop) (act : Act) (rest : List Act) (s' : State) (hl : s.loops l = some lp)
    (h : doAct s l lp act rest = some s') (hnr : act ≠ .replace) :
    ∃ lp', Frame s' (setLoop s l lp') ∧ CoreEq lp lp' ∧ lp'.cur = lp.cur := by
  cases act with
  | replace => exact absurd rfl hnr
  | acquire key limit =>
    unfold doAct at h
    dsimp only at h
    by_cases h0 : limit = 0
    · rw [if_pos h0] at h; cases h; exact ⟨_, ⟨rfl, rfl, rfl, rfl, rfl⟩, ⟨rfl, rfl, rfl⟩, rfl⟩
    rw [if_neg h0] at h
    by_cases h1 : (!s.waitq.contains (key, l)) = true
    · -- it takes its place in the line: no loop changes
      rw [if_pos h1] at h; cases h; exact ⟨lp, ⟨(setLoop_same hl).symm, rfl, rfl, rfl, rfl⟩, ⟨rfl, rfl, rfl⟩, rfl⟩
    rw [if_neg h1] at h
    by_cases h2 : (holds (.slotFree key limit) s && (s.waitq.find? (·.1 == key)) == some (key, l)) = true
    · rw [if_pos h2] at h; cases h; exact ⟨_, ⟨rfl, rfl, rfl, rfl, rfl⟩, ⟨rfl, rfl, rfl⟩, rfl⟩
    rw [if_neg h2] at h
    by_cases h3 : s.now ≥ lp.deadline
    · rw [if_pos h3] at h; cases h; exact ⟨_, ⟨rfl, rfl, rfl, rfl, rfl⟩, ⟨rfl, rfl, rfl⟩, rfl⟩
    · rw [if_neg h3] at h; cases h
  | wait c onClose =>
    unfold doAct at h
    dsimp only at h
    by_cases h0 : holds c s = true
    · rw [if_pos h0] at h; cases h; exact ⟨_, ⟨rfl, rfl, rfl, rfl, rfl⟩, ⟨rfl, rfl, rfl⟩, rfl⟩
    rw [if_neg h0] at h
    by_cases h1 : (onClose && s.closed) = true
    · rw [if_pos h1] at h; cases h; exact ⟨_, ⟨rfl, rfl, rfl, rfl, rfl⟩, ⟨rfl, rfl, rfl⟩, rfl⟩
    rw [if_neg h1] at h
    by_cases h2 : s.now ≥ lp.deadline
    · rw [if_pos h2] at h; cases h; exact ⟨_, ⟨rfl, rfl, rfl, rfl, rfl⟩, ⟨rfl, rfl, rfl⟩, rfl⟩
    · rw [if_neg h2] at h; cases h
  | _ => cases h; exact ⟨_, ⟨rfl, rfl, rfl, rfl, rfl⟩, ⟨rfl, rfl, rfl⟩, rfl⟩

/-- The head of a well-formed program, unless it asks for a replacement, is no blocking construct: the action is taken at once,
    changes the record of loop `l` and (in `s0`) the bookkeeping of exchanges and limiter slots, nothing else, and the handler
    goes on with `rest`, which is well-formed. -/
theorem doAct_ready (s : State) (l : Nat) (lp : Loop) {act : Act} {rest : List Act} (h : waitsPreceded (act :: rest) = true)
    (hnr : act ≠ .replace) :
    waitsPreceded rest = true ∧
      ∃ s0 lp', doAct s l lp act rest = some (setLoop s0 l lp') ∧ Frame s0 s ∧ lp'.prog = rest ∧ lp'.pc = lp.pc := by
  cases act with
  | replace => exact absurd rfl hnr
  | wait c b => cases h
  | acquire key limit =>
    cases limit with
    | zero => exact ⟨h, s, { lp with prog := rest }, by simp [doAct], ⟨rfl, rfl, rfl, rfl, rfl⟩, rfl, rfl⟩
    | succ n => cases h
  | startCall k d => exact ⟨h, s, _, rfl, ⟨rfl, rfl, rfl, rfl, rfl⟩, rfl, rfl⟩
  | send k => exact ⟨h, _, _, rfl, ⟨rfl, rfl, rfl, rfl, rfl⟩, rfl, rfl⟩
  | endCall k => exact ⟨h, _, _, rfl, ⟨rfl, rfl, rfl, rfl, rfl⟩, rfl, rfl⟩
  | release key => exact ⟨h, _, _, rfl, ⟨rfl, rfl, rfl, rfl, rfl⟩, rfl, rfl⟩

theorem doAct_qview (s : State) (l : Nat) (lp : Loop) (act : Act) (rest : List Act) (s' : State) (hl : s.loops l = some lp)
    (h : doAct s l lp act rest = some s') : qview s' = qview s := by
  by_cases hrep : act = .replace
  · subst hrep; cases h; exact (tryReplace_qview_finished _).1
  · obtain ⟨_, f, _⟩ := doAct_cases s l lp act rest s' hl h hrep
    exact f.qview

theorem dispatch_frame (s : State) (m : Msg) : Frame (dispatch s m) s := by
  unfold dispatch
  split <;> (try split) <;> exact ⟨rfl, rfl, rfl, rfl, rfl⟩

theorem inlinePart_frame (s : State) (m : Msg) : Frame (inlinePart s m) s := by
  unfold inlinePart
  split <;> (try split) <;> exact ⟨rfl, rfl, rfl, rfl, rfl⟩

/-- the states one event can lead to; of what the inline part and the dispatch do to the bookkeeping of exchanges (`s1`) only
    the frame is told; `take`: `q`, `h` are what is left of the queue and the hand -/
theorem step_cases {P : State → Prop} (s : State) (ev : Event) (stay : P s)
    (read : ∀ m rest s1, s.hand = none → s.inbox = m :: rest → Frame s1 { s with inbox := rest } →
      P s1 ∧ (s1.closed = false → P { s1 with hand := some m, accepted := s1.accepted ++ [m] }))
    (push : ∀ m, s.hand = some m →
      (s.closed = true → P { s with hand := none, lost := s.lost ++ [m] }) ∧
      (s.closed = false → s.queue.length < s.cap → P { s with queue := s.queue ++ [m], hand := none }))
    (take : ∀ l lp m q h s1, s.loops l = some lp → lp.pc = .atSelect →
      (s.queue = m :: q ∧ s.hand = h) ∨ (s.queue = [] ∧ q = [] ∧ s.hand = some m ∧ h = none) →
      Frame s1 { s with queue := q, hand := h, started := s.started ++ [m], log := s.log ++ [.start m.id] } →
      P (setLoop s1 l { lp with reading := false, pc := .running, cur := some m, prog := progOf m.kind }))
    (exit : ∀ l lp, s.loops l = some lp → lp.pc = .atSelect → (lp.doneClosed || s.closed) = true →
      P (setLoop s l { lp with pc := .exited }))
    (ret : ∀ l lp, s.loops l = some lp → lp.pc = .running → lp.prog = [] →
      (∀ m, lp.cur = some m → P (setLoop { s with finished := s.finished ++ [m], log := s.log ++ [.finish m.id] } l
        { lp with reading := true, pc := .atSelect, cur := none })) ∧
      (lp.cur = none → P (setLoop s l { lp with reading := true, pc := .atSelect })))
    (act : ∀ l lp a rest s', s.loops l = some lp → lp.pc = .running → lp.prog = a :: rest →
      doAct s l lp a rest = some s' → P s')
    (tick : ∀ dt, P { s with now := s.now + dt })
    (close : P { s with closed := true }) : P (step s ev) := by
  cases ev with
  | feederRead =>
    rw [step]
    split
    · rename_i m rest hh hi
      dsimp only
      obtain ⟨h1, h2⟩ := read m rest _ hh hi (inlinePart_frame { s with inbox := rest } m)
      split
      · exact h1
      · rename_i hc
        exact h2 (Bool.eq_false_iff.mpr fun h => hc (by rw [h, Bool.or_true]))
    · exact stay
  | feederPush =>
    rw [step]
    split
    · rename_i m hh
      by_cases hc : s.closed = true
      · rw [if_pos hc]; exact (push m hh).1 hc
      · rw [if_neg hc]
        split
        · rename_i hq; exact (push m hh).2 (by simpa using hc) hq
        · exact stay
    · exact stay
  | loopTake l =>
    rw [step]
    split
    · rename_i lp hl
      split
      · rename_i hpc
        dsimp only
        split
        · rename_i m q hq
          exact take l lp m q s.hand _ hl hpc (Or.inl ⟨hq, rfl⟩) (dispatch_frame _ m)
        · rename_i hq
          split
          · rename_i m hh
            exact take l lp m s.queue none _ hl hpc (Or.inr ⟨hq, hq, hh, rfl⟩) (dispatch_frame _ m)
          · exact stay
      · exact stay
    · exact stay
  | loopExit l =>
    rw [step]
    split
    · rename_i lp hl
      split
      · rename_i hc
        simp only [Bool.and_eq_true, decide_eq_true_eq] at hc
        exact exit l lp hl hc.1 hc.2
      · exact stay
    · exact stay
  | handlerStep l =>
    rw [step]
    split
    · rename_i lp hl
      split
      · rename_i hpc
        split
        · rename_i hp
          split
          · rename_i m hm; exact (ret l lp hl hpc hp).1 m hm
          · rename_i hm; exact (ret l lp hl hpc hp).2 hm
        · rename_i a rest hp
          split
          · rename_i s' hs'; exact act l lp a rest s' hl hpc hp hs'
          · exact stay
      · exact stay
    · exact stay
  | tick dt => exact tick dt
  | close => exact close

/-- (Q) every accepted message is in exactly one stage, and the stages are in arrival order -/
structure InvQ (s : State) : Prop where
  fifo : s.accepted = s.started ++ s.queue ++ s.hand.toList ++ s.lost
  lostClosed : s.lost ≠ [] → s.closed = true ∧ s.hand = none
  wire : (s.accepted ++ s.inbox).Nodup

theorem invQ_of_qview (s s' : State) (h : qview s' = qview s) (inv : InvQ s) : InvQ s' := by
  have q := qview_inj h
  constructor
  · rw [q.accepted, q.started, q.queue, q.hand, q.lost]; exact inv.fifo
  · rw [q.lost, q.closed, q.hand]; exact inv.lostClosed
  · rw [q.accepted, q.inbox]; exact inv.wire

theorem InvQ.lost_nil {s : State} (inv : InvQ s) (h : s.closed = false ∨ ∃ m, s.hand = some m) : s.lost = [] := by
  cases hl : s.lost with
  | nil => rfl
  | cons x xs =>
    obtain ⟨h1, h2⟩ := inv.lostClosed (by rw [hl]; exact List.cons_ne_nil x xs)
    rcases h with h | ⟨m, h⟩
    · rw [h1] at h; cases h
    · rw [h2] at h; cases h

theorem invQ_step (s : State) (ev : Event) (inv : InvQ s) : InvQ (step s ev) := by
  have frame : ∀ s', qview s' = qview s → InvQ s' := fun s' h => invQ_of_qview s s' h inv
  apply step_cases s ev
  case stay => exact inv
  case read =>
    intro m rest s1 hh hi f
    have q := qview_inj f.qview
    have wire := inv.wire
    rw [hi] at wire
    constructor
    · -- handled inline or discarded: it leaves the wire
      exact invQ_of_qview { s with inbox := rest } s1 f.qview
        ⟨inv.fifo, inv.lostClosed, wire.sublist ((List.sublist_cons_self m rest).append_left _)⟩
    · intro hc
      have hlost : s.lost = [] := inv.lost_nil (Or.inl (q.closed.symm.trans hc))
      constructor
      · dsimp only
        rw [q.accepted, q.started, q.queue, q.lost, inv.fifo, hh, hlost]
        simp
      · dsimp only; rw [q.lost]; intro hne; exact absurd hlost hne
      · dsimp only
        rw [q.accepted, q.inbox, List.append_assoc]; exact wire
  case push =>
    intro m hh
    have hlost : s.lost = [] := inv.lost_nil (Or.inr ⟨m, hh⟩)
    constructor
    · intro hc
      constructor
      · dsimp only
        rw [inv.fifo, hh, hlost]; simp
      · intro _; exact ⟨hc, rfl⟩
      · exact inv.wire
    · intro _ _
      constructor
      · dsimp only
        rw [inv.fifo, hh, hlost]; simp
      · dsimp only; intro hne; exact absurd hlost hne
      · exact inv.wire
  case take =>
    intro l lp m q h s1 _ _ hm f
    refine invQ_of_qview _ _ f.qview ?_
    rcases hm with ⟨hq, rfl⟩ | ⟨hq, rfl, hh, rfl⟩
    · constructor
      · dsimp only; rw [inv.fifo, hq]; simp
      · exact inv.lostClosed
      · exact inv.wire
    · constructor
      · dsimp only; rw [inv.fifo, hq, hh]; simp
      · intro hne; exact ⟨(inv.lostClosed hne).1, rfl⟩
      · exact inv.wire
  case exit => exact fun _ _ _ _ _ => frame _ rfl
  case ret => exact fun _ _ _ _ _ => ⟨fun _ _ => frame _ rfl, fun _ => frame _ rfl⟩
  case act => exact fun l lp a rest s' hl _ _ h => frame s' (doAct_qview s l lp a rest s' hl h)
  case tick => exact fun _ => frame _ rfl
  case close =>
    constructor
    · exact inv.fifo
    · intro hne; exact ⟨rfl, (inv.lostClosed hne).2⟩
    · exact inv.wire

theorem invQ_init (cap : Nat) (udp : Bool) (inbox : List Msg) (hnd : inbox.Nodup) : InvQ (init cap udp inbox) := by
  constructor
  · simp [init]
  · intro h; simp [init] at h
  · simpa [init] using hnd

theorem invQ_run (s : State) (evs : List Event) (inv : InvQ s) : InvQ (run s evs) :=
  List.foldlRecOn evs step inv fun s h e _ => invQ_step s e h

/-- (C) exactly one loop — the current one — has an open `loopDone`; `readingMessages` is false exactly while a
    message is processed; loop identifiers are allocated in order -/
structure InvC (s : State) : Prop where
  cur : ∃ lp, s.loops s.current = some lp ∧ lp.doneClosed = false
  others : ∀ l lp, s.loops l = some lp → l ≠ s.current → lp.doneClosed = true
  fresh : ∀ l, l ≥ s.nloops → s.loops l = none
  lt : s.current < s.nloops
  flag : ∀ l lp, s.loops l = some lp → (lp.reading = false ↔ lp.pc = .running)

theorem invC_congr (s s' : State) (h1 : s'.loops = s.loops) (h2 : s'.current = s.current) (h3 : s'.nloops = s.nloops)
    (inv : InvC s) : InvC s' := by
  constructor
  · rw [h1, h2]; exact inv.cur
  · rw [h1, h2]; exact inv.others
  · rw [h1, h3]; exact inv.fresh
  · rw [h2, h3]; exact inv.lt
  · rw [h1]; exact inv.flag

theorem invC_setLoop (s : State) (l : Nat) (lp lp' : Loop) (hl : s.loops l = some lp)
    (hd : lp'.doneClosed = lp.doneClosed) (hf : lp'.reading = false ↔ lp'.pc = .running) (inv : InvC s) :
    InvC (setLoop s l lp') := by
  constructor
  · obtain ⟨c, hc1, hc2⟩ := inv.cur
    show ∃ x, (setLoop s l lp').loops s.current = some x ∧ _
    by_cases h : s.current = l
    · rw [h, hl] at hc1; cases hc1
      exact ⟨lp', h ▸ setLoop_self s l lp', hd.trans hc2⟩
    · exact ⟨c, (setLoop_ne s lp' h).trans hc1, hc2⟩
  · intro i li hi hne
    rcases loops_setLoop hi with ⟨e, rfl⟩ | ⟨_, hi⟩
    · rw [hd]; exact inv.others i lp (e ▸ hl) hne
    · exact inv.others i li hi hne
  · intro i hi
    have hil : i ≠ l := fun e => by have := inv.fresh i hi; rw [e, hl] at this; cases this
    exact (setLoop_ne s lp' hil).trans (inv.fresh i hi)
  · exact inv.lt
  · intro i li hi
    rcases loops_setLoop hi with ⟨_, rfl⟩ | ⟨_, hi⟩
    · exact hf
    · exact inv.flag i li hi

theorem invC_tryReplace (s : State) (inv : InvC s) : InvC (tryReplace s) := by
  obtain ⟨cur, hcur, _⟩ := inv.cur
  cases hr : cur.reading
  · rw [tryReplace_busy s cur hcur hr]
    have hlt := inv.lt
    constructor
    · exact ⟨idleLoop, setLoop_self _ _ _, rfl⟩
    · intro i li hi hne
      rcases loops_setLoop hi with ⟨e, _⟩ | ⟨_, hi⟩
      · exact absurd e hne
      · rcases loops_setLoop hi with ⟨_, rfl⟩ | ⟨h2, hi⟩
        · rfl
        · exact inv.others i li hi h2
    · intro i hi
      have hi : i ≥ s.nloops + 1 := hi
      exact (setLoop_ne _ _ (by omega)).trans ((setLoop_ne _ _ (by omega)).trans (inv.fresh i (by omega)))
    · exact Nat.lt_succ_self _
    · intro i li hi
      rcases loops_setLoop hi with ⟨_, rfl⟩ | ⟨_, hi⟩
      · simp [idleLoop]
      · rcases loops_setLoop hi with ⟨_, rfl⟩ | ⟨_, hi⟩
        · exact inv.flag s.current cur hcur
        · exact inv.flag i li hi
  · rw [tryReplace_reading s cur hcur hr]; exact inv

theorem doAct_invC (s : State) (l : Nat) (lp : Loop) (act : Act) (rest : List Act) (s' : State)
    (hl : s.loops l = some lp) (h : doAct s l lp act rest = some s') (inv : InvC s) : InvC s' := by
  by_cases hrep : act = .replace
  · subst hrep; cases h
    exact invC_tryReplace _ (invC_setLoop s l lp _ hl rfl (inv.flag l lp hl) inv)
  · obtain ⟨lp', f, ⟨hdone, hreading, hpc⟩, _⟩ := doAct_cases s l lp act rest s' hl h hrep
    exact invC_congr (setLoop s l lp') s' f.loops f.current f.nloops
      (invC_setLoop s l lp lp' hl hdone (by rw [hreading, hpc]; exact inv.flag l lp hl) inv)

theorem invC_step (s : State) (ev : Event) (inv : InvC s) : InvC (step s ev) := by
  have frame : ∀ s', s'.loops = s.loops → s'.current = s.current → s'.nloops = s.nloops → InvC s' :=
    fun s' a b c => invC_congr s s' a b c inv
  apply step_cases s ev
  case stay => exact inv
  case read => exact fun m rest s1 _ _ f => ⟨frame _ f.loops f.current f.nloops, fun _ => frame _ f.loops f.current f.nloops⟩
  case push => exact fun _ _ => ⟨fun _ => frame _ rfl rfl rfl, fun _ _ => frame _ rfl rfl rfl⟩
  case take =>
    intro l lp m q h s1 hl _ _ f
    exact invC_setLoop s1 l lp _ (f.loops ▸ hl) rfl (by simp) (frame _ f.loops f.current f.nloops)
  case exit =>
    intro l lp hl hpc _
    have hr : lp.reading = true := by
      cases hrd : lp.reading
      · have := (inv.flag l lp hl).1 hrd; rw [hpc] at this; cases this
      · rfl
    exact invC_setLoop s l lp { lp with pc := .exited } hl rfl (by simp [hr]) inv
  case ret =>
    intro l lp hl _ _
    constructor
    · intro m _
      exact invC_setLoop { s with finished := s.finished ++ [m], log := s.log ++ [.finish m.id] } l lp
        { lp with reading := true, pc := .atSelect, cur := none } hl rfl (by simp) (frame _ rfl rfl rfl)
    · intro _
      exact invC_setLoop s l lp { lp with reading := true, pc := .atSelect } hl rfl (by simp) inv
  case act => exact fun l lp a rest s' hl _ _ h => doAct_invC s l lp a rest s' hl h inv
  case tick => exact fun _ => frame _ rfl rfl rfl
  case close => exact frame _ rfl rfl rfl

theorem invC_init (cap : Nat) (udp : Bool) (inbox : List Msg) : InvC (init cap udp inbox) := by
  constructor
  · exact ⟨idleLoop, rfl, rfl⟩
  · intro l lp hl hne
    exact absurd (init_loops hl).1 hne
  · intro l hl
    exact if_neg (Nat.ne_of_gt hl)
  · exact Nat.zero_lt_one
  · intro l lp hl
    rw [(init_loops hl).2]; simp [idleLoop]

theorem invC_run (s : State) (evs : List Event) (inv : InvC s) : InvC (run s evs) :=
  List.foldlRecOn evs step inv fun s h e _ => invC_step s e h

/-- messages waiting to be taken, oldest first -/
def waiting (s : State) : List Msg := s.queue ++ s.hand.toList

/-- (W) every request still to be dispatched has a well-formed handler; the current loop, while it runs a handler, has
    not yet passed a blocking construct without asking for a replacement first; it has exited only if the connection
    is closed -/
structure InvW (s : State) : Prop where
  msgs : ∀ m ∈ s.inbox ++ waiting s, waitsPreceded (progOf m.kind) = true
  cur : ∀ lp, s.loops s.current = some lp → lp.pc = .running → waitsPreceded lp.prog = true
  alive : ∀ lp, s.loops s.current = some lp → lp.pc = .exited → s.closed = true

theorem invW_congr (s : State) {s' : State} (h1 : s'.loops = s.loops) (h2 : s'.current = s.current) (h3 : s'.closed = s.closed)
    (hm : ∀ x ∈ s'.inbox ++ waiting s', x ∈ s.inbox ++ waiting s) (inv : InvW s) : InvW s' :=
  ⟨fun x hx => inv.msgs x (hm x hx), by rw [h1, h2]; exact inv.cur, by rw [h1, h2, h3]; exact inv.alive⟩

theorem invW_setLoop {s : State} {l : Nat} {lp' : Loop} (hrun : s.current = l → lp'.pc = .running → waitsPreceded lp'.prog = true)
    (hex : s.current = l → lp'.pc = .exited → s.closed = true) (inv : InvW s) : InvW (setLoop s l lp') := by
  refine ⟨inv.msgs, ?_, ?_⟩
  · intro lp hlp hr
    rcases loops_setLoop hlp with ⟨e, rfl⟩ | ⟨_, hlp⟩
    · exact hrun e hr
    · exact inv.cur lp hlp hr
  · intro lp hlp hx
    rcases loops_setLoop hlp with ⟨e, rfl⟩ | ⟨_, hlp⟩
    · exact hex e hx
    · exact inv.alive lp hlp hx

theorem invW_step (s : State) (ev : Event) (ic : InvC s) (inv : InvW s) : InvW (step s ev) := by
  obtain ⟨clp, hclp, hcd⟩ := ic.cur
  apply step_cases s ev
  case stay => exact inv
  case read =>
    intro m rest s1 hh hi f
    have q := qview_inj f.qview
    constructor
    · refine invW_congr s f.loops f.current q.closed ?_ inv
      intro x hx
      simp only [waiting, q.queue, q.hand, q.inbox, hi, List.mem_append, List.mem_cons] at hx ⊢
      exact hx.imp Or.inr id
    · intro _
      refine invW_congr s f.loops f.current q.closed ?_ inv
      intro x hx
      simp only [waiting, q.queue, q.inbox, hi, hh, Option.toList, List.mem_append, List.mem_cons, List.append_nil,
        List.not_mem_nil, or_false] at hx ⊢
      rcases hx with h | h | h <;> simp [h]
  case push =>
    intro m hh
    constructor
    · intro _
      refine invW_congr s rfl rfl rfl ?_ inv
      intro x hx
      simp only [waiting, hh, Option.toList, List.append_nil, List.mem_append] at hx ⊢
      rcases hx with h | h <;> simp [h]
    · intro _ _
      refine invW_congr s rfl rfl rfl ?_ inv
      intro x hx
      simpa only [waiting, hh, Option.toList, List.append_nil] using hx
  case take =>
    intro l lp m q h s1 hl _ hm f
    -- the taken message was waiting: its handler is well-formed
    have e : waiting s = m :: (q ++ h.toList) := by
      rcases hm with ⟨hq, rfl⟩ | ⟨hq, rfl, hh, rfl⟩
      · rw [waiting, hq, List.cons_append]
      · rw [waiting, hq, hh]; rfl
    have d := qview_inj f.qview
    refine invW_setLoop (fun _ _ => inv.msgs m (List.mem_append_right _ (e ▸ List.mem_cons_self))) (fun _ hx => by cases hx)
      (invW_congr s f.loops f.current d.closed ?_ inv)
    intro x hx
    rw [waiting, d.queue, d.hand, d.inbox] at hx
    rw [e]
    exact (List.mem_append.mp hx).elim (List.mem_append_left _) (fun h => List.mem_append_right _ (List.mem_cons_of_mem _ h))
  case exit =>
    intro l lp hl _ hc
    refine invW_setLoop (fun _ hr => by cases hr) ?_ inv
    -- the current loop can leave only because the connection is done
    intro e _
    rw [e, hl] at hclp; cases hclp
    rw [hcd] at hc
    exact hc
  case ret =>
    intro l lp hl _ _
    exact ⟨fun _ _ => invW_setLoop (fun _ hr => by cases hr) (fun _ hx => by cases hx) ⟨inv.msgs, inv.cur, inv.alive⟩,
      fun _ => invW_setLoop (fun _ hr => by cases hr) (fun _ hx => by cases hx) inv⟩
  case act =>
    intro l lp act rest s' hl hpc hp hs'
    have q := qview_inj (doAct_qview s l lp act rest s' hl hs')
    have hmsgs : ∀ x ∈ s'.inbox ++ waiting s', x ∈ s.inbox ++ waiting s := by
      intro x hx; rw [waiting, q.queue, q.hand, q.inbox] at hx; exact hx
    by_cases hrep : act = .replace
    · subst hrep
      cases hs'
      -- after a replacement that takes place a fresh loop, at its select, is current
      have fresh : ∀ {cur : Loop}, (setLoop s l { lp with prog := rest }).loops s.current = some cur → cur.reading = false →
          InvW (tryReplace (setLoop s l { lp with prog := rest })) := by
        intro cur hc hrd
        refine ⟨fun x hx => inv.msgs x (hmsgs x hx), ?_, ?_⟩
        · intro lp' h1 h2; rw [tryReplace_busy _ cur hc hrd, setLoop_self] at h1; cases h1; cases h2
        · intro lp' h1 h2; rw [tryReplace_busy _ cur hc hrd, setLoop_self] at h1; cases h1; cases h2
      by_cases e : s.current = l
      · -- the current loop asks for its own replacement
        exact fresh (cur := { lp with prog := rest }) (e ▸ setLoop_self s l _) ((ic.flag l lp hl).2 hpc)
      · -- a replaced loop asks: the current loop is at its select (nothing happens) or gives way
        have hc1 : (setLoop s l { lp with prog := rest }).loops s.current = some clp := (setLoop_ne s _ e).trans hclp
        cases hrd : clp.reading
        · exact fresh hc1 hrd
        · rw [tryReplace_reading _ clp hc1 hrd]
          exact invW_setLoop (fun e' => absurd e' e) (fun e' => absurd e' e) inv
    · by_cases e : s.current = l
      · -- the current loop's program is well-formed: the action is no blocking construct, what is left is well-formed
        obtain ⟨hw, s0, lp', hd, f, hprog, hpc'⟩ := doAct_ready s l lp (hp ▸ inv.cur lp (by rw [e]; exact hl) hpc) hrep
        cases hd.symm.trans hs'
        exact invW_setLoop (fun _ _ => hprog ▸ hw) (fun _ hx => by rw [hpc', hpc] at hx; cases hx)
          (invW_congr s f.loops f.current (qview_inj f.qview).closed hmsgs inv)
      · obtain ⟨lp', f, _⟩ := doAct_cases s l lp act rest s' hl hs' hrep
        exact invW_congr (setLoop s l lp') f.loops f.current q.closed hmsgs
          (invW_setLoop (fun e' => absurd e' e) (fun e' => absurd e' e) inv)
  case tick => exact fun _ => ⟨inv.msgs, inv.cur, inv.alive⟩
  case close => exact ⟨inv.msgs, inv.cur, fun _ _ _ => rfl⟩

theorem invW_init (cap : Nat) (udp : Bool) (inbox : List Msg)
    (hwf : ∀ m ∈ inbox, waitsPreceded (progOf m.kind) = true) : InvW (init cap udp inbox) := by
  constructor
  · intro m hm; apply hwf m; simpa [init, waiting] using hm
  · intro lp h1 h2; rw [(init_loops h1).2] at h2; cases h2
  · intro lp h1 h2; rw [(init_loops h1).2] at h2; cases h2

theorem invW_run (s : State) (evs : List Event) (ic : InvC s) (iw : InvW s) : InvW (run s evs) := by
  induction evs generalizing s with
  | nil => exact iw
  | cons e evs ih => exact ih (step s e) (invC_step s e ic) (invW_step s e ic iw)

theorem current_can_step (s : State) (iw : InvW s) (lp : Loop) (h : s.loops s.current = some lp)
    (hr : lp.pc = .running) (act : Act) (rest : List Act) (hp : lp.prog = act :: rest) :
    (doAct s s.current lp act rest).isSome = true := by
  by_cases hrep : act = .replace
  · subst hrep; rfl
  · obtain ⟨_, _, _, e, _⟩ := doAct_ready s s.current lp (hp ▸ iw.cur lp h hr) hrep
    rw [e]; rfl

/-- one step of whatever loop is current -/
def advance (s : State) : State :=
  match s.loops s.current with
  | some lp => if lp.pc = .running then step s (.handlerStep s.current) else step s (.loopTake s.current)
  | none => s

def advanceN : Nat → State → State
  | 0, s => s
  | n + 1, s => advanceN n (advance s)

def distToSelect (s : State) : Nat :=
  match s.loops s.current with
  | some lp => if lp.pc = .running then lp.prog.length + 1 else 0
  | none => 0

theorem advance_inv (s : State) (ic : InvC s) (iw : InvW s) : InvC (advance s) ∧ InvW (advance s) := by
  unfold advance
  split
  · split
    · exact ⟨invC_step s _ ic, invW_step s _ ic iw⟩
    · exact ⟨invC_step s _ ic, invW_step s _ ic iw⟩
  · exact ⟨ic, iw⟩

/-- in `s'` the oldest message waiting in `s` has been taken and no other, and `s'` is fit for the next one -/
structure HeadTaken (s : State) (m : Msg) (rest : List Msg) (s' : State) : Prop where
  started : s'.started = s.started ++ [m]
  waits : waiting s' = rest
  stillOpen : s'.closed = false
  invC : InvC s'
  invW : InvW s'

/-- the current loop stands at its select: it takes the oldest waiting message -/
theorem head_taken_at_select (s : State) (lp : Loop) (hlp : s.loops s.current = some lp) (hnr : lp.pc ≠ .running) (ic : InvC s)
    (iw : InvW s) (hopen : s.closed = false) (m : Msg) (rest : List Msg) (hw : waiting s = m :: rest) :
    ∃ n, HeadTaken s m rest (advanceN n s) := by
  have hne : lp.pc ≠ .exited := by
    intro e; have := iw.alive lp hlp e; rw [hopen] at this; cases this
  have hsel : lp.pc = .atSelect := by
    cases h : lp.pc
    · rfl
    · exact absurd h hnr
    · exact absurd h hne
  -- the select receives `m`, from the queue or straight from the blocked sender, and leaves `rest` waiting
  obtain ⟨s0, hs, hw0, hc0⟩ : ∃ s0, advance s =
      setLoop (dispatch { s0 with started := s.started ++ [m], log := s.log ++ [.start m.id] } m) s.current
        { lp with reading := false, pc := .running, cur := some m, prog := progOf m.kind } ∧
      waiting s0 = rest ∧ s0.closed = false := by
    rw [advance, hlp]; simp only [hsel, reduceCtorEq, if_false]
    rw [step, hlp]; simp only [hsel, if_true]
    cases hq : s.queue with
    | cons x q =>
      rw [waiting, hq, List.cons_append, List.cons.injEq] at hw
      obtain ⟨rfl, hw⟩ := hw
      exact ⟨{ s with queue := q }, rfl, hw, hopen⟩
    | nil =>
      cases hh : s.hand with
      | some x =>
        rw [waiting, hq, hh, List.nil_append, Option.toList_some, List.cons.injEq] at hw
        obtain ⟨rfl, hw⟩ := hw
        exact ⟨{ s with hand := none, queue := [] }, rfl, hw, hopen⟩
      | none => rw [waiting, hq, hh] at hw; cases hw
  have d := qview_inj (dispatch_frame { s0 with started := s.started ++ [m], log := s.log ++ [.start m.id] } m).qview
  obtain ⟨ic1, iw1⟩ := advance_inv s ic iw
  refine ⟨1, ?_, ?_, ?_, ic1, iw1⟩
  · show (advance s).started = _
    rw [hs]; exact d.started
  · show (advance s).queue ++ (advance s).hand.toList = _
    rw [hs, ← hw0]
    show (dispatch _ m).queue ++ (dispatch _ m).hand.toList = _
    rw [d.queue, d.hand]
    rfl
  · show (advance s).closed = _
    rw [hs]; exact d.closed.trans hc0

/-- A waiting message is taken after finitely many steps of the current loop alone — however many handlers are
    blocked in nested calls.  By induction on how far the current loop is from its select. -/
theorem head_taken (s : State) (ic : InvC s) (iw : InvW s) (hopen : s.closed = false) (m : Msg) (rest : List Msg)
    (hw : waiting s = m :: rest) :
    ∃ n, HeadTaken s m rest (advanceN n s) := by
  generalize hk : distToSelect s = k
  induction k using Nat.strongRecOn generalizing s with
  | _ k ih =>
    obtain ⟨lp, hlp, _⟩ := ic.cur
    by_cases hrun : lp.pc = .running
    · -- one action of the handler moves no message and brings the loop nearer to its select; then the induction hypothesis
      obtain ⟨ic1, iw1⟩ := advance_inv s ic iw
      have key : distToSelect (advance s) < distToSelect s ∧ qview (advance s) = qview s := by
        have hm : distToSelect s = lp.prog.length + 1 := by simp [distToSelect, hlp, hrun]
        rw [hm, advance, hlp]; dsimp only
        rw [if_pos hrun, step, hlp]; dsimp only
        rw [if_pos hrun]
        cases hp : lp.prog with
        | nil => cases lp.cur <;> exact ⟨by simp [distToSelect, setLoop], rfl⟩
        | cons act rest' =>
          dsimp only
          by_cases hrep : act = .replace
          · -- the replacement takes place: a fresh loop, at its select, is current
            subst hrep
            refine ⟨?_, (tryReplace_qview_finished _).1⟩
            show distToSelect (tryReplace _) < _
            rw [tryReplace_busy _ { lp with prog := rest' } (setLoop_self s _ _) ((ic.flag s.current lp hlp).2 hrun)]
            unfold distToSelect
            dsimp only
            rw [setLoop_self]
            exact Nat.succ_pos _
          · obtain ⟨_, s0, lp', e, f, hprog, hpc⟩ := doAct_ready s s.current lp (hp ▸ iw.cur lp hlp hrun) hrep
            rw [e]
            refine ⟨?_, f.qview⟩
            show distToSelect (setLoop s0 s.current lp') < _
            unfold distToSelect
            rw [show (setLoop s0 s.current lp').current = s.current from f.current, setLoop_self]
            dsimp only
            rw [if_pos (hpc.trans hrun), hprog]
            exact Nat.lt_succ_self _
      obtain ⟨hlt, hq⟩ := key
      have q := qview_inj hq
      obtain ⟨n, g⟩ := ih _ (hk ▸ hlt) (advance s) ic1 iw1 (q.closed.trans hopen) (by rw [waiting, q.queue, q.hand]; exact hw) rfl
      exact ⟨n + 1, q.started ▸ g.started, g.waits, g.stillOpen, g.invC, g.invW⟩
    · exact head_taken_at_select s lp hlp hrun ic iw hopen m rest hw

/-- (A) a loop holds a message only while it runs a handler; what a loop holds has been taken and is not finished; no
    message is held by two loops; every taken message is finished or held by a loop — whether that loop is still the
    current one or has been replaced; nothing finishes twice -/
structure InvA (s : State) : Prop where
  idle : ∀ l lp, s.loops l = some lp → lp.pc ≠ .running → lp.cur = none
  curS : ∀ l lp m, s.loops l = some lp → lp.cur = some m → m ∈ s.started ∧ m ∉ s.finished
  uniq : ∀ l l' lp lp' m, s.loops l = some lp → s.loops l' = some lp' → lp.cur = some m → lp'.cur = some m → l = l'
  fin : ∀ m ∈ s.finished, m ∈ s.started
  acc : ∀ m ∈ s.started, m ∈ s.finished ∨ ∃ l lp, s.loops l = some lp ∧ lp.cur = some m
  finNd : s.finished.Nodup

/-- loops keep what they hold and do not stop running a handler (the third component of `bwd`, for `InvA.idle`); new loops
    hold nothing -/
structure KeepsHeld (s s' : State) : Prop where
  fwd : ∀ i lp, s.loops i = some lp → ∃ lp', s'.loops i = some lp' ∧ lp'.cur = lp.cur
  bwd : ∀ i lp', s'.loops i = some lp' →
    lp'.cur = none ∨ ∃ lp, s.loops i = some lp ∧ lp'.cur = lp.cur ∧ (lp.pc = .running → lp'.pc = .running)

theorem invA_of_keepsHeld (s s' : State) (cp : KeepsHeld s s') (hs : s'.started = s.started) (hf : s'.finished = s.finished)
    (inv : InvA s) : InvA s' := by
  constructor
  · intro l lp' hl hp
    rcases cp.bwd l lp' hl with h | ⟨lp, h1, h2, h3⟩
    · exact h
    · rw [h2]; exact inv.idle l lp h1 (fun e => hp (h3 e))
  · intro l lp' m hl hc
    rw [hs, hf]
    rcases cp.bwd l lp' hl with h | ⟨lp, h1, h2, _⟩
    · rw [h] at hc; cases hc
    · exact inv.curS l lp m h1 (by rw [← h2]; exact hc)
  · intro l l' lp1 lp2 m h1 h2 c1 c2
    rcases cp.bwd l lp1 h1 with h | ⟨a, a1, a2, _⟩
    · rw [h] at c1; cases c1
    · rcases cp.bwd l' lp2 h2 with h | ⟨b, b1, b2, _⟩
      · rw [h] at c2; cases c2
      · exact inv.uniq l l' a b m a1 b1 (by rw [← a2]; exact c1) (by rw [← b2]; exact c2)
  · rw [hs, hf]; exact inv.fin
  · intro m hm
    rw [hs] at hm; rw [hf]
    rcases inv.acc m hm with h | ⟨l, lp, h1, h2⟩
    · exact Or.inl h
    · obtain ⟨lp', g1, g2⟩ := cp.fwd l lp h1
      exact Or.inr ⟨l, lp', g1, by rw [g2]; exact h2⟩
  · rw [hf]; exact inv.finNd

theorem keepsHeld_of_loops_eq (s s' : State) (h : s'.loops = s.loops) : KeepsHeld s s' :=
  ⟨fun i lp hl => ⟨lp, by rw [h]; exact hl, rfl⟩, fun i lp' hl => Or.inr ⟨lp', by rw [← h]; exact hl, rfl, id⟩⟩

theorem keepsHeld_trans {a b c : State} (h1 : KeepsHeld a b) (h2 : KeepsHeld b c) : KeepsHeld a c := by
  constructor
  · intro i lp hl
    obtain ⟨lp1, g1, g2⟩ := h1.fwd i lp hl
    obtain ⟨lp2, k1, k2⟩ := h2.fwd i lp1 g1
    exact ⟨lp2, k1, k2.trans g2⟩
  · intro i lp' hl
    rcases h2.bwd i lp' hl with h | ⟨lp1, g1, g2, g3⟩
    · exact Or.inl h
    · rcases h1.bwd i lp1 g1 with k | ⟨lp0, k1, k2, k3⟩
      · exact Or.inl (g2.trans k)
      · exact Or.inr ⟨lp0, k1, g2.trans k2, fun e => g3 (k3 e)⟩

theorem keepsHeld_setLoop (s : State) (l : Nat) (lp lp' : Loop) (hl : s.loops l = some lp) (hc : lp'.cur = lp.cur)
    (hp : lp'.cur = none ∨ (lp.pc = .running → lp'.pc = .running)) : KeepsHeld s (setLoop s l lp') := by
  constructor
  · intro i lpi hi
    by_cases e : i = l
    · subst e; rw [hl] at hi; cases hi; exact ⟨lp', setLoop_self s i lp', hc⟩
    · exact ⟨lpi, (setLoop_ne s lp' e).trans hi, rfl⟩
  · intro i lpi hi
    rcases loops_setLoop hi with ⟨e, rfl⟩ | ⟨_, hi⟩
    · exact hp.imp id (fun hp => ⟨lp, e ▸ hl, hc, hp⟩)
    · exact Or.inr ⟨lpi, hi, rfl, id⟩

/-- `TryToReplaceLoop` moves no message: the replaced loop keeps the message it is processing, the new loop starts
    empty, queue and hand are untouched (`tryReplace_qview_finished`). -/
theorem keepsHeld_tryReplace (s : State) (ic : InvC s) : KeepsHeld s (tryReplace s) := by
  obtain ⟨cur, hcur, _⟩ := ic.cur
  cases hr : cur.reading
  · rw [tryReplace_busy s cur hcur hr]
    have hn : s.loops s.nloops = none := ic.fresh _ (Nat.le_refl _)
    constructor
    · intro i lp hl
      have h1 : i ≠ s.nloops := fun h1 => by rw [h1, hn] at hl; cases hl
      by_cases h2 : i = s.current
      · subst h2; rw [hcur] at hl; cases hl
        exact ⟨{ cur with doneClosed := true }, (setLoop_ne _ _ h1).trans (setLoop_self _ _ _), rfl⟩
      · exact ⟨lp, (setLoop_ne _ _ h1).trans ((setLoop_ne _ _ h2).trans hl), rfl⟩
    · intro i lp' hl
      rcases loops_setLoop hl with ⟨_, rfl⟩ | ⟨_, hl⟩
      · exact Or.inl rfl
      · rcases loops_setLoop hl with ⟨h2, rfl⟩ | ⟨_, hl⟩
        · exact Or.inr ⟨cur, h2 ▸ hcur, rfl, id⟩
        · exact Or.inr ⟨lp', hl, rfl, id⟩
  · rw [tryReplace_reading s cur hcur hr]; exact keepsHeld_of_loops_eq s s rfl

theorem doAct_keepsHeld (s : State) (l : Nat) (lp : Loop) (act : Act) (rest : List Act) (s' : State)
    (hl : s.loops l = some lp) (h : doAct s l lp act rest = some s') (ic : InvC s) :
    KeepsHeld s s' ∧ s'.started = s.started ∧ s'.finished = s.finished := by
  have hst : s'.started = s.started := congrArg QView.started (doAct_qview s l lp act rest s' hl h)
  by_cases hrep : act = .replace
  · subst hrep; cases h
    have c1 : KeepsHeld s (setLoop s l { lp with prog := rest }) := keepsHeld_setLoop s l lp _ hl rfl (Or.inr id)
    have ic1 : InvC (setLoop s l { lp with prog := rest }) :=
      invC_setLoop s l lp { lp with prog := rest } hl rfl (ic.flag l lp hl) ic
    exact ⟨keepsHeld_trans c1 (keepsHeld_tryReplace _ ic1), hst, (tryReplace_qview_finished _).2⟩
  · obtain ⟨lp', f, ⟨_, _, hpc⟩, hcur⟩ := doAct_cases s l lp act rest s' hl h hrep
    exact ⟨keepsHeld_trans (keepsHeld_setLoop s l lp lp' hl hcur (Or.inr hpc.trans)) (keepsHeld_of_loops_eq _ _ f.loops), hst,
      f.finished⟩

theorem invA_step (s : State) (ev : Event) (iq : InvQ s) (ic : InvC s) (inv : InvA s) : InvA (step s ev) := by
  have frame : ∀ s', s'.loops = s.loops → s'.started = s.started → s'.finished = s.finished → InvA s' :=
    fun s' a b c => invA_of_keepsHeld s s' (keepsHeld_of_loops_eq _ _ a) b c inv
  apply step_cases s ev
  case stay => exact inv
  case read =>
    intro m rest s1 _ _ f
    exact ⟨frame _ f.loops (congrArg QView.started f.qview) f.finished,
      fun _ => frame _ f.loops (congrArg QView.started f.qview) f.finished⟩
  case push => exact fun _ _ => ⟨fun _ => frame _ rfl rfl rfl, fun _ _ => frame _ rfl rfl rfl⟩
  case take =>
    intro l lp m q h s1 hl hpc hm f
    have hidle : lp.cur = none := inv.idle l lp hl (by rw [hpc]; intro e; cases e)
    -- the head of `queue ++ hand` has not been taken before: accepted messages are distinct
    have hnew : m ∉ s.started := by
      have hwire := (List.nodup_append.mp iq.wire).1
      rw [iq.fifo, List.append_assoc s.started, List.append_assoc s.started] at hwire
      refine fun hin => (List.nodup_append.mp hwire).2.2 m hin m ?_ rfl
      rcases hm with ⟨hq, _⟩ | ⟨hq, _, hh, _⟩
      · rw [hq]; exact List.mem_cons_self
      · rw [hq, hh]; exact List.mem_cons_self
    have hst : s1.started = s.started ++ [m] := congrArg QView.started f.qview
    have hfin : s1.finished = s.finished := f.finished
    have hloops : s1.loops = s.loops := f.loops
    have hnf : m ∉ s.finished := fun h => hnew (inv.fin m h)
    have old : ∀ {i lpi}, s1.loops i = some lpi → s.loops i = some lpi := by
      intro i lpi hi; rw [hloops] at hi; exact hi
    constructor
    · intro i lpi hi hp
      rcases loops_setLoop hi with ⟨_, rfl⟩ | ⟨_, hi⟩
      · exact absurd rfl hp
      · exact inv.idle i lpi (old hi) hp
    · intro i lpi x hi hc
      show x ∈ s1.started ∧ x ∉ s1.finished
      rw [hst, hfin]
      rcases loops_setLoop hi with ⟨_, rfl⟩ | ⟨_, hi⟩
      · cases hc; exact ⟨List.mem_append_right _ (List.mem_singleton_self _), hnf⟩
      · obtain ⟨g1, g2⟩ := inv.curS i lpi x (old hi) hc
        exact ⟨List.mem_append_left _ g1, g2⟩
    · intro i j lpi lpj x hi hj ci cj
      rcases loops_setLoop hi with ⟨ei, rfl⟩ | ⟨_, hi⟩
      · rcases loops_setLoop hj with ⟨ej, _⟩ | ⟨_, hj⟩
        · rw [ei, ej]
        · cases ci; exact absurd (inv.curS j lpj _ (old hj) cj).1 hnew
      · rcases loops_setLoop hj with ⟨_, rfl⟩ | ⟨_, hj⟩
        · cases cj; exact absurd (inv.curS i lpi _ (old hi) ci).1 hnew
        · exact inv.uniq i j lpi lpj x (old hi) (old hj) ci cj
    · intro x hx
      show x ∈ s1.started
      have hx' : x ∈ s1.finished := hx
      rw [hfin] at hx'; rw [hst]; exact List.mem_append_left _ (inv.fin x hx')
    · intro x hx
      have hx' : x ∈ s1.started := hx
      rw [hst] at hx'
      show x ∈ s1.finished ∨ _
      rw [hfin]
      rcases List.mem_append.mp hx' with h | h
      · rcases inv.acc x h with g | ⟨i, lpi, g1, g2⟩
        · exact Or.inl g
        · right
          have hil : i ≠ l := by
            intro e; subst e; rw [hl] at g1; cases g1; rw [hidle] at g2; cases g2
          exact ⟨i, lpi, (setLoop_ne s1 _ hil).trans (hloops ▸ g1), g2⟩
      · cases List.mem_singleton.mp h
        exact Or.inr ⟨l, _, if_pos rfl, rfl⟩
    · show s1.finished.Nodup
      rw [hfin]; exact inv.finNd
  case exit =>
    intro l lp hl hpc _
    exact invA_of_keepsHeld s _ (keepsHeld_setLoop s l lp _ hl rfl (Or.inr (fun e => by rw [hpc] at e; cases e))) rfl rfl inv
  case ret =>
    intro l lp hl _ _
    constructor
    · intro m hm
      -- the handler returned: the message moves from the loop to `finished`
      obtain ⟨hms, hmf⟩ := inv.curS l lp m hl hm
      constructor
      · intro i lpi hi hp
        rcases loops_setLoop hi with ⟨_, rfl⟩ | ⟨_, hi⟩
        · rfl
        · exact inv.idle i lpi hi hp
      · intro i lpi x hi hcx
        rcases loops_setLoop hi with ⟨_, rfl⟩ | ⟨hil, hi⟩
        · cases hcx
        · obtain ⟨g1, g2⟩ := inv.curS i lpi x hi hcx
          refine ⟨g1, ?_⟩
          show x ∉ s.finished ++ [m]
          intro hin
          rcases List.mem_append.mp hin with h | h
          · exact g2 h
          · cases List.mem_singleton.mp h
            exact hil (inv.uniq i l lpi lp m hi hl hcx hm)
      · intro i j lpi lpj x hi hj ci cj
        rcases loops_setLoop hi with ⟨_, rfl⟩ | ⟨_, hi⟩
        · cases ci
        · rcases loops_setLoop hj with ⟨_, rfl⟩ | ⟨_, hj⟩
          · cases cj
          · exact inv.uniq i j lpi lpj x hi hj ci cj
      · intro x hx
        have hx' : x ∈ s.finished ++ [m] := hx
        rcases List.mem_append.mp hx' with h | h
        · exact inv.fin x h
        · cases List.mem_singleton.mp h; exact hms
      · intro x hx
        show x ∈ s.finished ++ [m] ∨ _
        rcases inv.acc x hx with g | ⟨i, lpi, g1, g2⟩
        · exact Or.inl (List.mem_append_left _ g)
        · by_cases hil : i = l
          · subst hil; rw [hl] at g1; cases g1; rw [hm] at g2; cases g2
            exact Or.inl (List.mem_append_right _ (List.mem_singleton_self _))
          · exact Or.inr ⟨i, lpi, (setLoop_ne _ _ hil).trans g1, g2⟩
      · show (s.finished ++ [m]).Nodup
        rw [List.nodup_append]
        refine ⟨inv.finNd, by simp, ?_⟩
        intro a ha b hb
        cases List.mem_singleton.mp hb
        intro e; subst e; exact hmf ha
    · intro hm
      -- (a running loop always holds a message in reachable states; the branch is kept total)
      exact invA_of_keepsHeld s _ (keepsHeld_setLoop s l lp _ hl rfl (Or.inl hm)) rfl rfl inv
  case act =>
    intro l lp act rest s' hl _ _ hs'
    obtain ⟨cp, e1, e2⟩ := doAct_keepsHeld s l lp act rest s' hl hs' ic
    exact invA_of_keepsHeld s s' cp e1 e2 inv
  case tick => exact fun _ => frame _ rfl rfl rfl
  case close => exact frame _ rfl rfl rfl

theorem invA_init (cap : Nat) (udp : Bool) (inbox : List Msg) : InvA (init cap udp inbox) := by
  constructor
  · intro l lp hl _; rw [(init_loops hl).2]; rfl
  · intro l lp m hl hc; rw [(init_loops hl).2] at hc; cases hc
  · intro l l' lp lp' m hl _ hc _; rw [(init_loops hl).2] at hc; cases hc
  · intro m hm; simp [init] at hm
  · intro m hm; simp [init] at hm
  · simp [init]

theorem invA_run (s : State) (evs : List Event) (iq : InvQ s) (ic : InvC s) (ia : InvA s) : InvA (run s evs) := by
  induction evs generalizing s with
  | nil => exact ia
  | cons e evs ih => exact ih (step s e) (invQ_step s e iq) (invC_step s e ic) (invA_step s e iq ic ia)

theorem step_act {s s' : State} {l : Nat} {lp : Loop} {a : Act} {rest : List Act} (hl : s.loops l = some lp)
    (hpc : lp.pc = .running) (hp : lp.prog = a :: rest) (h : doAct s l lp a rest = some s') : step s (.handlerStep l) = s' := by
  rw [step, hl]; dsimp only
  rw [if_pos hpc, hp]; dsimp only
  rw [h]

/-- what `Props.C11NStart.release_after_ack_read` needs of the socket reader's step: in `s'` exchange `k` is acknowledged; no loop,
    limiter slot or taken or queued message differs from `s` -/
structure AckRead (s : State) (k : Nat) (s' : State) : Prop where
  loops : s'.loops = s.loops
  holders : s'.holders = s.holders
  acked : s'.acked.contains k = true
  started : s'.started = s.started
  queue : s'.queue = s.queue

theorem feederRead_ack (s : State) (k : Nat) (m : Msg) (inbox' : List Msg) (hhand : s.hand = none) (hin : s.inbox = m :: inbox')
    (hm : m.kind = .ack k ∨ (m.kind = .resp k ∧ s.udp = true)) : AckRead s k (step s .feederRead) := by
  have e : ∀ s0 : State, s0.udp = s.udp → inlinePart s0 m = { s0 with acked := k :: s0.acked } := by
    intro s0 h0
    unfold inlinePart
    rcases hm with h | ⟨h, hu⟩
    · rw [h]
    · rw [h]; exact if_pos (h0.trans hu)
  rw [step, hhand, hin]
  dsimp only
  rw [e]
  · split <;> exact ⟨rfl, rfl, by simp, rfl, rfl⟩
  · rfl

end CoapVerif.Lemmas.Reader
