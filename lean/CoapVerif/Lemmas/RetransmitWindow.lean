import CoapVerif.Lemmas.Retransmit
/-! C06, defect F30: what needs the regenerated fact `exhaustionWaitsLastTimeout = true` (`midElement.IsExpired` reports
exhaustion only after the last copy's own timeout): when a pass drops an entry (`dropped_iff`), and that passes within the
window of the last copy keep it.  Props/C06Window rests on the second; the simulation of the judge (Lemmas/RetransmitJudge,
hence Props/C06Judge and Props/C06Busy) on the first.  Lemmas/Retransmit and Props/C06 check without the fact. -/
namespace CoapVerif.Lemmas.Retransmit
open CoapVerif.Model.Retransmit CoapVerif.Generated.Retransmit

theorem dropped_iff (P : Params) (t : Nat) (e : Pend) : dropped P t e = true ↔
    (pastDeadline t e.deadline = true ∨ (P.maxRetransmit ≤ e.n ∧ e.start + (e.n + 1) * P.ackTimeout < t)) := by
  have h1 : expiredWhenGE = true := rfl
  have h2 : exhaustionWaitsLastTimeout = true := rfl
  have h3 : lastCopyAddend = 1 := rfl
  simp [dropped, exhausted, lastTimeoutPassed, h1, h2, h3]

theorem not_dropped_within {P : Params} {t : Nat} {e : Pend} (hn : e.n ≤ P.maxRetransmit)
    (ht : t ≤ e.start + (P.maxRetransmit + 1) * P.ackTimeout) (hdl : ∀ d, e.deadline = some d → t ≤ d) :
    dropped P t e = false := by
  refine Bool.eq_false_iff.mpr fun hd => ?_
  rcases (dropped_iff P t e).mp hd with hd | ⟨hge, hlt⟩
  · cases hed : e.deadline with
    | none => rw [hed] at hd; cases hd
    | some d =>
      rw [hed] at hd
      exact Nat.not_lt.mpr (hdl d hed) (of_decide_eq_true hd)
  · rw [Nat.le_antisymm hn hge] at hlt
    exact Nat.not_lt.mpr ht hlt

theorem tick_keeps (P : Params) (t : Nat) (ps : List Pend) (e : Pend) (he : e ∈ ps) (hd : dropped P t e = false) :
    ∃ e' ∈ (tickList P t ps).1, e'.id = e.id ∧ e'.start = e.start ∧ e'.deadline = e.deadline ∧
      (e.n ≤ P.maxRetransmit → e'.n ≤ P.maxRetransmit) := by
  rw [tickList_eq]
  refine ⟨_, List.mem_filterMap.mpr ⟨e, he, by simp only [kept, hd]; rfl⟩, ?_⟩
  by_cases h2 : due P t e = true
  · simp only [h2, if_true, true_and]
    exact fun _ => lt_of_kept_due hd h2
  · simp [h2]

/-- Only clock advances and housekeeping passes, every pass at a time ≤ `limit`; `now` is the clock before the first event. -/
def PassesWithin (limit : Nat) : Nat → List Ev → Prop
  | _, [] => True
  | now, .advance d :: r => PassesWithin limit (now + d) r
  | now, .tick a :: r => now + a ≤ limit ∧ PassesWithin limit now r
  | _, _ :: _ => False

theorem pending_through_passes {P : Params} : ∀ (passes : List Ev) (s : State), ∀ e ∈ s.pend, e.n ≤ P.maxRetransmit →
    (∀ d, e.deadline = some d → e.start + (P.maxRetransmit + 1) * P.ackTimeout ≤ d) →
    PassesWithin (e.start + (P.maxRetransmit + 1) * P.ackTimeout) s.now passes →
    ∃ e' ∈ (runFrom P s passes).pend, e'.id = e.id ∧ e'.start = e.start ∧ e'.deadline = e.deadline
  | [], s, e, he, _, _, _ => ⟨e, he, rfl, rfl, rfl⟩
  | ev :: r, s, e, he, hn, hdl, hp => by
    cases ev with
    | advance d => exact pending_through_passes r _ e he hn hdl hp
    | tick a =>
      obtain ⟨hle, hp'⟩ := hp
      -- the pass keeps the entry; its counter stays within the bound because a copy is only written while one is left
      obtain ⟨e', he', h1, h2, h3, h4⟩ := tick_keeps P (s.now + a) s.pend e he
        (not_dropped_within hn hle (fun d hd => Nat.le_trans hle (hdl d hd)))
      obtain ⟨e'', he'', g1, g2, g3⟩ := pending_through_passes r (tick P s a) e' he' (h4 hn)
        (by rw [h2, h3]; exact hdl) (by rw [h2]; exact hp')
      exact ⟨e'', he'', g1.trans h1, g2.trans h2, g3.trans h3⟩
    | send _ _ _ => exact hp.elim
    | recvMid _ _ => exact hp.elim
    | resp _ _ => exact hp.elim
    | cancel _ _ => exact hp.elim
    | «mut» _ _ => exact hp.elim

end CoapVerif.Lemmas.Retransmit
