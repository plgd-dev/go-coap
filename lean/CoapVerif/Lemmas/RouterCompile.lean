import CoapVerif.Lemmas.RouterPrefer
import CoapVerif.Lemmas.RouterParse
import CoapVerif.Lemmas.RouterSpec
/-!
# C17 lemmas — the expression built by `newRouteRegexp`

The expression is `^ lit₀ (v₀) lit₁ (v₁) … litₙ $`.  A quoted literal has at most one result (`ms_litRe`), so the results of the
whole expression are those of the variables' groups, tried in the order in which `msT` lists them.  The FIRST result — what
`FindStringSubmatchIndex` reports — belongs to the first result of `v₀` behind which the rest matches at all: the results of
`v₀` in front of it have no continuation although a decomposition along the rest of the template would be one
(`compileParts_complete`), those behind it are less preferred (`msT_sorted`).  This is `Spec.Router.Chosen`
(`head_compileParts_chosen`).  The integers reported for the groups are the `spans` of that decomposition, and reading them back
out of the submatch array gives its words (`extractVars_spans`; `spans_slice`: each is `path[x:y]`).  What the dispatch uses:
`extractRouteParams_chosen` (a match yields the `Chosen` decomposition, bound by `bindAll`) and `matchString_compile` (the
expression matches exactly the paths with a decomposition).
-/
namespace CoapVerif.Lemmas.Router
open CoapVerif.Model.Router
open CoapVerif.Spec.Router hiding byteLen

theorem head?_flatMap_some {α β : Type} (f : α → List β) (l : List α) (y : β) (h : (l.flatMap f).head? = some y) :
    ∃ l1 x l2, l = l1 ++ x :: l2 ∧ (∀ z ∈ l1, f z = []) ∧ (f x).head? = some y := by
  rw [List.head?_flatMap, List.findSome?_eq_some_iff] at h
  obtain ⟨l1, x, l2, hl, hx, h1⟩ := h
  exact ⟨l1, x, l2, hl, fun z hz => List.head?_eq_none_iff.1 (h1 z hz), hx⟩

theorem flatMap_range_succ {β : Type} (F : Nat → List β) (n : Nat) :
    (List.range n).flatMap (fun g => F (g + 1)) = (List.range' 1 n).flatMap F := by
  rw [List.range_eq_range', show List.range' 1 n = (List.range' 0 n).map (· + 1) from List.range'_succ_left,
    List.flatMap_map]

theorem ms_litRe : ∀ (l : Str) (σ : St), ms (litRe l) σ = match stripPrefix l σ.rem with
    | some rest => [St.adv σ l rest]
    | none => []
  | [], σ => rfl
  | c :: t, σ => by
    simp only [litRe, ms]
    cases hr : σ.rem with
    | nil => rfl
    | cons d r =>
      by_cases hd : d = c
      · subst hd
        simp only [if_true, List.flatMap_cons, List.flatMap_nil, List.append_nil, ms_litRe t, stripPrefix]
        cases stripPrefix t r with
        | none => rfl
        | some rest => simp only [St.adv, List.length_cons, Nat.add_assoc, Nat.add_comm 1]
      · have hd' : ¬ c = d := fun h => hd h.symm
        simp only [hd, hd', if_false, List.flatMap_nil, stripPrefix]

theorem ms_lit_cat (l : Str) (x : Re) (σ : St) : ms (.cat (litRe l) x) σ = match stripPrefix l σ.rem with
    | some rest => ms x (St.adv σ l rest)
    | none => [] := by
  simp only [ms, ms_litRe]
  cases stripPrefix l σ.rem <;> simp

def addCap (i : Nat) (σ1 σ2 : St) : St := { σ2 with caps := (i, σ1.pos, σ2.pos) :: σ2.caps }

theorem ms_compileParts_cons (i : Nat) (p : CPart) (ps : List CPart) (trailing : Str) (σ : St) :
    ms (compileParts i (p :: ps) trailing) σ = match stripPrefix p.raw σ.rem with
      | some rest => (msT p.pat (St.adv σ p.raw rest)).flatMap (fun r =>
          ms (compileParts (i + 1) ps trailing) (addCap (i + 1) (St.adv σ p.raw rest) r.2))
      | none => [] := by
  rw [compileParts, ms_lit_cat]
  cases stripPrefix p.raw σ.rem with
  | none => rfl
  | some rest =>
    simp only [ms]
    rw [← msT_snd p.pat, List.map_map, List.flatMap_map]
    rfl

theorem compileParts_complete : ∀ (parts : List CPart) (trailing : Str) (i : Nat) (σ : St) (b : List (Str × Str)),
    TplMatches (toSegs parts trailing) σ.rem b → ms (compileParts i parts trailing) σ ≠ []
  | [], trailing, i, σ, b, h => by
    obtain ⟨w', hw, h'⟩ := tpl_lit_iff.1 h
    obtain ⟨rfl, rfl⟩ := tpl_nil_inv h'
    simp [compileParts, ms_lit_cat, (stripPrefix_iff _ _ _).2 hw, ms, St.adv]
  | p :: ps, trailing, i, σ, b, h => by
    obtain ⟨w1, hw, h1⟩ := tpl_lit_iff.1 h
    obtain ⟨v, w2, b', rfl, rfl, hv, h2⟩ := tpl_var_iff.1 h1
    obtain ⟨t, ht⟩ := lang_isParse hv
    rw [ms_compileParts_cons, (stripPrefix_iff _ _ _).2 hw]
    intro hnil
    exact compileParts_complete ps trailing (i + 1) _ b' h2
      (List.flatMap_eq_nil_iff.1 hnil _ (msT_complete ht (σ := St.adv σ p.raw (v ++ w2)) rfl))

/-- capture spans of the variables, left to right, when matching starts at offset `pos` -/
def spans : Nat → List CPart → List (Str × Str) → List (Nat × Nat)
  | _, [], _ => []
  | _, _ :: _, [] => []
  | pos, p :: ps, (_, v) :: b =>
    (pos + p.raw.length, pos + p.raw.length + v.length) :: spans (pos + p.raw.length + v.length) ps b

def spanInts (l : List (Nat × Nat)) : List Int := l.flatMap fun s => [(s.1 : Int), (s.2 : Int)]

theorem spanInts_cons (x y : Nat) (l : List (Nat × Nat)) : spanInts ((x, y) :: l) = (x : Int) :: (y : Int) :: spanInts l := rfl

/-- What the first result `σ'` of the compiled `parts` (their groups are `i + 1 …`) on the state `σ` stands for: a decomposition
    `b` of the input along the template that `LexPref` prefers to every decomposition. -/
structure FirstResult (parts : List CPart) (i : Nat) (trailing : Str) (σ σ' : St) (b : List (Str × Str)) : Prop where
  chosen : Chosen (toSegs parts trailing) σ.rem b
  names : b.map (·.1) = parts.map (·.name)
  before : ∀ g ≤ i, capLookup σ'.caps g = capLookup σ.caps g
  /-- what `find` reports for this expression's groups: the spans of the words of `b` -/
  groups : (List.range' (i + 1) parts.length).flatMap (fun g => [(capPair σ'.caps g).1, (capPair σ'.caps g).2]) =
    spanInts (spans σ.pos parts b)

theorem head_compileParts_chosen : ∀ (parts : List CPart) (i : Nat) (trailing : Str) (σ σ' : St),
    (ms (compileParts i parts trailing) σ).head? = some σ' → ∃ b, FirstResult parts i trailing σ σ' b := by
  intro parts
  induction parts with
  | nil =>
    intro i trailing σ σ' h
    rw [compileParts, ms_lit_cat] at h
    cases hsp : stripPrefix trailing σ.rem with
    | none => rw [hsp] at h; cases h
    | some rest =>
      have hrem := (stripPrefix_iff _ _ _).1 hsp
      rw [hsp] at h
      by_cases hr : rest = []
      · subst hr
        simp only [ms, St.adv, if_true, List.head?_cons, Option.some.injEq] at h
        subst h
        rw [List.append_nil] at hrem
        refine ⟨[], { chosen := ⟨?_, fun b' _ => by simp [toSegs, LexPref]⟩, names := rfl, before := fun _ _ => rfl, groups := rfl }⟩
        rw [hrem]
        simpa [toSegs] using TplMatches.lit (s := trailing) TplMatches.nil
      · simp [ms, St.adv, hr] at h
  | cons p ps ih =>
    intro i trailing σ σ' h
    rw [ms_compileParts_cons] at h
    cases hsp : stripPrefix p.raw σ.rem with
    | none => rw [hsp] at h; cases h
    | some rest =>
      have hrem := (stripPrefix_iff _ _ _).1 hsp
      rw [hsp] at h
      obtain ⟨l1, x, l2, hl, hl1, hx⟩ := head?_flatMap_some _ _ _ h
      obtain ⟨v, hv, hr⟩ := msT_sound p.pat _ x (by rw [hl]; simp)
      obtain ⟨b0, tl⟩ := ih (i + 1) trailing _ _ hx
      have hrest : rest = v ++ x.2.rem := hr.rem
      refine ⟨(p.name, v) :: b0,
        { chosen := ⟨?tpl, ?preferred⟩, names := by simp [tl.names], before := ?before, groups := ?groups }⟩
      case tpl =>
        rw [hrem, hrest]
        exact TplMatches.lit (TplMatches.var (isParse_lang hv) tl.chosen.1)
      case preferred =>
        intro b' hb'
        rw [hrem] at hb'
        obtain ⟨w1, hw1, hb1⟩ := tpl_lit_iff.1 hb'
        cases List.append_cancel_left hw1
        obtain ⟨v', w2, b0', hrest', rfl, hv', hb2⟩ := tpl_var_iff.1 hb1
        simp only [toSegs, LexPref]
        refine ⟨?_, fun _ => ⟨x.1, hv, fun t' ht' => ?_⟩⟩
        · rintro rfl
          rw [← List.append_cancel_left (hrest.symm.trans hrest')] at hb2
          exact tl.chosen.2 b0' hb2
        · have hz := msT_complete ht' (σ := St.adv σ p.raw rest) hrest'
          rw [hl, List.mem_append, List.mem_cons] at hz
          have hsorted := msT_sorted p.pat (St.adv σ p.raw rest)
          rw [hl, List.pairwise_append] at hsorted
          rcases hz with hz | hz | hz
          · -- a result in front of the first one with a continuation has none, yet `b'` continues it
            exact (compileParts_complete ps trailing (i + 1) _ b0' hb2 (hl1 _ hz)).elim
          · exact .inl (congrArg Prod.fst hz).symm
          · exact .inr ((List.pairwise_cons.1 hsorted.2.1).1 _ hz)
      case before =>
        intro g hg
        rw [tl.before g (Nat.le_succ_of_le hg), addCap, capLookup, if_neg (by omega), hr.caps]
        rfl
      case groups =>
        -- group `i + 1` was recorded when the variable's group closed, and nothing behind it touches it
        rw [List.length_cons, List.range'_succ, List.flatMap_cons, tl.groups, capPair, tl.before _ (Nat.le_refl _), addCap, capLookup,
          if_pos rfl, hr.pos]
        rfl

theorem searchFrom_bol_pos (x : Re) : ∀ (t : Str) (i : Nat), 0 < i → searchFrom (.cat .bol x) i t = none
  | [], i, hi => by simp [searchFrom, ms, Nat.ne_of_gt hi]
  | c :: t, i, hi => by
    simp only [searchFrom, ms, Nat.ne_of_gt hi, if_false, List.flatMap_nil, List.head?_nil]
    exact searchFrom_bol_pos x t (i + 1) (Nat.succ_pos i)

theorem searchFrom_bol_zero (x : Re) (s : Str) :
    searchFrom (.cat .bol x) 0 s = ((ms x ⟨0, s, []⟩).head?).map (fun σ => (0, σ)) := by
  cases s with
  | nil => simp [searchFrom, ms]
  | cons c t =>
    simp only [searchFrom, ms, if_true, List.flatMap_cons, List.flatMap_nil, List.append_nil]
    cases h : (ms x ⟨0, c :: t, []⟩).head? with
    | none => simp only [Option.map_none]; exact searchFrom_bol_pos x t 1 (by omega)
    | some σ => simp

theorem goSlice_append (pre v post : Str) :
    goSlice (pre ++ (v ++ post)) (pre.length : Int) ((pre.length + v.length : Nat) : Int) = .ok v := by
  rw [goSlice_ok _ _ _ (by omega) (by simp only [List.length_append]; omega), slice, List.drop_left, Nat.add_sub_cancel_left,
    List.take_left]

theorem goIndex_behind {l : List Int} {n : Nat} (hl : l.length = n) (x y : Int) (r : List Int) :
    goIndex (l ++ x :: y :: r) n = .ok x ∧ goIndex (l ++ x :: y :: r) (n + 1) = .ok y := by
  subst hl
  simp [goIndex]

/-- the variable map a decomposition produces: bindings written left to right (a repeated name keeps the last) -/
def bindAll (b : List (Str × Str)) (out : List (Str × Str)) : List (Str × Str) :=
  b.foldl (fun m kv => mapSet m kv.1 kv.2) out

/-- reading the variables' spans out of a submatch array `mpre ++ spanInts spans` whose first `2*i+2` entries belong to the
    whole match and the groups before: the words of the decomposition, bound left to right -/
theorem extractVars_spans : ∀ (parts : List CPart) (trailing : Str) (w : Str) (b : List (Str × Str)),
    TplMatches (toSegs parts trailing) w b → ∀ (pre : Str) (mpre : List Int) (i : Nat) (out : List (Str × Str)),
    mpre.length = 2 * i + 2 →
    extractVars (pre ++ w) (mpre ++ spanInts (spans pre.length parts b)) i (parts.map (·.name)) out = .ok (bindAll b out) := by
  intro parts
  induction parts with
  | nil =>
    intro trailing w b h pre mpre i out _
    obtain ⟨_, _, h'⟩ := tpl_lit_iff.1 h
    rw [(tpl_nil_inv h').2]
    rfl
  | cons p ps ih =>
    intro trailing w b h pre mpre i out hm
    obtain ⟨w1, rfl, h1⟩ := tpl_lit_iff.1 h
    obtain ⟨v, w2, b', rfl, rfl, hv, h2⟩ := tpl_var_iff.1 h1
    have hs := goSlice_append (pre ++ p.raw) v w2
    have := ih trailing w2 b' h2 (pre ++ p.raw ++ v) (mpre ++ [((pre ++ p.raw).length : Int), (((pre ++ p.raw).length + v.length : Nat) : Int)])
      (i + 1) (mapSet out p.name v) (by simp only [List.length_append, List.length_cons, List.length_nil]; omega)
    simp only [List.length_append, List.append_assoc, List.cons_append, List.nil_append, ← Nat.add_assoc] at hs this
    -- `2*i+2` is the length of `mpre`: the two reads hit the span of `v`, the first two entries behind `mpre`
    simp only [spans, spanInts_cons, List.map_cons, extractVars, goIndex_behind hm, hs, bind, Except.bind]
    exact this

theorem spans_slice : ∀ (parts : List CPart) (trailing : Str) (w : Str) (b : List (Str × Str)),
    TplMatches (toSegs parts trailing) w b → ∀ (pre : Str) (j : Nat), j < parts.length →
    ∃ (x y : Nat) (v : Str), (spans pre.length parts b)[j]? = some (x, y) ∧ (b.map (·.2))[j]? = some v ∧
      goSlice (pre ++ w) (x : Int) (y : Int) = .ok v := by
  intro parts
  induction parts with
  | nil => intro trailing w b _ pre j hj; simp at hj
  | cons p ps ih =>
    intro trailing w b h pre j hj
    obtain ⟨w1, rfl, h1⟩ := tpl_lit_iff.1 h
    obtain ⟨v, w2, b', rfl, rfl, hv, h2⟩ := tpl_var_iff.1 h1
    cases j with
    | zero =>
      refine ⟨pre.length + p.raw.length, pre.length + p.raw.length + v.length, v, by simp [spans], by simp, ?_⟩
      simpa using goSlice_append (pre ++ p.raw) v w2
    | succ j =>
      obtain ⟨x, y, v', hx, hv', hs⟩ := ih trailing w2 b' h2 (pre ++ p.raw ++ v) j (Nat.lt_of_succ_lt_succ hj)
      refine ⟨x, y, v', ?_, hv', ?_⟩
      · rw [← hx]; simp [spans, Nat.add_assoc]
      · rw [← hs]; simp

theorem extractRouteParams_chosen (parts : List CPart) (trailing tpl path : Str)
    (hm : matchString (compile parts trailing) path = true) :
    ∃ b, Chosen (toSegs parts trailing) path b ∧ b.map (·.1) = parts.map (·.name) ∧
      ∀ rp : RouteParams, extractRouteParams ⟨tpl, compile parts trailing, parts.length, parts.map (·.name)⟩ path rp =
        .ok { rp with vars := some (bindAll b (rp.vars.getD [])) } := by
  simp only [matchString, compile, searchFrom_bol_zero, Option.isSome_map] at hm
  cases hh : (ms (compileParts 0 parts trailing) ⟨0, path, []⟩).head? with
  | none => rw [hh] at hm; simp at hm
  | some σ =>
    obtain ⟨b, hd⟩ := head_compileParts_chosen parts 0 trailing _ _ hh
    refine ⟨b, hd.chosen, hd.names, fun rp => ?_⟩
    have key := extractVars_spans parts trailing path b hd.chosen.1 [] [((0 : Nat) : Int), (σ.pos : Int)] 0 (rp.vars.getD []) rfl
    simp only [List.length_nil, List.nil_append] at key
    rw [← hd.groups, ← flatMap_range_succ] at key
    simp only [extractRouteParams, find, compile, searchFrom_bol_zero, hh, Option.map_some]
    rw [if_pos (by simp)]
    simp only [bind, Except.bind]
    rw [key]
    rfl

theorem matchString_compile (parts : List CPart) (trailing : Str) (s : Str) :
    matchString (compile parts trailing) s = true ↔ ∃ b, TplMatches (toSegs parts trailing) s b := by
  constructor
  · intro h
    obtain ⟨b, hb, _⟩ := extractRouteParams_chosen parts trailing [] s h
    exact ⟨b, hb.1⟩
  · rintro ⟨b, hb⟩
    have := compileParts_complete parts trailing 0 ⟨0, s, []⟩ b hb
    simp only [matchString, compile, searchFrom_bol_zero, Option.isSome_map]
    cases hh : ms (compileParts 0 parts trailing) ⟨0, s, []⟩ with
    | nil => exact (this hh).elim
    | cons a l => rfl

end CoapVerif.Lemmas.Router
