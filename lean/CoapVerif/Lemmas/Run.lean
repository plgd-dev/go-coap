/-!
Runs of a machine whose steps emit outputs.  Several models define `run : σ → List ε → σ × List ω` by the same recursion
over their own `step`; `IsRun step run` says so (both fields are `rfl` wherever it is instantiated), and what follows
from the recursion alone is proved here once: a run over `a ++ b`, and the induction "an invariant of the states under
which every emitted output is good".  Machines without outputs are plain `List.foldl`; for them core has
`List.foldlRecOn`, `List.foldl_rel`, `List.foldl_hom` and `List.foldl_append`.
-/
namespace CoapVerif.Lemmas.Run

variable {σ ε ω : Type}

structure IsRun (step : σ → ε → σ × List ω) (run : σ → List ε → σ × List ω) : Prop where
  nil : ∀ s, run s [] = (s, [])
  cons : ∀ s e es, run s (e :: es) = ((run (step s e).1 es).1, (step s e).2 ++ (run (step s e).1 es).2)

namespace IsRun

variable {step : σ → ε → σ × List ω} {run : σ → List ε → σ × List ω}

theorem append (h : IsRun step run) (a b : List ε) : ∀ s,
    run s (a ++ b) = ((run (run s a).1 b).1, (run s a).2 ++ (run (run s a).1 b).2) := by
  induction a with
  | nil => intro s; rw [List.nil_append, h.nil, List.nil_append]
  | cons e a ih => intro s; rw [List.cons_append, h.cons, ih, h.cons, List.append_assoc]

theorem cons_of (h : IsRun step run) {s s1 s2 : σ} {e : ε} {es : List ε} {o1 o2 : List ω} (h1 : step s e = (s1, o1))
    (h2 : run s1 es = (s2, o2)) : run s (e :: es) = (s2, o1 ++ o2) := by
  rw [h.cons, h1, h2]

/-- the step may use that its event is one of the history -/
theorem induct (h : IsRun step run) {I : σ → Prop} {Q : ω → Prop} (evs : List ε)
    (hstep : ∀ s, I s → ∀ e ∈ evs, I (step s e).1 ∧ ∀ o ∈ (step s e).2, Q o) :
    ∀ s, I s → I (run s evs).1 ∧ ∀ o ∈ (run s evs).2, Q o := by
  induction evs with
  | nil => intro s hs; rw [h.nil]; exact ⟨hs, fun _ ho => nomatch ho⟩
  | cons e es ih =>
    intro s hs
    obtain ⟨h1, q1⟩ := hstep s hs e List.mem_cons_self
    obtain ⟨h2, q2⟩ := ih (fun s hs e he => hstep s hs e (List.mem_cons_of_mem _ he)) _ h1
    rw [h.cons]
    exact ⟨h2, fun o ho => (List.mem_append.mp ho).elim (q1 o) (q2 o)⟩

end IsRun

end CoapVerif.Lemmas.Run
