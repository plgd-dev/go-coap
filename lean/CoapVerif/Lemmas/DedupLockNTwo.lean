import CoapVerif.Model.DedupLock
import CoapVerif.Lemmas.DedupLockNInv
/-! The two-goroutine model `Model/DedupLock.lean` is the n = 2, one-message-ID instance of `Model/DedupLockN.lean`, seen at a
coarser grain: every statement of the fine model is either invisible to the coarse one or one statement of it (`sim`,
`two_refines`).  What this is for: the coarse model, on which `Props/C05.lean` states `concurrent_copies_*` and
`Findings/C05.lean` its schedule without the lock, treats the mutex as one atomic lock / unlock; the refinement shows that it
leaves out nothing two copies can do over the `MutexMap` protocol.  No theorem is obtained through it: the fine model has
`Props.C05Lock.handler_once_without_expiry` for any number of copies directly. -/
namespace CoapVerif.Lemmas.DedupLockN
open CoapVerif.Model.DedupLockN

/-- `unlocking` is already `done`: the coarse lock is "in the section" (`abs2`), and the coarse `replied → done` gives it up in
    one statement.  That statement is the fine `replied → unlocking`; the second half of `Unlock`, with the entry's mutex still
    held, is invisible. -/
def absPC : PC → Model.DedupLock.PC
  | .start | .retry | .waiting _ => .idle
  | .locked => .locked
  | .miss => .miss
  | .handled _ => .handled
  | .replied _ => .replied
  | .unlocking _ _ | .done _ | .panicked | .gone => .done

def pcAt (s : State) (i : Nat) : PC := match s.gs[i]? with | some g => g.pc | none => .gone

/-- The coarse view of a state with two copies (goroutines 0 and 1) of message ID `k`. -/
def abs2 (k : Nat) (s : State) : Model.DedupLock.State :=
  ⟨absPC (pcAt s 0), absPC (pcAt s 1),
   if inCS (pcAt s 0) then some false else if inCS (pcAt s 1) then some true else none,
   (s.cache k).isSome, (s.runs k).length⟩

def two (k : Nat) (s : State) : Prop := ∃ p0 p1, s.gs = [⟨k, p0⟩, ⟨k, p1⟩]

def stepOf (b : Bool) : Ev := .step (if b then 1 else 0)

/-- What one statement of thread `b`'s goroutine may be to the coarse model: invisible, or one statement of thread `b` —
    and the two copies are still the whole system. -/
def Coarse (k : Nat) (b : Bool) (s s' : State) : Prop :=
  (abs2 k s' = abs2 k s ∨ abs2 k s' = Model.DedupLock.step true (abs2 k s) b) ∧ two k s'

/-- The coarse state in which thread `b` is at `x` and the other one at `y`.  `raw`, `lockOf` and `twoAt` all put the thread that
    moves first, whichever it is, so that `sim` goes through the program once and not once per thread. -/
def raw (b : Bool) (x y : Model.DedupLock.PC) (l : Option Bool) (c : Bool) (r : Nat) : Model.DedupLock.State :=
  if b then ⟨y, x, l, c, r⟩ else ⟨x, y, l, c, r⟩

def lockOf (b : Bool) (p q : PC) : Option Bool :=
  if b then (if inCS q then some false else if inCS p then some true else none)
  else (if inCS p then some false else if inCS q then some true else none)

theorem lockOf_in (b : Bool) {p q : PC} (hp : inCS p = true) (hq : inCS q = false) : lockOf b p q = some b := by
  cases b <;> simp [lockOf, hp, hq]

theorem lockOf_out (b : Bool) {p q : PC} (hp : inCS p = false) (hq : inCS q = false) : lockOf b p q = none := by
  cases b <;> simp [lockOf, hp, hq]

theorem lockOf_congr (b : Bool) {p p' : PC} (q : PC) (h : inCS p' = inCS p) : lockOf b p' q = lockOf b p q := by
  unfold lockOf; rw [h]

theorem step_raw (b : Bool) (x y : Model.DedupLock.PC) (l : Option Bool) (c : Bool) (r : Nat) :
    Model.DedupLock.step true (raw b x y l c r) b =
      match x with
      | .idle => (match l with | none => raw b .locked y (some b) c r | some _ => raw b .idle y l c r)
      | .locked => raw b (if c then .replied else .miss) y l c r
      | .miss => raw b .handled y l c (r + 1)
      | .handled => raw b .replied y l true r
      | .replied => raw b .done y none c r
      | .done => raw b .done y l c r := by
  cases b <;> cases x <;> first | rfl | (cases l <;> rfl) | (cases c <;> rfl)

def twoAt (b : Bool) (k : Nat) (p q : PC) : List G := if b then [⟨k, q⟩, ⟨k, p⟩] else [⟨k, p⟩, ⟨k, q⟩]

theorem abs2_twoAt (b : Bool) (k : Nat) (s : State) (p q : PC) (h : s.gs = twoAt b k p q) :
    abs2 k s = raw b (absPC p) (absPC q) (lockOf b p q) (s.cache k).isSome (s.runs k).length := by
  cases b <;> simp [abs2, pcAt, h, twoAt, raw, lockOf]

theorem twoAt_set (b : Bool) (k : Nat) (p q p' : PC) :
    (twoAt b k p q).set (if b then 1 else 0) ⟨k, p'⟩ = twoAt b k p' q := by
  cases b <;> rfl

theorem twoAt_get (b : Bool) (k : Nat) (p q : PC) : (twoAt b k p q)[if b then 1 else 0]? = some ⟨k, p⟩ := by
  cases b <;> rfl

theorem two_twoAt {b : Bool} {k : Nat} {s : State} {p q : PC} (h : s.gs = twoAt b k p q) : two k s := by
  cases b
  · exact ⟨p, q, h⟩
  · exact ⟨q, p, h⟩

/-- The shape of every case below: thread `b`'s goroutine goes from `p` to `p'` (`s'` differs from `s` in that program counter,
    and perhaps in cache and executions); what is left to show is the relation between the two coarse states, read off the
    side of `b`. -/
theorem sim_move {b : Bool} {k : Nat} {s s' : State} {p q p' : PC} (hgs : s.gs = twoAt b k p q)
    (hgs' : s'.gs = s.gs.set (if b then 1 else 0) ⟨k, p'⟩)
    (h : raw b (absPC p') (absPC q) (lockOf b p' q) (s'.cache k).isSome (s'.runs k).length =
          raw b (absPC p) (absPC q) (lockOf b p q) (s.cache k).isSome (s.runs k).length ∨
        raw b (absPC p') (absPC q) (lockOf b p' q) (s'.cache k).isSome (s'.runs k).length =
          Model.DedupLock.step true (raw b (absPC p) (absPC q) (lockOf b p q) (s.cache k).isSome (s.runs k).length) b) :
    Coarse k b s s' := by
  rw [hgs, twoAt_set] at hgs'
  unfold Coarse
  rw [abs2_twoAt b k s p q hgs, abs2_twoAt b k s' p' q hgs']
  exact ⟨h, two_twoAt hgs'⟩

theorem sim (c0 : Nat → Option Nat) (c : Cfg) (hc : c.useLock = true) (b : Bool) (k : Nat) (s : State) (hI : Inv c0 s)
    (p q : PC) (hgs : s.gs = twoAt b k p q) :
    Coarse k b s (step c s (stepOf b)) := by
  have hgi : s.gs[if b then 1 else 0]? = some ⟨k, p⟩ := by rw [hgs]; exact twoAt_get b k p q
  have hgj : s.gs[if b then 0 else 1]? = some ⟨k, q⟩ := by rw [hgs]; cases b <;> rfl
  have hne : (if b then 0 else 1) ≠ (if b then 1 else 0) := by cases b <;> decide
  have hmx : inCS p = true → inCS q = false := fun hp => hI.lock.alone hgi hp _ _ hne hgj
  -- a statement that the coarse model does not see: the same coarse program counter, outside the section before and after
  have silent : ∀ {s' : State} {p' : PC}, s'.gs = s.gs.set (if b then 1 else 0) ⟨k, p'⟩ → s'.cache = s.cache → s'.runs = s.runs →
      absPC p' = absPC p → inCS p' = inCS p → Coarse k b s s' := by
    intro s' p' hgs' hca hru ha hi
    refine sim_move hgs hgs' (.inl ?_)
    rw [ha, lockOf_congr b q hi, hca, hru]
  simp only [step, stepOf, hgi]
  cases p with
  | start =>
    simp only [stepG, hc, if_true, lockRef]
    split
    · split
      · exact silent rfl rfl rfl rfl rfl
      · -- `TryLock` succeeds, into the section: no entry, so the other copy is outside
        rename_i hma
        have hq : inCS q = false := by
          cases hq : inCS q
          · rfl
          · obtain ⟨e, he, _⟩ := (hI.lock.granted _ k q hgj).cs hq
            cases hma.symm.trans he
        refine sim_move hgs rfl (.inr ?_)
        rw [step_raw, lockOf_in b (p := .locked) rfl hq, lockOf_out b (p := .start) rfl hq]; rfl
    · split <;> exact silent rfl rfl rfl rfl rfl
  | retry =>
    simp only [stepG, lockRef]
    split <;> exact silent rfl rfl rfl rfl rfl
  | waiting e =>
    simp only [stepG]
    split
    · -- the mutex of the entry in the map is free, into the section: the other copy would hold it
      rename_i hfree
      have hq : inCS q = false := by
        cases hq : inCS q
        · rfl
        · obtain ⟨e', he', hheld⟩ := (hI.lock.granted _ k q hgj).cs hq
          have he : s.ma k = some e := hI.lock.granted _ k _ hgi
          rw [he] at he'; cases he'
          rw [hfree] at hheld; cases hheld
      refine sim_move hgs rfl (.inr ?_)
      rw [step_raw, lockOf_in b (p := .locked) rfl hq, lockOf_out b (p := .waiting e) rfl hq]; rfl
    · exact ⟨.inl rfl, two_twoAt hgs⟩
  | locked =>
    have hq := hmx rfl
    simp only [stepG]
    split
    · rename_i v hv
      refine sim_move hgs rfl (.inr ?_)
      rw [step_raw, lockOf_in b rfl hq, lockOf_in b rfl hq]
      simp only [setPc, hv, Option.isSome_some]; rfl
    · rename_i hv
      refine sim_move hgs rfl (.inr ?_)
      rw [step_raw, lockOf_in b rfl hq, lockOf_in b rfl hq]
      simp only [setPc, hv, Option.isSome_none]; rfl
  | miss =>
    have hq := hmx rfl
    simp only [stepG]
    refine sim_move hgs rfl (.inr ?_)
    rw [step_raw, lockOf_in b rfl hq, lockOf_in b rfl hq]
    simp [setPc, absPC]
  | handled v =>
    have hq := hmx rfl
    simp only [stepG]
    split
    · rename_i w hw
      refine sim_move hgs rfl (.inr ?_)
      rw [step_raw, lockOf_in b rfl hq, lockOf_in b rfl hq]
      simp [setPc, absPC, hw]
    · refine sim_move hgs rfl (.inr ?_)
      rw [step_raw, lockOf_in b rfl hq, lockOf_in b rfl hq]
      simp [setPc, absPC]
  | replied v =>
    have hq := hmx rfl
    obtain ⟨e, he, _⟩ := (hI.lock.granted _ k _ hgi).cs rfl
    simp only [stepG, hc, if_true, unlockRef, he]
    split <;>
    · refine sim_move hgs rfl (.inr ?_)
      rw [step_raw, lockOf_in b (p := .replied v) rfl hq, lockOf_out b (p := .unlocking e v) rfl hq]; rfl
  | unlocking e v => exact silent rfl rfl rfl rfl rfl
  | done v => exact ⟨.inl rfl, two_twoAt hgs⟩
  | panicked => exact ⟨.inl rfl, two_twoAt hgs⟩
  | gone => exact ⟨.inl rfl, two_twoAt hgs⟩

/-- Stated for the induction over `bs`: from any state of two copies whose coarse view some coarse schedule `sched0` reaches, not
    only from the two fresh copies (`two_init`). -/
theorem two_refines (c0 : Nat → Option Nat) (c : Cfg) (hc : c.useLock = true) (k : Nat) (cached0 : Bool) :
    ∀ (bs : List Bool) (s : State) (sched0 : List Bool), Inv c0 s → two k s →
      abs2 k s = Model.DedupLock.exec true (Model.DedupLock.init cached0) sched0 →
      ∃ sched, abs2 k (exec c s (bs.map stepOf)) = Model.DedupLock.exec true (Model.DedupLock.init cached0) sched := by
  intro bs
  induction bs with
  | nil => intro s sched0 _ _ h; exact ⟨sched0, h⟩
  | cons b r ih =>
    intro s sched0 hI ⟨p0, p1, hgs⟩ h
    have hI' := inv_step hc hI (stepOf b)
    simp only [List.map_cons, exec, List.foldl_cons]
    obtain ⟨hor, ht⟩ : Coarse k b s (step c s (stepOf b)) := by
      cases b
      · exact sim c0 c hc false k s hI p0 p1 hgs
      · exact sim c0 c hc true k s hI p1 p0 hgs
    rcases hor with he | he
    · exact ih _ sched0 hI' ht (he.trans h)
    · refine ih _ (sched0 ++ [b]) hI' ht ?_
      rw [he, h]
      simp [Model.DedupLock.exec, List.foldl_append]

theorem two_init (c0 : Nat → Option Nat) (c : Cfg) (k : Nat) :
    abs2 k (exec c (init c0) [.arrive k, .arrive k]) = Model.DedupLock.init (c0 k).isSome ∧
    two k (exec c (init c0) [.arrive k, .arrive k]) := by
  constructor
  · simp [exec, step, init, abs2, pcAt, absPC, inCS, Model.DedupLock.init]
  · exact ⟨.start, .start, by simp [exec, step, init]⟩

end CoapVerif.Lemmas.DedupLockN
