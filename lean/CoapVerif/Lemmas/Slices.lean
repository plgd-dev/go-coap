import CoapVerif.Model.OptionCodec
/-!
The checked primitives of `Model/OptionCodec.lean` (Go's `b[i]`, `b[i:]`, `b[:j]`, `b[0] = x`, `copy`, and a callee writing
through `buf[k:]`: `withSub`) where they succeed.  `withSub_prefix` takes the buffer cut at `k`; `copy` is given both for a
whole buffer (`goCopy_fits`) and for one cut where the write ends (`goCopy_prefix`).
-/
namespace CoapVerif.Lemmas.Slices
open CoapVerif.Spec.Wire CoapVerif.Model.OptionCodec

@[simp] theorem idx_cons_zero (b : UInt8) (t : Bytes) : idx (b :: t) 0 = .ok b := by simp [idx]
@[simp] theorem idx_cons_one (a b : UInt8) (t : Bytes) : idx (a :: b :: t) 1 = .ok b := by simp [idx]

theorem sliceFrom_ok {b : Bytes} {i : Nat} (h : i ≤ b.length) : sliceFrom b i = .ok (b.drop i) := by
  simp [sliceFrom, h]
theorem sliceTo_ok {b : Bytes} {j : Nat} (h : j ≤ b.length) : sliceTo b j = .ok (b.take j) := by
  simp [sliceTo, h]

theorem setAt_zero (b : UInt8) (t : Bytes) (v : UInt8) : setAt (b :: t) 0 v = .ok (v :: t) := by
  simp [setAt]

theorem withSub_prefix {α : Type} (p r : Bytes) (f : Bytes → Except Err (α × Bytes)) (k : Nat) (hk : p.length = k) :
    withSub (p ++ r) k f =
      match f r with
      | .error e => .error e
      | .ok (a, w) => .ok (a, p ++ w) := by
  subst hk
  simp only [withSub, List.length_append, Nat.le_add_right, ↓reduceIte, List.drop_left', List.take_left']
  cases f r with
  | error e => rfl
  | ok x => rfl

theorem goCopy_fits (buf v : Bytes) (h : v.length ≤ buf.length) : goCopy buf v = v ++ buf.drop v.length := by
  simp [goCopy, List.take_of_length_le h]

theorem goCopy_length (buf v : Bytes) : (goCopy buf v).length = buf.length := by
  simp [goCopy]; omega

theorem goCopy_prefix (p x v : Bytes) (h : p.length = v.length) : goCopy (p ++ x) v = v ++ x := by
  rw [goCopy_fits _ _ (by simp; omega), ← h, List.drop_left' rfl]

end CoapVerif.Lemmas.Slices
