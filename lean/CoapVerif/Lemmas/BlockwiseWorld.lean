import CoapVerif.Model.Blockwise
import CoapVerif.Lemmas.Run
/-!
The two-endpoint system (`World`, `Model/Blockwise.lean`) walked once.  The relay's decision is a function of the messages in
flight and the history alone (`relay`; `World.fault` is that decision followed by `World.recv`, and so is `OWorld.fault` of the
observe-aware system: `ofault_relay` in `Lemmas/BlockwiseConservSys.lean`).  An invariant of the system that is made of a
predicate per endpoint, one on the applications and one on the messages in flight or in the history (`Sys`) is kept by every
script as soon as the operations of ONE endpoint keep their part of it (`Sys.Keeps`, `Sys.Keeps.run`).  `WInv`
(`Lemmas/Blockwise.lean`) and `PlainW` (`Lemmas/BlockwiseConservSys.lean`) are such invariants.
-/
namespace CoapVerif.Lemmas.BlockwiseWorld
open CoapVerif CoapVerif.Model.Blockwise

/-- the relay's decision: the messages in flight and the history afterwards, and the message handed to its destination -/
def relay (queue hist : List Packet) : Fault → List Packet × List Packet × Option Packet
  | .deliver => match queue with
    | [] => (queue, hist, none)
    | p :: q => (q, hist ++ [p], some p)
  | .dup => match queue with
    | [] => (queue, hist, none)
    | p :: _ => (queue, hist ++ [p], some p)
  | .drop => match queue with
    | [] => (queue, hist, none)
    | p :: q => (q, hist ++ [p], none)
  | .swap => match queue with
    | p :: p' :: q => (p' :: p :: q, hist, none)
    | _ => (queue, hist, none)
  | .replay k => (queue, hist, hist[k]?)

theorem relay_mem (queue hist : List Packet) (f : Fault) :
    (∀ x, x ∈ (relay queue hist f).1 ∨ x ∈ (relay queue hist f).2.1 → x ∈ queue ∨ x ∈ hist) ∧
    ∀ p, (relay queue hist f).2.2 = some p → p ∈ queue ∨ p ∈ hist := by
  have logged : ∀ (p : Packet) (q q' : List Packet), queue = p :: q → (∀ x ∈ q', x ∈ queue) → ∀ x, x ∈ q' ∨ x ∈ hist ++ [p] → x ∈ queue ∨ x ∈ hist := by
    intro p q q' hq hsub x hx
    rcases hx with hx | hx
    · exact .inl (hsub x hx)
    · rcases List.mem_append.mp hx with hx | hx
      · exact .inr hx
      · exact .inl (by rw [hq, List.mem_singleton.mp hx]; exact List.mem_cons_self)
  cases f with
  | replay k => exact ⟨fun _ hx => hx, fun p hp => .inr (List.mem_of_getElem? hp)⟩
  | swap =>
    match queue with
    | [] | [_] => exact ⟨fun _ hx => hx, fun _ hp => nomatch hp⟩
    | p :: p' :: q =>
      refine ⟨fun x hx => hx.imp_left fun hx => ?_, fun _ hp => nomatch hp⟩
      simp only [relay, List.mem_cons] at hx ⊢
      exact hx.elim (fun h => .inr (.inl h)) fun hx => hx.elim .inl fun h => .inr (.inr h)
  | deliver =>
    match hq : queue with
    | [] => exact ⟨fun _ hx => hx, fun _ hp => nomatch hp⟩
    | p :: q =>
      exact ⟨logged p q q rfl fun x hx => List.mem_cons_of_mem _ hx, fun p' hp => by cases hp; exact .inl List.mem_cons_self⟩
  | dup =>
    match hq : queue with
    | [] => exact ⟨fun _ hx => hx, fun _ hp => nomatch hp⟩
    | p :: q => exact ⟨logged p q _ rfl fun _ hx => hx, fun p' hp => by cases hp; exact .inl List.mem_cons_self⟩
  | drop =>
    match hq : queue with
    | [] => exact ⟨fun _ hx => hx, fun _ hp => nomatch hp⟩
    | p :: q => exact ⟨logged p q q rfl fun x hx => List.mem_cons_of_mem _ hx, fun _ hp => nomatch hp⟩

theorem fault_relay (w : World) (f : Fault) :
    w.fault f =
      match (relay w.queue w.hist f).2.2 with
      | none => ({ w with queue := (relay w.queue w.hist f).1, hist := (relay w.queue w.hist f).2.1 }, [])
      | some p => World.recv { w with queue := (relay w.queue w.hist f).1, hist := (relay w.queue w.hist f).2.1 } p := by
  obtain ⟨a, b, appB, now, queue, hist, pending⟩ := w
  cases f with
  | replay k => simp only [World.fault, relay]; cases hist[k]? <;> rfl
  | swap =>
    match queue with
    | [] | [_] | _ :: _ :: _ => rfl
  | deliver => cases queue <;> rfl
  | dup => cases queue <;> rfl
  | drop => cases queue <;> rfl

/-- the parts of an invariant of the system: what holds of the endpoint of a side, of its application, of every message in
    flight or in the history, of the requests handed to `Do` / `WriteMessage`, and — the conclusion about the events — of what
    is handed to the application of a side -/
structure Sys where
  ep : Side → Endpoint → Prop
  app : Side → App → Prop
  pk : Packet → Prop
  req : Msg → Prop
  dl : Side → Msg → Prop

structure Sys.Holds (S : Sys) (w : World) : Prop where
  ep : ∀ s, S.ep s (w.ep s)
  app : ∀ s, S.app s (w.appOf s)
  pk : ∀ p, p ∈ w.queue ∨ p ∈ w.hist → S.pk p

/-- `finishes`, `starts` and `writes` speak of side A only: in `World` only A's application calls `Do` and `WriteMessage`
    (`World.startDo`, `completeDo` and `World.sleep` act on `w.a`; `World.op` has `.writeReq r => w.startWrite .A r`) -/
structure Sys.Keeps (S : Sys) : Prop where
  handles : ∀ {s ep app} (now : Int) {r : Msg}, S.ep s ep → S.app s app → S.pk ⟨s, r⟩ →
    S.ep s (handle ep now r app).1 ∧ (∀ m, (handle ep now r app).2.reply = some m → S.pk ⟨s.other, onWire m⟩) ∧
    ∀ d ∈ (handle ep now r app).2.delivered, S.dl s d
  sweeps : ∀ {s ep} (now : Int), S.ep s ep → S.ep s (sweep ep now)
  finishes : ∀ {ep} (tok : Nat), S.ep .A ep → S.ep .A (doFinish ep tok)
  starts : ∀ {ep} (now : Int) {r : Msg}, S.ep .A ep → S.req r →
    S.ep .A (doStart ep now r).1 ∧ ∀ m, (doStart ep now r).2 = some m → S.pk ⟨.B, onWire m⟩
  writes : ∀ {ep} (now : Int) {r : Msg}, S.ep .A ep → S.req r →
    S.ep .A (writeMessage ep now r).1 ∧ ∀ m, (writeMessage ep now r).2 = some m → S.pk ⟨.B, onWire m⟩

variable {S : Sys}

theorem Sys.Holds.setEp {w : World} (h : S.Holds w) (s : Side) {e : Endpoint} (he : S.ep s e) : S.Holds (w.setEp s e) := by
  refine ⟨fun s' => ?_, fun s' => ?_, ?_⟩
  · cases s <;> cases s' <;> first | exact he | exact h.ep _
  · cases s <;> exact h.app s'
  · cases s <;> exact h.pk

theorem Sys.Holds.relay {w : World} (h : S.Holds w) {q hs : List Packet}
    (hsub : ∀ x, x ∈ q ∨ x ∈ hs → x ∈ w.queue ∨ x ∈ w.hist) : S.Holds { w with queue := q, hist := hs } :=
  ⟨h.ep, h.app, fun p hp => h.pk p (hsub p hp)⟩

theorem Sys.Holds.enqueue {w : World} (h : S.Holds w) {p : Packet} (hp : S.pk p) :
    S.Holds { w with queue := w.queue ++ [p] } := by
  refine ⟨h.ep, h.app, fun x hx => ?_⟩
  simp only [List.mem_append, List.mem_singleton] at hx
  rcases hx with (hx | hx) | hx
  · exact h.pk x (.inl hx)
  · exact hx ▸ hp
  · exact h.pk x (.inr hx)

theorem Sys.Holds.sent {w : World} (h : S.Holds w) {e : Endpoint} (he : S.ep .A e) {x : Option Msg}
    (hx : ∀ m, x = some m → S.pk ⟨.B, onWire m⟩) :
    ∀ m, x = some m → S.Holds { w.setEp .A e with queue := w.queue ++ [⟨.B, onWire m⟩] } :=
  fun m hm => (h.setEp .A he).enqueue (hx m hm)

theorem Sys.Keeps.afterDeliveries (hS : S.Keeps) (s : Side) (ds : List Msg) : ∀ {w : World}, S.Holds w →
    S.Holds (w.afterDeliveries s ds).1 ∧ ∀ s' d, Event.deliver s' d ∉ (w.afterDeliveries s ds).2 := by
  cases s with
  | B => exact fun h => ⟨h, fun _ _ hev => nomatch hev⟩
  | A =>
    simp only [World.afterDeliveries]
    induction ds with
    | nil => exact fun h => ⟨h, fun _ _ hev => nomatch hev⟩
    | cons m ms ih =>
      intro w h
      have hc : S.Holds (completeDo w m).1 ∧ ∀ s' d, Event.deliver s' d ∉ (completeDo w m).2 := by
        unfold completeDo
        split
        · exact ⟨⟨fun s => by cases s; exact hS.finishes _ (h.ep .A); exact h.ep .B, h.app, h.pk⟩,
            fun _ _ hev => by cases List.mem_singleton.mp hev⟩
        · exact ⟨h, fun _ _ hev => nomatch hev⟩
      exact ⟨(ih hc.1).1, fun s' d hev => (List.mem_append.mp hev).elim (hc.2 s' d) ((ih hc.1).2 s' d)⟩

theorem Sys.Keeps.recv (hS : S.Keeps) {w : World} (h : S.Holds w) (p : Packet) (hp : S.pk p) :
    S.Holds (w.recv p).1 ∧ ∀ s d, Event.deliver s d ∈ (w.recv p).2 → S.dl s d := by
  obtain ⟨dst, msg⟩ := p
  obtain ⟨hep, hrep, hdel⟩ := hS.handles w.now (h.ep dst) (h.app dst) hp
  obtain ⟨hf, hfev⟩ := hS.afterDeliveries dst (handle (w.ep dst) w.now msg (w.appOf dst)).2.delivered (h.setEp dst hep)
  unfold World.recv
  dsimp only
  generalize handle (w.ep dst) w.now msg (w.appOf dst) = res at hrep hdel hf hfev
  have hevs : ∀ s d, Event.deliver s d ∈ [Event.arrive dst msg] ++ res.2.delivered.map (Event.deliver dst) ++
      ((w.setEp dst res.1).afterDeliveries dst res.2.delivered).2 ++ (if res.2.err then [Event.errcb dst] else []) → S.dl s d := by
    intro s d hev
    simp only [List.mem_append, List.mem_singleton, List.mem_map] at hev
    rcases hev with ((hev | ⟨d', hd, hev⟩) | hev) | hev
    · cases hev
    · cases hev; exact hdel d hd
    · exact absurd hev (hfev s d)
    · split at hev
      · cases List.mem_singleton.mp hev
      · cases hev
  split
  · rename_i m hm
    refine ⟨hf.enqueue (hrep m hm), fun s d hev => ?_⟩
    rcases List.mem_append.mp hev with hev | hev
    · exact hevs s d hev
    · cases List.mem_singleton.mp hev
  · exact ⟨hf, hevs⟩

theorem Sys.Keeps.fault (hS : S.Keeps) {w : World} (h : S.Holds w) (f : Fault) :
    S.Holds (w.fault f).1 ∧ ∀ s d, Event.deliver s d ∈ (w.fault f).2 → S.dl s d := by
  obtain ⟨hsub, hp⟩ := relay_mem w.queue w.hist f
  rw [fault_relay]
  split
  · exact ⟨h.relay hsub, fun _ _ hev => nomatch hev⟩
  · rename_i p hrel
    exact hS.recv (h.relay hsub) p (h.pk p (hp p hrel))

theorem Sys.Keeps.op (hS : S.Keeps) {w : World} (h : S.Holds w) (o : Op) (ho : ∀ r, (o = .doReq r ∨ o = .writeReq r) → S.req r) :
    S.Holds (w.op o).1 ∧ ∀ s d, Event.deliver s d ∈ (w.op o).2 → S.dl s d := by
  have ha : S.ep .A w.a := h.ep .A
  cases o with
  | fault f => exact hS.fault h f
  | tick s => exact ⟨h.setEp s (hS.sweeps _ (h.ep s)), fun _ _ hev => nomatch hev⟩
  | sleep d =>
    refine ⟨⟨fun s => ?_, h.app, h.pk⟩, fun s d' hev => ?_⟩
    · cases s
      · exact List.foldlRecOn (motive := S.ep .A) _ (fun a (p : Pending) => doFinish a p.tok) ha (fun a ha p _ => hS.finishes p.tok ha)
      · exact h.ep .B
    · simp only [World.op, World.sleep, List.mem_map] at hev
      obtain ⟨_, _, hev⟩ := hev
      cases hev
  | doReq r =>
    obtain ⟨he, hm⟩ := hS.starts w.now ha (ho r (.inl rfl))
    simp only [World.op, World.startDo]
    generalize doStart w.a w.now r = res at he hm
    obtain ⟨a', _ | m⟩ := res
    · exact ⟨h.setEp .A he, fun _ _ hev => by cases List.mem_singleton.mp hev⟩
    · -- `startDo` also extends `pending`, which `Holds` does not read
      exact ⟨⟨(h.sent he hm m rfl).ep, h.app, (h.sent he hm m rfl).pk⟩, fun _ _ hev => by cases List.mem_singleton.mp hev⟩
  | writeReq r =>
    obtain ⟨he, hm⟩ := hS.writes w.now ha (ho r (.inr rfl))
    simp only [World.op, World.startWrite, World.ep]
    generalize writeMessage w.a w.now r = res at he hm
    obtain ⟨e', _ | m⟩ := res
    · exact ⟨h.setEp .A he, fun _ _ hev => by cases List.mem_singleton.mp hev⟩
    · exact ⟨h.sent he hm m rfl, fun _ _ hev => by simp at hev⟩

theorem World.isRun : Run.IsRun World.op World.run := ⟨fun _ => rfl, fun _ _ _ => rfl⟩

theorem Sys.Keeps.run (hS : S.Keeps) (ops : List Op) : ∀ (w : World), S.Holds w →
    (∀ r, (Op.doReq r ∈ ops ∨ Op.writeReq r ∈ ops) → S.req r) →
    S.Holds (World.run w ops).1 ∧ ∀ s d, Event.deliver s d ∈ (World.run w ops).2 → S.dl s d := by
  intro w h ho
  refine (World.isRun.induct (I := S.Holds) (Q := fun ev => ∀ s d, ev = .deliver s d → S.dl s d) ops (fun w h o ho' => ?_) w h).imp_right
    fun q s d hev => q _ hev s d rfl
  exact (hS.op h o fun r hr => ho r (hr.elim (fun e => .inl (e ▸ ho')) fun e => .inr (e ▸ ho'))).imp_right
    fun q _ hev s d e => q s d (e ▸ hev)

end CoapVerif.Lemmas.BlockwiseWorld
