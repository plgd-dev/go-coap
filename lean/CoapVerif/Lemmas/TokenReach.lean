import CoapVerif.Lemmas.TokenTable
/-!
What the trace-level theorems of C03 need beyond `Inv`:

* `InvR` — when the request tokens of the history are pairwise distinct (the property's "requests with distinct tokens") and
  the hash separates them (the two halves of `Props.C03.DistinctRequests`), an outstanding unanswered caller **is** registered
  under the key of its token (the converse of `Inv.tbl`), and where delivery consumes the entry an answered or returned caller
  is not.  `Inv.reg` says the first up to twins, and by `Inv.tbl` whoever is filed under the key of an answered or returned
  caller is a twin of it; every caller stems from a request of the history (`caller_from_request`), two callers from two
  requests, so there are no twins (`no_twin`);
* the message-ID layer in front of the token table: a message ID cached once stays cached.
-/
namespace CoapVerif.Lemmas.TokenReach
open CoapVerif.Model.TokenTable CoapVerif.Lemmas.TokenTable

structure InvR (h : Token → Nat) (cfg : Cfg) (s : State) : Prop where
  reg : ∀ c cl, s.callers c = some cl → cl.pc ≠ .returned → cl.slot = none → s.table (h cl.tok) = some c
  gone : deliverDeletes cfg = true → ∀ c cl, s.callers c = some cl → (cl.slot ≠ none ∨ cl.pc = .returned) →
    s.table (h cl.tok) = none

theorem invR_of_inv {h : Token → Nat} {cfg : Cfg} {s : State} (inv : Inv h cfg s)
    (nt : ∀ c cl, s.callers c = some cl → ¬ Twin h s c (h cl.tok)) : InvR h cfg s := by
  refine ⟨fun c cl hc hp hs => (inv.reg c cl hc hp hs).resolve_right (nt c cl hc), fun hd c cl hc hor => ?_⟩
  cases hk : s.table (h cl.tok) with
  | none => rfl
  | some c' =>
    -- whoever is filed under this key is outstanding and unanswered: not `c`, so a twin
    obtain ⟨cl', h1, h2, h3, h4⟩ := inv.tbl _ c' hk
    by_cases e : c' = c
    · subst e; rw [hc] at h1; cases h1
      exact hor.elim (fun g => absurd (h4 hd) g) (fun g => absurd g h3)
    · exact absurd ⟨c', cl'.tok, e, toks_of_caller h1, h2⟩ (nt c cl hc)

def doTokens : List Event → List Token
  | [] => []
  | .doStart _ tok _ _ :: es => tok :: doTokens es
  | _ :: es => doTokens es

theorem doTokens_tail (e : Event) (es : List Event) : (doTokens es).Sublist (doTokens (e :: es)) := by
  cases e <;> first | exact List.sublist_cons_self .. | exact List.Sublist.refl _

theorem mem_doTokens {c : Nat} {t : Token} {con : Bool} {mid : Nat} :
    ∀ {es : List Event}, Event.doStart c t con mid ∈ es → t ∈ doTokens es
  | x :: xs, hm => by
    rcases List.mem_cons.1 hm with rfl | hm'
    · exact List.mem_cons_self
    · exact (doTokens_tail x xs).subset (mem_doTokens hm')

/-- the requests of two callers sit at different places of the history -/
theorem doTokens_ne_of_nodup {c c' : Nat} {t t' : Token} {con con' : Bool} {mid mid' : Nat} (hne : c ≠ c') :
    ∀ (evs : List Event), (doTokens evs).Nodup →
    Event.doStart c t con mid ∈ evs → Event.doStart c' t' con' mid' ∈ evs → t ≠ t'
  | e :: es, hnd, h1, h2 => by
    rcases List.mem_cons.1 h1 with g1 | m1 <;> rcases List.mem_cons.1 h2 with g2 | m2
    · rw [← g1] at g2; cases g2; exact absurd rfl hne
    · subst g1; exact fun e => (List.nodup_cons.1 hnd).1 (e ▸ mem_doTokens m2)
    · subst g2; exact fun e => (List.nodup_cons.1 hnd).1 (e ▸ mem_doTokens m1)
    · exact doTokens_ne_of_nodup hne es (hnd.sublist (doTokens_tail e es)) m1 m2

theorem no_twin (h : Token → Nat) (cfg : Cfg) (evs : List Event) (hnd : (doTokens evs).Nodup)
    (hinj : ∀ a ∈ doTokens evs, ∀ b ∈ doTokens evs, h a = h b → a = b) (c : Nat) (cl : Caller)
    (hc : (run h cfg evs).callers c = some cl) : ¬ Twin h (run h cfg evs) c (h cl.tok) := by
  rintro ⟨c', t, hne, h1, h2⟩
  obtain ⟨con, mid, m1⟩ := caller_from_request h cfg evs c cl.tok (toks_of_caller hc)
  obtain ⟨con', mid', m2⟩ := caller_from_request h cfg evs c' t h1
  exact doTokens_ne_of_nodup hne evs hnd m2 m1 (hinj _ (mem_doTokens m2) _ (mem_doTokens m1) h2)

theorem invR_run (h : Token → Nat) (cfg : Cfg) (evs : List Event) (hnd : (doTokens evs).Nodup)
    (hinj : ∀ a ∈ doTokens evs, ∀ b ∈ doTokens evs, h a = h b → a = b) : InvR h cfg (run h cfg evs) :=
  invR_of_inv (inv_run h cfg evs) (no_twin h cfg evs hnd hinj)

/-- `cache` never shrinks in this model: every history is shorter than EXCHANGE_LIFETIME; expiry of the response cache is
    C05's. -/
theorem cache_mono_step (h : Token → Nat) (cfg : Cfg) (s : State) (ev : Event) (x : Nat) (hx : x ∈ s.cache) :
    x ∈ (step h cfg s ev).cache := by
  refine step_cases h cfg s ev (P := fun _ s' => x ∈ s'.cache)
    (idle := fun _ => hx)
    (entered := fun n => n.frame.cache ▸ hx)
    (arrived := fun a => a.cache ▸ hx)
    (drop := fun _ _ _ => hx)
    (process := fun m q _ => ?_)
    (returned := fun r => r.frame.cache ▸ hx)
    (close := hx)
  have hd : x ∈ (deliver h cfg { s with queue := q } m).cache := by
    rw [(deliver_frame h cfg { s with queue := q } m).cache]; exact hx
  rw [remember_eq]; split
  · exact List.mem_cons_of_mem _ hd
  · exact hd

theorem cache_mono_fold (h : Token → Nat) (cfg : Cfg) (evs : List Event) (s : State) (x : Nat) (hx : x ∈ s.cache) :
    x ∈ (evs.foldl (step h cfg) s).cache :=
  List.foldlRecOn (motive := fun s => x ∈ s.cache) evs _ hx fun s hx e _ => cache_mono_step h cfg s e x hx

theorem process_con_cached (h : Token → Nat) (cfg : Cfg) (s : State) (m : Msg) (q : List Msg) (hudp : cfg.udp = true)
    (hq : s.queue = m :: q) (hk : m.kind = .con) : m.mid ∈ (step h cfg s .process).cache := by
  cases hd : dedupHit cfg { s with queue := q } m
  · rw [step_process_deliver h cfg s m q hq hd, remember_eq]; simp [hudp, hk]
  · rw [step_process_dedup h cfg s m q hq hd]
    simp [dedupHit] at hd
    exact hd.2

end CoapVerif.Lemmas.TokenReach
