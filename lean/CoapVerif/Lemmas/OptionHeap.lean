import CoapVerif.Model.OptionValues
/-!
The heap of value buffers of `Model/OptionValues.lean` (C15): a write changes the written range of one buffer only —
sizes, the number of buffers and every view that does not overlap the range stay (`read_write_disj`), the range reads
what was written (`read_write_self`) — and appending buffers changes nothing that existed (`read_append`,
`size_append_lt`); the appended buffer reads as allocated (`size_append_new`, `read_append_new`).
In the namespace of `Lemmas/OptionValuesModel.lean`, which builds on this file.
-/
namespace CoapVerif.Lemmas.OptionValuesModel
open CoapVerif.Model.Options

theorem buf_eq (m : Mem) (b : Nat) : m.buf b = (m[b]?).getD [] := by
  unfold Mem.buf; rw [List.getD_eq_getElem?_getD]

theorem size_pos_lt {m : Mem} {b : Nat} (h : 0 < m.size b) : b < m.length := by
  unfold Mem.size at h
  rw [buf_eq] at h
  by_cases c : b < m.length
  · exact c
  · rw [List.getElem?_eq_none (by omega)] at h; simp at h

theorem buf_write_same {m : Mem} {b : Nat} (off : Nat) (data : List UInt8) (hb : b < m.length) :
    (m.write b off data).buf b = (m.buf b).take off ++ data ++ (m.buf b).drop (off + data.length) := by
  unfold Mem.write
  rw [buf_eq (m.set b _), List.getElem?_set]
  simp [hb]

theorem buf_write_other {m : Mem} {b b' : Nat} (off : Nat) (data : List UInt8) (h : b' ≠ b) :
    (m.write b off data).buf b' = m.buf b' := by
  unfold Mem.write
  rw [buf_eq (m.set b _), List.getElem?_set]
  have : ¬ (b = b') := fun e => h e.symm
  simp only [this, if_false]
  exact (buf_eq m b').symm

theorem length_write (m : Mem) (b off : Nat) (data : List UInt8) : (m.write b off data).length = m.length := by
  unfold Mem.write; simp

theorem size_write {m : Mem} {b off : Nat} {data : List UInt8} (hin : off + data.length ≤ m.size b) (b' : Nat) :
    (m.write b off data).size b' = m.size b' := by
  unfold Mem.size at *
  by_cases c : b' = b
  · subst c
    by_cases hb : b' < m.length
    · rw [buf_write_same off data hb]
      simp [List.length_append, List.length_take, List.length_drop]; omega
    · unfold Mem.write; rw [List.set_eq_of_length_le (by omega)]
  · rw [buf_write_other off data c]

/-- Overwriting `data.length` bytes at `off` leaves every window `[a, a + n)` that does not meet them as it was. -/
theorem take_drop_patch (B data : List UInt8) {off a n : Nat} (hin : off + data.length ≤ B.length)
    (h : a + n ≤ off ∨ off + data.length ≤ a) :
    ((B.take off ++ data ++ B.drop (off + data.length)).drop a).take n = (B.drop a).take n := by
  have h1 : (B.take off).length = off := by rw [List.length_take]; exact Nat.min_eq_left (by omega)
  rcases h with h | h
  · rw [List.append_assoc, List.drop_append_of_le_length (by omega),
      List.take_append_of_le_length (by rw [List.length_drop]; omega), List.drop_take, List.take_take,
      Nat.min_eq_left (by omega)]
  · rw [List.drop_append, List.drop_eq_nil_of_le (by rw [List.length_append]; omega), List.length_append, h1,
      List.nil_append, List.drop_drop]
    congr 2; omega

theorem read_write_disj {m : Mem} {b off : Nat} {data : List UInt8} (hin : off + data.length ≤ m.size b) (v : View)
    (h : v.bid ≠ b ∨ v.off + v.len ≤ off ∨ off + data.length ≤ v.off) :
    (m.write b off data).read v = m.read v := by
  unfold Mem.read
  by_cases c : v.bid = b
  · rw [c]
    by_cases hb : b < m.length
    · rw [buf_write_same off data hb]
      exact take_drop_patch _ data hin (h.resolve_left (fun hne => hne c))
    · unfold Mem.write; rw [List.set_eq_of_length_le (by omega)]
  · rw [buf_write_other off data c]

theorem read_write_self {m : Mem} {b off : Nat} {data : List UInt8} (hin : off + data.length ≤ m.size b) :
    (m.write b off data).read ⟨b, off, data.length⟩ = data := by
  unfold Mem.read
  simp only
  by_cases hd : data = []
  · subst hd; simp
  · have hpos : 0 < m.size b := by
      have : 0 < data.length := List.length_pos_iff.mpr hd
      omega
    have hb := size_pos_lt hpos
    rw [buf_write_same off data hb]
    unfold Mem.size at hin
    generalize m.buf b = B at hin
    have h1 : (List.take off B).length = off := by rw [List.length_take]; omega
    rw [List.append_assoc, List.drop_left' h1, List.take_left' rfl]

theorem read_zero_len (m : Mem) (v : View) (h : v.len = 0) : m.read v = [] := by
  unfold Mem.read; simp [h]

theorem read_congr_zero_len {m m' : Mem} {v : View} (h : v.len = 0) : m'.read v = m.read v :=
  (read_zero_len m' v h).trans (read_zero_len m v h).symm

theorem read_length {m : Mem} {v : View} (h : v.off + v.len ≤ m.size v.bid) : (m.read v).length = v.len := by
  unfold Mem.read Mem.size at *
  simp [List.length_take, List.length_drop]; omega

theorem read_length_le (m : Mem) (v : View) : (m.read v).length ≤ v.len := by
  unfold Mem.read; rw [List.length_take]; omega

theorem read_append {m : Mem} (extra : Mem) (v : View) (h : v.len = 0 ∨ v.bid < m.length) :
    (m ++ extra).read v = m.read v := by
  rcases h with h | h
  · exact read_congr_zero_len h
  · unfold Mem.read
    rw [buf_eq, buf_eq, List.getElem?_append_left h]

theorem size_append_lt {m : Mem} (extra : Mem) {b : Nat} (h : b < m.length) : (m ++ extra).size b = m.size b := by
  unfold Mem.size
  rw [buf_eq, buf_eq, List.getElem?_append_left h]

theorem size_le_append (m extra : Mem) (b : Nat) : m.size b ≤ (m ++ extra).size b := by
  by_cases hb : b < m.length
  · rw [size_append_lt extra hb]; exact Nat.le_refl _
  · have : m.size b = 0 := by unfold Mem.size; rw [buf_eq, List.getElem?_eq_none (by omega)]; rfl
    omega

theorem size_append_new (m : Mem) (extra : List UInt8) : (m ++ [extra]).size m.length = extra.length := by
  unfold Mem.size
  rw [buf_eq, List.getElem?_append_right (Nat.le_refl _)]
  simp

theorem read_append_new (m : Mem) (blk : List UInt8) (off len : Nat) :
    (m ++ [blk]).read ⟨m.length, off, len⟩ = (blk.drop off).take len := by
  unfold Mem.read
  rw [buf_eq, List.getElem?_append_right (Nat.le_refl _)]
  simp

end CoapVerif.Lemmas.OptionValuesModel
