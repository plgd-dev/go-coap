import CoapVerif.Model.Tables
/-! What each of the three tables of `Model/Tables.lean` is in terms of the work in progress: the per-exchange tables keep
the invariant `InvT`, the lock map is `ofCounts` of the hold counts, the limiter's entry of each endpoint is a `Slot` for the
number of its requests (`QRep`). -/
namespace CoapVerif.Lemmas.Tables
open CoapVerif.Model.Tables

structure InvT (s : TState) : Prop where
  br : ∀ e ∈ s.entries, isBracket (siteCls e.site) = true → e.owner ∉ s.ended
  lvf : ∀ e ∈ s.entries, isLive (siteCls e.site) = true → e.owner ∉ s.failed
  lvc : ∀ e ∈ s.entries, isLive (siteCls e.site) = true → e.owner ∉ s.cancelled
  -- for `lvf` at an insertion, where `WellTimed` speaks of `ended` and `cancelled`, not of `failed`
  fe : ∀ o ∈ s.failed, o ∈ s.ended

theorem invT_init : InvT {} := by
  constructor <;> (intro e he; cases he)

theorem forall_filter {α : Type} {es : List α} {P : α → Prop} (h : ∀ e ∈ es, P e) (p : α → Bool) : ∀ e ∈ es.filter p, P e :=
  fun e he => h e (List.mem_filter.mp he).1

/-- Clause `h` (kind `cls`, list `l`) survives an event that puts `o` on `l` and drops `o`'s entries of the kinds `q ⊇ cls`. -/
theorem not_mem_cons_of_filter {es : List Entry} {l : List Nat} {cls : Entry → Bool}
    (h : ∀ e ∈ es, cls e = true → e.owner ∉ l) (o : Nat) (q : Entry → Bool) (hq : ∀ e, cls e = true → q e = true) :
    ∀ e ∈ es.filter (fun e => !(e.owner == o && q e)), cls e = true → e.owner ∉ o :: l := by
  intro e he hc hin
  obtain ⟨hm, hx⟩ := List.mem_filter.mp he
  rcases List.mem_cons.mp hin with ho | hl
  · simp [ho, hq e hc] at hx
  · exact h e hm hc hl

theorem invT_step (s : TState) (ev : TEvent) (inv : InvT s)
    (hok : match ev with | .insert _ _ owner _ => owner ∉ s.ended ∧ owner ∉ s.cancelled | _ => True) :
    InvT (tstep s ev) := by
  cases ev with
  | insert site key owner deadline =>
    rw [tstep]
    obtain ⟨hne, hnc⟩ := hok
    split
    · exact inv
    · exact ⟨List.forall_mem_cons.mpr ⟨fun _ => hne, inv.br⟩,
             List.forall_mem_cons.mpr ⟨fun _ hf => hne (inv.fe _ hf), inv.lvf⟩,
             List.forall_mem_cons.mpr ⟨fun _ => hnc, inv.lvc⟩, inv.fe⟩
  | consume _ _ | tick _ => exact ⟨forall_filter inv.br _, forall_filter inv.lvf _, forall_filter inv.lvc _, inv.fe⟩
  | finish owner ok =>
    refine ⟨not_mem_cons_of_filter inv.br owner _ fun e hb => by simp [hb], ?_, forall_filter inv.lvc _, ?_⟩
    · cases ok with
      | true => exact forall_filter inv.lvf _
      | false => exact not_mem_cons_of_filter inv.lvf owner _ fun e hl => by simp [hl]
    · intro o ho
      cases ok with
      | true => exact List.mem_cons_of_mem _ (inv.fe o ho)
      | false =>
        rcases List.mem_cons.mp ho with h | h
        · subst h; exact List.mem_cons_self
        · exact List.mem_cons_of_mem _ (inv.fe o h)
  | cancelLive owner =>
    exact ⟨forall_filter inv.br _, forall_filter inv.lvf _, not_mem_cons_of_filter inv.lvc owner _ fun _ hl => hl, inv.fe⟩

theorem invT_fold : ∀ (evs : List TEvent) (s : TState), InvT s → WellTimed s evs → InvT (evs.foldl tstep s)
  | [], _, hs, _ => hs
  | e :: es, s, hs, hw => invT_fold es (tstep s e) (invT_step s e hs hw.1) hw.2

theorem invT_run (evs : List TEvent) (hw : WellTimed {} evs) : InvT (trun evs) :=
  invT_fold evs {} invT_init hw

theorem trun_append (evs : List TEvent) (e : TEvent) : trun (evs ++ [e]) = tstep (trun evs) e := by
  simp [trun, List.foldl_append]

theorem InvT.swept {s : TState} (inv : InvT s) {now : Int} {e : Entry} (he : e ∈ (tstep s (.tick now)).entries)
    (hcls : (siteCls e.site).isSome = true) (hended : e.owner ∈ s.ended) (hdead : e.deadline < now) :
    isLive (siteCls e.site) = true ∧ e.owner ∉ s.failed ∧ e.owner ∉ s.cancelled := by
  obtain ⟨he, hx⟩ := List.mem_filter.mp he
  obtain ⟨c, hc⟩ := Option.isSome_iff_exists.mp hcls
  -- every class is removed by the return, by the sweep, or is live
  have : isBracket (some c) = true ∨ isExpiring (some c) = true ∨ isLive (some c) = true := by cases c <;> decide
  rw [← hc] at this
  rcases this with hb | hb | hb
  · exact absurd hended (inv.br e he hb)
  · simp [hb, hdead] at hx
  · exact ⟨hb, inv.lvf e he hb, inv.lvc e he hb⟩

def ofCounts (c : Nat → Nat) : LockMap := fun k => if c k = 0 then none else some (c k)

theorem lstep_ofCounts_lock (c : Nat → Nat) (k : Nat) :
    lstep (ofCounts c) (.lock k) = some (ofCounts (hstep c (.lock k))) := by
  refine congrArg some (funext fun i => ?_)
  by_cases hi : i = k
  · subst hi
    by_cases h0 : c i = 0 <;> simp [ofCounts, hstep, h0]
  · simp [ofCounts, hstep, hi]

theorem lstep_ofCounts_unlock (c : Nat → Nat) (k : Nat) (hk : c k > 0) :
    lstep (ofCounts c) (.unlock k) = some (ofCounts (hstep c (.unlock k))) := by
  rw [lstep, show ofCounts c k = some (c k) from if_neg (Nat.ne_of_gt hk)]
  refine congrArg some (funext fun i => ?_)
  by_cases hi : i = k
  · subst hi
    by_cases h1 : c i - 1 = 0
    · simp [ofCounts, hstep, h1]
    · have : ¬ (c i - 1 < 1) := by omega
      simp [ofCounts, hstep, this, h1]
  · simp [ofCounts, hstep, hi]

theorem lrun_ofCounts : ∀ (es : List LEvent) (c : Nat → Nat), LValid c es →
    lrun (ofCounts c) es = some (ofCounts (hrun c es))
  | [], _, _ => rfl
  | .lock k :: es, c, hv => by
    rw [lrun, lstep_ofCounts_lock]; exact lrun_ofCounts es _ hv
  | .unlock k :: es, c, hv => by
    rw [lrun, lstep_ofCounts_unlock c k hv.1]; exact lrun_ofCounts es _ hv.2

/-- the entry `o` of an endpoint accounts for `n` requests that hold or wait for a slot of it: it exists exactly while
    `n > 0`, its counter is positive and counter + waiters is `n` -/
def Slot (o : Option (Nat × Nat)) (n : Nat) : Prop :=
  (n = 0 → o = none) ∧ (n > 0 → ∃ cc w, o = some (cc, w) ∧ cc + w = n ∧ cc ≥ 1)

theorem slot_none {n : Nat} : Slot none n ↔ n = 0 :=
  ⟨fun h => (Nat.eq_zero_or_pos n).resolve_right fun hp => (by obtain ⟨_, _, e, _⟩ := h.2 hp; cases e),
   fun h => ⟨fun _ => rfl, fun hp => absurd h (Nat.ne_of_gt hp)⟩⟩

theorem slot_some {cc w n : Nat} : Slot (some (cc, w)) n ↔ cc + w = n ∧ cc ≥ 1 := by
  constructor
  · intro h
    have hp : n > 0 := (Nat.eq_zero_or_pos n).resolve_left fun h0 => Option.some_ne_none _ (h.1 h0)
    obtain ⟨_, _, e, h2, h3⟩ := h.2 hp
    cases e; exact ⟨h2, h3⟩
  · intro h
    exact ⟨fun h0 => by omega, fun _ => ⟨cc, w, rfl, h.1, h.2⟩⟩

/-- `Slot (q k) (c k)` for every endpoint `k`, written out -/
def QRep (q : Queues) (c : Nat → Nat) : Prop :=
  ∀ k, (c k = 0 → q k = none) ∧ (c k > 0 → ∃ cc w, q k = some (cc, w) ∧ cc + w = c k ∧ cc ≥ 1)

def QValidEv (q : Queues) : QEvent → Prop
  | .acquire _ => True
  | .release k => q k ≠ none
  | .cancelWaiter k => ∃ cc w, q k = some (cc, w) ∧ w > 0

def evKey : QEvent → Nat
  | .acquire k | .release k | .cancelWaiter k => k

theorem qstep_other (limit : Nat) (q : Queues) (e : QEvent) (i : Nat) (hi : i ≠ evKey e) : qstep limit q e i = q i := by
  cases e <;> (simp only [qstep]; rcases q _ with _ | ⟨cc, w⟩ <;> first | rfl | exact if_neg hi)

theorem ostep_other (c : Nat → Nat) (e : QEvent) (i : Nat) (hi : i ≠ evKey e) : ostep c e i = c i := by
  cases e <;> exact if_neg hi

theorem qstep_acquire_none {limit : Nat} {q : Queues} {k : Nat} (hq : q k = none) :
    qstep limit q (.acquire k) k = some (1, 0) := by
  simp [qstep, hq]

theorem qstep_acquire_some {limit : Nat} {q : Queues} {k cc w : Nat} (hq : q k = some (cc, w)) :
    qstep limit q (.acquire k) k = if cc < limit then some (cc + 1, w) else some (cc, w + 1) := by
  simp [qstep, hq]

theorem qstep_release_some {limit : Nat} {q : Queues} {k cc w : Nat} (hq : q k = some (cc, w)) :
    qstep limit q (.release k) k = if w > 0 then some (cc, w - 1) else if cc - 1 = 0 then none else some (cc - 1, w) := by
  simp [qstep, hq]

theorem qstep_cancel_some {limit : Nat} {q : Queues} {k cc w : Nat} (hq : q k = some (cc, w)) :
    qstep limit q (.cancelWaiter k) k = some (cc, w - 1) := by
  simp [qstep, hq]

theorem qstep_rep (limit : Nat) (q : Queues) (c : Nat → Nat) (e : QEvent) (rep : QRep q c) (hv : QValidEv q e) :
    QRep (qstep limit q e) (ostep c e) := by
  intro i
  -- an event moves only the entry and the count at its own endpoint: there it is a statement about one `Slot`
  by_cases hi : i = evKey e
  · subst hi
    cases e with
    | acquire k =>
      show Slot (qstep limit q (.acquire k) k) (ostep c (.acquire k) k)
      rw [show ostep c (.acquire k) k = c k + 1 from if_pos rfl]
      cases hq : q k with
      | none =>
        have := slot_none.1 (hq ▸ rep k)
        rw [qstep_acquire_none hq]; exact slot_some.2 (by omega)
      | some p =>
        obtain ⟨cc, w⟩ := p
        have := slot_some.1 (hq ▸ rep k)
        rw [qstep_acquire_some hq]
        split <;> exact slot_some.2 (by omega)
    | release k =>
      show Slot (qstep limit q (.release k) k) (ostep c (.release k) k)
      rw [show ostep c (.release k) k = c k - 1 from if_pos rfl]
      cases hq : q k with
      | none => exact absurd hq hv
      | some p =>
        obtain ⟨cc, w⟩ := p
        have := slot_some.1 (hq ▸ rep k)
        rw [qstep_release_some hq]
        split
        · exact slot_some.2 (by omega)
        · split
          · exact slot_none.2 (by omega)
          · exact slot_some.2 (by omega)
    | cancelWaiter k =>
      obtain ⟨cc, w, hq, hw⟩ := hv
      show Slot (qstep limit q (.cancelWaiter k) k) (ostep c (.cancelWaiter k) k)
      have := slot_some.1 (hq ▸ rep k)
      rw [show ostep c (.cancelWaiter k) k = c k - 1 from if_pos rfl, qstep_cancel_some hq]
      exact slot_some.2 (by omega)
  · rw [qstep_other limit q e i hi, ostep_other c e i hi]; exact rep i

end CoapVerif.Lemmas.Tables
