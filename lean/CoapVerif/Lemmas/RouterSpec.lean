import CoapVerif.Spec.Router
/-!
# C17 lemmas — `Spec/Router.lean` alone: its executable tests decide its declarative notions

`Lang` is inverted constructor by constructor (`lang_*_inv`); beside the inversions stand `lang_cat_eps` (a trailing `ε` does not
change the language: the model's spelling of the default pattern against the specification's) and `lang_star_cls`,
`lang_plus_cls` (a repeated character class yields only characters of the class: what makes a template delimited).

* `dmatch_iff` : the derivative matcher decides `Lang`.
* `tpl_lit_iff`, `tpl_var_iff`, `tpl_nil_inv` : `TplMatches` read backwards, segment by segment.
* `lang_tplPat` : the language of the concatenated template (whose derivatives `matchesPath` takes) is `∃ b, TplMatches segs · b`.
* `mem_decomps` : `decomps segs w` enumerates exactly the binding lists `b` with `TplMatches segs w b`.
-/
namespace CoapVerif.Lemmas.Router
open CoapVerif.Model.Router
open CoapVerif.Spec.Router hiding byteLen

theorem lang_eps_inv {w : Str} (h : Lang .eps w) : w = [] := by cases h; rfl

theorem lang_chr_inv {c : Char} {w : Str} (h : Lang (.chr c) w) : w = [c] := by cases h; rfl

theorem lang_cls_inv {n : Bool} {it : List ClsItem} {w : Str} (h : Lang (.cls n it) w) :
    ∃ c, w = [c] ∧ clsHas n it c = true := by
  cases h with
  | cls _ _ c hc => exact ⟨c, rfl, hc⟩

theorem lang_cat_inv {a b : Pat} {w : Str} (h : Lang (.cat a b) w) :
    ∃ u v, w = u ++ v ∧ Lang a u ∧ Lang b v := by
  cases h with
  | cat ha hb => exact ⟨_, _, rfl, ha, hb⟩

theorem lang_cat_eps (p : Pat) (w : Str) : Lang (.cat p .eps) w ↔ Lang p w := by
  constructor
  · intro h
    obtain ⟨u, v, rfl, hu, hv⟩ := lang_cat_inv h
    rw [lang_eps_inv hv, List.append_nil]; exact hu
  · intro h
    have := Lang.cat h Lang.eps
    simpa using this

theorem lang_alt_inv {a b : Pat} {w : Str} (h : Lang (.alt a b) w) : Lang a w ∨ Lang b w := by
  cases h with
  | altL h => exact .inl h
  | altR h => exact .inr h

theorem lang_empty_cls {w : Str} : ¬ Lang (.cls false []) w := by
  intro h
  obtain ⟨c, _, hc⟩ := lang_cls_inv h
  simp [clsHas] at hc

theorem lang_star_cls {n : Bool} {it : List ClsItem} {g : Bool} {v : Str} (h : Lang (.star (.cls n it) g) v) :
    ∀ c ∈ v, clsHas n it c = true := by
  generalize hp : Pat.star (.cls n it) g = p at h
  induction h with
  | starNil => simp
  | starCons hu _ _ ih2 =>
    cases hp
    obtain ⟨d, rfl, hd⟩ := lang_cls_inv hu
    intro c hc
    rcases List.mem_cons.1 hc with rfl | hc
    · exact hd
    · exact ih2 rfl c hc
  | _ => cases hp

theorem lang_plus_cls {n : Bool} {it : List ClsItem} {g : Bool} {v : Str} (h : Lang (Pat.plus (.cls n it) g) v) :
    ∀ c ∈ v, clsHas n it c = true := by
  obtain ⟨u, w, rfl, hu, hw⟩ := lang_cat_inv h
  exact lang_star_cls (.starCons hu hw)

theorem nullable_iff (p : Pat) : p.nullable = true ↔ Lang p [] := by
  induction p with
  | eps => exact ⟨fun _ => .eps, fun _ => rfl⟩
  | chr c => exact ⟨fun h => by simp [Pat.nullable] at h, fun h => by cases lang_chr_inv h⟩
  | cls n it =>
    refine ⟨fun h => by simp [Pat.nullable] at h, fun h => ?_⟩
    obtain ⟨c, hc, _⟩ := lang_cls_inv h
    cases hc
  | cat a b iha ihb =>
    simp only [Pat.nullable, Bool.and_eq_true, iha, ihb]
    constructor
    · rintro ⟨ha, hb⟩
      exact Lang.cat ha hb
    · intro h
      obtain ⟨u, v, huv, ha, hb⟩ := lang_cat_inv h
      have hu : u = [] := by cases u with | nil => rfl | cons _ _ => cases huv
      have hv : v = [] := by subst hu; simpa using huv.symm
      subst hu hv
      exact ⟨ha, hb⟩
  | alt a b iha ihb =>
    simp only [Pat.nullable, Bool.or_eq_true, iha, ihb]
    exact ⟨fun h => h.elim .altL .altR, lang_alt_inv⟩
  | star a g _ => exact ⟨fun _ => .starNil, fun _ => rfl⟩

theorem lang_deriv {p : Pat} {x : Str} (h : Lang p x) : ∀ {c : Char} {w : Str}, x = c :: w → Lang (deriv c p) w := by
  induction h with
  | eps => intro c w hx; cases hx
  | chr d => intro c w hx; cases hx; simp only [deriv, if_true]; exact .eps
  | cls n it d hd => intro c w hx; cases hx; simp only [deriv, hd, if_true]; exact .eps
  | @cat a b u v ha hb iha ihb =>
    intro c w hx
    simp only [deriv]
    cases u with
    | nil =>
      -- an empty first part (here) or an empty round (`starCons` below) hands the letter on to what follows
      rw [if_pos ((nullable_iff a).2 ha)]
      exact .altR (ihb hx)
    | cons d u' =>
      cases hx
      have := Lang.cat (iha rfl) hb
      split
      · exact .altL this
      · exact this
  | altL _ ih => intro c w hx; exact .altL (ih hx)
  | altR _ ih => intro c w hx; exact .altR (ih hx)
  | starNil => intro c w hx; cases hx
  | @starCons a g u v ha hs iha ihs =>
    intro c w hx
    cases u with
    | nil => exact ihs hx
    | cons d u' => cases hx; exact .cat (iha rfl) hs

theorem lang_of_deriv (c : Char) (p : Pat) : ∀ w, Lang (deriv c p) w → Lang p (c :: w) := by
  induction p with
  | eps => intro w h; exact (lang_empty_cls h).elim
  | chr d =>
    intro w h
    simp only [deriv] at h
    split at h
    · subst d; rw [lang_eps_inv h]; exact .chr c
    · exact (lang_empty_cls h).elim
  | cls n it =>
    intro w h
    simp only [deriv] at h
    split at h
    · rw [lang_eps_inv h]; exact .cls n it c ‹_›
    · exact (lang_empty_cls h).elim
  | cat a b iha ihb =>
    intro w h
    have key : Lang (.cat (deriv c a) b) w → Lang (.cat a b) (c :: w) := by
      intro h
      obtain ⟨u, v, rfl, hu, hv⟩ := lang_cat_inv h
      exact Lang.cat (iha u hu) hv
    simp only [deriv] at h
    split at h
    · rcases lang_alt_inv h with h | h
      · exact key h
      · exact Lang.cat ((nullable_iff a).1 ‹_›) (ihb w h)
    · exact key h
  | alt a b iha ihb =>
    intro w h
    rcases lang_alt_inv h with h | h
    · exact .altL (iha w h)
    · exact .altR (ihb w h)
  | star a g iha =>
    intro w h
    obtain ⟨u, v, rfl, hu, hv⟩ := lang_cat_inv h
    exact Lang.starCons (iha u hu) hv

theorem deriv_iff (c : Char) (p : Pat) (w : Str) : Lang (deriv c p) w ↔ Lang p (c :: w) :=
  ⟨lang_of_deriv c p w, fun h => lang_deriv h rfl⟩

theorem dmatch_iff (p : Pat) (w : Str) : dmatch p w = true ↔ Lang p w := by
  induction w generalizing p with
  | nil => exact nullable_iff p
  | cons c t ih =>
    simp only [dmatch]
    rw [ih (deriv c p)]
    exact deriv_iff c p t

theorem tpl_lit_iff {s : Str} {r : List Seg} {w : Str} {b : List (Str × Str)} :
    TplMatches (.lit s :: r) w b ↔ ∃ w', w = s ++ w' ∧ TplMatches r w' b := by
  constructor
  · intro h
    cases h with
    | lit h => exact ⟨_, rfl, h⟩
  · rintro ⟨_, rfl, h⟩
    exact .lit h

theorem tpl_var_iff {n : Str} {p : Pat} {r : List Seg} {w : Str} {b : List (Str × Str)} :
    TplMatches (.var n p :: r) w b ↔ ∃ v w' b', w = v ++ w' ∧ b = (n, v) :: b' ∧ Lang p v ∧ TplMatches r w' b' := by
  constructor
  · intro h
    cases h with
    | var hv h => exact ⟨_, _, _, rfl, rfl, hv, h⟩
  · rintro ⟨_, _, _, rfl, rfl, hv, h⟩
    exact .var hv h

theorem tpl_nil_inv {w : Str} {b : List (Str × Str)} (h : TplMatches [] w b) : w = [] ∧ b = [] := by
  cases h; exact ⟨rfl, rfl⟩

theorem lang_litFold (q : Pat) : ∀ (s w : Str),
    Lang (s.foldr (fun c acc => Pat.cat (.chr c) acc) q) w ↔ ∃ w', w = s ++ w' ∧ Lang q w'
  | [], w => by simp
  | c :: t, w => by
    simp only [List.foldr_cons]
    constructor
    · intro h
      obtain ⟨u, v, rfl, hu, hv⟩ := lang_cat_inv h
      rw [lang_chr_inv hu]
      obtain ⟨w', rfl, hq⟩ := (lang_litFold q t v).1 hv
      exact ⟨w', by simp, hq⟩
    · rintro ⟨w', rfl, hq⟩
      have := Lang.cat (Lang.chr c) ((lang_litFold q t (t ++ w')).2 ⟨w', rfl, hq⟩)
      simpa using this

theorem lang_tplPat : ∀ (segs : List Seg) (w : Str), Lang (tplPat segs) w ↔ ∃ b, TplMatches segs w b
  | [], w => by
    simp only [tplPat]
    constructor
    · intro h; rw [lang_eps_inv h]; exact ⟨[], .nil⟩
    · rintro ⟨b, hb⟩; rw [(tpl_nil_inv hb).1]; exact .eps
  | .lit s :: r, w => by
    simp only [tplPat]
    rw [lang_litFold]
    constructor
    · rintro ⟨w', rfl, h⟩
      obtain ⟨b, hb⟩ := (lang_tplPat r w').1 h
      exact ⟨b, .lit hb⟩
    · rintro ⟨b, hb⟩
      obtain ⟨w', rfl, h'⟩ := tpl_lit_iff.1 hb
      exact ⟨w', rfl, (lang_tplPat r w').2 ⟨b, h'⟩⟩
  | .var n p :: r, w => by
    simp only [tplPat]
    constructor
    · intro h
      obtain ⟨u, v, rfl, hu, hv⟩ := lang_cat_inv h
      obtain ⟨b, hb⟩ := (lang_tplPat r v).1 hv
      exact ⟨(n, u) :: b, .var hu hb⟩
    · rintro ⟨b, hb⟩
      obtain ⟨v, w', b', rfl, rfl, hv, h'⟩ := tpl_var_iff.1 hb
      exact Lang.cat hv ((lang_tplPat r w').2 ⟨b', h'⟩)

theorem mem_splits : ∀ (w v w' : Str), (v, w') ∈ splits w ↔ w = v ++ w'
  | [], v, w' => by
    simp only [splits, List.mem_singleton, Prod.mk.injEq]
    constructor
    · rintro ⟨rfl, rfl⟩; rfl
    · intro h
      have := List.append_eq_nil_iff.1 h.symm
      exact ⟨this.1, this.2⟩
  | c :: t, v, w' => by
    simp only [splits, List.mem_cons, Prod.mk.injEq, List.mem_map, Prod.exists]
    constructor
    · rintro (⟨rfl, rfl⟩ | ⟨a, b, hab, rfl, rfl⟩)
      · rfl
      · rw [(mem_splits t a b).1 hab]; rfl
    · intro h
      cases v with
      | nil => exact .inl ⟨rfl, by simpa using h.symm⟩
      | cons d v' =>
        simp only [List.cons_append, List.cons.injEq] at h
        obtain ⟨rfl, ht⟩ := h
        exact .inr ⟨v', w', (mem_splits t v' w').2 ht, rfl, rfl⟩

theorem stripPrefix_iff : ∀ (s w w' : Str), stripPrefix s w = some w' ↔ w = s ++ w'
  | [], w, w' => by simp [stripPrefix]
  | a :: s, [], w' => by simp [stripPrefix]
  | a :: s, b :: w, w' => by
    simp only [stripPrefix]
    by_cases h : a = b
    · subst h
      simp only [if_true, List.cons_append, List.cons.injEq, true_and]
      exact stripPrefix_iff s w w'
    · simp only [h, if_false, List.cons_append, List.cons.injEq]
      constructor
      · intro h'; cases h'
      · rintro ⟨h', _⟩; exact (h h'.symm).elim

theorem mem_decomps : ∀ (segs : List Seg) (w : Str) (b : List (Str × Str)), b ∈ decomps segs w ↔ TplMatches segs w b
  | [], w, b => by
    simp only [decomps]
    by_cases hw : w = []
    · subst hw
      simp only [if_true, List.mem_singleton]
      constructor
      · rintro rfl; exact .nil
      · intro h; exact (tpl_nil_inv h).2
    · simp only [hw, if_false, List.not_mem_nil, false_iff]
      intro h; exact hw (tpl_nil_inv h).1
  | .lit s :: r, w, b => by
    simp only [decomps]
    cases hsp : stripPrefix s w with
    | none =>
      simp only [List.not_mem_nil, false_iff]
      intro h
      obtain ⟨w', rfl, _⟩ := tpl_lit_iff.1 h
      have := (stripPrefix_iff s (s ++ w') w').2 rfl
      rw [hsp] at this; cases this
    | some w' =>
      have hw := (stripPrefix_iff s w w').1 hsp
      subst hw
      simp only
      rw [mem_decomps r w' b]
      constructor
      · intro h; exact .lit h
      · intro h
        obtain ⟨w'', he, h'⟩ := tpl_lit_iff.1 h
        rw [List.append_cancel_left he]; exact h'
  | .var n p :: r, w, b => by
    simp only [decomps, List.mem_flatMap, Prod.exists]
    constructor
    · rintro ⟨v, w', hs, hm⟩
      have hw := (mem_splits w v w').1 hs
      subst hw
      by_cases hd : dmatch p v = true
      · simp only [hd, if_true, List.mem_map] at hm
        obtain ⟨b', hb', rfl⟩ := hm
        exact .var ((dmatch_iff p v).1 hd) ((mem_decomps r w' b').1 hb')
      · simp [hd] at hm
    · intro h
      obtain ⟨v, w', b', rfl, rfl, hv, h'⟩ := tpl_var_iff.1 h
      refine ⟨v, w', (mem_splits _ v w').2 rfl, ?_⟩
      simp only [(dmatch_iff p v).2 hv, if_true, List.mem_map]
      exact ⟨b', (mem_decomps r w' b').2 h', rfl⟩

end CoapVerif.Lemmas.Router
