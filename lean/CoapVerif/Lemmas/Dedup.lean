import CoapVerif.Model.Dedup
import CoapVerif.Lemmas.KeyedList
/-! C05, the history model: lookups in the association-list cache after `store` / `sweep`; which of the datagrams an arrival
sends is its reply (the handler's own messages carry `nestedTok`); the predicates `DupOk`, `FreshOk`, `TraceOk` in which
`Props/C05.lean` reads its theorems off a trace; the invariant `Inv` tying the cache to the trace, and its preservation by
every event. -/
namespace CoapVerif.Lemmas.Dedup
open CoapVerif.Spec.Dedup CoapVerif.Model.Dedup

theorem lookupRaw_mem {c : List (Nat × CEntry)} {m : Nat} {e : CEntry} (h : lookupRaw c m = some e) : (m, e) ∈ c := by
  unfold lookupRaw at h
  split at h
  · rename_i p hp
    obtain ⟨hm, hk⟩ := KeyedList.find?_some Prod.fst hp
    cases h; cases hk
    exact hm
  · cases h

theorem lookupRaw_cons (k : Nat) (e : CEntry) (c : List (Nat × CEntry)) (m : Nat) :
    lookupRaw ((k, e) :: c) m = if k = m then some e else lookupRaw c m := by
  unfold lookupRaw
  by_cases h : k = m
  · simp [h]
  · simp [h]

theorem lookupRaw_filter {c : List (Nat × CEntry)} {m : Nat} {e : CEntry} (p : Nat × CEntry → Bool)
    (h : lookupRaw c m = some e) (hp : p (m, e) = true) : lookupRaw (c.filter p) m = some e := by
  induction c with
  | nil => exact h
  | cons x t ih =>
    obtain ⟨a, b⟩ := x
    rw [lookupRaw_cons] at h
    by_cases ha : a = m
    · rw [if_pos ha, Option.some.injEq] at h
      rw [ha, h, List.filter_cons_of_pos hp, lookupRaw_cons, if_pos rfl]
    · rw [if_neg ha] at h
      rw [List.filter_cons]
      split
      · rw [lookupRaw_cons, if_neg ha]; exact ih h
      · exact ih h

theorem lookup_some {c : List (Nat × CEntry)} {now m : Nat} {e : CEntry} (h : lookup c now m = some e) :
    lookupRaw c m = some e ∧ now ≤ e.validUntil := by
  unfold lookup at h
  split at h
  · rename_i e' he'
    split at h
    · injection h with h; subst h; exact ⟨he', by assumption⟩
    · cases h
  · cases h

theorem lookup_none_of_raw {c : List (Nat × CEntry)} {now m : Nat} {e : CEntry}
    (hr : lookupRaw c m = some e) (h : lookup c now m = none) : e.validUntil < now := by
  unfold lookup at h
  rw [hr] at h
  simp at h
  omega

theorem lookup_none_mono {c : List (Nat × CEntry)} {now now' m : Nat} (hle : now ≤ now')
    (h : lookup c now m = none) : lookup c now' m = none := by
  unfold lookup at h ⊢
  split
  · rename_i e he
    rw [he] at h
    simp at h
    have : ¬ now' ≤ e.validUntil := by omega
    simp [this]
  · rfl

theorem store_of_miss {c : List (Nat × CEntry)} {now k : Nat} (e : CEntry) (h : lookup c now k = none) :
    store c now k e = (k, e) :: c.filter (fun p => p.1 != k) := by
  unfold store; rw [h]

theorem lookupRaw_store_same {c : List (Nat × CEntry)} {now k : Nat} (e : CEntry) (h : lookup c now k = none) :
    lookupRaw (store c now k e) k = some e := by
  rw [store_of_miss e h, lookupRaw_cons, if_pos rfl]

theorem lookupRaw_store_other {c : List (Nat × CEntry)} {now k m : Nat} (e : CEntry) (h : lookup c now k = none) (hk : k ≠ m)
    {e' : CEntry} (hm : lookupRaw c m = some e') : lookupRaw (store c now k e) m = some e' := by
  rw [store_of_miss e h, lookupRaw_cons, if_neg hk]
  exact lookupRaw_filter _ hm (bne_iff_ne.mpr (Ne.symm hk))

theorem mem_store_of_miss {c : List (Nat × CEntry)} {now k : Nat} (e : CEntry) (h : lookup c now k = none)
    {x : Nat × CEntry} (hx : x ∈ store c now k e) : x = (k, e) ∨ x ∈ c := by
  rw [store_of_miss e h] at hx
  cases hx with
  | head => exact Or.inl rfl
  | tail _ ht => exact Or.inr (List.mem_filter.mp ht).1

theorem ne_nestedTok {t tok : List UInt8} (h : t.length ≤ tok.length) : (t != nestedTok tok) = true := by
  refine bne_iff_ne.mpr fun heq => ?_
  have := congrArg List.length heq
  simp only [nestedTok, List.length_append, List.length_singleton] at this
  omega

theorem nestedOf_toks (beh : Beh) (tok : List UInt8) (n m : Nat) :
    ∀ d ∈ (nestedOf beh tok n m).2, d.tok = nestedTok tok := by
  intro d hd
  unfold nestedOf at hd
  cases beh <;> simp at hd
  subst hd; rfl

theorem find_reply_nested (nested : List Dgram) (tok : List UInt8)
    (hn : ∀ d ∈ nested, d.tok = nestedTok tok) :
    nested.find? (fun d => d.tok != nestedTok tok) = none :=
  List.find?_eq_none.mpr fun d hd => by simp [hn d hd]

theorem find_reply_append (nested : List Dgram) (r : Dgram) (tok : List UInt8)
    (hn : ∀ d ∈ nested, d.tok = nestedTok tok) (hr : (r.tok != nestedTok tok) = true) :
    (nested ++ [r]).find? (fun d => d.tok != nestedTok tok) = some r := by
  rw [List.find?_append, find_reply_nested nested tok hn, Option.none_or]
  exact List.find?_cons_of_pos (p := fun d : Dgram => d.tok != nestedTok tok) hr

/-- `respond` with `emptyCached = true` (what `Props.C05.empty_reply_is_cached` reads from the source).  The token clause is what
    lets `reply` tell the cached datagram from the handler's own message (`nestedOf`). -/
theorem respond_emptyCached (typ : RType) (mid : Nat) (tok : List UInt8) (w : Option Wr) (m : Nat) :
    (typ = .non ∧ w = none ∧ (respond true typ mid tok w m).2 = none) ∨
      ∃ r, (respond true typ mid tok w m).2 = some (r, true) ∧ (r.tok != nestedTok tok) = true := by
  unfold respond
  cases w with
  | none =>
    cases typ
    · exact .inr ⟨_, rfl, ne_nestedTok (Nat.zero_le _)⟩
    · exact .inl ⟨rfl, rfl, rfl⟩
  | some w =>
    dsimp only
    split <;> cases typ <;> exact .inr ⟨_, rfl, ne_nestedTok (Nat.le_refl _)⟩

/-- Only `blk` sends a message of its own, and it writes a response. -/
theorem nestedOf_nil {beh : Beh} {n : Nat} (h : handlerWr beh n = none) (tok : List UInt8) (m : Nat) :
    (nestedOf beh tok n m).2 = [] := by
  cases beh <;> first | rfl | cases h

/-- What `Spec.Dedup.check` demands of `o` for every earlier `p` that `covers` it, at the strength the model has it: `≤` where
    `covers` has `<` (at exactly `doneAt p + L` the code still de-duplicates: `now.After(validUntil)`), and the datagram is `p`'s
    reply re-addressed, where `check` asks for `sameContent` (`Props.C05.check_ok`). -/
def DupOk (L : Nat) (o : Obs) (pre : List Obs) : Prop :=
  ∀ p ∈ pre, p.mid = o.mid → inScope p = true → o.t ≤ doneAt p + L →
    o.ran = [] ∧ ∃ r, reply p = some r ∧ o.sent = [{ r with mid := o.mid, typ := dupType o.typ }]

def FreshOk (L : Nat) (o : Obs) (pre : List Obs) : Prop :=
  (∀ p ∈ pre, p.mid = o.mid → p.ran ≠ [] → doneAt p + L < o.t) → ∃ n, o.ran = [n]

def TraceOk (L : Nat) : List Obs → Prop
  | [] => True
  | o :: pre => DupOk L o pre ∧ FreshOk L o pre ∧ TraceOk L pre

/-- The response cache against the trace.  On a hit `cached` identifies the entry found with the reply of every arrival that
    covers the new one (`DupOk`), and `origin` produces a recent execution, which refutes the premise of `FreshOk`; on a miss
    `cached` shows that no arrival covers the new one.  `trace` is the conclusion itself: it rides along because each event
    proves `DupOk` / `FreshOk` of the arrival it adds from the other two fields of the state before. -/
structure Inv (L : Nat) (s : State) : Prop where
  cached : ∀ o ∈ s.trace, inScope o = true → s.now ≤ doneAt o + L →
        ∃ r, reply o = some r ∧ lookupRaw s.cache o.mid = some ⟨r, doneAt o + L⟩
  origin : ∀ m e, (m, e) ∈ s.cache → ∃ o ∈ s.trace, o.mid = m ∧ o.ran ≠ [] ∧ e.validUntil = doneAt o + L
  trace : TraceOk L s.trace

theorem inv_init (L m : Nat) : Inv L (init m) where
  cached := by intro o ho; cases ho
  origin := by intro m e h; cases h
  trace := trivial

theorem inv_sleep {L : Nat} {s : State} (h : Inv L s) (d : Nat) : Inv L { s with now := s.now + d } :=
  ⟨fun o ho hs hn => h.cached o ho hs (by simp at hn; omega), h.origin, h.trace⟩

theorem inv_tick {L : Nat} {s : State} (h : Inv L s) : Inv L { s with cache := sweep s.cache s.now } := by
  refine ⟨?_, ?_, h.trace⟩
  · intro o ho hs hn
    obtain ⟨r, hr, hl⟩ := h.cached o ho hs hn
    exact ⟨r, hr, lookupRaw_filter _ hl (decide_eq_true hn)⟩
  · intro m e hm
    exact h.origin m e (List.mem_filter.mp hm).1

theorem flush_fields (s : State) : (flush s).1.now = s.now ∧ (flush s).1.cache = s.cache ∧ (flush s).1.trace = s.trace := by
  unfold flush
  exact ⟨rfl, rfl, rfl⟩

theorem inv_flush {L : Nat} {s : State} (h : Inv L s) : Inv L (flush s).1 := by
  obtain ⟨h1, h2, h3⟩ := flush_fields s
  refine ⟨?_, ?_, ?_⟩
  · rw [h1, h2, h3]; exact h.cached
  · rw [h2, h3]; exact h.origin
  · rw [h3]; exact h.trace

theorem mem_extend {α : Type} {Q : α → Prop} (x : α) {l : List α} (h : ∃ o ∈ l, Q o) : ∃ o ∈ x :: l, Q o := by
  obtain ⟨o, ho, hq⟩ := h
  exact ⟨o, List.mem_cons_of_mem _ ho, hq⟩

theorem inv_recv {P : Params} (hk : P.storeKeyIsRequestMID = true) (he : P.emptyReplyCached = true) {s : State} (h : Inv P.lifetime s)
    (typ : RType) (mid : Nat) (tok : List UInt8) (beh : Beh) (dur : Nat) :
    Inv P.lifetime (recv P s typ mid tok beh dur).1 := by
  unfold recv
  cases hl : lookup s.cache s.now mid with
  | some e =>
    simp only
    obtain ⟨hraw, hvalid⟩ := lookup_some hl
    refine ⟨?_, ?_, ?_⟩
    · intro o ho hs hn
      cases ho with
      | head => simp [inScope] at hs
      | tail _ ho => exact h.cached o ho hs hn
    · intro m e' hm
      exact mem_extend _ (h.origin m e' hm)
    · refine ⟨?_, ?_, h.trace⟩
      · intro p hp hmid hs hn
        obtain ⟨r, hr, hlr⟩ := h.cached p hp hs hn
        simp only at hmid
        rw [hmid, hraw] at hlr
        injection hlr with hlr
        refine ⟨rfl, r, hr, ?_⟩
        simp only [hlr]
      · intro hall
        exfalso
        obtain ⟨o, ho, h1, h2, h3⟩ := h.origin mid e (lookupRaw_mem hraw)
        have := hall o ho h1 h2
        simp only at this
        omega
  | none =>
    simp only
    have hmiss' : lookup s.cache (s.now + dur) mid = none := lookup_none_mono (Nat.le_add_right _ _) hl
    have hnocover : ∀ p ∈ s.trace, p.mid = mid → inScope p = true → s.now ≤ doneAt p + P.lifetime → False := by
      intro p hp hmid hs hn
      obtain ⟨r, _, hlr⟩ := h.cached p hp hs hn
      rw [hmid] at hlr
      have := lookup_none_of_raw hlr hl
      simp at this
      omega
    generalize s.nexec + 1 = n
    generalize hnm : nestedOf beh tok n (checkMyMessageID P typ mid s.msgID) = nm
    have htr : ∀ sent, TraceOk P.lifetime (⟨s.now, dur, typ, mid, tok, beh, [n], sent⟩ :: s.trace) := fun _ =>
      ⟨fun p hp hmid hs hnow => (hnocover p hp hmid hs hnow).elim, fun _ => ⟨n, rfl⟩, h.trace⟩
    rw [he]
    obtain ⟨ht, hw, hr⟩ | ⟨r, hr, htok⟩ := respond_emptyCached typ mid tok (handlerWr beh n) nm.1
    · -- nothing is written: the arrival is not in scope and the cache stays as it is
      have hnil : nm.2 = [] := hnm ▸ nestedOf_nil hw ..
      simp only [hr, hnil]
      refine ⟨?_, fun m e hm => mem_extend _ (h.origin m e hm), htr _⟩
      intro o ho hs hnow
      cases ho with
      | head => simp [inScope, reply, ht] at hs
      | tail _ ho => exact h.cached o ho hs (by simp only at hnow; omega)
    · -- the reply is written and stored under the request's message ID
      have hnt : ∀ d ∈ nm.2, d.tok = nestedTok tok := hnm ▸ nestedOf_toks _ _ _ _
      simp only [hr, hk, if_true]
      refine ⟨?_, ?_, htr _⟩
      · intro o ho hs hnow
        cases ho with
        | head =>
          refine ⟨r, find_reply_append _ _ _ hnt htok, ?_⟩
          exact lookupRaw_store_same _ hmiss'
        | tail _ ho =>
          have hnow' : s.now ≤ doneAt o + P.lifetime := by simp only at hnow; omega
          obtain ⟨r', hr', hlr⟩ := h.cached o ho hs hnow'
          have hne : mid ≠ o.mid := fun heq => hnocover o ho heq.symm hs hnow'
          exact ⟨r', hr', lookupRaw_store_other _ hmiss' hne hlr⟩
      · intro m e hm
        cases mem_store_of_miss _ hmiss' hm with
        | inl heq =>
          injection heq with h1 h2
          exact ⟨_, List.mem_cons_self, by simp [doneAt, h1, h2]⟩
        | inr hin => exact mem_extend _ (h.origin m e hin)

theorem inv_step {P : Params} (hk : P.storeKeyIsRequestMID = true) (he : P.emptyReplyCached = true) {s : State} (h : Inv P.lifetime s) (e : Ev) :
    Inv P.lifetime (step P s e).1 := by
  cases e with
  | recv typ mid tok beh dur => exact inv_recv hk he h typ mid tok beh dur
  | sleep d => exact inv_sleep h d
  | tick => exact inv_tick h
  | flush => exact inv_flush h

theorem inv_runFrom {P : Params} (hk : P.storeKeyIsRequestMID = true) (he : P.emptyReplyCached = true) (evs : List Ev) :
    ∀ s, Inv P.lifetime s → Inv P.lifetime (runFrom P s evs) :=
  fun _ h => List.foldlRecOn evs _ h fun _ h e _ => inv_step hk he h e

end CoapVerif.Lemmas.Dedup
