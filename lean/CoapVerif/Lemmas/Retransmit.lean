import CoapVerif.Model.Retransmit
import CoapVerif.Lemmas.KeyedList
/-! C06, the request machinery of `Model.Retransmit`.  Lookups in the call list and the pending table; the log as a list
whose transmissions are labelled and followed by no stop (`Lab`, `Quiet`, read by `lab_split`, `quiet_split`).  The invariant
`Inv` that ties call list, pending table and log together, what it says of one message ID (`pending_call` …
`pend_none_of_findCall_none`) and the elementary changes that keep it (`inv_advance` … `inv_editReq`).  What every handler
does to the one exchange it is about (`Local`, `Move`, `Admits`, `Handled`), from which the preservation of the invariant,
the theorems about single events (Props/C06) and the simulation of the judge (Lemmas/RetransmitJudge) are read.  A
housekeeping pass in closed form (`tickList_eq`: `kept`, `bumped`), seen from one message ID (`findP_tick`, `txCount_tick`),
and entry by entry for the invariant (`inv_pass`).  Runs (`inv_run`).  Where successes and flags come from, as a second
invariant of runs (`Traced`). -/
namespace CoapVerif.Lemmas.Retransmit
open CoapVerif.Model.Retransmit CoapVerif.Generated.Retransmit

/-- What every update of a call keeps, the caller's `editReq` included: its identity and the clone. -/
def KeepsClone (f : Call → Call) : Prop := ∀ c, (f c).id = c.id ∧ (f c).msg = c.msg

/-- What the connection's own updates (`setPhase`, `setBuf`) keep: the caller's message and the ghost flag as well. -/
def Keeps (f : Call → Call) : Prop :=
  ∀ c, (f c).id = c.id ∧ (f c).msg = c.msg ∧ (f c).req = c.req ∧ (f c).touched = c.touched

theorem Keeps.clone {f : Call → Call} (h : Keeps f) : KeepsClone f := fun c => ⟨(h c).1, (h c).2.1⟩

theorem keeps_setPhase (p : Phase) : Keeps (setPhase p) := fun _ => ⟨rfl, rfl, rfl, rfl⟩
theorem keeps_setBuf (t : Nat) : Keeps (setBuf t) := fun _ => ⟨rfl, rfl, rfl, rfl⟩
theorem keepsClone_editReq (m : Nat) : KeepsClone (editReq m) := fun _ => ⟨rfl, rfl⟩

@[simp] theorem setPhase_id (p : Phase) (c : Call) : (setPhase p c).id = c.id := rfl
@[simp] theorem setBuf_id (t : Nat) (c : Call) : (setBuf t c).id = c.id := rfl
@[simp] theorem editReq_id (m : Nat) (c : Call) : (editReq m c).id = c.id := rfl

theorem map_id_updCall (cs : List Call) (id : Nat) (f : Call → Call) (hf : KeepsClone f) :
    (updCall cs id f).map (·.id) = cs.map (·.id) := by
  unfold updCall
  induction cs with
  | nil => rfl
  | cons c t ih =>
    simp only [List.map_cons]
    rw [ih]
    by_cases h : c.id = id
    · simp [h, (hf c).1]
    · simp [h]

theorem updCall_forall {cs : List Call} {id : Nat} {f : Call → Call} {Q : Call → Prop} (h : ∀ c ∈ cs, Q c)
    (hf : ∀ c ∈ cs, c.id = id → Q (f c)) : ∀ c' ∈ updCall cs id f, Q c' := by
  intro c' hc'
  obtain ⟨c, hc, rfl⟩ := List.mem_map.mp hc'
  by_cases hid : c.id = id
  · rw [if_pos hid]; exact hf c hc hid
  · rw [if_neg hid]; exact h c hc

theorem updCall_exists {cs : List Call} {id : Nat} {f : Call → Call} (hf : KeepsClone f) {i : Nat} {R : Call → Prop}
    (hR : ∀ c ∈ cs, c.id = id → c.id = i → R c → R (f c)) (h : ∃ c ∈ cs, c.id = i ∧ R c) :
    ∃ c ∈ updCall cs id f, c.id = i ∧ R c := by
  obtain ⟨c, hc, hi, hr⟩ := h
  refine ⟨if c.id = id then f c else c, List.mem_map.mpr ⟨c, hc, rfl⟩, ?_⟩
  by_cases hid : c.id = id
  · rw [if_pos hid]; exact ⟨(hf c).1.trans hi, hR c hc hid hi hr⟩
  · rw [if_neg hid]; exact ⟨hi, hr⟩

theorem mem_updCall_of_mem {cs : List Call} (id : Nat) (f : Call → Call) {c : Call} (h : c ∈ cs) :
    (if c.id = id then f c else c) ∈ updCall cs id f := by
  unfold updCall
  exact List.mem_map.mpr ⟨c, h, rfl⟩

theorem mem_updCall_self {cs : List Call} (f : Call → Call) {c : Call} (h : c ∈ cs) : f c ∈ updCall cs c.id f := by
  have := mem_updCall_of_mem c.id f h
  rwa [if_pos rfl] at this

theorem findCall_some {cs : List Call} {id : Nat} {c : Call} (h : findCall cs id = some c) : c ∈ cs ∧ c.id = id :=
  KeyedList.find?_some Call.id h

theorem findCall_none {cs : List Call} {id : Nat} (h : findCall cs id = none) : ∀ c ∈ cs, c.id ≠ id :=
  KeyedList.find?_none Call.id h

theorem findCall_isSome_of_mem {cs : List Call} {id : Nat} {c : Call} (hc : c ∈ cs) (h : c.id = id) :
    (findCall cs id).isSome = true := by
  cases hf : findCall cs id with
  | some _ => rfl
  | none => exact (findCall_none hf c hc h).elim

theorem findCall_updCall (cs : List Call) (id : Nat) (f : Call → Call) (hf : ∀ c, (f c).id = c.id) (id' : Nat) :
    findCall (updCall cs id f) id' = if id' = id then (findCall cs id').map f else findCall cs id' :=
  KeyedList.find?_update Call.id cs id f (fun c hc => by rw [hf, hc]) id'

theorem eq_of_id_eq {cs : List Call} (hn : (cs.map (·.id)).Nodup) {a b : Call} (ha : a ∈ cs) (hb : b ∈ cs)
    (h : a.id = b.id) : a = b :=
  KeyedList.eq_of_key_eq Call.id hn ha hb h

theorem findCall_of_mem {cs : List Call} (hn : (cs.map (·.id)).Nodup) {c : Call} (hc : c ∈ cs) :
    findCall cs c.id = some c :=
  KeyedList.find?_of_mem Call.id hn hc

theorem inflight_updCall_le (cs : List Call) (id : Nat) (f : Call → Call)
    (hf : ∀ c, (f c).phase = .waitAck → c.phase = .waitAck) : inflight (updCall cs id f) ≤ inflight cs := by
  unfold inflight updCall
  rw [List.countP_map]
  apply List.countP_mono_left
  intro x _ hx
  by_cases h : x.id = id
  · simp only [Function.comp, h, if_true, beq_iff_eq] at hx ⊢; exact hf x hx
  · simpa [h] using hx

theorem inflight_admit_le (cs : List Call) (id : Nat) (hn : (cs.map (·.id)).Nodup) :
    inflight (updCall cs id (setPhase .waitAck)) ≤ inflight cs + 1 := by
  unfold inflight updCall
  induction cs with
  | nil => simp
  | cons c t ih =>
    simp only [List.map_cons, List.nodup_cons] at hn
    simp only [List.map_cons, List.countP_cons]
    by_cases h : c.id = id
    · -- no other call carries this identifier: the tail is unchanged
      have htail : t.map (fun c => if c.id = id then setPhase .waitAck c else c) = t := by
        have : ∀ x ∈ t, (if x.id = id then setPhase .waitAck x else x) = x := by
          intro x hx
          have : x.id ≠ id := by
            intro hx'
            apply hn.1
            rw [h, ← hx']
            exact List.mem_map.mpr ⟨x, hx, rfl⟩
          simp [this]
        calc t.map (fun c => if c.id = id then setPhase .waitAck c else c) = t.map (fun c => c) := List.map_congr_left this
          _ = t := List.map_id' t
      rw [htail]
      simp only [h, if_true]
      by_cases h1 : (c.phase == Phase.waitAck) = true <;> simp [h1, setPhase] <;> omega
    · simp only [h, if_false]
      have := ih hn.2
      omega

def findP (ps : List Pend) (id : Nat) : Option Pend := ps.find? (fun e => e.id == id)

theorem isPending_eq (ps : List Pend) (id : Nat) : isPending ps id = (findP ps id).isSome :=
  List.isSome_find?.symm

theorem findP_none {ps : List Pend} {id : Nat} (h : findP ps id = none) : ∀ e ∈ ps, e.id ≠ id :=
  KeyedList.find?_none Pend.id h

theorem findP_dropPend (ps : List Pend) (id id' : Nat) :
    findP (dropPend ps id) id' = if id' = id then none else findP ps id' :=
  KeyedList.find?_remove Pend.id ps id id'

theorem nodup_drop {ps : List Pend} (h : (ps.map (·.id)).Nodup) (id : Nat) : ((dropPend ps id).map (·.id)).Nodup :=
  (List.Sublist.map _ List.filter_sublist).nodup h

theorem findP_append (ps : List Pend) (e : Pend) (id' : Nat) :
    findP (ps ++ [e]) id' = (findP ps id').or (if e.id = id' then some e else none) :=
  KeyedList.find?_append_one Pend.id ps e id'

theorem isPending_of_findP {ps : List Pend} {id : Nat} {e : Pend} (h : findP ps id = some e) : isPending ps id = true := by
  rw [isPending_eq, h]; rfl

theorem findP_of_isPending {ps : List Pend} {id : Nat} (h : isPending ps id = true) : ∃ e, findP ps id = some e :=
  Option.isSome_iff_exists.mp (isPending_eq ps id ▸ h)

theorem isPending_iff {ps : List Pend} {id : Nat} : isPending ps id = true ↔ ∃ e ∈ ps, e.id = id := by
  unfold isPending
  simp [List.any_eq_true]

def isTx (id : Nat) : Entry → Bool
  | .tx i _ _ _ => i == id
  | _ => false

def txCount (log : List Entry) (id : Nat) : Nat := log.countP (isTx id)

theorem txCount_cons_tx (log : List Entry) (id i k t m : Nat) :
    txCount (.tx i k t m :: log) id = txCount log id + (if i = id then 1 else 0) := by
  simp [txCount, List.countP_cons, isTx]

def NotTx : Entry → Prop
  | .tx _ _ _ _ => False
  | _ => True

theorem txCount_cons_notTx (log : List Entry) (id : Nat) (x : Entry) (hx : NotTx x) :
    txCount (x :: log) id = txCount log id := by
  cases x with
  | tx _ _ _ _ => cases hx
  | _ => simp [txCount, isTx]

theorem txCount_append_notTx (log : List Entry) (id : Nat) : ∀ added : List Entry, (∀ x ∈ added, NotTx x) →
    txCount (added ++ log) id = txCount log id
  | [], _ => rfl
  | x :: t, h => by
    rw [List.cons_append, txCount_cons_notTx _ _ _ (h x List.mem_cons_self)]
    exact txCount_append_notTx log id t (fun y hy => h y (List.mem_cons_of_mem _ hy))

theorem txCount_append (a b : List Entry) (id : Nat) : txCount (a ++ b) id = txCount a id + txCount b id := by
  simp [txCount, List.countP_append]

def Lab : List Entry → Prop
  | [] => True
  | .tx id k _ _ :: l => k = txCount l id ∧ Lab l
  | _ :: l => Lab l

def StopOf (id : Nat) : Entry → Prop
  | .stop i _ => i = id
  | .ret i _ _ => i = id
  | _ => False

def Quiet : List Entry → Prop
  | [] => True
  | .tx id _ _ _ :: l => (∀ e ∈ l, ¬ StopOf id e) ∧ Quiet l
  | _ :: l => Quiet l

theorem txCount_eq_zero {log : List Entry} {id : Nat} (h : ∀ k t m, Entry.tx id k t m ∉ log) : txCount log id = 0 := by
  refine List.countP_eq_zero.mpr fun x hx hi => ?_
  cases x with
  | tx i k t m => exact h k t m (beq_iff_eq.mp hi ▸ hx)
  | _ => cases hi

theorem txCount_le_of_lab {M : Nat} : ∀ {log : List Entry}, Lab log → (∀ id k t m, Entry.tx id k t m ∈ log → k ≤ M) →
    ∀ id, txCount log id ≤ M + 1
  | [], _, _, _ => Nat.zero_le _
  | x :: l, hl, hk, id => by
    have hk' := fun i k t m h => hk i k t m (List.mem_cons_of_mem _ h)
    cases x with
    | tx i k t m =>
      have hle := hk i k t m List.mem_cons_self
      have ih := txCount_le_of_lab hl.2 hk' id
      rw [txCount_cons_tx]
      split
      · subst i; have := hl.1; omega
      · exact ih
    | _ =>
      rw [txCount_cons_notTx]
      · exact txCount_le_of_lab (log := l) hl hk' id
      · trivial

theorem lab_split : ∀ (pre : List Entry) (id k t m : Nat) (post : List Entry),
    Lab (pre ++ .tx id k t m :: post) → k = txCount post id
  | [], _, _, _, _, _, h => h.1
  | x :: pre, id, k, t, m, post, h => by
    cases x with
    | tx _ _ _ _ => exact lab_split pre id k t m post h.2
    | _ => exact lab_split pre id k t m post h

theorem quiet_split : ∀ (pre : List Entry) (x : Entry) (post : List Entry) (id : Nat),
    Quiet (pre ++ x :: post) → StopOf id x → txCount pre id = 0
  | [], _, _, _, _, _ => rfl
  | y :: pre, x, post, id, h, hs => by
    cases y with
    | tx i k t m =>
      have hne : ¬ i = id := by
        intro heq
        exact h.1 x (List.mem_append_right _ List.mem_cons_self) (heq ▸ hs)
      rw [List.cons_append] at h
      simp only [txCount_cons_tx, hne, if_false]
      exact quiet_split pre x post id h.2 hs
    | _ =>
      refine (txCount_cons_notTx _ _ _ ?_).trans (quiet_split pre x post id h hs)
      trivial

structure Sent (P : Params) (calls : List Call) (log : List Entry) (id k t m : Nat) : Prop where
  index_le : k ≤ P.maxRetransmit
  /-- A retransmission carries the call's clone; so does the first copy unless the caller edited its message while queued. -/
  msg : ∃ c ∈ calls, c.id = id ∧ (1 ≤ k → c.msg = m) ∧ (k = 0 → c.touched = false → c.msg = m)
  spacing : 1 ≤ k → ∃ t0 m0, Entry.tx id 0 t0 m0 ∈ log ∧ t0 + k * P.ackTimeout < t

theorem Sent.mono {P : Params} {calls : List Call} {log log' : List Entry} {id k t m : Nat} (h : Sent P calls log id k t m)
    (hl : ∀ x ∈ log, x ∈ log') : Sent P calls log' id k t m :=
  ⟨h.index_le, h.msg, fun hk => have ⟨t0, m0, h5, h6⟩ := h.spacing hk; ⟨t0, m0, hl _ h5, h6⟩⟩

structure Inv (P : Params) (s : State) : Prop where
  ids : (s.calls.map (·.id)).Nodup
  pid : (s.pend.map (·.id)).Nodup
  pendCall : ∀ e ∈ s.pend, ∃ c ∈ s.calls, c.id = e.id ∧ c.phase = .waitAck ∧ c.msg = e.msg
  slots : inflight s.calls ≤ P.nstart
  stopReleased : ∀ id, ∀ x ∈ s.log, StopOf id x → ∃ c ∈ s.calls, c.id = id ∧ (c.phase = .waitResp ∨ c.phase = .done)
  pendCount : ∀ e ∈ s.pend, txCount s.log e.id = e.n + 1 ∧ e.n ≤ P.maxRetransmit ∧ ∃ m0, Entry.tx e.id 0 e.start m0 ∈ s.log
  queuedSilent : ∀ c ∈ s.calls, c.phase = .waitSem → txCount s.log c.id = 0
  sent : ∀ id k t m, Entry.tx id k t m ∈ s.log → Sent P s.calls s.log id k t m
  untouched : ∀ c ∈ s.calls, c.touched = false → c.phase = .waitSem → c.req = c.msg
  lab : Lab s.log
  quiet : Quiet s.log

theorem inv_init (P : Params) : Inv P init where
  ids := by simp [init]
  pid := by simp [init]
  pendCall := by intro e he; cases he
  slots := by simp [init, inflight]
  stopReleased := by intro id x h; cases h
  pendCount := by intro e he; cases he
  queuedSilent := by intro c hc; cases hc
  sent := by intro id k t m h; cases h
  untouched := by intro c hc; cases hc
  lab := trivial
  quiet := trivial

theorem Inv.unk {P : Params} {s : State} (h : Inv P s) (id : Nat) (hid : ∀ c ∈ s.calls, c.id ≠ id) : txCount s.log id = 0 :=
  txCount_eq_zero fun k t m hm => have ⟨c, hc, hc', _⟩ := (h.sent id k t m hm).msg; hid c hc hc'

theorem Inv.bound {P : Params} {s : State} (h : Inv P s) (id : Nat) : txCount s.log id ≤ P.maxRetransmit + 1 :=
  txCount_le_of_lab h.lab (fun i k t m hm => (h.sent i k t m hm).index_le) id

theorem no_stop_of_phase {P : Params} {s : State} (h : Inv P s) {c : Call} (hc : c ∈ s.calls)
    (hph : c.phase = .waitSem ∨ c.phase = .waitAck) : ∀ e ∈ s.log, ¬ StopOf c.id e := by
  intro e he hs
  obtain ⟨c', hc', h1, h2⟩ := h.stopReleased _ e he hs
  cases eq_of_id_eq h.ids hc' hc h1
  rcases hph with hp | hp <;> rcases h2 with h2 | h2 <;> rw [hp] at h2 <;> cases h2

theorem pending_call {P : Params} {s : State} (h : Inv P s) {id : Nat} (hp : isPending s.pend id = true) :
    ∃ c, findCall s.calls id = some c ∧ c ∈ s.calls ∧ c.phase = .waitAck := by
  obtain ⟨e, he, heid⟩ := isPending_iff.mp hp
  obtain ⟨c', hc', h1, h2, _⟩ := h.pendCall e he
  cases hf : findCall s.calls id with
  | none => exact (findCall_none hf c' hc' (by rw [h1, heid])).elim
  | some c =>
    obtain ⟨hc, hid⟩ := findCall_some hf
    have := eq_of_id_eq h.ids hc hc' (by rw [hid, h1, heid])
    exact ⟨c, rfl, hc, by rw [this]; exact h2⟩

theorem not_pending_of_stop {P : Params} {s : State} (h : Inv P s) {id : Nat} {x : Entry} (hx : x ∈ s.log) (hs : StopOf id x) :
    isPending s.pend id = false := by
  cases hp : isPending s.pend id with
  | false => rfl
  | true =>
    obtain ⟨c, hf, hc, hph⟩ := pending_call h hp
    exact (no_stop_of_phase h hc (Or.inr hph) x hx ((findCall_some hf).2.symm ▸ hs)).elim

theorem waitAck_of_pending {P : Params} {s : State} (h : Inv P s) {id : Nat} {c : Call} {e : Pend}
    (hf : findCall s.calls id = some c) (hp : findP s.pend id = some e) : c.phase = .waitAck := by
  obtain ⟨c', hf', _, hph⟩ := pending_call h (isPending_of_findP hp)
  rw [hf] at hf'; cases hf'
  exact hph

theorem findP_none_of_phase {P : Params} {s : State} (h : Inv P s) {c : Call} (hc : c ∈ s.calls) (hph : c.phase ≠ .waitAck) :
    findP s.pend c.id = none := by
  cases hp : findP s.pend c.id with
  | none => rfl
  | some e =>
    obtain ⟨hm, hid⟩ := KeyedList.find?_some Pend.id hp
    obtain ⟨c', hc', h1, h2, _⟩ := h.pendCall e hm
    cases eq_of_id_eq h.ids hc' hc (h1.trans hid)
    exact (hph h2).elim

theorem pend_none_of_findCall_none {P : Params} {s : State} (h : Inv P s) {id : Nat} (hc : findCall s.calls id = none) :
    findP s.pend id = none := by
  cases hp : findP s.pend id with
  | none => rfl
  | some e =>
    obtain ⟨c, hf, _⟩ := pending_call h (isPending_of_findP hp)
    rw [hc] at hf; cases hf

theorem inv_advance {P : Params} {s : State} (h : Inv P s) (d : Nat) : Inv P { s with now := s.now + d } :=
  { h with }

/-- An update of the call `id` keeps the invariant if it moves the phase forward only — a pending request stays in `waitAck`
    (`hpa`), no call returns to `waitSem` (`hws`) or leaves `waitResp` / `done` for an earlier phase (`hsw`) —, the slots still
    suffice (`hns`), and it neither clears `touched` nor changes the `req` of a call it leaves queued (`htouch`). -/
theorem inv_updCall_touched {P : Params} {s : State} (h : Inv P s) (id : Nat) (f : Call → Call) (hf : KeepsClone f)
    (hpa : ∀ e ∈ s.pend, e.id = id → ∀ c, c.phase = .waitAck → (f c).phase = .waitAck)
    (hns : inflight (updCall s.calls id f) ≤ P.nstart)
    (hws : ∀ c ∈ s.calls, c.id = id → (f c).phase = .waitSem → c.phase = .waitSem)
    (hsw : ∀ c ∈ s.calls, c.id = id → (c.phase = .waitResp ∨ c.phase = .done) →
      ((f c).phase = .waitResp ∨ (f c).phase = .done))
    (htouch : ∀ c ∈ s.calls, c.id = id → (f c).touched = false →
      c.touched = false ∧ ((f c).phase = .waitSem → (f c).req = c.req)) :
    Inv P { s with calls := updCall s.calls id f } :=
  { h with
    ids := (map_id_updCall _ _ _ hf).symm ▸ h.ids,
    pendCall := fun e he => updCall_exists hf
      (fun c _ hid hi hr => ⟨hpa e he (hi.symm.trans hid) c hr.1, (hf c).2.trans hr.2⟩) (h.pendCall e he),
    slots := hns,
    stopReleased := fun i x hx hs => updCall_exists hf (fun c hc hid _ => hsw c hc hid) (h.stopReleased i x hx hs),
    queuedSilent := updCall_forall h.queuedSilent (fun c hc hid hp => (hf c).1 ▸ h.queuedSilent c hc (hws c hc hid hp)),
    sent := by
      intro i k t m hm
      obtain ⟨h1, h2, h4⟩ := h.sent i k t m hm
      refine ⟨h1, updCall_exists hf (fun c hc hid _ hr => ?_) h2, h4⟩
      rw [(hf c).2]
      exact ⟨hr.1, fun hk ht => hr.2 hk (htouch c hc hid ht).1⟩,
    untouched := updCall_forall h.untouched (fun c hc hid ht hp => by
      obtain ⟨t1, t2⟩ := htouch c hc hid ht
      rw [t2 hp, (hf c).2]
      exact h.untouched c hc t1 (hws c hc hid hp)) }

theorem inv_updCall {P : Params} {s : State} (h : Inv P s) (id : Nat) (f : Call → Call) (hf : Keeps f)
    (hpa : ∀ e ∈ s.pend, e.id = id → ∀ c, c.phase = .waitAck → (f c).phase = .waitAck)
    (hns : inflight (updCall s.calls id f) ≤ P.nstart)
    (hws : ∀ c ∈ s.calls, c.id = id → (f c).phase = .waitSem → c.phase = .waitSem)
    (hsw : ∀ c ∈ s.calls, c.id = id → (c.phase = .waitResp ∨ c.phase = .done) →
      ((f c).phase = .waitResp ∨ (f c).phase = .done)) :
    Inv P { s with calls := updCall s.calls id f } :=
  inv_updCall_touched h id f hf.clone hpa hns hws hsw
    (fun c _ _ ht => ⟨by rw [← (hf c).2.2.2]; exact ht, fun _ => (hf c).2.2.1⟩)

theorem inv_addEntry {P : Params} {s : State} (h : Inv P s) (x : Entry) (hx : NotTx x)
    (hstop : ∀ id, StopOf id x → ∃ c ∈ s.calls, c.id = id ∧ (c.phase = .waitResp ∨ c.phase = .done)) :
    Inv P { s with log := x :: s.log } :=
  { h with
    stopReleased := fun i y hy hs => (List.mem_cons.mp hy).elim (fun e => hstop i (e ▸ hs)) (fun hy => h.stopReleased i y hy hs),
    pendCount := by
      intro e he
      obtain ⟨h1, h2, m0, h3⟩ := h.pendCount e he
      exact ⟨by simp only [txCount_cons_notTx _ _ _ hx]; exact h1, h2, m0, List.mem_cons_of_mem _ h3⟩,
    queuedSilent := by intro c hc hp; simp only [txCount_cons_notTx _ _ _ hx]; exact h.queuedSilent c hc hp,
    sent := by
      intro i k t' m hm
      cases hm with
      | head => cases hx
      | tail _ hm => exact (h.sent i k t' m hm).mono fun _ => List.mem_cons_of_mem _,
    lab := by
      cases x with
      | tx _ _ _ _ => exact hx.elim
      | _ => exact h.lab,
    quiet := by
      cases x with
      | tx _ _ _ _ => exact hx.elim
      | _ => exact h.quiet }

theorem inv_addRet {P : Params} {s : State} (h : Inv P s) (id : Nat) (r : Res) (t : Nat)
    (hd : ∃ c ∈ s.calls, c.id = id ∧ c.phase = .done) : Inv P { s with log := .ret id r t :: s.log } :=
  inv_addEntry h (.ret id r t) trivial (fun i (hs : id = i) => have ⟨c, hc, hid, hp⟩ := hd; ⟨c, hc, hid.trans hs, Or.inr hp⟩)

theorem inv_addStop {P : Params} {s : State} (h : Inv P s) (id : Nat)
    (hc : ∃ c ∈ s.calls, c.id = id ∧ (c.phase = .waitResp ∨ c.phase = .done)) : Inv P (addStop s id) :=
  inv_addEntry h (.stop id s.now) trivial (fun i (hs : id = i) => hs ▸ hc)

theorem inv_addGot {P : Params} {s : State} (h : Inv P s) (id tag : Nat) : Inv P { s with log := .got id tag :: s.log } :=
  inv_addEntry h (.got id tag) trivial (fun _ hs => hs.elim)

theorem inv_subPend {P : Params} {s : State} (h : Inv P s) {ps : List Pend} (hs : ps.Sublist s.pend) :
    Inv P { s with pend := ps } :=
  { h with
    pid := (hs.map _).nodup h.pid,
    pendCall := fun e he => h.pendCall e (hs.subset he),
    pendCount := fun e he => h.pendCount e (hs.subset he) }

theorem inv_finish {P : Params} {s : State} (h : Inv P s) (id : Nat) (r : Res)
    (hp : ∀ e ∈ s.pend, e.id ≠ id) (hc : ∃ c ∈ s.calls, c.id = id) : Inv P (finish s id r) := by
  have h1 : Inv P { s with calls := updCall s.calls id (setPhase .done) } :=
    inv_updCall h id (setPhase .done) (keeps_setPhase _)
      (fun e he heq => (hp e he heq).elim)
      (Nat.le_trans (inflight_updCall_le _ _ _ (fun _ hp => Phase.noConfusion hp)) h.slots)
      (fun c _ _ hph => by simp [setPhase] at hph)
      (fun _ _ _ _ => Or.inr rfl)
  obtain ⟨c, hc1, hc2⟩ := hc
  have hd : ∃ c' ∈ updCall s.calls id (setPhase .done), c'.id = id ∧ c'.phase = .done := by
    refine ⟨_, mem_updCall_of_mem id (setPhase .done) hc1, ?_⟩
    simp [hc2, setPhase]
  exact inv_addRet h1 id r s.now hd

/-- A copy of a request is written, the `e.n`-th, by the call `c` that waits for the acknowledgement; `e` is the request's
    pending entry afterwards (new, or the old one with its counter advanced) in the table `ps`, whose other entries are old. -/
theorem inv_addTx {P : Params} {s : State} (h : Inv P s) {c : Call} (hc : c ∈ s.calls) (hph : c.phase = .waitAck)
    {e : Pend} {ps : List Pend} (hnd : (ps.map (·.id)).Nodup) (he : e ∈ ps) (hps : ∀ x ∈ ps, x.id ≠ e.id → x ∈ s.pend)
    (hid : c.id = e.id) (hmsg : c.msg = e.msg) (hk : txCount s.log e.id = e.n) (hn : e.n ≤ P.maxRetransmit) {t m : Nat}
    (hm : (1 ≤ e.n → c.msg = m) ∧ (e.n = 0 → c.touched = false → c.msg = m))
    (hstart : ∃ m0, Entry.tx e.id 0 e.start m0 ∈ Entry.tx e.id e.n t m :: s.log)
    (hsp : 1 ≤ e.n → e.start + e.n * P.ackTimeout < t) :
    Inv P { s with pend := ps, log := .tx e.id e.n t m :: s.log } :=
  have old : ∀ x ∈ ps, x = e ∨ (x ∈ s.pend ∧ x.id ≠ e.id) := fun x hx =>
    if hxe : x.id = e.id then .inl (KeyedList.eq_of_key_eq Pend.id hnd hx he hxe) else .inr ⟨hps x hx hxe, hxe⟩
  { h with
    pid := hnd,
    pendCall := fun x hx => by
      rcases old x hx with rfl | hx
      · exact ⟨c, hc, hid, hph, hmsg⟩
      · exact h.pendCall x hx.1,
    stopReleased := fun i x hx hs => by
      cases hx with
      | head => exact hs.elim
      | tail _ hx => exact h.stopReleased i x hx hs,
    pendCount := fun x hx => by
      rcases old x hx with rfl | ⟨hx, hne⟩
      · exact ⟨by rw [txCount_cons_tx, if_pos rfl, hk], hn, hstart⟩
      · obtain ⟨h1, h2, m0, h3⟩ := h.pendCount x hx
        exact ⟨by rw [txCount_cons_tx, if_neg (Ne.symm hne)]; exact h1, h2, m0, List.mem_cons_of_mem _ h3⟩,
    queuedSilent := by
      intro c' hc' hp'
      have hne : ¬ e.id = c'.id := by
        intro heq
        have := eq_of_id_eq h.ids hc hc' (hid.trans heq)
        rw [this, hp'] at hph; cases hph
      rw [txCount_cons_tx, if_neg hne]
      exact h.queuedSilent c' hc' hp',
    sent := by
      intro i k t' m' hm'
      cases hm' with
      | head => exact ⟨hn, ⟨c, hc, hid, hm⟩, fun hk1 => have ⟨m0, h0⟩ := hstart; ⟨e.start, m0, h0, hsp hk1⟩⟩
      | tail _ hm' => exact (h.sent i k t' m' hm').mono fun _ => List.mem_cons_of_mem _,
    lab := ⟨hk.symm, h.lab⟩,
    quiet := ⟨hid ▸ no_stop_of_phase h hc (Or.inr hph), h.quiet⟩ }

theorem inv_setBuf {P : Params} {s : State} (h : Inv P s) (id tag : Nat) :
    Inv P { s with log := .got id tag :: s.log, calls := updCall s.calls id (setBuf tag) } :=
  inv_updCall (inv_addGot h id tag) id (setBuf tag) (keeps_setBuf _)
    (fun _ _ _ _ hp => hp)
    (Nat.le_trans (inflight_updCall_le _ _ _ (fun _ hp => hp)) h.slots)
    (fun _ _ _ hp => hp)
    (fun _ _ _ hp => hp)

theorem inv_addCall {P : Params} {s : State} (h : Inv P s) (id msg : Nat) (dl : Option Nat) (ph : Phase)
    (hnew : ∀ c ∈ s.calls, c.id ≠ id) (hph : ph = .waitSem ∨ ph = .done) :
    Inv P { s with calls := s.calls ++ [⟨id, msg, dl, ph, none, msg, false⟩] } :=
  have old : ∀ {p : Call → Prop}, (∃ c ∈ s.calls, p c) → ∃ c ∈ s.calls ++ [⟨id, msg, dl, ph, none, msg, false⟩], p c :=
    fun ⟨c, hc, hp⟩ => ⟨c, List.mem_append_left _ hc, hp⟩
  { h with
    ids := KeyedList.nodup_append_one Call.id h.ids hnew,
    pendCall := fun e he => old (h.pendCall e he),
    slots := by
      have : inflight (s.calls ++ [⟨id, msg, dl, ph, none, msg, false⟩]) = inflight s.calls := by
        unfold inflight
        rw [List.countP_append]
        rcases hph with hp | hp <;> subst hp <;> simp
      simp only [this]; exact h.slots,
    stopReleased := fun i x hx hs => old (h.stopReleased i x hx hs),
    queuedSilent := KeyedList.forall_mem_append_one h.queuedSilent (fun _ => h.unk id hnew),
    sent := fun i k t m hm => have ⟨h1, h2, h3⟩ := h.sent i k t m hm; ⟨h1, old h2, h3⟩,
    untouched := KeyedList.forall_mem_append_one h.untouched (fun _ _ => rfl) }

theorem inv_editReq {P : Params} {s : State} (h : Inv P s) (id m : Nat) :
    Inv P { s with calls := updCall s.calls id (editReq m) } :=
  inv_updCall_touched h id (editReq m) (keepsClone_editReq m)
    (fun _ _ _ _ hp => hp)
    (Nat.le_trans (inflight_updCall_le _ _ _ (fun _ hp => hp)) h.slots)
    (fun _ _ _ hp => hp)
    (fun _ _ _ hp => hp)
    (fun c _ _ ht => by
      simp only [editReq, Bool.or_eq_false_iff, beq_eq_false_iff_ne] at ht
      exact ⟨ht.1, fun hp => (ht.2 hp).elim⟩)

/-! ### what an event does to one exchange

Every handler changes the tables of one message ID: for a known ID by a function of the call and its pending entry alone
(`onCancel`, `onDeliver`, `onRecv`), for a new one by a function of the parameters of the call (`onSend`); the admission of
the next queued request follows, or — a piggybacked response — comes in between.  `Handled` (a `Move`, then `Admits`) says
so once per handler; the invariant, the simulation of the judge and the theorems about single events read it off. -/

/-- What the request machinery holds of one request after a handler has run: the call, its pending entry, what the handler
    wrote to the log (most recent first). -/
structure Local where
  c : Call
  pe : Option Pend
  log : List Entry := []

/-- The result the call returned, if the handler made it return (`Move.ret`: at most one `ret` entry is written). -/
def Local.ret (l : Local) : Option Res := l.log.findSome? fun | .ret _ r _ => some r | _ => none

/-- `writeMessage` is woken: the entry is gone; the call returns what is in its channel or goes on to wait for the response. -/
def woken (now : Nat) (c : Call) : Local :=
  match c.buf with
  | some tag => ⟨setPhase .done c, none, [.stop c.id now, .ret c.id (.ok tag) now]⟩
  | none => ⟨setPhase .waitResp c, none, [.stop c.id now]⟩

def onCancel (now : Nat) (why : Why) (c : Call) (pe : Option Pend) : Local :=
  if c.phase = .done then ⟨c, pe, []⟩
  else ⟨setPhase .done c, none, [.stop c.id now, .ret c.id why.res now]⟩

def onDeliver (now tag : Nat) (c : Call) (pe : Option Pend) : Local :=
  if c.phase = .done then ⟨c, pe, [.got c.id tag]⟩
  else if c.phase = .waitResp then ⟨setPhase .done c, none, [.ret c.id (.ok tag) now, .got c.id tag]⟩
  else if c.buf = none then
    if c.phase = .waitAck ∧ pe.isSome = true then
      ⟨setPhase .done (setBuf tag c), none, [.stop c.id now, .ret c.id (.ok tag) now, .got c.id tag]⟩
    else ⟨setBuf tag c, pe, [.got c.id tag]⟩
  else ⟨c, pe, [.got c.id tag]⟩

def Local.andThen (l1 l2 : Local) : Local := ⟨l2.c, l2.pe, l2.log ++ l1.log⟩

theorem Local.ret_andThen (l1 l2 : Local) : (l1.andThen l2).ret = l2.ret.or l1.ret := List.findSome?_append

def onRecv (now : Nat) (k : Kind) (c : Call) (pe : Option Pend) : Local :=
  match pe, k with
  | none, .pig tag => onDeliver now tag c none
  | none, _ => ⟨c, none, []⟩
  | some _, .pig tag => (woken now c).andThen (onDeliver now tag (woken now c).c none)
  | some _, _ => woken now c

def onSend (P : Params) (now id msg : Nat) (dl : Option Nat) : Local :=
  if P.nstart = 0 then ⟨⟨id, msg, dl, .done, none, msg, false⟩, none, [.ret id .nstart now]⟩
  else ⟨⟨id, msg, dl, .waitSem, none, msg, false⟩, none, []⟩

theorem stop_mem_onRecv (now : Nat) (k : Kind) (c : Call) (e : Pend) : Entry.stop c.id now ∈ (onRecv now k c (some e)).log := by
  have hw : Entry.stop c.id now ∈ (woken now c).log := by unfold woken; cases c.buf <;> exact List.mem_cons_self
  cases k with
  | pig tag => exact List.mem_append_right _ hw
  | ack => exact hw
  | rst => exact hw

/-- `tag'` is the response that was already in the channel, otherwise `tag`. -/
theorem onRecv_pig_ret (now tag : Nat) (c : Call) (e : Pend) : ∃ tag', (onRecv now (.pig tag) c (some e)).ret = some (.ok tag') := by
  unfold onRecv woken; cases c.buf <;> exact ⟨_, rfl⟩

def isRet : Entry → Bool
  | .ret _ _ _ => true
  | _ => false

structure IdView where
  call : Option Call
  pend : Option Pend
  cnt : Nat

def viewOf (s : State) (id : Nat) : IdView := ⟨findCall s.calls id, findP s.pend id, txCount s.log id⟩

/-- `b1` is `s` but for the exchange `id`, which is now `l`. -/
structure Move (P : Params) (s : State) (id : Nat) (b1 : State) (l : Local) : Prop where
  inv : Inv P b1
  now : b1.now = s.now
  log : b1.log = l.log ++ s.log
  nt : ∀ x ∈ l.log, NotTx x
  ret : l.log.filter isRet = (l.ret.map (Entry.ret id · s.now)).toList
  call : ∀ id', findCall b1.calls id' = if id' = id then some l.c else findCall s.calls id'
  pend : ∀ id', findP b1.pend id' = if id' = id then l.pe else findP s.pend id'

section Move
variable {P : Params} {s b1 b2 : State} {id : Nat} {c : Call} {pe : Option Pend} {l l1 l2 : Local}

theorem call_same {cs : List Call} (hf : findCall cs id = some c) (id' : Nat) :
    findCall cs id' = if id' = id then some c else findCall cs id' := by
  split
  · subst id'; exact hf
  · rfl

theorem call_upd {cs : List Call} (hf : findCall cs id = some c) (f : Call → Call) (hid : ∀ c, (f c).id = c.id) (id' : Nat) :
    findCall (updCall cs id f) id' = if id' = id then some (f c) else findCall cs id' := by
  refine (findCall_updCall _ _ _ hid id').trans ?_
  split
  · subst id'; rw [hf]; rfl
  · rfl

theorem pend_same {ps : List Pend} (hp : findP ps id = pe) (id' : Nat) : findP ps id' = if id' = id then pe else findP ps id' := by
  split
  · subst id'; exact hp
  · rfl

theorem nt_one {x : Entry} (hx : NotTx x) : ∀ y ∈ [x], NotTx y := fun _ hy => List.mem_singleton.mp hy ▸ hx

theorem Move.call_id (h : Move P s id b1 l) : findCall b1.calls id = some l.c := (h.call id).trans (if_pos rfl)

theorem Move.pend_id (h : Move P s id b1 l) : findP b1.pend id = l.pe := (h.pend id).trans (if_pos rfl)

theorem Move.view (h : Move P s id b1 l) (id' : Nat) :
    viewOf b1 id' = if id' = id then { viewOf s id' with call := some l.c, pend := l.pe } else viewOf s id' := by
  simp only [viewOf, h.call, h.pend, h.log, txCount_append_notTx _ _ _ h.nt]
  split <;> rfl

theorem Move.refl (h : Inv P s) (hf : findCall s.calls id = some c) (hp : findP s.pend id = pe) : Move P s id s ⟨c, pe, []⟩ :=
  ⟨h, rfl, rfl, nofun, rfl, call_same hf, pend_same hp⟩

/-- Moves of the same exchange compose (at most one of them is a return). -/
theorem Move.trans (h1 : Move P s id b1 l1) (h2 : Move P b1 id b2 l2) (hr : l1.ret = none ∨ l2.ret = none) :
    Move P s id b2 (l1.andThen l2) := by
  refine ⟨h2.inv, h2.now.trans h1.now, by rw [h2.log, h1.log]; exact (List.append_assoc _ _ _).symm,
    fun x hx => (List.mem_append.mp hx).elim (h2.nt x) (h1.nt x), ?_, fun id' => ?_, fun id' => ?_⟩
  · show (l2.log ++ l1.log).filter isRet = _
    rw [Local.ret_andThen, List.filter_append, h2.ret, h1.ret, h1.now]
    rcases hr with hr | hr <;> rw [hr]
    · cases l2.ret <;> rfl
    · rfl
  · rw [h2.call, h1.call]; split <;> rfl
  · rw [h2.pend, h1.pend]; split <;> rfl

theorem Move.ret_mem (h : Move P s id b1 l) {r : Res} (hr : l.ret = some r) : Entry.ret id r s.now ∈ b1.log := by
  have : Entry.ret id r s.now ∈ l.log.filter isRet := by rw [h.ret, hr]; exact List.mem_singleton.mpr rfl
  rw [h.log]
  exact List.mem_append_left _ (List.mem_filter.mp this).1

theorem Move.log_mem (h : Move P s id b1 l) {x : Entry} (hx : x ∈ l.log) : x ∈ b1.log :=
  h.log ▸ List.mem_append_left _ hx

theorem move_got (h : Inv P s) (hf : findCall s.calls id = some c) (hp : findP s.pend id = pe) (tag : Nat) :
    Move P s id { s with log := .got id tag :: s.log } ⟨c, pe, [.got id tag]⟩ :=
  ⟨inv_addGot h id tag, rfl, rfl, nt_one trivial, rfl, call_same hf, pend_same hp⟩

theorem move_stop (h : Inv P s) (hf : findCall s.calls id = some c) (hp : findP s.pend id = pe)
    (hph : c.phase = .waitResp ∨ c.phase = .done) : Move P s id (addStop s id) ⟨c, pe, [.stop id s.now]⟩ :=
  ⟨inv_addStop h id ⟨c, (findCall_some hf).1, (findCall_some hf).2, hph⟩, rfl, rfl, nt_one trivial, rfl, call_same hf, pend_same hp⟩

theorem move_drop (h : Inv P s) (hf : findCall s.calls id = some c) :
    Move P s id { s with pend := dropPend s.pend id } ⟨c, none, []⟩ :=
  ⟨inv_subPend h List.filter_sublist, rfl, rfl, nofun, rfl, call_same hf, findP_dropPend _ _⟩

theorem move_finish (h : Inv P s) (hf : findCall s.calls id = some c) (hnp : findP s.pend id = none) (r : Res) :
    Move P s id (finish s id r) ⟨setPhase .done c, none, [.ret id r s.now]⟩ :=
  ⟨inv_finish h id r (findP_none hnp) ⟨c, findCall_some hf⟩, rfl, rfl, nt_one trivial, rfl,
    call_upd hf _ (fun _ => rfl), pend_same hnp⟩

theorem move_setBuf (h : Inv P s) (hf : findCall s.calls id = some c) (hp : findP s.pend id = pe) (tag : Nat) :
    Move P s id { s with log := .got id tag :: s.log, calls := updCall s.calls id (setBuf tag) }
      ⟨setBuf tag c, pe, [.got id tag]⟩ :=
  ⟨inv_setBuf h id tag, rfl, rfl, nt_one trivial, rfl,
    call_upd hf _ (fun _ => rfl), pend_same hp⟩

end Move

/-- What `b'` holds of each message ID against what `b1` holds of it, when the request of the call given last (if any) has been
    admitted in between; `now` is the time stamped into its entry and its first transmission. -/
def AdmitView (now : Nat) (b1 b' : State) : Option Call → Prop
  | none => ∀ id', viewOf b' id' = viewOf b1 id'
  | some c1 => findCall b1.calls c1.id = some c1 ∧ c1.phase = .waitSem ∧ ∀ id', viewOf b' id' =
      if id' = c1.id then ⟨some (setPhase .waitAck c1), some ⟨c1.id, now, c1.deadline, 0, c1.msg⟩, (viewOf b1 id').cnt + 1⟩
      else viewOf b1 id'

def admitEntry (now : Nat) (oc1 : Option Call) : List Entry := (oc1.map (fun c1 => Entry.tx c1.id 0 now c1.req)).toList

theorem admitNext_views {P : Params} {b1 : State} (h : Inv P b1) :
    Inv P (admitNext P b1) ∧ ∃ oc1, AdmitView b1.now b1 (admitNext P b1) oc1 ∧
      (admitNext P b1).log = admitEntry b1.now oc1 ++ b1.log ∧ (admitNext P b1).now = b1.now := by
  have hnone : Inv P b1 ∧ ∃ oc1, AdmitView b1.now b1 b1 oc1 ∧ b1.log = admitEntry b1.now oc1 ++ b1.log ∧ b1.now = b1.now :=
    ⟨h, none, fun _ => rfl, rfl, rfl⟩
  unfold admitNext
  by_cases hlt : inflight b1.calls < P.nstart
  · rw [if_pos hlt]
    cases hf : b1.calls.find? (fun c => c.phase == .waitSem) with
    | none => exact hnone
    | some c =>
      have hc : c ∈ b1.calls := List.mem_of_find?_eq_some hf
      have hph : c.phase = .waitSem := by have := List.find?_some hf; simpa using this
      have hfc := findCall_of_mem h.ids hc
      have hnp := findP_none_of_phase h hc (by rw [hph]; decide)
      refine ⟨?_, some c, ⟨hfc, hph, fun id' => ?_⟩, rfl, rfl⟩
      · have hcontra : ∀ c' ∈ b1.calls, c'.id = c.id → c'.phase ≠ .waitSem → False := by
          intro c' hc' hid hp
          have := eq_of_id_eq h.ids hc' hc hid
          rw [this] at hp; exact hp hph
        have h1 : Inv P { b1 with calls := updCall b1.calls c.id (setPhase .waitAck) } :=
          inv_updCall h c.id (setPhase .waitAck) (keeps_setPhase _)
            (fun _ _ _ _ _ => rfl)
            (by have := inflight_admit_le b1.calls c.id h.ids; omega)
            (fun c' _ _ hp => by simp [setPhase] at hp)
            (fun c' hc' hid hp => (hcontra c' hc' hid (by rcases hp with hp | hp <;> rw [hp] <;> decide)).elim)
        -- the first datagram is written from the caller's message
        exact inv_addTx h1 (c := setPhase .waitAck c) (mem_updCall_self _ hc) rfl (e := ⟨c.id, b1.now, c.deadline, 0, c.msg⟩)
          (KeyedList.nodup_append_one Pend.id h.pid (findP_none hnp)) (List.mem_append_right _ (List.mem_singleton_self _))
          (fun x hx hne => (List.mem_append.mp hx).elim id fun hx => (hne (List.mem_singleton.mp hx ▸ rfl)).elim)
          rfl rfl (h.queuedSilent c hc hph) (Nat.zero_le _) ⟨fun hk => (Nat.lt_irrefl 0 hk).elim, fun _ ht => (h.untouched c hc ht hph).symm⟩
          ⟨c.req, List.mem_cons_self⟩ (fun hk => (Nat.lt_irrefl 0 hk).elim)
      simp only [viewOf, call_upd hfc (setPhase .waitAck) (fun _ => rfl) id', findP_append, txCount_cons_tx]
      by_cases hid : id' = c.id
      · subst hid; simp [hnp]
      · simp [hid, Ne.symm hid]
  · rw [if_neg hlt]
    exact hnone

/-- In a step that began in `s`, `b'` is `b1` after the admission of the queued request `oc1` (if there is one): the first
    transmission is stamped `s.now` and may stand anywhere among what the step has added to `s.log`. -/
structure Admits (P : Params) (s b1 b' : State) (oc1 : Option Call) : Prop where
  inv : Inv P b'
  now : b'.now = b1.now
  view : AdmitView s.now b1 b' oc1
  log : ∃ pre post, b1.log = pre ++ post ++ s.log ∧ b'.log = pre ++ admitEntry s.now oc1 ++ post ++ s.log ∧
    (∀ x ∈ pre, NotTx x) ∧ ∀ x ∈ post, NotTx x

/-- `b'` is `s` after a handler has run for the message ID `id`: the exchange `id` has moved to `l`, and the next queued
    request has been admitted, or not. -/
def Handled (P : Params) (s : State) (id : Nat) (l : Local) (b' : State) : Prop :=
  ∃ b1 oc1, Move P s id b1 l ∧ Admits P s b1 b' oc1

section Admits
variable {P : Params} {s b1 b2 b' : State} {id : Nat} {c : Call} {l : Local} {oc1 : Option Call}

theorem Move.admitted (h : Move P s id b1 l) : ∃ oc1, Admits P s b1 (admitNext P b1) oc1 := by
  obtain ⟨hi, oc1, hv, hlog, hnow⟩ := admitNext_views (P := P) h.inv
  rw [h.now] at hv hlog
  exact ⟨oc1, hi, hnow, hv, [], l.log, h.log, by rw [hlog, h.log]; simp, nofun, h.nt⟩

theorem Move.handled (h : Move P s id b1 l) (hb' : b' = b1 ∨ b' = admitNext P b1) : Handled P s id l b' := by
  rcases hb' with rfl | rfl
  · exact ⟨_, none, h, h.inv, rfl, fun _ => rfl, [], l.log, h.log, h.log, nofun, h.nt⟩
  · exact ⟨_, _, h, h.admitted.choose_spec⟩

theorem Admits.other (h : Admits P s b1 b2 oc1) (hf : findCall b1.calls id = some c) (hph : c.phase ≠ .waitSem) :
    (∀ c1, oc1 = some c1 → c1.id ≠ id) ∧ viewOf b2 id = viewOf b1 id := by
  cases oc1 with
  | none => exact ⟨nofun, h.view id⟩
  | some c1 =>
    obtain ⟨hfc1, hph1, hv⟩ := h.view
    have hne : c1.id ≠ id := fun heq => by rw [heq, hf] at hfc1; cases hfc1; exact hph hph1
    exact ⟨fun c1' h1 => by cases h1; exact hne, (hv id).trans (if_neg (Ne.symm hne))⟩

/-- The same move of the exchange `id` made before and after the admission of another request. -/
theorem Admits.move {b1' b2' : State} (h : Admits P s b1 b2 oc1) (h1 : Move P b1 id b1' l) (h2 : Move P b2 id b2' l)
    (hne : ∀ c1, oc1 = some c1 → c1.id ≠ id) : Admits P s b1' b2' oc1 := by
  obtain ⟨pre, post, hl1, hl2, hpre, hpost⟩ := h.log
  refine ⟨h2.inv, by rw [h2.now, h1.now, h.now], ?_, l.log ++ pre, post, by rw [h1.log, hl1]; simp, by rw [h2.log, hl2]; simp,
    fun x hx => (List.mem_append.mp hx).elim (h1.nt x) (hpre x), hpost⟩
  cases oc1 with
  | none => exact fun id' => by rw [h2.view, h1.view, h.view id']
  | some c1 =>
    obtain ⟨hfc1, hph1, hv⟩ := h.view
    have hne := hne c1 rfl
    refine ⟨by rw [h1.call, if_neg hne]; exact hfc1, hph1, fun id' => ?_⟩
    rw [h2.view, h1.view, hv id']
    by_cases hi : id' = id
    · subst hi; simp only [if_true, if_neg (Ne.symm hne)]
    · simp only [if_neg hi]

theorem Admits.log_mono (ha : Admits P s b1 b' oc1) {x : Entry} (hx : x ∈ b1.log) : x ∈ b'.log := by
  obtain ⟨pre, post, h1, h2, _⟩ := ha.log
  rw [h1] at hx
  rw [h2]
  simp only [List.mem_append] at hx ⊢
  rcases hx with (hx | hx) | hx
  · exact Or.inl (Or.inl (Or.inl hx))
  · exact Or.inl (Or.inr hx)
  · exact Or.inr hx

theorem Handled.inv (h : Handled P s id l b') : Inv P b' :=
  let ⟨_, _, _, ha⟩ := h; ha.inv

theorem Handled.ret_mem (h : Handled P s id l b') {r : Res} (hr : l.ret = some r) : Entry.ret id r s.now ∈ b'.log :=
  let ⟨_, _, hm, ha⟩ := h; ha.log_mono (hm.ret_mem hr)

theorem Handled.log_mem (h : Handled P s id l b') {x : Entry} (hx : x ∈ l.log) : x ∈ b'.log :=
  let ⟨_, _, hm, ha⟩ := h; ha.log_mono (hm.log_mem hx)

end Admits

section Handlers
variable {P : Params} {s : State} {id : Nat} {c : Call}

theorem deliver_eq (hf : findCall s.calls id = some c) (tag : Nat) :
    deliver P s id tag =
      if c.phase = .done then { s with log := .got id tag :: s.log }
      else if c.phase = .waitResp then finish { s with log := .got id tag :: s.log } id (.ok tag)
      else if c.buf = none then
        if c.phase = .waitAck ∧ isPending s.pend id = true then
          acked P { s with log := .got id tag :: s.log, calls := updCall s.calls id (setBuf tag) } (setBuf tag c)
        else { s with log := .got id tag :: s.log, calls := updCall s.calls id (setBuf tag) }
      else { s with log := .got id tag :: s.log } := by
  have hww : responseWakesWriter = true := rfl
  simp only [deliver, hf, hww, Bool.true_and]
  cases c.phase <;> cases c.buf <;> simp

theorem cancel_eq (hf : findCall s.calls id = some c) (why : Why) :
    cancel P s id why =
      if c.phase = .done then s
      else if c.phase = .waitAck then admitNext P (addStop (finish { s with pend := dropPend s.pend id } id why.res) id)
      else addStop (finish s id why.res) id := by
  simp only [cancel, hf]
  cases c.phase <;> simp

theorem deliver_unknown (hf : findCall s.calls id = none) (tag : Nat) : deliver P s id tag = s := by
  unfold deliver; rw [hf]

theorem cancel_unknown (hf : findCall s.calls id = none) (why : Why) : cancel P s id why = s := by
  unfold cancel; rw [hf]

theorem recvMid_unknown (hf : findCall s.calls id = none) (k : Kind) : recvMid P s id k = s := by
  cases k <;> simp [recvMid, deliver, hf]

theorem cancel_move (h : Inv P s) (hf : findCall s.calls id = some c) (why : Why) :
    Handled P s id (onCancel s.now why c (findP s.pend id)) (cancel P s id why) := by
  obtain ⟨hcm, hcid⟩ := findCall_some hf
  subst hcid
  have key : ∀ {s1 : State} (m1 : Move P s c.id s1 ⟨c, none, []⟩), Move P s c.id (addStop (finish s1 c.id why.res) c.id)
      ⟨setPhase .done c, none, [.stop c.id s.now, .ret c.id why.res s.now]⟩ := fun {s1} m1 =>
    have m2 := move_finish m1.inv m1.call_id m1.pend_id why.res
    m1.now ▸ (m1.trans m2 (Or.inl rfl)).trans (move_stop m2.inv m2.call_id m2.pend_id (Or.inr rfl)) (Or.inr rfl)
  rw [cancel_eq hf]
  unfold onCancel
  by_cases hd : c.phase = .done
  · rw [if_pos hd, if_pos hd]
    exact (Move.refl h hf rfl).handled (Or.inl rfl)
  rw [if_neg hd, if_neg hd]
  by_cases hw : c.phase = .waitAck
  · rw [if_pos hw]
    exact (key (move_drop h hf)).handled (Or.inr rfl)
  · rw [if_neg hw]
    exact (key (Move.refl h hf (findP_none_of_phase h hcm hw))).handled (Or.inl rfl)

theorem wake_move (h : Inv P s) (hf : findCall s.calls c.id = some c) :
    Move P s c.id (ackedPre s c) (woken s.now c) := by
  have m1 := move_drop h hf
  unfold ackedPre woken
  cases c.buf with
  | some tag =>
    have m2 := move_finish m1.inv m1.call_id m1.pend_id (.ok tag)
    exact (m1.trans m2 (Or.inl rfl)).trans (move_stop m2.inv m2.call_id m2.pend_id (Or.inr rfl)) (Or.inr rfl)
  | none =>
    have hnp := findP_none m1.pend_id
    have m2 : Move P { s with pend := dropPend s.pend c.id } c.id
        { s with pend := dropPend s.pend c.id, calls := updCall s.calls c.id (setPhase .waitResp) }
        ⟨setPhase .waitResp c, none, []⟩ :=
      ⟨inv_updCall m1.inv c.id (setPhase .waitResp) (keeps_setPhase _) (fun e he heq => (hnp e he heq).elim)
          (Nat.le_trans (inflight_updCall_le _ _ _ (fun _ hp => Phase.noConfusion hp)) h.slots)
          (fun c' _ _ hp => by simp [setPhase] at hp) (fun _ _ _ _ => Or.inl rfl),
        rfl, rfl, nofun, rfl, call_upd hf _ (fun _ => rfl), pend_same m1.pend_id⟩
    exact (m1.trans m2 (Or.inl rfl)).trans (move_stop m2.inv m2.call_id m2.pend_id (Or.inl rfl)) (Or.inr rfl)

theorem deliver_idle (h : Inv P s) (hf : findCall s.calls id = some c) (hnp : findP s.pend id = none) (tag : Nat) :
    Move P s id (deliver P s id tag) (onDeliver s.now tag c none) := by
  obtain ⟨hcm, hcid⟩ := findCall_some hf
  subst hcid
  have mg := move_got h hf hnp tag
  have hpend : ¬ (c.phase = .waitAck ∧ isPending s.pend c.id = true) := fun hp => by
    rw [isPending_eq, hnp] at hp; exact Bool.noConfusion hp.2
  rw [deliver_eq hf]
  unfold onDeliver
  by_cases hd : c.phase = .done
  · rw [if_pos hd, if_pos hd]; exact mg
  rw [if_neg hd, if_neg hd]
  by_cases hw : c.phase = .waitResp
  · rw [if_pos hw, if_pos hw]
    exact mg.trans (move_finish mg.inv mg.call_id mg.pend_id (.ok tag)) (Or.inl rfl)
  rw [if_neg hw, if_neg hw]
  by_cases hb : c.buf = none
  · rw [if_pos hb, if_pos hb, if_neg hpend, if_neg (fun hp => Bool.noConfusion hp.2)]
    exact move_setBuf h hf hnp tag
  · rw [if_neg hb, if_neg hb]; exact mg

theorem deliver_move (h : Inv P s) (hf : findCall s.calls id = some c) (tag : Nat) :
    Handled P s id (onDeliver s.now tag c (findP s.pend id)) (deliver P s id tag) := by
  cases hp : findP s.pend id with
  | none => exact (deliver_idle h hf hp tag).handled (Or.inl rfl)
  | some e =>
    have hph := waitAck_of_pending h hf hp
    obtain ⟨hcm, hcid⟩ := findCall_some hf
    subst hcid
    have hnd : c.phase ≠ .done := by rw [hph]; exact Phase.noConfusion
    have hnw : c.phase ≠ .waitResp := by rw [hph]; exact Phase.noConfusion
    rw [deliver_eq hf, if_neg hnd, if_neg hnw]
    unfold onDeliver
    rw [if_neg hnd, if_neg hnw]
    by_cases hb : c.buf = none
    · -- the response wakes the writer: it is put into the channel, and returned at once
      rw [if_pos hb, if_pos hb, if_pos ⟨hph, rfl⟩, if_pos ⟨hph, isPending_of_findP hp⟩]
      have ms := move_setBuf h hf hp tag
      exact (ms.trans (wake_move ms.inv (c := setBuf tag c) ms.call_id) (Or.inl rfl)).handled (Or.inr rfl)
    · rw [if_neg hb, if_neg hb]
      exact (move_got h hf hp tag).handled (Or.inl rfl)

theorem deliver_waitResp (h : Inv P s) (hc : c ∈ s.calls) (hph : c.phase = .waitResp)
    (tag : Nat) : Entry.ret c.id (.ok tag) s.now ∈ (deliver P s c.id tag).log :=
  (deliver_idle h (findCall_of_mem h.ids hc) (findP_none_of_phase h hc (by rw [hph]; decide)) tag).ret_mem
    (by rw [onDeliver, hph]; rfl)

/-- A response for a request that is still pending and whose token handler has not fired (`c.buf = none`) wakes the writer:
    the call returns that response at once and a stop entry is logged. -/
theorem deliver_pending (h : Inv P s) {tag : Nat} (hp : isPending s.pend id = true)
    (hf : findCall s.calls id = some c) (hb : c.buf = none) :
    Entry.ret id (.ok tag) s.now ∈ (deliver P s id tag).log ∧ ∃ t, Entry.stop id t ∈ (deliver P s id tag).log := by
  obtain ⟨e, hpe⟩ := findP_of_isPending hp
  have hph := waitAck_of_pending h hf hpe
  have hd := deliver_move h hf tag
  obtain rfl := (findCall_some hf).2
  have hl : onDeliver s.now tag c (findP s.pend c.id) = ⟨setPhase .done (setBuf tag c), none,
      [.stop c.id s.now, .ret c.id (.ok tag) s.now, .got c.id tag]⟩ := by rw [hpe]; simp [onDeliver, hph, hb]
  rw [hl] at hd
  exact ⟨hd.ret_mem rfl, _, hd.log_mem List.mem_cons_self⟩

theorem recvMid_not_pending (k : Kind) (hnp : isPending s.pend id = false) :
    recvMid P s id k = match k with | .pig tag => deliver P s id tag | _ => s := by
  cases k <;> simp [recvMid, hnp]

/-- A message carrying the message ID of a request: the writer is woken if the request is pending; a piggybacked response
    then goes on to the token handler — after the admission of the next queued request, which does not concern it. -/
theorem recv_move (h : Inv P s) (hf : findCall s.calls id = some c) (k : Kind) :
    Handled P s id (onRecv s.now k c (findP s.pend id)) (recvMid P s id k) := by
  cases hp : findP s.pend id with
  | none =>
    rw [recvMid_not_pending k (by rw [isPending_eq, hp]; rfl)]
    cases k with
    | pig tag => exact (deliver_idle h hf hp tag).handled (Or.inl rfl)
    | ack => exact (Move.refl h hf hp).handled (Or.inl rfl)
    | rst => exact (Move.refl h hf hp).handled (Or.inl rfl)
  | some e =>
    obtain ⟨hcm, hcid⟩ := findCall_some hf
    subst hcid
    have mw := wake_move h hf
    have hrecv : recvMid P s c.id k = match k with | .pig tag => deliver P (acked P s c) c.id tag | _ => acked P s c := by
      cases k <;> simp [recvMid, isPending_eq, hp, hf]
    rw [hrecv]
    cases k with
    | ack => exact mw.handled (Or.inr rfl)
    | rst => exact mw.handled (Or.inr rfl)
    | pig tag =>
      obtain ⟨oc1, ha⟩ := mw.admitted
      have hw : (woken s.now c).c.phase ≠ .waitSem ∧ (woken s.now c).pe = none ∧ (woken s.now c).c.id = c.id ∧
          ((woken s.now c).ret = none ∨ (onDeliver s.now tag (woken s.now c).c none).ret = none) := by
        unfold woken; cases c.buf
        · exact ⟨Phase.noConfusion, rfl, rfl, Or.inl rfl⟩
        · exact ⟨Phase.noConfusion, rfl, rfl, Or.inr rfl⟩
      obtain ⟨hne, hv2⟩ := ha.other mw.call_id hw.1
      have d1 := deliver_idle mw.inv mw.call_id (mw.pend_id.trans hw.2.1) tag
      have d2 := deliver_idle ha.inv ((congrArg IdView.call hv2).trans mw.call_id)
        ((congrArg IdView.pend hv2).trans (mw.pend_id.trans hw.2.1)) tag
      rw [ha.now] at d2
      rw [mw.now] at d1 d2
      exact ⟨_, oc1, mw.trans d1 hw.2.2.2, ha.move d1 d2 hne⟩

theorem recv_pending (h : Inv P s) (hp : isPending s.pend id = true) (k : Kind) :
    ∃ c e, c.id = id ∧ Handled P s id (onRecv s.now k c (some e)) (recvMid P s id k) := by
  obtain ⟨c, hf, _, _⟩ := pending_call h hp
  obtain ⟨e, hpe⟩ := findP_of_isPending hp
  exact ⟨c, e, (findCall_some hf).2, hpe ▸ recv_move h hf k⟩

theorem send_move (h : Inv P s) (hnew : findCall s.calls id = none) (msg : Nat) (dl : Option Nat) :
    Handled P s id (onSend P s.now id msg dl) (send P s id msg dl) := by
  have hnp := pend_none_of_findCall_none h hnew
  have hcall : ∀ (c : Call), c.id = id → ∀ id', findCall (s.calls ++ [c]) id' = if id' = id then some c else findCall s.calls id' :=
    fun c hc id' => by
      split
      · subst id'; exact KeyedList.find?_append_new Call.id hc hnew
      · exact KeyedList.find?_append_other Call.id _ (fun heq => ‹¬ id' = id› (heq.symm.trans hc))
  have m : ∀ ph, ph = .waitSem ∨ ph = .done → Move P s id { s with calls := s.calls ++ [⟨id, msg, dl, ph, none, msg, false⟩] }
      ⟨⟨id, msg, dl, ph, none, msg, false⟩, none, []⟩ :=
    fun ph hph => ⟨inv_addCall h id msg dl ph (findCall_none hnew) hph, rfl, rfl, nofun, rfl, hcall _ rfl, pend_same hnp⟩
  unfold send onSend
  rw [hnew]
  simp only [Option.isSome_none, Bool.false_eq_true, if_false]
  by_cases hn : P.nstart = 0
  · rw [if_pos hn, if_pos hn]
    have m1 := m .done (Or.inr rfl)
    have m2 : Move P { s with calls := s.calls ++ [⟨id, msg, dl, .done, none, msg, false⟩] } id
        { s with calls := s.calls ++ [⟨id, msg, dl, .done, none, msg, false⟩], log := .ret id .nstart s.now :: s.log }
        ⟨⟨id, msg, dl, .done, none, msg, false⟩, none, [.ret id .nstart s.now]⟩ :=
      ⟨inv_addRet m1.inv id .nstart s.now ⟨_, (findCall_some m1.call_id).1, rfl, rfl⟩, rfl, rfl,
        nt_one trivial, rfl, call_same m1.call_id, pend_same m1.pend_id⟩
    exact (m1.trans m2 (Or.inl rfl)).handled (Or.inl rfl)
  · rw [if_neg hn, if_neg hn]
    exact (m .waitSem (Or.inl rfl)).handled (Or.inr rfl)

end Handlers

theorem inv_deliver {P : Params} {s : State} (h : Inv P s) (id tag : Nat) : Inv P (deliver P s id tag) := by
  cases hf : findCall s.calls id with
  | none => rw [deliver_unknown hf]; exact h
  | some c => exact (deliver_move h hf tag).inv

theorem inv_recvMid {P : Params} {s : State} (h : Inv P s) (id : Nat) (k : Kind) : Inv P (recvMid P s id k) := by
  cases hf : findCall s.calls id with
  | none => rw [recvMid_unknown hf]; exact h
  | some c => exact (recv_move h hf k).inv

theorem inv_cancel {P : Params} {s : State} (h : Inv P s) (id : Nat) (why : Why) : Inv P (cancel P s id why) := by
  cases hf : findCall s.calls id with
  | none => rw [cancel_unknown hf]; exact h
  | some c => exact (cancel_move h hf why).inv

theorem inv_send {P : Params} {s : State} (h : Inv P s) (id msg : Nat) (dl : Option Nat) : Inv P (send P s id msg dl) := by
  cases hf : findCall s.calls id with
  | some c => unfold send; rw [hf]; exact h
  | none => exact (send_move h hf msg dl).inv

/-! ### a housekeeping pass in closed form -/

/-- The first test of `tickEntry`: the entry is removed and nothing is written. -/
def dropped (P : Params) (t : Nat) (e : Pend) : Bool :=
  pastDeadline t e.deadline || (exhausted P e.n && lastTimeoutPassed P t e)
def due (P : Params) (t : Nat) (e : Pend) : Bool := decide (t > e.start + (e.n + retransmitAddend) * P.ackTimeout)
def bumped (P : Params) (t : Nat) (e : Pend) : Bool := !dropped P t e && due P t e

theorem tickEntry_eq (P : Params) (t : Nat) (e : Pend) :
    tickEntry P t e = if dropped P t e then (none, none)
      else if due P t e then (some { e with n := e.n + 1 }, some (.tx e.id (e.n + 1) t e.msg)) else (some e, none) := by
  unfold tickEntry dropped due
  by_cases h1 : (pastDeadline t e.deadline || (exhausted P e.n && lastTimeoutPassed P t e)) = true
  · simp [h1]
  · simp only [h1]
    -- the entry is not dropped in the pass that wrote the copy: regenerated fact
    have hd : dropsInPassOfLastCopy = false := rfl
    by_cases h2 : t > e.start + (e.n + retransmitAddend) * P.ackTimeout <;> simp [h2, hd]

/-- An entry that is retransmitted in this pass had not used up its retransmissions: a due entry whose copies are
    all out has, by the same timeout, also passed the window of its last copy and is dropped instead. -/
theorem lt_of_kept_due {P : Params} {t : Nat} {e : Pend} (hd : dropped P t e = false) (hdue : due P t e = true) :
    e.n < P.maxRetransmit := by
  simp only [dropped, Bool.or_eq_false_iff, Bool.and_eq_false_iff] at hd
  rcases hd.2 with h | h
  · simpa [exhausted, expiredWhenGE] using h
  · -- the last copy's timeout is the timeout of the next retransmission (same addend), or the conjunct is absent
    exfalso
    have hadd : exhaustionWaitsLastTimeout = false ∨ lastCopyAddend = retransmitAddend := by decide
    rcases hadd with hw | ha
    · simp [lastTimeoutPassed, hw] at h
    · simp only [lastTimeoutPassed, Bool.or_eq_false_iff, ha] at h
      simp only [due] at hdue
      exact (of_decide_eq_false h.2) (of_decide_eq_true hdue)

def kept (P : Params) (t : Nat) (e : Pend) : Option Pend :=
  if dropped P t e then none else some (if due P t e then { e with n := e.n + 1 } else e)

theorem tickList_eq (P : Params) (t : Nat) : ∀ ps : List Pend, tickList P t ps =
    (ps.filterMap (kept P t), (ps.filter (bumped P t)).map (fun e => Entry.tx e.id (e.n + 1) t e.msg))
  | [] => rfl
  | e :: r => by
    simp only [tickList, tickEntry_eq, tickList_eq P t r, List.filterMap_cons, List.filter_cons, kept, bumped]
    by_cases h1 : dropped P t e = true
    · simp [h1]
    · by_cases h2 : due P t e = true <;> simp [h1, h2]

theorem kept_id {P : Params} {t : Nat} {e e' : Pend} (h : kept P t e = some e') : e'.id = e.id := by
  unfold kept at h
  split at h
  · cases h
  · cases h; split <;> rfl

theorem tick_mem_log (P : Params) (t : Nat) (ps : List Pend) (x : Entry) (h : x ∈ (tickList P t ps).2) :
    ∃ e ∈ ps, bumped P t e = true ∧ x = .tx e.id (e.n + 1) t e.msg := by
  rw [tickList_eq] at h
  obtain ⟨e, he, rfl⟩ := List.mem_map.mp h
  exact ⟨e, (List.mem_filter.mp he).1, (List.mem_filter.mp he).2, rfl⟩

theorem tick_ids_sublist (P : Params) (t : Nat) (ps : List Pend) :
    ((tickList P t ps).1.map (·.id)).Sublist (ps.map (·.id)) := by
  rw [tickList_eq]
  exact KeyedList.map_key_filterMap_sublist Pend.id _ (fun _ _ => kept_id) ps

theorem tick_count (P : Params) (t : Nat) (id : Nat) (ps : List Pend) :
    txCount (tickList P t ps).2 id = ps.countP (fun e => e.id == id && bumped P t e) := by
  rw [tickList_eq]
  simp only [txCount, List.countP_map, List.countP_filter]
  rfl

theorem spacing_of_due {P : Params} {t : Nat} {e : Pend} (h : due P t e = true) :
    e.start + (e.n + 1) * P.ackTimeout < t := by
  unfold due at h
  simp [retransmitAddend] at h
  exact h

/-- The pending entry of one exchange, if a pass at `t` writes a copy for it. -/
def copied (P : Params) (t : Nat) (pe : Option Pend) : Option Pend := pe.filter (bumped P t)

/-- What a pass does with one entry: it drops it, writes a copy and advances its counter, or leaves it alone. -/
theorem pass_cases (P : Params) (t : Nat) (e : Pend) :
    (dropped P t e = true ∧ kept P t e = none ∧ copied P t (some e) = none) ∨
    (bumped P t e = true ∧ kept P t e = some { e with n := e.n + 1 } ∧ copied P t (some e) = some e) ∨
    (dropped P t e = false ∧ due P t e = false ∧ kept P t e = some e ∧ copied P t (some e) = none) := by
  cases hd : dropped P t e <;> cases hdue : due P t e <;> simp [kept, copied, bumped, hd, hdue]

theorem findP_tick (P : Params) (t : Nat) (ps : List Pend) (hn : (ps.map (·.id)).Nodup) (id : Nat) :
    findP (tickList P t ps).1 id = (findP ps id).bind (kept P t) := by
  rw [tickList_eq]
  exact KeyedList.find?_filterMap Pend.id (kept P t) (fun _ _ => kept_id) id hn

theorem txCount_tick (P : Params) (t : Nat) (log : List Entry) (ps : List Pend) (hn : (ps.map (·.id)).Nodup) (id : Nat) :
    txCount ((tickList P t ps).2 ++ log) id = txCount log id + (copied P t (findP ps id)).toList.length := by
  rw [txCount_append, tick_count, Nat.add_comm]
  cases hf : findP ps id with
  | none => rw [KeyedList.countP_key_absent Pend.id _ (findP_none hf)]; rfl
  | some e =>
    obtain ⟨hm, hid⟩ := KeyedList.find?_some Pend.id hf
    have := KeyedList.countP_key_of_mem Pend.id (bumped P t) hn hm
    rw [hid] at this
    simp only [this, copied, Option.filter_some]
    split <;> rfl

/-- A housekeeping pass, entry by entry: the entries at the end of the table first (their copies are the older ones in the
    log), those before them (`front`) still untouched. -/
theorem inv_pass {P : Params} {s : State} (t : Nat) : ∀ (r front : List Pend), Inv P { s with pend := front ++ r } →
    Inv P { s with pend := front ++ (tickList P t r).1, log := (tickList P t r).2 ++ s.log }
  | [], _, h => h
  | e :: r, front, h => by
    have h1 := inv_pass t r (front ++ [e]) (by rw [List.append_assoc]; exact h)
    rw [List.append_assoc] at h1
    have hem : e ∈ front ++ e :: (tickList P t r).1 := List.mem_append_right _ List.mem_cons_self
    simp only [tickList, tickEntry_eq]
    by_cases hd : dropped P t e = true
    · simp only [hd, if_true]
      exact inv_subPend h1 ((List.sublist_cons_self e _).append_left front)
    by_cases hdue : due P t e = true
    · simp only [hd, hdue, if_true]
      obtain ⟨c, hc, hid, hph, hmsg⟩ := h1.pendCall e hem
      obtain ⟨hcnt, _, m0, hm0⟩ := h1.pendCount e hem
      refine inv_addTx h1 hc hph (e := { e with n := e.n + 1 }) ?_ (List.mem_append_right _ List.mem_cons_self) (fun x hx hne => ?_)
        hid hmsg hcnt (lt_of_kept_due (by simpa using hd) hdue) ⟨fun _ => hmsg, nofun⟩ ⟨m0, List.mem_cons_of_mem _ hm0⟩
        (fun _ => spacing_of_due hdue)
      · have := h1.pid
        simp only [List.map_append, List.map_cons] at this ⊢
        exact this
      · rcases List.mem_append.mp hx with hx | hx
        · exact List.mem_append_left _ hx
        · rcases List.mem_cons.mp hx with rfl | hx
          · exact (hne rfl).elim
          · exact List.mem_append_right _ (List.mem_cons_of_mem _ hx)
    · simp only [hd, hdue]
      exact h1

theorem inv_tick {P : Params} {s : State} (h : Inv P s) (ahead : Nat) : Inv P (tick P s ahead) :=
  inv_pass (s.now + ahead) s.pend [] h

/-! ### runs -/

theorem inv_step {P : Params} {s : State} (h : Inv P s) (e : Ev) : Inv P (step P s e) := by
  cases e with
  | send id msg dl => exact inv_send h id msg dl
  | advance d => exact inv_advance h d
  | tick ahead => exact inv_tick h ahead
  | recvMid id k => exact inv_recvMid h id k
  | resp id tag => exact inv_deliver h id tag
  | cancel id why => exact inv_cancel h id why
  | «mut» id msg => exact inv_editReq h id msg

theorem inv_runFrom {P : Params} (evs : List Ev) : ∀ s, Inv P s → Inv P (runFrom P s evs) :=
  fun _ h => List.foldlRecOn evs _ h fun _ h e _ => inv_step h e

theorem inv_run (P : Params) (evs : List Ev) : Inv P (run P evs) := inv_runFrom evs init (inv_init P)

theorem run_snoc (P : Params) (evs : List Ev) (e : Ev) : run P (evs ++ [e]) = step P (run P evs) e := by
  simp only [run, runFrom, List.foldl_append, List.foldl_cons, List.foldl_nil]

/-! ### where successes and flags come from

`Traced G T` holds along a run when `G` holds of every response that arrives and `T` of every call that is edited
(`traced_step`); `traced_run` takes for them "is among the events". -/

def TracedCall (G : Nat → Nat → Prop) (T : Nat → Prop) (c : Call) : Prop :=
  (∀ g, c.buf = some g → G c.id g) ∧ (c.touched = true → T c.id)

structure Traced (G : Nat → Nat → Prop) (T : Nat → Prop) (s : State) : Prop where
  ret : ∀ i g t, Entry.ret i (.ok g) t ∈ s.log → G i g
  calls : ∀ c ∈ s.calls, TracedCall G T c

section Traced
variable {G : Nat → Nat → Prop} {T : Nat → Prop} {s : State}

theorem Traced.of {s' : State} (h : Traced G T s) (pre : List Entry) (hlog : s'.log = pre ++ s.log)
    (hpre : ∀ i g t, Entry.ret i (.ok g) t ∈ pre → G i g) (hc : ∀ c ∈ s'.calls, TracedCall G T c) : Traced G T s' :=
  ⟨fun i g t hx => (List.mem_append.mp (hlog ▸ hx)).elim (hpre i g t) (h.ret i g t), hc⟩

theorem Traced.setPhase (h : Traced G T s) (id : Nat) (p : Phase) : ∀ c ∈ updCall s.calls id (setPhase p), TracedCall G T c :=
  updCall_forall h.calls fun c hc _ => h.calls c hc

theorem traced_finish (h : Traced G T s) (ps : List Pend) (id : Nat) (r : Res) (hr : ∀ g, r = .ok g → G id g) :
    Traced G T (finish { s with pend := ps } id r) :=
  h.of [.ret id r s.now] rfl (fun _ g _ hx => by cases List.mem_singleton.mp hx; exact hr g rfl) (h.setPhase id _)

theorem traced_addStop (h : Traced G T s) (id : Nat) : Traced G T (addStop s id) :=
  h.of [.stop id s.now] rfl (fun _ _ _ hx => Entry.noConfusion (List.mem_singleton.mp hx)) h.calls

theorem traced_admitNext (P : Params) (h : Traced G T s) : Traced G T (admitNext P s) := by
  unfold admitNext
  split
  · split
    · exact h.of [.tx _ 0 s.now _] rfl (fun _ _ _ hx => Entry.noConfusion (List.mem_singleton.mp hx)) (h.setPhase _ _)
    · exact h
  · exact h

theorem traced_acked (P : Params) (h : Traced G T s) (c : Call) (hc : ∀ g, c.buf = some g → G c.id g) :
    Traced G T (acked P s c) := by
  refine traced_admitNext P ?_
  unfold ackedPre
  cases hb : c.buf with
  | none => exact h.of [.stop c.id s.now] rfl (fun _ _ _ hx => Entry.noConfusion (List.mem_singleton.mp hx)) (h.setPhase _ _)
  | some tag => exact traced_addStop (traced_finish h _ c.id (.ok tag) (fun g e => by cases e; exact hc tag hb)) _

theorem traced_deliver (P : Params) (h : Traced G T s) {id tag : Nat} (hG : G id tag) : Traced G T (deliver P s id tag) := by
  cases hf : findCall s.calls id with
  | none => rw [deliver_unknown hf]; exact h
  | some c =>
    obtain rfl := (findCall_some hf).2
    have hnr : ∀ i g t, Entry.ret i (.ok g) t ∈ [Entry.got c.id tag] → G i g := fun _ _ _ hx =>
      Entry.noConfusion (List.mem_singleton.mp hx)
    have hok : ∀ g, Res.ok tag = .ok g → G c.id g := fun g e => by cases e; exact hG
    have h0 : Traced G T { s with log := .got c.id tag :: s.log } := h.of _ rfl hnr h.calls
    have h1 : Traced G T { s with log := .got c.id tag :: s.log, calls := updCall s.calls c.id (setBuf tag) } :=
      h.of _ rfl hnr (updCall_forall h.calls fun c' hc' hid =>
        ⟨fun g e => by cases e; exact hid ▸ hG, (h.calls c' hc').2⟩)
    rw [deliver_eq hf]
    by_cases hd : c.phase = .done
    · rw [if_pos hd]; exact h0
    rw [if_neg hd]
    by_cases hw : c.phase = .waitResp
    · rw [if_pos hw]; exact traced_finish h0 s.pend _ _ hok
    rw [if_neg hw]
    by_cases hb : c.buf = none
    · rw [if_pos hb]
      by_cases hp : c.phase = .waitAck ∧ isPending s.pend c.id = true
      · rw [if_pos hp]; exact traced_acked P h1 _ (fun g e => by cases e; exact hG)
      · rw [if_neg hp]; exact h1
    · rw [if_neg hb]; exact h0

theorem traced_recvMid (P : Params) (h : Traced G T s) (id : Nat) (k : Kind) (hG : ∀ tag, k = .pig tag → G id tag) :
    Traced G T (recvMid P s id k) := by
  unfold recvMid
  have h1 : Traced G T (if isPending s.pend id then
      (match findCall s.calls id with | some c => acked P s c | none => s) else s) := by
    split
    · cases hf : findCall s.calls id with
      | none => exact h
      | some c => exact traced_acked P h c (h.calls c (findCall_some hf).1).1
    · exact h
  cases k with
  | ack => exact h1
  | rst => exact h1
  | pig tag => exact traced_deliver P h1 (hG tag rfl)

theorem traced_cancel (P : Params) (h : Traced G T s) (id : Nat) (why : Why) : Traced G T (cancel P s id why) := by
  have hr : ∀ g, why.res = .ok g → G id g := fun g e => by cases why <;> cases e
  cases hf : findCall s.calls id with
  | none => rw [cancel_unknown hf]; exact h
  | some c =>
    rw [cancel_eq hf]
    split
    · exact h
    split
    · exact traced_admitNext P (traced_addStop (traced_finish h _ id why.res hr) id)
    · exact traced_addStop (traced_finish h s.pend id why.res hr) id

theorem traced_send (P : Params) (h : Traced G T s) (id msg : Nat) (dl : Option Nat) : Traced G T (send P s id msg dl) := by
  have hnew : ∀ ph, ∀ c ∈ s.calls ++ [⟨id, msg, dl, ph, none, msg, false⟩], TracedCall G T c := fun ph =>
    KeyedList.forall_mem_append_one h.calls ⟨fun _ e => (nomatch e), fun e => (nomatch e)⟩
  unfold send
  split
  · exact h
  split
  · exact h.of [.ret id .nstart s.now] rfl (fun _ _ _ hx => by cases List.mem_singleton.mp hx) (hnew _)
  · exact traced_admitNext P (h.of [] rfl (fun _ _ _ hx => (List.not_mem_nil hx).elim) (hnew _))

/-- Only a response can be returned, only an edit flags a call. -/
theorem traced_step (P : Params) (h : Traced G T s) (e : Ev) (hG : ∀ i g, e = .resp i g ∨ e = .recvMid i (.pig g) → G i g)
    (hT : ∀ i m, e = .mut i m → T i) : Traced G T (step P s e) := by
  cases e with
  | send id msg dl => exact traced_send P h id msg dl
  | advance d => exact ⟨h.ret, h.calls⟩
  | tick ahead =>
    refine h.of _ rfl (fun i g t hx => ?_) h.calls
    obtain ⟨_, _, _, hx⟩ := tick_mem_log P _ s.pend _ hx
    exact Entry.noConfusion hx
  | recvMid id k => exact traced_recvMid P h id k (fun tag hk => hG id tag (Or.inr (hk ▸ rfl)))
  | resp id tag => exact traced_deliver P h (hG id tag (Or.inl rfl))
  | cancel id why => exact traced_cancel P h id why
  | «mut» id msg =>
    exact h.of [] rfl (fun _ _ _ hx => (List.not_mem_nil hx).elim)
      (updCall_forall h.calls fun c hc hid => ⟨(h.calls c hc).1, fun _ => hid ▸ hT id msg rfl⟩)

theorem traced_run (P : Params) (evs : List Ev) :
    Traced (fun i g => Ev.resp i g ∈ evs ∨ Ev.recvMid i (.pig g) ∈ evs) (fun i => ∃ m, Ev.mut i m ∈ evs) (run P evs) :=
  List.foldlRecOn (motive := Traced _ _) evs _ ⟨fun _ _ _ h => (List.not_mem_nil h).elim, fun _ h => (List.not_mem_nil h).elim⟩
    fun _ ht e he =>
    traced_step P ht e (fun _ _ => Or.imp (fun x : e = _ => x ▸ he) fun x : e = _ => x ▸ he) fun _ m x => ⟨m, x ▸ he⟩

end Traced

end CoapVerif.Lemmas.Retransmit
