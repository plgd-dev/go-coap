import CoapVerif.Model.PoolOptionsReceive
import CoapVerif.Lemmas.PoolOptionsModel
/-!
Lemmas about `Model/PoolOptionsReceive.lean` (C15): how the views `Options.Unmarshal` produces lie in the unmarshal
buffer.
-/
namespace CoapVerif.Lemmas.PoolOptionsReceiveModel
open CoapVerif.Model.Options CoapVerif.Spec.SortedMultiset
open CoapVerif.Lemmas.SortedMultiset CoapVerif.Lemmas.OptionValuesModel

/-- Every view produced by `Options.Unmarshal` reads the value that was put on the wire, lies in the new block and
inside it; `pre` is what precedes the options in the block. -/
theorem wire_layout (m : Mem) : ∀ (inp : List Item) (pre : List UInt8),
    mapVal (m ++ [pre ++ wireBytes inp]).read (wireViews m.length pre.length inp) = inp ∧
    ∀ x ∈ wireViews m.length pre.length inp,
      x.2.bid = m.length ∧ x.2.off + x.2.len ≤ (pre ++ wireBytes inp).length := by
  intro inp
  induction inp with
  | nil => intro pre; simp [wireViews, mapVal]
  | cons x rest ih =>
    intro pre
    have hblk : pre ++ wireBytes (x :: rest) = (pre ++ 0 :: x.2) ++ wireBytes rest := by
      simp [wireBytes]
    have hlen : (pre ++ 0 :: x.2).length = pre.length + 1 + x.2.length := by
      simp; omega
    obtain ⟨ih1, ih2⟩ := ih (pre ++ 0 :: x.2)
    rw [hlen] at ih1 ih2
    rw [hblk]
    refine ⟨?_, ?_⟩
    · simp only [wireViews, mapVal, List.map_cons]
      unfold mapVal at ih1
      rw [ih1]
      congr 1
      rw [read_append_new]
      have h2 : (pre ++ 0 :: x.2) ++ wireBytes rest = (pre ++ [0]) ++ (x.2 ++ wireBytes rest) := by simp
      have h3 : (pre ++ [(0 : UInt8)]).length = pre.length + 1 := by simp
      rw [h2, ← h3, List.drop_left, List.take_left]
    · intro y hy
      simp only [wireViews, List.mem_cons] at hy
      rcases hy with rfl | hy
      · refine ⟨rfl, ?_⟩
        simp only [List.length_append, List.length_cons]
        omega
      · exact ih2 y hy

end CoapVerif.Lemmas.PoolOptionsReceiveModel
