import CoapVerif.Lemmas.OptionCodec
import CoapVerif.Lemmas.LengthClasses
import CoapVerif.Lemmas.WireSpec
/-!
The registry correspondence between the generated definition tables (what the code consults) and the registries of the
specification (`regOf`, `keepOpt_eq`), which every comparison of the decoders with the specification uses; then the round trip
of the option list at list level: `decLoop` inverts the RFC encoder `encOpts`.
-/
namespace CoapVerif.Lemmas.OptionRoundTrip
open CoapVerif.Generated.Codec CoapVerif.Generated.OptionDefs
open CoapVerif.Spec.Wire
open CoapVerif.Model.OptionCodec CoapVerif.Lemmas.OptionCodec CoapVerif.Lemmas.LengthClasses CoapVerif.Lemmas.WireSpec

/-- Length bounds of a definition table (what the specification calls a registry). -/
def regOf (defs : Defs) : List (Nat × Nat × Nat) := defs.map fun (k, lo, hi, _) => (k, lo, hi)

def noUnknown (defs : Defs) : Bool := defs.all fun (_, _, _, f) => f != fmtUnknown

theorem lookup_regOf (defs : Defs) (id : Nat) :
    lookup (regOf defs) id = (lookupDef defs id).map fun (lo, hi, _) => (lo, hi) := by
  induction defs with
  | nil => rfl
  | cons d ds ih =>
    obtain ⟨k, lo, hi, f⟩ := d
    simp only [regOf, List.map_cons, lookup, lookupDef]
    split
    · simp
    · exact ih

theorem lookupDef_fmt (defs : Defs) (h : noUnknown defs = true) (id lo hi f : Nat)
    (hl : lookupDef defs id = some (lo, hi, f)) : f ≠ fmtUnknown := by
  induction defs with
  | nil => simp [lookupDef] at hl
  | cons d ds ih =>
    obtain ⟨k, lo', hi', f'⟩ := d
    simp only [noUnknown, List.all_cons, Bool.and_eq_true] at h
    simp only [lookupDef] at hl
    split at hl
    · simp at hl; obtain ⟨_, _, rfl⟩ := hl; simpa using h.1
    · exact ih h.2 hl

/-- What the code keeps of an option = the leniency filter of the specification.  `hv`: `optionUnmarshal` compares
`CastTo[uint32](len(data))` with the bounds of the table. -/
theorem keepOpt_eq (defs : Defs) (hu : noUnknown defs = true) (id : Nat) (v : Bytes) (hv : v.length < 4294967296) :
    keepOpt defs id v = if id ≠ 0 ∧ lengthLegal (regOf defs) id v.length = true then some ⟨id, v⟩ else none := by
  unfold keepOpt optionUnmarshal lengthLegal
  rw [lookup_regOf]
  cases hl : lookupDef defs id with
  | none => by_cases h0 : id = 0 <;> simp [h0]
  | some t =>
    obtain ⟨lo, hi, f⟩ := t
    have hf := lookupDef_fmt defs hu id lo hi f hl
    have hm : v.length % 4294967296 = v.length := Nat.mod_eq_of_lt hv
    simp only [hf, ↓reduceIte, hm, Option.map_some]
    by_cases hr : v.length < lo ∨ v.length > hi
    · have : ¬ (lo ≤ v.length ∧ v.length ≤ hi) := by omega
      simp [hr, this]
    · have : lo ≤ v.length ∧ v.length ≤ hi := by omega
      by_cases h0 : id = 0 <;> simp [hr, this, h0]

theorem coap_noUnknown : noUnknown coapOptionDefs = true := by decide
theorem csm_noUnknown : noUnknown tcpSignalCSMOptionDefs = true := by decide
theorem pingpong_noUnknown : noUnknown tcpSignalPingPongOptionDefs = true := by decide
theorem release_noUnknown : noUnknown tcpSignalReleaseOptionDefs = true := by decide
theorem abort_noUnknown : noUnknown tcpSignalAbortOptionDefs = true := by decide

theorem coap_regOf : regOf coapOptionDefs = rfcRegistry := by decide
theorem csm_regOf : regOf tcpSignalCSMOptionDefs = csmRegistry := by decide
theorem pingpong_regOf : regOf tcpSignalPingPongOptionDefs = pingPongRegistry := by decide
theorem release_regOf : regOf tcpSignalReleaseOptionDefs = releaseRegistry := by decide
theorem abort_regOf : regOf tcpSignalAbortOptionDefs = abortRegistry := by decide

theorem decLoop_payload (defs : Defs) (cap n prev : Nat) (p : Bytes) :
    decLoop defs cap n prev (encPayload p) = .ok ([], p) := by
  rw [decLoop.eq_def]
  rcases encPayload_cases p with ⟨h, rfl⟩ | ⟨h, _⟩
  · simp [h]
  · simp [h]

theorem hdr_ne_ff (d l : Nat) (hd : d < 15) (hl : l < 15) : UInt8.ofNat (d * 16 + l) ≠ 0xff := by
  intro h
  have := (nibbles_toNat (Nat.lt_succ_of_lt hd) (Nat.lt_succ_of_lt hl)).1
  rw [h] at this
  exact Nat.ne_of_lt hd this.symm

theorem decLoop_encOpt {defs : Defs} {cap n prev : Nat} {o : Opt} {bs' : Bytes}
    (h1 : prev ≤ o.id) (h2 : o.id ≤ 65535) (h3 : o.val.length ≤ 65804) :
    decLoop defs cap n prev (encOpt prev o ++ bs') =
      if cap = n then .error .optCap
      else
        match decLoop defs cap (n + (keepOpt defs o.id o.val).toList.length) o.id bs' with
        | .error e => .error e
        | .ok (os, rest) => .ok ((keepOpt defs o.id o.val).toList ++ os, rest) := by
  have hd : decOpt _ _ = .ok (o.id - prev, o.val, bs') :=
    decOpt_iff.mpr ⟨by omega, h3, (rfl : encOpt prev o ++ bs' = encOpt 0 ⟨o.id - prev, o.val⟩ ++ bs')⟩
  rw [show encOpt prev o ++ bs' = _ :: _ from rfl, decLoop_cons, if_neg (hdr_ne_ff _ _ (nib_lt _) (nib_lt _)), hd]
  dsimp only
  rw [Nat.add_sub_cancel' h1, if_neg (by omega)]
  rfl

theorem decLoop_encOpts (defs : Defs) (hu : noUnknown defs = true) (os : List Opt) (p : Bytes) (cap n prev : Nat)
    (hwf : optsWF (regOf defs) prev os = true) (hc : n + os.length ≤ cap) :
    decLoop defs cap n prev (encOpts prev os ++ encPayload p) = .ok (os, p) := by
  induction os generalizing prev n with
  | nil => simpa [encOpts] using decLoop_payload defs cap n prev p
  | cons o os ih =>
    obtain ⟨h1, h0, h2, h3, hleg, hrest⟩ := optsWF_cons.mp hwf
    rw [List.length_cons] at hc
    rw [encOpts, List.append_assoc, decLoop_encOpt h1 (by omega) h3, if_neg (by omega),
      keepOpt_eq defs hu o.id o.val (by omega), if_pos ⟨h0, hleg⟩]
    exact (ih (n + 1) o.id hrest (by omega)) ▸ rfl

end CoapVerif.Lemmas.OptionRoundTrip
