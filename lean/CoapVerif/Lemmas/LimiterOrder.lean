import CoapVerif.Lemmas.Limiter
/-!
Order lemmas for C16: what is first-in-first-out in `limitParallelRequests.go` is the **per-path queue** (`orderedRequest`).
`Before l a b`: `a` stands before `b` in the list of arrivals.  `fifo_step`: no event gives a parked request a slot of its path
while an earlier one of the same path is parked.  `NoOvertake` (in every reachable state, `NoOvertake_reachable`): nobody owns a
slot of a path while a request that arrived earlier for it is parked.  Both rest on the queue being the path's parked requests in
arrival order (`InvEp`), so that the head, which a release wakes, has none of them before it (`waitingFor_head_first`).

Not ordered by arrival: a request that has obtained a slot of its path then calls `semaphore.Acquire`; which of two such requests
calls it first is decided by the Go scheduler, so with an endpoint limit ≥ 2 a later request of a path may enter the wrapped
function before an earlier one of the same path (the witness is an `example` in `Props/C16.lean`).
-/
namespace CoapVerif.Lemmas.Limiter
open CoapVerif.Model.Limiter
open CoapVerif.Lemmas.KeyedList (nodup_snoc)

def Before (l : List Id) (a b : Id) : Prop := ∃ l1 l2, l = l1 ++ a :: l2 ∧ b ∈ l2

theorem Before_mem {l : List Id} {a b : Id} (h : Before l a b) : a ∈ l ∧ b ∈ l := by
  obtain ⟨l1, l2, rfl, hb⟩ := h
  constructor
  · simp
  · simp [hb]

/-- in `l ++ [x]` (without duplicates) nothing comes after `x`, and the order of the others is that of `l` -/
theorem Before_snoc {l : List Id} {x a b : Id} (hnd : (l ++ [x]).Nodup) (h : Before (l ++ [x]) a b) :
    a ≠ x ∧ (b ≠ x → Before l a b) := by
  obtain ⟨l1, l2, hl, hb⟩ := h
  -- l2 is not empty, so the last element of l1 ++ a :: l2 is the last of l2
  have hne : l2 ≠ [] := by intro hh; rw [hh] at hb; cases hb
  obtain ⟨l2', y, rfl⟩ : ∃ l2' y, l2 = l2' ++ [y] := ⟨l2.dropLast, l2.getLast hne, (List.dropLast_concat_getLast hne).symm⟩
  have e : l ++ [x] = (l1 ++ a :: l2') ++ [y] := by rw [hl]; simp
  have hxy := List.append_inj' e rfl
  obtain ⟨hl', hy⟩ := hxy
  simp only [List.cons.injEq, and_true] at hy
  subst hy
  constructor
  · intro hax
    subst hax
    rw [hl'] at hnd
    have := List.nodup_append.mp hnd
    exact this.2.2 a (by simp) a (by simp) rfl
  · intro hbx
    refine ⟨l1, l2', hl', ?_⟩
    simp only [List.mem_append, List.mem_singleton] at hb
    rcases hb with hb | hb
    · exact hb
    · exact absurd hb hbx

/-- the first of the `p`s of a list has no `p` before it -/
theorem not_head_of_before {l : List Id} {p : Id → Bool} {a b : Id} {t : List Id} (hnd : l.Nodup) (hbef : Before l a b)
    (ha : p a = true) (h : l.filter p = b :: t) : False := by
  obtain ⟨l1, l2, rfl, hb⟩ := hbef
  obtain ⟨_, hnd2, hdis⟩ := List.nodup_append.mp hnd
  rw [List.filter_append, List.filter_cons_of_pos ha] at h
  cases hf : l1.filter p with
  | nil =>
    rw [hf] at h
    cases h
    exact (List.nodup_cons.mp hnd2).1 hb
  | cons c r =>
    rw [hf] at h
    cases h
    exact hdis b (List.mem_filter.mp (hf ▸ List.mem_cons_self)).1 b (List.mem_cons_of_mem _ hb) rfl

theorem waitingFor_head_first {s : State} (hnd : s.ids.Nodup) {a b : Id} {k : Key} {t : List Id} (hbef : Before s.ids a b)
    (ha : s.pc a = .epQueued) (hk : s.key a = k) (h : waitingFor s k = b :: t) : False :=
  not_head_of_before (p := fun x => s.pc x == .epQueued && s.key x == k) hnd hbef (by simp [ha, hk]) h

theorem fifo_step {s : State} (h : Inv s) (ev : Event) (a b : Id)
    (ha : s.pc a = .epQueued) (hb : s.pc b = .epQueued) (hk : s.key a = s.key b) (hbef : Before s.ids a b) :
    (step s ev).pc b ≠ .epGranted := by
  obtain ⟨side, hd⟩ := step_does s ev
  generalize step s ev = s' at hd
  intro hg
  cases side with
  | false =>
    -- seen from the endpoint side `b` is where it was
    have e := ((hd.ep_untouched h).1.ep b).2.2
    rw [hg, hb] at e; cases e
  | true =>
    -- whoever has a slot without having had one, or having been a newcomer, was woken
    have no : Le (fun p => p = .epGranted ∨ p = .idle) s.pc s'.pc → False := fun le => by
      have := le.le b (Or.inl hg); rw [hb] at this; simp at this
    cases hd with
    | arrive _ _ _ _ hi => exact no (Moves.rfl.upd (fun _ => Or.inr hi))
    | epLeave | epGone | epGive => exact no (Moves.rfl.upd (fun e => by simp at e))
    | epHand i _ r ep w t _ he hq =>
      have hqw := (h.ep.of_some _ ep he).2.2.2.1
      by_cases hbw : b = w
      · have hwf : waitingFor s (s.key i) = b :: t := hbw ▸ hqw.symm.trans hq
        exact waitingFor_head_first h.base.nodup hbef ha (hk.trans (mem_waitingFor.mp (by simp [hwf])).2.2) hwf
      · by_cases hbi : b = i
        · rw [hbi] at hg; cases (upd_same _ _ _).symm.trans hg
        · cases hb.symm.trans (((upd_other _ _ _ _ hbi).trans (wakeEp_other hbw)).symm.trans hg)

def NoOvertake (s : State) : Prop :=
  ∀ a b, Before s.ids a b → s.key a = s.key b → s.pc a = .epQueued → epHolder (s.pc b) = false

theorem NoOvertake_le {s s' : State} (hN : NoOvertake s) (hq : Le (· = .epQueued) s.pc s'.pc)
    (hh : Le (epHolder · = true) s.pc s'.pc) (hids : s'.ids = s.ids := by rfl) (hkey : s'.key = s.key := by rfl) :
    NoOvertake s' := by
  intro a b hbef hk ha
  rw [hids] at hbef; rw [hkey] at hk
  have := hN a b hbef hk (hq.le a ha)
  cases h : epHolder (s'.pc b) with
  | false => rfl
  | true => rw [hh.le b h] at this; cases this

theorem NoOvertake_step {s : State} (hI : Inv s) (hN : NoOvertake s) (ev : Event) : NoOvertake (step s ev) := by
  obtain ⟨side, hd⟩ := step_does s ev
  generalize step s ev = s' at hd
  cases side with
  | false =>
    obtain ⟨hpc, _, hids, hkey, _⟩ := hd.ep_untouched hI
    intro a b hbef hk ha
    have ea := (hpc.ep a).2.2
    rw [ha] at ea
    rw [(hpc.ep b).2.1]
    exact hN a b (hids ▸ hbef) (hkey ▸ hk) (beq_iff_eq.mp ea.symm)
  | true =>
    cases hd with
    -- a request that gives its slot or its place in the queue up: nobody is parked or owns a slot who did not before
    | epGone | epGive | epLeave => exact NoOvertake_le hN (Moves.rfl.upd (fun e => by cases e)) (Moves.rfl.upd (fun e => by cases e))
    | arrive i k v e' hi hn hreg =>
      -- the newcomer is the last to have arrived; it gets a slot only if nobody waits for its path
      intro a b hbef hk ha
      obtain ⟨hai, hrest⟩ := Before_snoc (nodup_snoc hI.base.nodup hn) hbef
      replace ha : s.pc a = .epQueued := (upd_other _ _ _ _ hai).symm.trans ha
      replace hk : s.key a = upd s.key i k b := (upd_other _ _ _ _ hai).symm.trans hk
      show epHolder (upd s.pc i v b) = false
      by_cases hbi : b = i
      · rw [hbi, upd_same] at hk ⊢
        have hw : a ∈ waitingFor s k := mem_waitingFor.mpr ⟨mem_ids_of_pc hI.base ha (by simp), ha, hk⟩
        cases hreg with
        | new he => rw [(hI.ep.of_none k he).2] at hw; cases hw
        | slot ep he hlt =>
          obtain ⟨_, _, _, hq, hf⟩ := hI.ep.of_some k ep he
          have := hf (hq ▸ List.ne_nil_of_mem hw)
          omega
        | park => rfl
      · rw [upd_other _ _ _ _ hbi] at hk ⊢
        exact hN a b (hrest hbi) hk ha
    | epHand i _ r ep w t _ he hq =>
      -- the head of the queue is the first of the path's parked requests
      have hqw := (hI.ep.of_some _ ep he).2.2.2.1
      have hwk := (mem_waitingFor.mp (show w ∈ waitingFor s (s.key i) by rw [← hqw, hq]; simp)).2.2
      intro a b hbef hk ha
      replace ha : s.pc a = .epQueued :=
        Moves.le (P := (· = .epQueued)) ((Moves.wakeEp s.pc w (fun e => by cases e)).upd (fun e => by cases e)) a ha
      show epHolder (upd (wakeEp s.pc w) i (.done r) b) = false
      by_cases hbi : b = i
      · rw [hbi, upd_same]; rfl
      · rw [upd_other _ _ _ _ hbi]
        by_cases hbw : b = w
        · exact (waitingFor_head_first hI.base.nodup (hbw ▸ hbef) ha (hk.trans (hbw ▸ hwk)) (hqw.symm.trans hq)).elim
        · rw [wakeEp_other hbw]
          exact hN a b hbef hk ha

theorem NoOvertake_reachable (limit epLimit : Int) (evs : List Event) : NoOvertake (run (init limit epLimit) evs) := by
  refine (List.foldlRecOn (motive := fun s => Inv s ∧ NoOvertake s) evs step ⟨Inv_init limit epLimit, ?_⟩
    fun s h e _ => ⟨Inv_step h.1 e, NoOvertake_step h.1 h.2 e⟩).2
  intro a b hbef
  have := (Before_mem hbef).1
  simp [init] at this

end CoapVerif.Lemmas.Limiter
