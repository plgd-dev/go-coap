import CoapVerif.Lemmas.DedupLockN
/-!
Every event preserves the invariant of `Lemmas/DedupLockN.lean`.  Each half is proved once for the shape all statements share
(`LockInv.step`, `ReplyInv.step`: one goroutine moves, only what belongs to its own message ID changes, the others keep what
they are entitled to); each statement of `MutexMap` (`create`, `addRef`, `acquire`, `unlockRef`, `release`) and of the section
(`handle`, `store`) then supplies the small facts about its own update, and a statement that touches neither is `move`.
`inv_stepG` goes through the program, `inv_append` (an arrival, a padding slot) and `inv_expire` are the events that are no
statement.
-/
namespace CoapVerif.Lemmas.DedupLockN
open CoapVerif.Model.DedupLockN

theorem Granted.transfer {s s' : State} {j k : Nat} {q : PC} (h : Granted s j k q)
    (hma : holdsRef q = true → s'.ma k = s.ma k) (hn : s.next k ≤ s'.next k)
    (hh : ∀ e, (s.heap k e).held = some j → (s'.heap k e).held = some j) : Granted s' j k q := by
  cases q with
  | waiting e => exact (hma rfl).trans h
  | locked | miss | handled | replied => obtain ⟨e, he, hj⟩ := h; exact ⟨e, (hma rfl).trans he, hh e hj⟩
  | unlocking e v => exact ⟨Nat.lt_of_lt_of_le h.1 hn, hh e h.2⟩
  | panicked => exact h
  | start | retry | done | gone => trivial

theorem Holds.transfer {s s' : State} {k e : Nat} {q : PC} (h : Holds s k e q)
    (hma : holdsRef q = true → s'.ma k = s.ma k) : Holds s' k e q := by
  cases q with
  | locked | miss | handled | replied => exact (hma rfl).trans h
  | unlocking e' v => exact h
  | start | retry | waiting | done | panicked | gone => exact h

/-- The shape of every statement, `setPc s₁ i k p'`: the map goes from `s` to `s₁`, changing only what belongs to message ID `k`
    (`hloc`), and goroutine `i` goes from `p` to `p'`.  The lock half is kept if the new map entry of `k` counts the old
    references, less the mover's own if `p` held one, plus one if `p'` holds one (`hmap`); the mover is entitled to `p'` (`hG`);
    the others keep the map entry they refer to and the mutexes they hold (`hma`, `hn`, `hkeep`); and a mutex is newly held only
    by the mover, legitimately (`hheld`, `hH`). -/
theorem LockInv.step {s s₁ : State} (h : LockInv s) {i k : Nat} {p p' : PC} (hg : s.gs[i]? = some ⟨k, p⟩)
    (hgs : s₁.gs = s.gs)
    (hloc : ∀ k', k' ≠ k → s₁.ma k' = s.ma k' ∧ s₁.heap k' = s.heap k' ∧ s₁.next k' = s.next k')
    (hmap : ∀ e, s₁.ma k = some e → e < s₁.next k ∧
      (s₁.heap k e).cnt + (if holdsRef p then 1 else 0) = refs k s.gs + (if holdsRef p' then 1 else 0))
    (hG : Granted s₁ i k p')
    (hma : ∀ j q, j ≠ i → s.gs[j]? = some ⟨k, q⟩ → holdsRef q = true → s₁.ma k = s.ma k)
    (hn : s.next k ≤ s₁.next k)
    (hkeep : ∀ e j, j ≠ i → (s.heap k e).held = some j → (s₁.heap k e).held = some j)
    (hheld : ∀ e j, (s₁.heap k e).held = some j → (s.heap k e).held = some j ∨ (j = i ∧ Holds s₁ k e p'))
    (hH : ∀ e, (s₁.heap k e).held = some i → Holds s k e p → Holds s₁ k e p') :
    LockInv (setPc s₁ i k p') := by
  have hget : ∀ j, j ≠ i → (s.gs.set i ⟨k, p'⟩)[j]? = s.gs[j]? := fun j hj => List.getElem?_set_ne (Ne.symm hj)
  have hself : (s.gs.set i ⟨k, p'⟩)[i]? = some ⟨k, p'⟩ := set_self _ hg
  refine ⟨?_, ?_, ?_, ?_⟩ <;> simp only [setPc, hgs]
  · intro k' e he
    by_cases hk : k' = k
    · subst hk; exact (hmap e he).1
    · obtain ⟨a, _, c⟩ := hloc k' hk
      rw [c]; rw [a] at he; exact h.mapLt k' e he
  · intro k' e he
    by_cases hk : k' = k
    · subst hk; have := refs_move p' hg; have := (hmap e he).2; omega
    · obtain ⟨a, b, _⟩ := hloc k' hk
      rw [b, refs_move_other p' hg hk]; rw [a] at he; exact h.mapCnt k' e he
  · intro j k' q hj
    by_cases hji : j = i
    · subst hji; rw [hself] at hj; cases hj; exact hG
    · rw [hget j hji] at hj
      have old := h.granted j k' q hj
      by_cases hk : k' = k
      · subst hk; exact old.transfer (hma j q hji hj) hn (fun e => hkeep e j hji)
      · obtain ⟨a, b, c⟩ := hloc k' hk
        exact old.transfer (fun _ => a) (Nat.le_of_eq c.symm) (fun e he => by rw [b]; exact he)
  · intro k' e j hh
    by_cases hk : k' = k
    · subst hk
      rcases hheld e j hh with hold | ⟨rfl, hnew⟩
      · obtain ⟨q, hj, hq⟩ := h.held k' e j hold
        by_cases hji : j = i
        · subst hji; rw [hg] at hj; cases hj; exact ⟨p', hself, hH e hh hq⟩
        · exact ⟨q, (hget j hji).trans hj, hq.transfer (hma j q hji hj)⟩
      · exact ⟨p', hself, hnew⟩
    · obtain ⟨a, b, _⟩ := hloc k' hk
      rw [b] at hh
      obtain ⟨q, hj, hq⟩ := h.held k' e j hh
      have hji : j ≠ i := by rintro rfl; rw [hg] at hj; cases hj; exact hk rfl
      exact ⟨q, (hget j hji).trans hj, hq.transfer (fun _ => a)⟩

/-- For a statement that leaves the map alone.  Every use has `rfl`, `id`, `fun _ => id` for `href`, `hG`, `hH`: `Granted` and
    `Holds` have one clause for all program counters of the section and one for `start` / `retry`, so within such a class the
    implications hold by unfolding. -/
theorem LockInv.move {s s₁ : State} (h : LockInv s) {i k : Nat} {p p' : PC} (hg : s.gs[i]? = some ⟨k, p⟩)
    (hgs : s₁.gs = s.gs) (hm : s₁.ma = s.ma) (hh : s₁.heap = s.heap) (hn : s₁.next = s.next)
    (href : holdsRef p' = holdsRef p) (hG : Granted s i k p → Granted s i k p') (hH : ∀ e, Holds s k e p → Holds s k e p') :
    LockInv (setPc s₁ i k p') := by
  refine h.step hg hgs (fun _ _ => by simp [hm, hh, hn]) (fun e he => ?_)
    ((hG (h.granted i k p hg)).transfer (fun _ => by rw [hm]) (Nat.le_of_eq (by rw [hn])) (fun e he => by rw [hh]; exact he))
    (fun _ _ _ _ _ => by rw [hm]) (Nat.le_of_eq (by rw [hn])) (fun _ _ _ he => by rw [hh]; exact he)
    (fun _ _ he => .inl (by rw [hh] at he; exact he)) (fun e _ hp => (hH e hp).transfer (fun _ => by rw [hm]))
  rw [hm] at he; rw [hn, hh, href]; exact ⟨h.mapLt k e he, congrArg (· + _) (h.mapCnt k e he)⟩

/-- `TryLock` on a message ID without entry, and `Lock`'s creation of one: a new entry `en` counted once, the goroutine goes to
    `p'` — into the section if it took `en`'s mutex on creation, to waiting for `en` otherwise. -/
theorem LockInv.create {s : State} (h : LockInv s) {i k : Nat} {p : PC} (hg : s.gs[i]? = some ⟨k, p⟩)
    (hp : p = .start ∨ p = .retry) (hma : s.ma k = none) (en : Entry) (p' : PC) (hcnt : en.cnt = 1)
    (hp' : (en.held = some i ∧ p' = .locked) ∨ (en.held = none ∧ p' = .waiting (s.next k))) :
    LockInv (setPc (newEntry s k en) i k p') := by
  have hpr : holdsRef p = false := by rcases hp with rfl | rfl <;> rfl
  have hpr' : holdsRef p' = true := by rcases hp' with ⟨_, rfl⟩ | ⟨_, rfl⟩ <;> rfl
  refine h.step hg rfl ?_ ?_ ?_ ?_ ?_ ?_ ?_ ?_
  all_goals simp only [newEntry, upd_same]
  · exact fun _ hk => ⟨upd_other _ _ _ _ hk, upd_other _ _ _ _ hk, upd_other _ _ _ _ hk⟩
  · intro e he
    cases he
    rw [setEntry_heap_same]
    simp [hpr, hpr', hcnt, h.unmapped hma]
  · rcases hp' with ⟨he, rfl⟩ | ⟨_, rfl⟩
    · exact ⟨s.next k, upd_same .., by rw [setEntry_heap_same]; exact he⟩
    · exact upd_same ..
  · intro j q _ hj hq; obtain ⟨e, he⟩ := (h.granted j k q hj).mapped hq; cases hma.symm.trans he
  · exact Nat.le_succ _
  · intro e j hji he
    have hlt : e < s.next k := by
      obtain ⟨q, hj, hq⟩ := h.held k e j he
      cases q with
      | unlocking e' v => cases hq; exact (h.granted j k _ hj).1
      | locked | miss | handled | replied => cases hma.symm.trans hq
      | start | retry | waiting | done | panicked | gone => exact hq.elim
    rw [setEntry_heap_ne (Nat.ne_of_lt hlt)]; exact he
  · intro e j he
    by_cases hee : e = s.next k
    · rw [hee, setEntry_heap_same] at he
      rcases hp' with ⟨hen, rfl⟩ | ⟨hen, rfl⟩
      · rw [hen] at he; cases he; exact .inr ⟨rfl, by simp [Holds, hee]⟩
      · rw [hen] at he; cases he
    · rw [setEntry_heap_ne hee] at he; exact .inl he
  · intro e _ hH; rcases hp with rfl | rfl <;> exact hH.elim

/-- `Lock` on a message ID that has an entry: one more reference, the goroutine waits for that entry. -/
theorem LockInv.addRef {s : State} (h : LockInv s) {i k e : Nat} {p : PC} (hg : s.gs[i]? = some ⟨k, p⟩)
    (hp : p = .start ∨ p = .retry) (hma : s.ma k = some e) :
    LockInv (setPc (setEntry s k e { s.heap k e with cnt := (s.heap k e).cnt + 1 }) i k (.waiting e)) := by
  have hpr : holdsRef p = false := by rcases hp with rfl | rfl <;> rfl
  refine h.step hg rfl (fun _ hk => ⟨rfl, upd_other _ _ _ _ hk, rfl⟩) ?_ hma (fun _ _ _ _ _ => rfl) (Nat.le_refl _) ?_ ?_ ?_
  · intro e' he
    cases hma.symm.trans he
    rw [setEntry_heap_same, hpr]
    exact ⟨h.mapLt k e hma, congrArg (· + 1) (h.mapCnt k e hma)⟩
  · intro e' j _ he; exact (held_setCnt ..).trans he
  · intro e' j he; exact .inl ((held_setCnt ..).symm.trans he)
  · intro e' _ hH; rcases hp with rfl | rfl <;> exact hH.elim

/-- `entry.el.Lock()` succeeds: the waiting goroutine takes the free mutex of the entry it waits for, which is the one in the map. -/
theorem LockInv.acquire {s : State} (h : LockInv s) {i k e : Nat} (hg : s.gs[i]? = some ⟨k, .waiting e⟩)
    (hfree : (s.heap k e).held = none) :
    LockInv (setPc (setEntry s k e { s.heap k e with held := some i }) i k .locked) := by
  have hma : s.ma k = some e := h.granted i k _ hg
  refine h.step hg rfl (fun _ hk => ⟨rfl, upd_other _ _ _ _ hk, rfl⟩) ?_ ⟨e, hma, by rw [setEntry_heap_same]⟩
    (fun _ _ _ _ _ => rfl) (Nat.le_refl _) ?_ ?_ (fun _ _ hH => hH.elim)
  · intro e' he
    cases hma.symm.trans he
    rw [setEntry_heap_same]
    exact ⟨h.mapLt k e hma, congrArg (· + 1) (h.mapCnt k e hma)⟩
  · intro e' j _ he
    by_cases hee : e' = e
    · rw [hee, hfree] at he; cases he
    · rw [setEntry_heap_ne hee]; exact he
  · intro e' j he
    by_cases hee : e' = e
    · subst hee; rw [setEntry_heap_same] at he; cases he; exact .inr ⟨rfl, hma⟩
    · rw [setEntry_heap_ne hee] at he; exact .inl he

/-- `Unlock`, the part under the map lock: the reference is given back, the entry leaves the map with the last one; the
    goroutine keeps the entry's mutex. -/
theorem LockInv.unlockRef {s : State} (h : LockInv s) {i k v : Nat} (hg : s.gs[i]? = some ⟨k, .replied v⟩) :
    LockInv (unlockRef s i k v) := by
  obtain ⟨e, hma, hmine⟩ := h.granted i k _ hg
  have hcnt := h.mapCnt k e hma
  simp only [Model.DedupLockN.unlockRef, hma]
  split
  · rename_i hlast
    refine h.step hg rfl (fun _ hk => ⟨upd_other _ _ _ _ hk, upd_other _ _ _ _ hk, rfl⟩) ?_
      ⟨h.mapLt k e hma, (held_setCnt ..).trans hmine⟩ ?_ (Nat.le_refl _) ?_ ?_ ?_
    · intro e' he; cases (upd_same ..).symm.trans he
    · -- the count says the last reference goes: another goroutine that held one would still be counted
      intro j q hji hj hq
      have hmove := refs_move (.unlocking e v) hg
      have : 1 ≤ refs k (s.gs.set i ⟨k, .unlocking e v⟩) := refs_pos ((List.getElem?_set_ne (Ne.symm hji)).trans hj) hq
      simp [holdsRef] at hmove
      omega
    · intro e' j _ he; exact (held_setCnt ..).trans he
    · intro e' j he; exact .inl ((held_setCnt ..).symm.trans he)
    · intro e' _ hH; exact Option.some.inj (hma.symm.trans hH)
  · rename_i hmore
    refine h.step hg rfl (fun _ hk => ⟨rfl, upd_other _ _ _ _ hk, rfl⟩) ?_
      ⟨h.mapLt k e hma, (held_setCnt ..).trans hmine⟩ (fun _ _ _ _ _ => rfl) (Nat.le_refl _) ?_ ?_ ?_
    · intro e' he
      cases hma.symm.trans he
      rw [setEntry_heap_same]
      exact ⟨h.mapLt k e hma, by simp [holdsRef]; omega⟩
    · intro e' j _ he; exact (held_setCnt ..).trans he
    · intro e' j he; exact .inl ((held_setCnt ..).symm.trans he)
    · intro e' _ hH; exact Option.some.inj (hma.symm.trans hH)

/-- `entry.el.Unlock()`: the goroutine gives up the mutex it still held and is through. -/
theorem LockInv.release {s : State} (h : LockInv s) {i k e v : Nat} (hg : s.gs[i]? = some ⟨k, .unlocking e v⟩) :
    LockInv (setPc (setEntry s k e { s.heap k e with held := none }) i k (.done v)) := by
  obtain ⟨_, hmine⟩ := h.granted i k _ hg
  refine h.step hg rfl (fun _ hk => ⟨rfl, upd_other _ _ _ _ hk, rfl⟩) ?_ trivial (fun _ _ _ _ _ => rfl) (Nat.le_refl _) ?_ ?_ ?_
  · intro e' he
    refine ⟨h.mapLt k e' he, ?_⟩
    rw [← h.mapCnt k e' he]
    by_cases hee : e' = e
    · rw [hee, setEntry_heap_same]; rfl
    · rw [setEntry_heap_ne hee]; rfl
  · intro e' j hji he
    by_cases hee : e' = e
    · rw [hee, hmine] at he; cases he; exact (hji rfl).elim
    · rw [setEntry_heap_ne hee]; exact he
  · intro e' j he
    by_cases hee : e' = e
    · rw [hee, setEntry_heap_same] at he; cases he
    · rw [setEntry_heap_ne hee] at he; exact .inl he
  · intro e' he hH; cases hH; rw [setEntry_heap_same] at he; cases he

/-- What a program counter says about cache and replies survives when the cache entry stays (outside the section it is not
    looked at) and the executions only grow. -/
theorem Sourced.transfer {c0 : Nat → Option Nat} {s s' : State} {k : Nat} {q : PC} (h : Sourced c0 s k q)
    (hc : inCS q = true → s.cache k = none → s'.cache k = none) (hr : ∀ v, v ∈ srcs c0 s k → v ∈ srcs c0 s' k) :
    Sourced c0 s' k q := by
  cases q with
  | miss => exact hc rfl h
  | handled v => exact ⟨hc rfl h.1, hr v h.2⟩
  | replied v | unlocking _ v | done v => exact hr v h
  | start | retry | waiting | locked | panicked | gone => trivial

/-- The shape of every statement, for the reply half.  `hloc`, `hexp`, `hothers` are frame conditions; `h1` and `h2` are the two
    bounds of `ReplyInv` at `k` itself, against the expiry count of `s`, `h2` with "nobody has a result to store" split into the
    mover at `p'` and the others as they were. -/
theorem ReplyInv.step {c0 : Nat → Option Nat} {s s₁ : State} (h : ReplyInv c0 s) {i k : Nat} {p p' : PC}
    (hg : s.gs[i]? = some ⟨k, p⟩) (hgs : s₁.gs = s.gs)
    (hloc : ∀ k', k' ≠ k → s₁.cache k' = s.cache k' ∧ s₁.runs k' = s.runs k') (hexp : s₁.exps = s.exps)
    (hS : Sourced c0 s₁ k p')
    (hothers : ∀ j q, j ≠ i → s.gs[j]? = some ⟨k, q⟩ → Sourced c0 s k q → Sourced c0 s₁ k q)
    (hcv : ∀ v, s₁.cache k = some v → v ∈ srcs c0 s₁ k)
    (h1 : (srcs c0 s₁ k).length ≤ 1 + s.exps k)
    (h2 : s₁.cache k = none → isHandled p' = false → (∀ j q, j ≠ i → s.gs[j]? = some ⟨k, q⟩ → isHandled q = false) →
      (srcs c0 s₁ k).length ≤ s.exps k) : ReplyInv c0 (setPc s₁ i k p') := by
  have hsrc : ∀ k', k' ≠ k → srcs c0 s₁ k' = srcs c0 s k' := fun k' hk => by simp [srcs, (hloc k' hk).2]
  have hget : ∀ j, j ≠ i → (s.gs.set i ⟨k, p'⟩)[j]? = s.gs[j]? := fun j hj => List.getElem?_set_ne (Ne.symm hj)
  have hself : (s.gs.set i ⟨k, p'⟩)[i]? = some ⟨k, p'⟩ := set_self _ hg
  refine ⟨?_, ?_, ?_, ?_⟩ <;> simp only [setPc, hgs, hexp]
  · intro j k' q hj
    by_cases hji : j = i
    · subst hji; rw [hself] at hj; cases hj; exact hS
    · rw [hget j hji] at hj
      have old := h.sourced j k' q hj
      by_cases hk : k' = k
      · subst hk; exact hothers j q hji hj old
      · exact old.transfer (fun _ hn => (hloc k' hk).1.trans hn) (fun v hv => (hsrc k' hk).symm ▸ hv)
  · intro k' v hv
    by_cases hk : k' = k
    · subst hk; exact hcv v hv
    · exact (hsrc k' hk).symm ▸ h.cacheVal k' v ((hloc k' hk).1.symm.trans hv)
  · intro k'
    by_cases hk : k' = k
    · subst hk; exact h1
    · exact (hsrc k' hk).symm ▸ h.atMostOne k'
  · intro k' hc hall
    by_cases hk : k' = k
    · subst hk
      exact h2 hc (hall i p' hself) (fun j q hji hj => hall j q ((hget j hji).trans hj))
    · refine (hsrc k' hk).symm ▸ h.noneYet k' ((hloc k' hk).1.symm.trans hc) (fun j q hj => hall j q ?_)
      have hji : j ≠ i := by rintro rfl; rw [hg] at hj; cases hj; exact hk rfl
      exact (hget j hji).trans hj

theorem ReplyInv.move {c0 : Nat → Option Nat} {s s₁ : State} (h : ReplyInv c0 s) {i k : Nat} {p p' : PC}
    (hg : s.gs[i]? = some ⟨k, p⟩) (hgs : s₁.gs = s.gs) (hc : s₁.cache = s.cache) (hr : s₁.runs = s.runs)
    (he : s₁.exps = s.exps) (hS : Sourced c0 s k p') (hh : isHandled p = false) : ReplyInv c0 (setPc s₁ i k p') := by
  have hsrc : srcs c0 s₁ k = srcs c0 s k := by simp [srcs, hr]
  refine h.step hg hgs (fun _ _ => by simp [hc, hr]) he (hS.transfer (fun _ hn => by rw [hc]; exact hn) (fun v hv => hsrc ▸ hv))
    (fun _ _ _ _ old => old.transfer (fun _ hn => by rw [hc]; exact hn) (fun v hv => hsrc ▸ hv))
    (fun v hv => by rw [hsrc]; rw [hc] at hv; exact h.cacheVal k v hv) (by rw [hsrc]; exact h.atMostOne k) ?_
  intro hnone _ hall
  rw [hsrc]; rw [hc] at hnone
  refine h.noneYet k hnone (fun j q hj => ?_)
  by_cases hji : j = i
  · rw [hji, hg] at hj; cases hj; exact hh
  · exact hall j q hji hj

/-- The handler runs: an execution is recorded.  It is the first of this lifetime, because the cache is empty and nobody
    else is in the section. -/
theorem ReplyInv.handle {c0 : Nat → Option Nat} {s : State} (h : ReplyInv c0 s) {i k : Nat} (hg : s.gs[i]? = some ⟨k, .miss⟩)
    (hmx : ∀ j q, j ≠ i → s.gs[j]? = some ⟨k, q⟩ → inCS q = false) :
    ReplyInv c0 (setPc { s with runs := upd s.runs k (i :: s.runs k) } i k (.handled i)) := by
  have hnone : s.cache k = none := h.sourced i k _ hg
  have hfirst : (srcs c0 s k).length ≤ s.exps k := by
    refine h.noneYet k hnone (fun j q hj => ?_)
    by_cases hji : j = i
    · subst hji; rw [hg] at hj; cases hj; rfl
    · exact not_isHandled_of_not_inCS (hmx j q hji hj)
  have hsrc : srcs c0 { s with runs := upd s.runs k (i :: s.runs k) } k = i :: srcs c0 s k := by simp [srcs]
  have hgrow : ∀ v, v ∈ srcs c0 s k → v ∈ i :: srcs c0 s k := fun v hv => List.mem_cons_of_mem i hv
  refine h.step hg rfl (fun _ hk => ⟨rfl, upd_other _ _ _ _ hk⟩) rfl ⟨hnone, by rw [hsrc]; exact List.mem_cons_self⟩ ?_ ?_ ?_ ?_
  · exact fun _ _ _ _ old => old.transfer (fun _ hn => hn) (fun v hv => by rw [hsrc]; exact hgrow v hv)
  · exact fun v hv => by rw [hsrc]; exact hgrow v (h.cacheVal k v hv)
  · rw [hsrc, List.length_cons]; omega
  · intro _ hp'; cases hp'

/-- The handler's result is stored (`LoadOrStore`): afterwards the cache is not empty; nobody else was between miss and store. -/
theorem ReplyInv.store {c0 : Nat → Option Nat} {s : State} (h : ReplyInv c0 s) {i k v : Nat}
    (hg : s.gs[i]? = some ⟨k, .handled v⟩) (hmx : ∀ j q, j ≠ i → s.gs[j]? = some ⟨k, q⟩ → inCS q = false) :
    ReplyInv c0 (setPc { s with cache := upd s.cache k (some v) } i k (.replied v)) := by
  obtain ⟨_, hv⟩ := h.sourced i k _ hg
  refine h.step hg rfl (fun _ hk => ⟨upd_other _ _ _ _ hk, rfl⟩) rfl hv ?_ ?_ (h.atMostOne k) ?_
  · exact fun j q hji hj old => old.transfer (fun hq => by rw [hmx j q hji hj] at hq; cases hq) (fun _ hv => hv)
  · intro v' hv'; cases (upd_same ..).symm.trans hv'; exact hv
  · intro hc; cases (upd_same ..).symm.trans hc

theorem inv_lockRef {c0 : Nat → Option Nat} {s : State} (hl : LockInv s) (hr : ReplyInv c0 s) {i k : Nat} {p : PC}
    (hg : s.gs[i]? = some ⟨k, p⟩) (hp : p = .start ∨ p = .retry) : Inv c0 (lockRef s i k) := by
  have hh : isHandled p = false := by rcases hp with rfl | rfl <;> rfl
  unfold lockRef
  split
  · rename_i e hma
    exact ⟨hl.addRef hg hp hma, hr.move hg rfl rfl rfl rfl trivial hh⟩
  · rename_i hma
    exact ⟨hl.create hg hp hma _ _ rfl (.inr ⟨rfl, rfl⟩), hr.move hg rfl rfl rfl rfl trivial hh⟩

theorem inv_stepG {c0 : Nat → Option Nat} {c : Cfg} (hc : c.useLock = true) {s : State} (h : Inv c0 s) {i : Nat} {g : G}
    (hg : s.gs[i]? = some g) : Inv c0 (stepG c s i g) := by
  obtain ⟨k, pc⟩ := g
  obtain ⟨hl, hr⟩ := h
  cases pc with
  | start =>
    simp only [stepG, hc, if_true]
    split
    · split
      · exact ⟨hl.move hg rfl rfl rfl rfl rfl id (fun _ => id), hr.move hg rfl rfl rfl rfl trivial rfl⟩
      · rename_i hma
        exact ⟨hl.create hg (.inl rfl) hma _ _ rfl (.inl ⟨rfl, rfl⟩), hr.move hg rfl rfl rfl rfl trivial rfl⟩
    · exact inv_lockRef hl hr hg (.inl rfl)
  | retry => exact inv_lockRef hl hr hg (.inr rfl)
  | waiting e =>
    simp only [stepG]
    split
    · rename_i hfree
      exact ⟨hl.acquire hg hfree, hr.move hg rfl rfl rfl rfl trivial rfl⟩
    · exact ⟨hl, hr⟩
  | locked =>
    simp only [stepG]
    split
    · rename_i v hv
      exact ⟨hl.move hg rfl rfl rfl rfl rfl id (fun _ => id), hr.move hg rfl rfl rfl rfl (hr.cacheVal k v hv) rfl⟩
    · rename_i hnone
      exact ⟨hl.move hg rfl rfl rfl rfl rfl id (fun _ => id), hr.move hg rfl rfl rfl rfl hnone rfl⟩
  | miss => exact ⟨hl.move hg rfl rfl rfl rfl rfl id (fun _ => id), hr.handle hg (hl.alone hg rfl)⟩
  | handled v =>
    simp only [stepG]
    split
    · rename_i hsome
      rw [(hr.sourced i k _ hg).1] at hsome; cases hsome
    · exact ⟨hl.move hg rfl rfl rfl rfl rfl id (fun _ => id), hr.store hg (hl.alone hg rfl)⟩
  | replied v =>
    obtain ⟨e, hma, _⟩ := hl.granted i k _ hg
    simp only [stepG, hc, if_true]
    refine ⟨hl.unlockRef hg, ?_⟩
    simp only [unlockRef, hma]
    split <;> exact hr.move hg rfl rfl rfl rfl (hr.sourced i k (.replied v) hg) rfl
  | unlocking e v => exact ⟨hl.release hg, hr.move hg rfl rfl rfl rfl (hr.sourced i k (.unlocking e v) hg) rfl⟩
  | done v => exact ⟨hl, hr⟩
  | panicked => exact ⟨hl, hr⟩
  | gone => exact ⟨hl, hr⟩

/-- The new goroutine holds nothing yet: a copy that has just arrived, or a slot that never moves. -/
theorem inv_append {c0 : Nat → Option Nat} {s : State} (h : Inv c0 s) (k : Nat) {p : PC} (hp : p = .start ∨ p = .gone) :
    Inv c0 { s with gs := s.gs ++ [⟨k, p⟩] } := by
  obtain ⟨hl, hr⟩ := h
  have hrefs : ∀ k', refs k' (s.gs ++ [⟨k, p⟩]) = refs k' s.gs := by
    intro k'; rw [refs_append]; rcases hp with rfl | rfl <;> simp [refP, holdsRef]
  refine ⟨⟨hl.mapLt, ?_, ?_, ?_⟩, ⟨?_, hr.cacheVal, hr.atMostOne, ?_⟩⟩
  · intro k' e he; rw [hrefs]; exact hl.mapCnt k' e he
  · intro j k' q hj
    rcases get_append hj with hj' | hq
    · exact hl.granted j k' q hj'
    · cases hq; rcases hp with rfl | rfl <;> trivial
  · intro k' e j hh
    obtain ⟨q, hj, hq⟩ := hl.held k' e j hh
    exact ⟨q, get_append_old hj, hq⟩
  · intro j k' q hj
    rcases get_append hj with hj' | hq
    · exact hr.sourced j k' q hj'
    · cases hq; rcases hp with rfl | rfl <;> trivial
  · exact fun k' hc hall => hr.noneYet k' hc (fun j q hj => hall j q (get_append_old hj))

theorem inv_expire {c0 : Nat → Option Nat} {s : State} (h : Inv c0 s) (k : Nat) :
    Inv c0 { s with cache := upd s.cache k none, exps := upd s.exps k (s.exps k + 1) } := by
  obtain ⟨hl, hr⟩ := h
  refine ⟨⟨hl.mapLt, hl.mapCnt, hl.granted, hl.held⟩, ⟨?_, ?_, ?_, ?_⟩⟩
  all_goals dsimp only [srcs]
  · intro j k' q hj
    refine (hr.sourced j k' q hj).transfer (fun _ hn => ?_) (fun _ hv => hv)
    by_cases hk : k' = k
    · subst hk; exact upd_same _ _ _
    · exact (upd_other _ _ _ _ hk).trans hn
  · intro k' v hv
    by_cases hk : k' = k
    · subst hk; simp at hv
    · rw [upd_other _ _ _ _ hk] at hv; exact hr.cacheVal k' v hv
  · intro k'
    have := hr.atMostOne k'
    by_cases hk : k' = k
    · subst hk; rw [upd_same]; exact Nat.le_succ_of_le this
    · rw [upd_other _ _ _ _ hk]; exact this
  · intro k' hc hall
    by_cases hk : k' = k
    · subst hk; rw [upd_same, Nat.add_comm]; exact hr.atMostOne k'
    · rw [upd_other _ _ _ _ hk] at hc ⊢; exact hr.noneYet k' hc hall

theorem inv_step {c0 : Nat → Option Nat} {c : Cfg} (hc : c.useLock = true) {s : State} (h : Inv c0 s) (ev : Ev) :
    Inv c0 (step c s ev) := by
  cases ev with
  | arrive k => exact inv_append h k (.inl rfl)
  | step i =>
    simp only [step]
    split
    · rename_i g hg; exact inv_stepG hc h hg
    · exact h
  | expire k => exact inv_expire h k
  | pad => exact inv_append h 0 (.inr rfl)
  | nop => exact h

theorem inv_exec {c0 : Nat → Option Nat} {c : Cfg} (hc : c.useLock = true) (sched : List Ev) :
    ∀ s, Inv c0 s → Inv c0 (exec c s sched) :=
  fun _ h => List.foldlRecOn sched _ h fun _ h ev _ => inv_step hc h ev

end CoapVerif.Lemmas.DedupLockN
