import CoapVerif.Lemmas.OptionRoundTrip
import CoapVerif.Lemmas.CoderDecode
/-!
Decoders invert the RFC encoders (`encUdp`, `encTcp`) on well-formed messages — list level
(`framed udpFrame`, `tcpHdr`, `framed tcpFrame`); the statements about the checked models follow by `udp_decode_eq` /
`tcp_decode_eq`.
-/
namespace CoapVerif.Lemmas.CoderRoundTrip
open CoapVerif.Generated.Codec CoapVerif.Generated.OptionDefs
open CoapVerif.Spec.Wire
open CoapVerif.Model CoapVerif.Model.OptionCodec
open CoapVerif.Lemmas.OptionCodec CoapVerif.Lemmas.OptionRoundTrip CoapVerif.Lemmas.CoderDecode CoapVerif.Lemmas.LengthClasses
open CoapVerif.Lemmas.WireSpec

theorem udpHead_toNat {t k : Nat} (ht : t ≤ 3) (hk : k ≤ 8) :
    (UInt8.ofNat (64 + t * 16 + k)).toNat / 64 = 1 ∧ (UInt8.ofNat (64 + t * 16 + k)).toNat % 16 = k ∧
      (UInt8.ofNat (64 + t * 16 + k)).toNat / 16 % 4 = t := by
  rw [toNat_ofNat_lt (by omega)]; omega

theorem framed_encUdp (m : Msg) (hwf : WF .udp m = true) (cap : Nat) (hc : m.options.length ≤ cap) :
    framed udpFrame cap (encUdp m) = .ok (m, (encUdp m).length) := by
  obtain ⟨typ, mid, code, token, options, payload⟩ := m
  obtain ⟨htk, hcode, hopts, ht0, ht3, hm0, hm1⟩ := WF_udp.mp hwf
  dsimp only at htk hcode hopts ht0 ht3 hm0 hm1
  obtain ⟨t, rfl⟩ := Int.eq_ofNat_of_zero_le ht0
  obtain ⟨mi, rfl⟩ := Int.eq_ofNat_of_zero_le hm0
  have ht3' : t ≤ 3 := by omega
  have hm1' : mi < 65536 := by omega
  unfold encUdp framed udpFrame
  simp only [Int.toNat_natCast, List.cons_append, List.nil_append]
  obtain ⟨hv, hk, hty⟩ := udpHead_toNat ht3' htk
  have h8 : ¬ (token.length > 8) := by omega
  have hlen : ¬ ((token ++ (encOpts 0 options ++ encPayload payload)).length < token.length) := by simp
  simp only [hv, hk, hty, h8, hlen, ne_eq, not_true_eq_false, ↓reduceIte, List.drop_left', List.take_left']
  rw [← coap_regOf] at hopts
  rw [decLoop_encOpts coapOptionDefs coap_noUnknown options payload cap 0 0 hopts (by simp at hc; omega)]
  have hm := be16_toNat hm1'
  simp only [toNat_ofNat_lt hcode, hm]

/-- `hl`: what the four extension bytes of the last class can express. -/
theorem tcpExt_extLen (l : Nat) (hl : l < 65805 + 4294967296) (r : Bytes) :
    tcpExt (lenNib l) (extLen l ++ r) = .ok (l, r, 1 + (extLen l).length) := by
  unfold tcpExt
  rcases lenNib_extLen_cases l with ⟨h, hn, he⟩ | ⟨h, h', hn, he⟩ | ⟨h, h', hn, he⟩ | ⟨h, hn, he⟩ <;> rw [hn, he]
  · rw [if_pos (by omega)]; rfl
  · show Except.ok (13 + (UInt8.ofNat (l - 13)).toNat, r, 2) = _
    rw [toNat_ofNat_lt (by omega), Nat.add_sub_cancel' h]; rfl
  · show Except.ok (269 + ((UInt8.ofNat ((l - 269) / 256)).toNat * 256 + (UInt8.ofNat ((l - 269) % 256)).toNat), r, 3) = _
    rw [be16_toNat (by omega), Nat.add_sub_cancel' h]; rfl
  · show Except.ok (65805 + ((UInt8.ofNat ((l - 65805) / 16777216)).toNat * 16777216 +
        (UInt8.ofNat ((l - 65805) / 65536 % 256)).toNat * 65536 +
        (UInt8.ofNat ((l - 65805) / 256 % 256)).toNat * 256 + (UInt8.ofNat ((l - 65805) % 256)).toNat), r, 5) = _
    rw [be32_toNat (by omega), Nat.add_sub_cancel' h]; rfl

theorem tcpHdr_encTcp (m : Msg) (htk : m.token.length ≤ 8) (hcode : m.code < 256)
    (hb : (encBody m).length < tcpBodyLimit) (rest : Bytes) :
    tcpHdr (encTcp m ++ rest) =
      .ok ⟨m.token, 1 + (extLen (encBody m).length).length + 1 + m.token.length, (encTcp m).length, m.code⟩ := by
  rw [encTcp_length]
  unfold encTcp tcpHdr tcpHdrRest
  simp only [List.cons_append, List.append_assoc]
  have hn := lenNib_le (encBody m).length
  obtain ⟨hnib, hk⟩ := nibbles_toNat (Nat.lt_succ_of_le hn) (Nat.lt_of_le_of_lt htk (by decide : 8 < 16))
  have h8 : ¬ (m.token.length > 8) := by omega
  simp only [hk, hnib, h8, ↓reduceIte]
  unfold tcpBodyLimit at hb
  rw [tcpExt_extLen _ (by omega)]
  have hel := extLen_length_le (encBody m).length
  have hml : ¬ (1 + (extLen (encBody m).length).length + 1 + m.token.length + (encBody m).length > 4294967295) := by omega
  have hlen : ¬ ((m.token ++ (encBody m ++ rest)).length < m.token.length) := by simp
  simp only [hml, hlen, ↓reduceIte, List.take_left', toNat_ofNat_lt hcode]

theorem framed_encTcp (m : Msg) (hwf : WF .tcp m = true) (cap : Nat) (hc : m.options.length ≤ cap) :
    framed tcpFrame cap (encTcp m) = .ok (canon .tcp m, (encTcp m).length) := by
  obtain ⟨htk, hcode, hopts, hb⟩ := WF_tcp.mp hwf
  unfold framed tcpFrame
  have hh := tcpHdr_encTcp m htk hcode hb []
  simp only [List.append_nil] at hh
  rw [hh]
  simp only []
  have htot := encTcp_length m
  have hel := extLen_length_le (encBody m).length
  unfold tcpBodyLimit at hb
  have hmod : (encTcp m).length % 4294967296 = (encTcp m).length := Nat.mod_eq_of_lt (by omega)
  simp only [hmod, Nat.lt_irrefl, ↓reduceIte, List.take_length]
  have hdrop : List.drop (1 + (extLen (encBody m).length).length + 1 + m.token.length) (encTcp m) = encBody m := by
    obtain ⟨hd, e, hl⟩ := encTcp_split m
    rw [e, ← hl, List.drop_left' rfl]
  rw [hdrop]
  rw [← defsFor_regOf] at hopts
  unfold encBody
  rw [decLoop_encOpts (TcpCoder.defsFor m.code) (defsFor_noUnknown m.code) m.options m.payload cap 0 0 hopts (by omega)]
  rfl

end CoapVerif.Lemmas.CoderRoundTrip
