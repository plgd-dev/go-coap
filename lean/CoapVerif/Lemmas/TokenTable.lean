import CoapVerif.Model.TokenTable
/-!
Invariants of the token-table system (`Model/TokenTable.lean`), proved for every event and hence for every schedule.

An event leads to one of the few states listed by `step_cases`, and the operations they are built from change the
callers in one of four ways: a call is entered (`Entered`), callers waiting for the acknowledgement move on (`Woken`),
a caller returns (`Returned`), a message is put into a caller's empty channel (`matched_cases`; what the caller then is:
`deliver_caller`).  No event changes or removes the token a caller came with (`Toks`), so every caller stems from a request of
the history (`caller_from_request`).  What the statements of C03 speak of is what a caller holds, in its channel or as its
result (`Holds`).  Three of the four changes replace the record of one caller and touch the table under its key only: for
these the invariant of table and callers (`Inv`) is proved once (`Inv.touch`).

For the messages, an event does one of three things to the queue and to what callers hold (`Flow`).  Hence arrival numbers
tell apart whatever is queued or held (`InvS`), whatever is queued or held arrived in this history (`invMsg_run`), and the
tokens of callers and of held messages are among those of the history's requests and arrivals (`tokensInPlay`).
-/
namespace CoapVerif.Lemmas.TokenTable
open CoapVerif.Model.TokenTable

theorem upd_same {α : Type} (f : Nat → Option α) (k : Nat) (v : Option α) : upd f k v k = v := by
  simp [upd]

theorem upd_other {α : Type} (f : Nat → Option α) (k i : Nat) (v : Option α) (hne : i ≠ k) : upd f k v i = f i := by
  simp [upd, hne]

theorem upd_self {α : Type} (f : Nat → Option α) (k : Nat) {v : Option α} (e : f k = v) : upd f k v = f := by
  funext i
  by_cases hi : i = k
  · rw [hi, upd_same, e]
  · exact upd_other f k i v hi

theorem run_snoc (h : Token → Nat) (cfg : Cfg) (evs : List Event) (e : Event) :
    run h cfg (evs ++ [e]) = step h cfg (run h cfg evs) e := by
  simp [run, List.foldl_append]

/-- the token each caller came with: the part of `callers` that only a new call changes, which is why `Twin` and
    `caller_from_request` speak of it -/
def Toks (s : State) (i : Nat) : Option Token := (s.callers i).map (·.tok)

theorem toks_of_caller {s : State} {i : Nat} {cl : Caller} (hc : s.callers i = some cl) : Toks s i = some cl.tok := by
  unfold Toks; rw [hc]; rfl

theorem caller_of_toks {s : State} {i : Nat} {t : Token} (ht : Toks s i = some t) : ∃ cl, s.callers i = some cl ∧ cl.tok = t := by
  unfold Toks at ht
  cases hc : s.callers i with
  | none => rw [hc] at ht; cases ht
  | some cl => rw [hc] at ht; exact ⟨cl, rfl, Option.some.inj ht⟩

theorem toks_upd {s s' : State} {c : Nat} {cl' : Caller} (hcal : s'.callers = upd s.callers c (some cl')) :
    Toks s' = upd (Toks s) c (some cl'.tok) := by
  funext i
  unfold Toks; rw [hcal]
  by_cases hi : i = c
  · rw [hi, upd_same, upd_same]; rfl
  · rw [upd_other _ _ _ _ hi, upd_other _ _ _ _ hi]

theorem toks_upd_same {s s' : State} {c : Nat} {cl cl' : Caller} (hcal : s'.callers = upd s.callers c (some cl'))
    (was : s.callers c = some cl) (tok : cl'.tok = cl.tok) : Toks s' = Toks s :=
  (toks_upd hcal).trans (upd_self _ c ((toks_of_caller was).trans (congrArg some tok.symm)))

/-- the fields the message invariants read (`Flow`, `TokenReach.cache_mono_step`); only `receive`, `.process` and `remember`
    change them -/
structure Frame (s s' : State) : Prop where
  queue : s'.queue = s.queue
  nextSeq : s'.nextSeq = s.nextSeq
  cache : s'.cache = s.cache

theorem Frame.trans {s s1 s2 : State} (a : Frame s s1) (b : Frame s1 s2) : Frame s s2 :=
  ⟨b.queue.trans a.queue, b.nextSeq.trans a.nextSeq, b.cache.trans a.cache⟩

structure Woken (s s' : State) : Prop where
  callers : ∀ i, s'.callers i = s.callers i ∨
    ∃ cl, s.callers i = some cl ∧ cl.pc = .waitAck ∧ s'.callers i = some { cl with pc := .waitResp }
  table : s'.table = s.table

theorem woken_of_eq {s s' : State} (hc : s'.callers = s.callers) (ht : s'.table = s.table) : Woken s s' :=
  ⟨fun i => Or.inl (by rw [hc]), ht⟩

theorem Woken.toks {s s' : State} (w : Woken s s') : Toks s' = Toks s := by
  funext i; unfold Toks
  rcases w.callers i with e | ⟨cl, e1, _, e2⟩
  · rw [e]
  · rw [e1, e2]; rfl

/-- `Woken` by `wakeMid` or `wakeCaller`, which leave queue, numbering and cache alone; `receive` (`Arrived`) and `remember`
    are `Woken` and do not -/
structure WokenOnly (s s' : State) : Prop extends Woken s s' where
  frame : Frame s s'

structure Returned (h : Token → Nat) (s s' : State) (c : Nat) (cl cl' : Caller) : Prop where
  was : s.callers c = some cl
  callers : s'.callers = upd s.callers c (some cl')
  table : s'.table = upd s.table (h cl.tok) none
  tok : cl'.tok = cl.tok
  pc : cl'.pc = .returned
  held : ∀ m, cl'.slot = some m ∨ cl'.res = some (.ok m) → cl.slot = some m ∨ cl.res = some (.ok m)
  frame : Frame s s'

structure Entered (h : Token → Nat) (s s' : State) (c : Nat) (cl' : Caller) : Prop where
  fresh : s.callers c = none
  callers : s'.callers = upd s.callers c (some cl')
  slot : cl'.slot = none
  res : ∀ m, cl'.res ≠ some (.ok m)
  table : (s'.table = s.table ∧ cl'.pc = .returned) ∨ (s'.table = upd s.table (h cl'.tok) (some c) ∧ cl'.pc ≠ .returned)
  frame : Frame s s'

theorem handover_eq (s : State) (c : Nat) (m : Msg) : handover s c m = { s with callers := (handover s c m).callers } := by
  unfold handover
  split
  · split <;> rfl
  · rfl

theorem handover_dflt (s : State) (c : Nat) (m : Msg) : (handover s c m).dflt = s.dflt := by
  rw [handover_eq]

theorem wakeMid_dflt (s : State) (mid : Nat) : (wakeMid s mid).dflt = s.dflt := by
  unfold wakeMid; repeat (first | rfl | split | dsimp only)

theorem wakeMid_woken (s : State) (mid : Nat) : WokenOnly s (wakeMid s mid) := by
  unfold wakeMid
  split
  · exact ⟨woken_of_eq rfl rfl, rfl, rfl, rfl⟩
  · rename_i c _
    dsimp only
    split
    · rename_i cl hcl
      split
      · rename_i hpc
        refine ⟨⟨fun i => ?_, rfl⟩, rfl, rfl, rfl⟩
        by_cases hi : i = c
        · right; subst hi; exact ⟨cl, hcl, hpc, upd_same ..⟩
        · left; exact upd_other _ _ _ _ hi
      · exact ⟨woken_of_eq rfl rfl, rfl, rfl, rfl⟩
    · exact ⟨woken_of_eq rfl rfl, rfl, rfl, rfl⟩

theorem wakeCaller_dflt (s : State) (c : Nat) : (wakeCaller s c).dflt = s.dflt := by
  unfold wakeCaller; repeat (first | rfl | split | dsimp only)

theorem wakeCaller_woken (s : State) (c : Nat) : WokenOnly s (wakeCaller s c) := by
  unfold wakeCaller
  split
  · exact ⟨woken_of_eq rfl rfl, rfl, rfl, rfl⟩
  · rename_i cl hcl
    dsimp only
    split
    · rename_i hpc
      refine ⟨⟨fun i => ?_, rfl⟩, rfl, rfl, rfl⟩
      by_cases hi : i = c
      · right; subst hi; exact ⟨cl, hcl, hpc, upd_same ..⟩
      · left; exact upd_other _ _ _ _ hi
    · exact ⟨woken_of_eq rfl rfl, rfl, rfl, rfl⟩

theorem remember_eq (cfg : Cfg) (s : State) (m : Msg) :
    remember cfg s m = { s with cache := if cfg.udp && m.kind = .con then m.mid :: s.cache else s.cache } := by
  unfold remember; split <;> rfl

theorem remember_woken (cfg : Cfg) (s : State) (m : Msg) : Woken s (remember cfg s m) := by
  rw [remember_eq]; exact woken_of_eq rfl rfl

/-- `Sublist`: a bare ACK is numbered but not queued -/
structure Arrived (s s' : State) (m : Msg) : Prop extends Woken s s' where
  queue : s'.queue.Sublist (s.queue ++ [m])
  nextSeq : s'.nextSeq = s.nextSeq + 1
  cache : s'.cache = s.cache

theorem receive_arrived (cfg : Cfg) (s : State) (kind : Kind) (tok : Token) (mid : Nat) (tag : String) :
    Arrived s (receive cfg s kind tok mid tag) ⟨kind, tok, mid, tag, s.nextSeq⟩ := by
  have w : WokenOnly (bump s) (if cfg.udp = true then wakeMid (bump s) mid else bump s) := by
    split
    · exact wakeMid_woken (bump s) mid
    · exact ⟨woken_of_eq rfl rfl, rfl, rfl, rfl⟩
  unfold receive enqueue
  split
  · exact ⟨⟨w.callers, w.table⟩, by rw [w.frame.queue]; exact List.sublist_append_left .., w.frame.nextSeq, w.frame.cache⟩
  · exact ⟨⟨w.callers, w.table⟩, by rw [show _ = _ ++ _ from rfl, w.frame.queue]; exact List.Sublist.refl _,
      w.frame.nextSeq, w.frame.cache⟩

theorem leave_dflt (h : Token → Nat) (s : State) (c : Nat) (r : Res) : (leave h s c r).dflt = s.dflt := by
  unfold leave; repeat (first | rfl | split)

theorem leave_returned (h : Token → Nat) (s : State) (c : Nat) (r : Res) (hr : ∀ m, r ≠ .ok m) :
    leave h s c r = s ∨ ∃ cl cl', Returned h s (leave h s c r) c cl cl' := by
  unfold leave
  split
  · rename_i cl hcl
    split
    · left; rfl
    · refine .inr ⟨cl, _, hcl, rfl, rfl, rfl, rfl, fun m hm => ?_, rfl, rfl, rfl⟩
      exact hm.imp_right fun e => absurd (Option.some.inj e) (hr m)
  · left; rfl

theorem finish_returned (h : Token → Nat) (s : State) (c : Nat) :
    finish h s c = s ∨ ∃ cl cl', Returned h s (finish h s c) c cl cl' := by
  unfold finish
  split
  · rename_i cl hcl
    split
    · split
      · rename_i m hm
        refine .inr ⟨cl, _, hcl, rfl, rfl, rfl, rfl, fun m' hm' => ?_, rfl, rfl, rfl⟩
        rcases hm' with e | e
        · cases e
        · cases e; exact .inl hm
      · left; rfl
    · left; rfl
  · left; rfl

/-- what `deliver` makes of the state before `wakeCaller` when the message's key is filed for `c` (`deliver_eq_matched`) -/
def matched (h : Token → Nat) (cfg : Cfg) (s : State) (m : Msg) (c : Nat) : State :=
  handover { s with table := if deliverDeletes cfg then upd s.table (h m.tok) none else s.table } c m

theorem matched_table (h : Token → Nat) (cfg : Cfg) (s : State) (m : Msg) (c : Nat) :
    (matched h cfg s m c).table = if deliverDeletes cfg then upd s.table (h m.tok) none else s.table := by
  rw [matched, handover_eq]

/-- The send does not block: a full channel leaves the callers as they are, and so does an entry that points to nobody
    (which occurs in no reachable state, `Inv.tbl`). -/
theorem matched_cases (h : Token → Nat) (cfg : Cfg) (s : State) (m : Msg) (c : Nat) :
    ((∀ cl, s.callers c = some cl → cl.slot ≠ none) ∧ (matched h cfg s m c).callers = s.callers) ∨
    ∃ cl, s.callers c = some cl ∧ cl.slot = none ∧
      (matched h cfg s m c).callers = upd s.callers c (some { cl with slot := some m }) := by
  unfold matched handover
  dsimp only
  cases hc : s.callers c with
  | none => exact .inl ⟨fun x hx => absurd hx.symm (Option.some_ne_none x), rfl⟩
  | some cl =>
    dsimp only
    cases hs : cl.slot with
    | none => exact .inr ⟨cl, rfl, hs, rfl⟩
    | some m0 => exact .inl ⟨fun x hx => by cases hx; rw [hs]; exact Option.some_ne_none m0, rfl⟩

theorem deliver_eq_matched (h : Token → Nat) (cfg : Cfg) (s : State) (m : Msg) (c : Nat) (ht : s.table (h m.tok) = some c) :
    deliver h cfg s m = if cfg.udp then wakeCaller (matched h cfg s m c) c else matched h cfg s m c := by
  unfold deliver; rw [ht]; rfl

theorem deliver_woken (h : Token → Nat) (cfg : Cfg) (s : State) (m : Msg) (c : Nat) (ht : s.table (h m.tok) = some c) :
    WokenOnly (matched h cfg s m c) (deliver h cfg s m) := by
  rw [deliver_eq_matched h cfg s m c ht]
  by_cases hu : cfg.udp = true
  · rw [if_pos hu]; exact wakeCaller_woken _ c
  · rw [if_neg hu]; exact ⟨woken_of_eq rfl rfl, rfl, rfl, rfl⟩

theorem deliver_caller (h : Token → Nat) (cfg : Cfg) (s : State) (m : Msg) (c : Nat) (cl : Caller)
    (ht : s.table (h m.tok) = some c) (hc : s.callers c = some cl) (hs : cl.slot = none) :
    (deliver h cfg s m).callers c =
      some { cl with slot := some m, pc := if cfg.udp = true ∧ cl.pc = .waitAck then .waitResp else cl.pc } := by
  have e : (matched h cfg s m c).callers c = some { cl with slot := some m } := by
    unfold matched handover; dsimp only; rw [hc]; dsimp only; rw [hs]; exact upd_same ..
  rw [deliver_eq_matched h cfg s m c ht]
  by_cases hu : cfg.udp = true
  · rw [if_pos hu]; unfold wakeCaller; rw [e]; dsimp only
    by_cases hp : cl.pc = .waitAck
    · rw [if_pos hp, if_pos ⟨hu, hp⟩]; exact upd_same ..
    · rw [if_neg hp, if_neg fun g => hp g.2]; exact e
  · rw [if_neg hu, if_neg fun g => hu g.1]; exact e

theorem matched_frame (h : Token → Nat) (cfg : Cfg) (s : State) (m : Msg) (c : Nat) : Frame s (matched h cfg s m c) := by
  rw [matched, handover_eq]; exact ⟨rfl, rfl, rfl⟩

theorem deliver_miss (h : Token → Nat) (cfg : Cfg) (s : State) (m : Msg) (hmiss : s.table (h m.tok) = none) :
    deliver h cfg s m = { s with dflt := s.dflt ++ [m] } := by
  unfold deliver; rw [hmiss]

theorem deliver_frame (h : Token → Nat) (cfg : Cfg) (s : State) (m : Msg) : Frame s (deliver h cfg s m) := by
  cases ht : s.table (h m.tok) with
  | none => rw [deliver_miss h cfg s m ht]; exact ⟨rfl, rfl, rfl⟩
  | some c => exact (matched_frame h cfg s m c).trans (deliver_woken h cfg s m c ht).frame

theorem deliver_toks (h : Token → Nat) (cfg : Cfg) (s : State) (m : Msg) : Toks (deliver h cfg s m) = Toks s := by
  cases ht : s.table (h m.tok) with
  | none => rw [deliver_miss h cfg s m ht]; rfl
  | some c =>
    rw [(deliver_woken h cfg s m c ht).toks]
    rcases matched_cases h cfg s m c with ⟨_, e⟩ | ⟨cl, hc, _, e⟩
    · unfold Toks; rw [e]
    · exact toks_upd_same e hc rfl

theorem step_process_deliver (h : Token → Nat) (cfg : Cfg) (s : State) (m : Msg) (q : List Msg) (hq : s.queue = m :: q)
    (hnd : dedupHit cfg { s with queue := q } m = false) :
    step h cfg s .process = remember cfg (deliver h cfg { s with queue := q } m) m := by
  rw [step, hq]; dsimp only; rw [hnd]; rfl

theorem step_process_dedup (h : Token → Nat) (cfg : Cfg) (s : State) (m : Msg) (q : List Msg) (hq : s.queue = m :: q)
    (hd : dedupHit cfg { s with queue := q } m = true) : step h cfg s .process = { s with queue := q } := by
  rw [step, hq]; dsimp only; rw [hd]; rfl

/-- `closed` is tested last, so a refusal with `.closed` tells that the key was free -/
theorem doStart_cases (h : Token → Nat) (cfg : Cfg) (s : State) (c : Nat) (tok : Token) (con : Bool) (mid : Nat)
    (hnew : s.callers c = none) :
    (∃ r, step h cfg s (.doStart c tok con mid) = reject s c tok mid r ∧
      (r = .badToken ∨ r = .exists_ ∨ (r = .closed ∧ s.table (h tok) = none))) ∨
    (s.table (h tok) = none ∧ step h cfg s (.doStart c tok con mid) = register h cfg s c tok con mid) := by
  rw [step, hnew]
  dsimp only
  by_cases h1 : tok = []
  · rw [if_pos h1]; exact .inl ⟨_, rfl, .inl rfl⟩
  · rw [if_neg h1]
    by_cases h2 : (cfg.bw && (s.bwSend (h tok)).isSome) = true
    · rw [if_pos h2]; exact .inl ⟨_, rfl, .inl rfl⟩
    · rw [if_neg h2]
      cases h3 : s.table (h tok) with
      | some _ => exact .inl ⟨_, rfl, .inr (.inl rfl)⟩
      | none =>
        dsimp only [Option.isSome]
        by_cases h4 : s.closed = true
        · rw [if_pos h4]; exact .inl ⟨_, rfl, .inr (.inr ⟨rfl, rfl⟩)⟩
        · rw [if_neg h4]; exact .inr ⟨rfl, rfl⟩

/-- The states an event leads to.  `idle` stands for every event that changes nothing: a `doStart` of a known caller, an arrival
    on a closed connection, `process` on an empty queue, `ret` of a caller that has nothing to return, `ret` / `cancel` /
    `retClosed` of nobody or of a caller that has returned, `retClosed` on an open connection.  `drop` and `process` are the two
    outcomes of `.process`; `step_process_dedup` and `step_process_deliver` give them with the value of `dedupHit`. -/
theorem step_cases (h : Token → Nat) (cfg : Cfg) (s : State) (ev : Event) {P : Event → State → Prop}
    (idle : ∀ ev, P ev s)
    (entered : ∀ {c con mid s' cl'}, Entered h s s' c cl' → P (.doStart c cl'.tok con mid) s')
    (arrived : ∀ {kind tok mid tag s'}, Arrived s s' ⟨kind, tok, mid, tag, s.nextSeq⟩ → P (.arrive kind tok mid tag) s')
    (drop : ∀ m q, s.queue = m :: q → P .process { s with queue := q })
    (process : ∀ m q, s.queue = m :: q → P .process (remember cfg (deliver h cfg { s with queue := q } m) m))
    (returned : ∀ {ev s' c cl cl'}, Returned h s s' c cl cl' → P ev s')
    (close : P .close { s with closed := true }) : P ev (step h cfg s ev) := by
  have left : ∀ ev s' c, (s' = s ∨ ∃ cl cl', Returned h s s' c cl cl') → P ev s' := by
    rintro ev s' c (e | ⟨cl, cl', r⟩)
    · rw [e]; exact idle ev
    · exact returned r
  cases ev with
  | doStart c tok con mid =>
    cases hnone : s.callers c with
    | some _ => rw [step, hnone]; exact idle _
    | none =>
      rcases doStart_cases h cfg s c tok con mid hnone with ⟨r, e, hr⟩ | ⟨_, e⟩ <;> rw [e]
      · refine entered (cl' := ⟨tok, mid, .returned, none, some r⟩)
          ⟨hnone, rfl, rfl, fun m e => ?_, .inl ⟨rfl, rfl⟩, rfl, rfl, rfl⟩
        rcases hr with rfl | rfl | ⟨rfl, _⟩ <;> exact Res.noConfusion (Option.some.inj e)
      · refine entered (cl' := ⟨tok, mid, if cfg.udp && con then .waitAck else .waitResp, none, none⟩)
          ⟨hnone, rfl, rfl, fun _ e => Option.some_ne_none _ e.symm, .inr ⟨rfl, ?_⟩, rfl, rfl, rfl⟩
        dsimp only; split <;> exact Pc.noConfusion
  | arrive kind tok mid tag =>
    rw [step]
    split
    · exact idle _
    · exact arrived (receive_arrived cfg s kind tok mid tag)
  | process =>
    rw [step]
    split
    · exact idle _
    · rename_i m q hq
      split
      · exact drop m q hq
      · exact process m q hq
  | ret c => exact left _ _ c (finish_returned h s c)
  | cancel c => exact left _ _ c (leave_returned h s c .ctx fun _ => Res.noConfusion)
  | close => exact close
  | retClosed c =>
    rw [step]
    split
    · exact left _ _ c (leave_returned h s c .closed fun _ => Res.noConfusion)
    · exact idle _

theorem caller_from_request (h : Token → Nat) (cfg : Cfg) (evs : List Event) (c : Nat) (t : Token)
    (hc : Toks (run h cfg evs) c = some t) : ∃ con mid, Event.doStart c t con mid ∈ evs := by
  refine List.foldlRecOn (motive := fun s => ∀ c t, Toks s c = some t → ∃ con mid, Event.doStart c t con mid ∈ evs) evs
    (step h cfg) (b := init) (fun _ _ ht => nomatch ht) (fun s hs e he => ?_) c t hc
  revert he
  refine step_cases h cfg s e
    (P := fun ev s' => ev ∈ evs → ∀ c t, Toks s' c = some t → ∃ con mid, Event.doStart c t con mid ∈ evs)
    (idle := fun _ _ => hs)
    (entered := fun {c0 con mid _ _} n he c t ht => ?_)
    (arrived := fun a _ => a.toks ▸ hs)
    (drop := fun _ _ _ _ => hs)
    (process := fun _ _ _ _ => by rw [(remember_woken ..).toks, deliver_toks]; exact hs)
    (returned := fun r _ => toks_upd_same r.callers r.was r.tok ▸ hs)
    (close := fun _ => hs)
  rw [toks_upd n.callers] at ht
  by_cases e : c = c0
  · rw [e, upd_same] at ht; cases ht; exact ⟨con, mid, e ▸ he⟩
  · rw [upd_other _ _ _ _ e] at ht; exact hs c t ht

def Holds (s : State) (c : Nat) (m : Msg) : Prop :=
  ∃ cl, s.callers c = some cl ∧ (cl.slot = some m ∨ cl.res = some (.ok m))

theorem not_holds_init {c : Nat} {m : Msg} : ¬ Holds init c m := fun ⟨cl, h1, _⟩ => Option.some_ne_none cl h1.symm

theorem Woken.holds {s s' : State} (w : Woken s s') (c : Nat) (m : Msg) : Holds s' c m ↔ Holds s c m := by
  unfold Holds
  rcases w.callers c with e | ⟨cl, e1, _, e2⟩
  · rw [e]
  · rw [e1, e2]; simp

theorem holds_upd {s s' : State} {c : Nat} {cl' : Caller} (hcal : s'.callers = upd s.callers c (some cl')) {i : Nat} {x : Msg}
    (hh : Holds s' i x) : (i = c ∧ (cl'.slot = some x ∨ cl'.res = some (.ok x))) ∨ Holds s i x := by
  obtain ⟨y, h1, h2⟩ := hh
  rw [hcal] at h1
  by_cases e : i = c
  · rw [e, upd_same] at h1; cases h1; exact .inl ⟨e, h2⟩
  · rw [upd_other _ _ _ _ e] at h1; exact .inr ⟨y, h1, h2⟩

theorem Returned.holds {h : Token → Nat} {s s' : State} {c0 : Nat} {cl cl' : Caller} (r : Returned h s s' c0 cl cl')
    (c : Nat) (m : Msg) (hh : Holds s' c m) : Holds s c m :=
  (holds_upd r.callers hh).elim (fun ⟨e, g⟩ => e ▸ ⟨cl, r.was, r.held m g⟩) id

theorem Entered.holds {h : Token → Nat} {s s' : State} {c0 : Nat} {cl' : Caller} (n : Entered h s s' c0 cl') (c : Nat) (m : Msg)
    (hh : Holds s' c m) : Holds s c m :=
  (holds_upd n.callers hh).elim
    (fun ⟨_, g⟩ => g.elim (fun g => absurd (g.symm.trans n.slot) (Option.some_ne_none m)) (fun g => absurd g (n.res m))) id

theorem matched_holds (h : Token → Nat) (cfg : Cfg) (s : State) (m : Msg) (c c' : Nat) (x : Msg)
    (hh : Holds (matched h cfg s m c) c' x) : Holds s c' x ∨ (x = m ∧ c' = c) := by
  rcases matched_cases h cfg s m c with ⟨_, e⟩ | ⟨cl, hc, _, e⟩
  · obtain ⟨y, h1, h2⟩ := hh
    exact .inl ⟨y, e ▸ h1, h2⟩
  · exact (holds_upd e hh).elim (fun ⟨g, hx⟩ => hx.elim (fun a => .inr ⟨(Option.some.inj a).symm, g⟩)
      fun a => .inl (g ▸ ⟨cl, hc, .inr a⟩)) .inl

theorem deliver_holds (h : Token → Nat) (cfg : Cfg) (s : State) (m : Msg) :
    ∃ tgt, ∀ c' m', Holds (deliver h cfg s m) c' m' → Holds s c' m' ∨ (m' = m ∧ c' = tgt) := by
  cases ht : s.table (h m.tok) with
  | none => rw [deliver_miss h cfg s m ht]; exact ⟨0, fun c' m' hh => Or.inl hh⟩
  | some c => exact ⟨c, fun c' m' hh => matched_holds h cfg s m c c' m' (((deliver_woken h cfg s m c ht).holds c' m').1 hh)⟩

theorem deliver_reaches (h : Token → Nat) (cfg : Cfg) (s : State) (m : Msg) (c : Nat) (cl : Caller)
    (ht : s.table (h m.tok) = some c) (hc : s.callers c = some cl) (hs : cl.slot = none) :
    Holds (deliver h cfg s m) c m :=
  ⟨_, deliver_caller h cfg s m c cl ht hc hs, .inl rfl⟩

def Twin (h : Token → Nat) (s : State) (c k : Nat) : Prop := ∃ c' t, c' ≠ c ∧ Toks s c' = some t ∧ h t = k

theorem Twin.congr {h : Token → Nat} {s s' : State} {c k : Nat} (e : Toks s' = Toks s) : Twin h s c k → Twin h s' c k :=
  fun ⟨c', t, hne, h1, h2⟩ => ⟨c', t, hne, e ▸ h1, h2⟩

/-- The invariant of table and callers.  `reg` holds only up to a `Twin`: the deferred removal and `handle` go by key, so a
    twin's answer or return takes the entry with it (F13, F23). -/
structure Inv (h : Token → Nat) (cfg : Cfg) (s : State) : Prop where
  tbl : ∀ k c, s.table k = some c → ∃ cl, s.callers c = some cl ∧ h cl.tok = k ∧ cl.pc ≠ .returned ∧
    (deliverDeletes cfg = true → cl.slot = none)
  hold : ∀ c m, Holds s c m → ∃ cl, s.callers c = some cl ∧ h m.tok = h cl.tok
  reg : ∀ c cl, s.callers c = some cl → cl.pc ≠ .returned → cl.slot = none →
    s.table (h cl.tok) = some c ∨ Twin h s c (h cl.tok)

theorem inv_init (h : Token → Nat) (cfg : Cfg) : Inv h cfg init :=
  ⟨fun _ c hk => absurd hk.symm (Option.some_ne_none c), fun _ _ hh => absurd hh not_holds_init,
    fun _ cl h1 => absurd h1.symm (Option.some_ne_none cl)⟩

/-- Whoever else has the key of `c` has `c` as a twin, so when only the record of `c` (same token) and the entry under its key
    change, what is left to show is about `c` itself. -/
theorem Inv.touch {h : Token → Nat} {cfg : Cfg} {s s' : State} {c : Nat} {cl' : Caller} {e : Option Nat} (inv : Inv h cfg s)
    (hcal : s'.callers = upd s.callers c (some cl'))
    (htok : ∀ cl, s.callers c = some cl → cl'.tok = cl.tok)
    (htab : s'.table = upd s.table (h cl'.tok) e)
    (hent : ∀ i, e = some i →
      (i = c ∧ cl'.pc ≠ .returned ∧ (deliverDeletes cfg = true → cl'.slot = none)) ∨ (i ≠ c ∧ s.table (h cl'.tok) = some i))
    (hhold : ∀ i x, Holds s' i x → Holds s i x ∨ (i = c ∧ h x.tok = h cl'.tok))
    (hreg : cl'.pc ≠ .returned → cl'.slot = none → e = some c ∨ Twin h s c (h cl'.tok)) :
    Inv h cfg s' := by
  have self : s'.callers c = some cl' := by rw [hcal, upd_same]
  have other : ∀ i, i ≠ c → s'.callers i = s.callers i := fun i hi => by rw [hcal, upd_other _ _ _ _ hi]
  have twin : ∀ i k, Twin h s i k → Twin h s' i k := fun i k ⟨c', t, hne, h1, h2⟩ => by
    refine ⟨c', t, hne, ?_, h2⟩
    rw [toks_upd hcal]
    by_cases e : c' = c
    · obtain ⟨cl, g1, g2⟩ := caller_of_toks h1
      rw [e] at g1 ⊢
      rw [upd_same, htok cl g1, g2]
    · rw [upd_other _ _ _ _ e]; exact h1
  have old : ∀ k i, i ≠ c → s.table k = some i → ∃ cl, s'.callers i = some cl ∧ h cl.tok = k ∧ cl.pc ≠ .returned ∧
      (deliverDeletes cfg = true → cl.slot = none) := fun k i hi hk => by
    obtain ⟨cl, h1, h2⟩ := inv.tbl k i hk
    exact ⟨cl, by rw [other i hi, h1], h2⟩
  refine ⟨fun k i hk => ?_, fun i x hh => ?_, fun i cl h1 hp hs => ?_⟩
  · rw [htab] at hk
    by_cases ek : k = h cl'.tok
    · subst ek
      rw [upd_same] at hk
      rcases hent i hk with ⟨rfl, g⟩ | ⟨hi, g⟩
      · exact ⟨cl', self, rfl, g⟩
      · exact old _ i hi g
    · rw [upd_other _ _ _ _ ek] at hk
      refine old k i (fun e => ?_) hk
      -- `c` itself is filed under the key of its token only
      subst e
      obtain ⟨cl, h1, h2, _⟩ := inv.tbl k i hk
      exact ek (h2 ▸ congrArg h (htok cl h1).symm)
  · rcases hhold i x hh with g | ⟨rfl, g⟩
    · obtain ⟨cl, g1, g2⟩ := inv.hold i x g
      by_cases e : i = c
      · subst e; exact ⟨_, self, by rw [htok cl g1]; exact g2⟩
      · exact ⟨cl, by rw [other i e, g1], g2⟩
    · exact ⟨_, self, g⟩
  · rw [htab]
    by_cases e : i = c
    · subst e; rw [self] at h1; cases h1; rw [upd_same]; exact (hreg hp hs).imp_right (twin _ _)
    · rw [other i e] at h1
      by_cases ek : h cl.tok = h cl'.tok
      · exact .inr ⟨c, cl'.tok, Ne.symm e, toks_of_caller self, ek.symm⟩
      · rw [upd_other _ _ _ _ ek]; exact (inv.reg i cl h1 hp hs).imp_right (twin _ _)

theorem Woken.inv {h : Token → Nat} {cfg : Cfg} {s s' : State} (w : Woken s s') (inv : Inv h cfg s) : Inv h cfg s' := by
  refine ⟨fun k c hk => ?_, fun c m hh => ?_, fun c cl' h1 hp hs => ?_⟩
  · rw [w.table] at hk
    obtain ⟨cl, h1, h2, h3, h4⟩ := inv.tbl k c hk
    rcases w.callers c with e | ⟨cl', e1, _, e2⟩
    · exact ⟨cl, by rw [e, h1], h2, h3, h4⟩
    · rw [h1] at e1; cases e1
      exact ⟨_, e2, h2, Pc.noConfusion, h4⟩
  · obtain ⟨cl, h1, h2⟩ := inv.hold c m ((w.holds c m).1 hh)
    rcases w.callers c with e | ⟨cl', e1, _, e2⟩
    · exact ⟨cl, by rw [e, h1], h2⟩
    · rw [h1] at e1; cases e1
      exact ⟨_, e2, h2⟩
  · rw [w.table]
    rcases w.callers c with e | ⟨cl, e1, e2, e3⟩
    · rw [e] at h1; exact (inv.reg c cl' h1 hp hs).imp_right (Twin.congr w.toks)
    · rw [e3] at h1; cases h1
      exact (inv.reg c cl e1 (e2 ▸ Pc.noConfusion) hs).imp_right (Twin.congr w.toks)

theorem Inv.congr {h : Token → Nat} {cfg : Cfg} {s s' : State} (inv : Inv h cfg s) (hc : s'.callers = s.callers)
    (ht : s'.table = s.table) : Inv h cfg s' :=
  (woken_of_eq hc ht).inv inv

theorem Returned.inv {h : Token → Nat} {cfg : Cfg} {s s' : State} {c : Nat} {cl cl' : Caller}
    (r : Returned h s s' c cl cl') (inv : Inv h cfg s) : Inv h cfg s' := by
  refine inv.touch (e := none) r.callers (fun x hx => ?_) (r.tok ▸ r.table) nofun (fun i x hh => .inl (r.holds i x hh))
    (fun hp => absurd r.pc hp)
  rw [r.was] at hx; cases hx; exact r.tok

theorem Entered.inv {h : Token → Nat} {cfg : Cfg} {s s' : State} {c : Nat} {cl' : Caller} (n : Entered h s s' c cl')
    (inv : Inv h cfg s) : Inv h cfg s' := by
  have htok : ∀ cl, s.callers c = some cl → cl'.tok = cl.tok := fun x hx => by rw [n.fresh] at hx; cases hx
  rcases n.table with ⟨ht, hr⟩ | ⟨ht, hp⟩
  · refine inv.touch n.callers htok (ht.trans (upd_self _ _ rfl).symm) (fun i hi => .inr ⟨fun e => ?_, hi⟩)
      (fun i x hh => .inl (n.holds i x hh)) (fun hp => absurd hr hp)
    -- refused: nothing pointed to the newcomer
    subst e
    obtain ⟨cl, h1, _⟩ := inv.tbl _ i hi
    rw [n.fresh] at h1; cases h1
  · exact inv.touch n.callers htok ht (fun i hi => .inl ⟨(Option.some.inj hi).symm, hp, fun _ => n.slot⟩)
      (fun i x hh => .inl (n.holds i x hh)) (fun _ _ => .inl rfl)

theorem deliver_inv (h : Token → Nat) (cfg : Cfg) (s : State) (m : Msg) (inv : Inv h cfg s) : Inv h cfg (deliver h cfg s m) := by
  cases ht : s.table (h m.tok) with
  | none => rw [deliver_miss h cfg s m ht]; exact inv.congr rfl rfl
  | some c =>
    refine (deliver_woken h cfg s m c ht).inv ?_
    obtain ⟨cl, hc, hk, hl, hd⟩ := inv.tbl _ c ht
    have htab := matched_table h cfg s m c
    rcases matched_cases h cfg s m c with ⟨full, e⟩ | ⟨x, hx, _, e⟩
    · -- a full channel is met only by `Load`: where delivery consumes the entry the channel of a registered caller is empty
      by_cases dd : deliverDeletes cfg = true
      · exact absurd (hd dd) (full cl hc)
      · exact inv.congr e (by rw [htab, if_neg dd])
    · rw [hc] at hx; cases hx
      refine inv.touch (e := if deliverDeletes cfg then none else some c) e (fun x hx => ?_) ?_ (fun i hi => ?_)
        (fun i x hh => (matched_holds h cfg s m c i x hh).imp_right fun ⟨e1, e2⟩ => ⟨e2, by rw [e1, hk]⟩) (fun _ hs => nomatch hs)
      · rw [hc] at hx; cases hx; rfl
      · rw [htab, hk]; split
        · rfl
        · exact (upd_self _ _ ht).symm
      · -- `Load`: the entry stays; `Inv.tbl` asks for an empty channel only where delivery consumes the entry
        split at hi
        · cases hi
        · rename_i dd; exact .inl ⟨(Option.some.inj hi).symm, hl, fun g => absurd g dd⟩

theorem inv_step (h : Token → Nat) (cfg : Cfg) (s : State) (ev : Event) (inv : Inv h cfg s) : Inv h cfg (step h cfg s ev) :=
  step_cases h cfg s ev (P := fun _ s' => Inv h cfg s')
    (idle := fun _ => inv)
    (entered := fun n => n.inv inv)
    (arrived := fun a => a.inv inv)
    (drop := fun _ _ _ => inv.congr rfl rfl)
    (process := fun m _ _ => (remember_woken ..).inv (deliver_inv h cfg _ m (inv.congr rfl rfl)))
    (returned := fun r => r.inv inv)
    (close := inv.congr rfl rfl)

theorem inv_run (h : Token → Nat) (cfg : Cfg) (evs : List Event) : Inv h cfg (run h cfg evs) :=
  List.foldlRecOn evs _ (inv_init h cfg) fun s hs e _ => inv_step h cfg s e hs

def arrivalOf (m : Msg) : Event := .arrive m.kind m.tok m.mid m.tag

/-- `take`: `tgt` is the one caller that may hold `m` afterwards; any number when `m` was dropped or went to the default path -/
inductive Flow (ev : Event) (s s' : State) : Prop
  | quiet (hq : s'.queue = s.queue) (hn : s'.nextSeq = s.nextSeq) (hh : ∀ c m, Holds s' c m → Holds s c m)
  | arrive (m : Msg) (hev : ev = arrivalOf m) (hm : m.seq = s.nextSeq) (hq : s'.queue.Sublist (s.queue ++ [m]))
      (hn : s'.nextSeq = s.nextSeq + 1) (hh : ∀ c m, Holds s' c m → Holds s c m)
  | take (m : Msg) (tgt : Nat) (hq : s.queue = m :: s'.queue) (hn : s'.nextSeq = s.nextSeq)
      (hh : ∀ c x, Holds s' c x → Holds s c x ∨ (x = m ∧ c = tgt))

theorem flow_step (h : Token → Nat) (cfg : Cfg) (s : State) (ev : Event) : Flow ev s (step h cfg s ev) := by
  refine step_cases h cfg s ev (P := fun ev s' => Flow ev s s')
    (idle := fun _ => .quiet rfl rfl fun _ _ hh => hh)
    (entered := fun n => .quiet n.frame.queue n.frame.nextSeq n.holds)
    (arrived := fun a => .arrive _ rfl rfl a.queue a.nextSeq fun c m => (a.holds c m).1)
    (drop := fun m _ hq => .take m 0 hq rfl fun _ _ hh => .inl hh)
    (process := fun m q hq => ?_)
    (returned := fun r => .quiet r.frame.queue r.frame.nextSeq r.holds)
    (close := .quiet rfl rfl fun _ _ hh => hh)
  obtain ⟨tgt, hh⟩ := deliver_holds h cfg { s with queue := q } m
  have f := deliver_frame h cfg { s with queue := q } m
  have w := remember_woken cfg (deliver h cfg { s with queue := q } m) m
  refine .take m tgt ?_ ?_ fun c x hx => hh c x ((w.holds c x).1 hx)
  · rw [hq, remember_eq]; exact congrArg _ f.queue.symm
  · rw [remember_eq]; exact f.nextSeq

/-- `uniq`: one arrival is handed to at most one caller -/
structure InvS (s : State) : Prop where
  queuedLt : ∀ m ∈ s.queue, m.seq < s.nextSeq
  queueDistinct : s.queue.Pairwise (fun a b => a.seq ≠ b.seq)
  heldLt : ∀ c m, Holds s c m → m.seq < s.nextSeq
  heldNotQueued : ∀ c m, Holds s c m → ∀ q ∈ s.queue, q.seq ≠ m.seq
  uniq : ∀ c c' m m', Holds s c m → Holds s c' m' → m.seq = m'.seq → c = c'

theorem invS_init : InvS init :=
  ⟨fun _ hm => absurd hm List.not_mem_nil, .nil, fun _ _ hh => absurd hh not_holds_init, fun _ _ hh => absurd hh not_holds_init,
    fun _ _ _ _ hh => absurd hh not_holds_init⟩

theorem invS_flow {ev : Event} {s s' : State} (f : Flow ev s s') (inv : InvS s) : InvS s' := by
  cases f with
  | quiet hq hn hh =>
    refine ⟨?_, hq ▸ inv.queueDistinct, ?_, ?_, fun c c' m m' h1 h2 => inv.uniq c c' m m' (hh c m h1) (hh c' m' h2)⟩
    · intro m hm; rw [hq] at hm; rw [hn]; exact inv.queuedLt m hm
    · intro c m h1; rw [hn]; exact inv.heldLt c m (hh c m h1)
    · intro c m h1 q hq'; rw [hq] at hq'; exact inv.heldNotQueued c m (hh c m h1) q hq'
  | arrive m _ hm hq hn hh =>
    -- the newcomer's number is above every number queued or held so far
    have mem : ∀ x ∈ s'.queue, x ∈ s.queue ∨ x = m := fun x hx => by simpa using hq.subset hx
    refine ⟨?_, List.Pairwise.sublist hq ?_, ?_, ?_, fun c c' m m' h1 h2 => inv.uniq c c' m m' (hh c m h1) (hh c' m' h2)⟩
    · intro x hx; rw [hn]
      rcases mem x hx with g | rfl
      · exact Nat.lt_succ_of_lt (inv.queuedLt x g)
      · rw [hm]; exact Nat.lt_succ_self _
    · refine List.pairwise_append.2 ⟨inv.queueDistinct, List.pairwise_singleton .., fun a ha b hb => ?_⟩
      rw [List.mem_singleton.1 hb, hm]; exact Nat.ne_of_lt (inv.queuedLt a ha)
    · intro c x h1; rw [hn]; exact Nat.lt_succ_of_lt (inv.heldLt c x (hh c x h1))
    · intro c x h1 q hq'
      rcases mem q hq' with g | rfl
      · exact inv.heldNotQueued c x (hh c x h1) q g
      · rw [hm]; exact Ne.symm (Nat.ne_of_lt (inv.heldLt c x (hh c x h1)))
  | take m tgt hq hn hh =>
    -- the message taken was queued, so it is numbered, differs from the rest of the queue and nobody held it
    have qnd := inv.queueDistinct
    rw [hq, List.pairwise_cons] at qnd
    have hm : m ∈ s.queue := hq ▸ List.mem_cons_self
    have tl : ∀ x ∈ s'.queue, x ∈ s.queue := fun x hx => hq ▸ List.mem_cons_of_mem _ hx
    refine ⟨fun x hx => hn ▸ inv.queuedLt x (tl x hx), qnd.2, ?_, ?_, ?_⟩
    · intro c x h1; rw [hn]
      rcases hh c x h1 with g | ⟨rfl, _⟩
      · exact inv.heldLt c x g
      · exact inv.queuedLt x hm
    · intro c x h1 q hq'
      rcases hh c x h1 with g | ⟨rfl, _⟩
      · exact inv.heldNotQueued c x g q (tl q hq')
      · exact Ne.symm (qnd.1 q hq')
    · intro c c' m1 m2 h1 h2 he
      rcases hh c m1 h1 with g1 | ⟨rfl, t1⟩ <;> rcases hh c' m2 h2 with g2 | ⟨rfl, t2⟩
      · exact inv.uniq c c' m1 m2 g1 g2 he
      · exact absurd he.symm (inv.heldNotQueued c m1 g1 m2 hm)
      · exact absurd he (inv.heldNotQueued c' m2 g2 m1 hm)
      · rw [t1, t2]

theorem invS_run (h : Token → Nat) (cfg : Cfg) (evs : List Event) : InvS (run h cfg evs) :=
  List.foldlRecOn evs _ invS_init fun s hs e _ => invS_flow (flow_step h cfg s e) hs

structure InvMsg (P : Msg → Prop) (s : State) : Prop where
  q : ∀ m ∈ s.queue, P m
  held : ∀ c m, Holds s c m → P m

theorem invMsg_flow {P : Msg → Prop} {ev : Event} {s s' : State} (f : Flow ev s s')
    (hev : ∀ m, ev = arrivalOf m → m.seq = s.nextSeq → P m) (inv : InvMsg P s) : InvMsg P s' := by
  cases f with
  | quiet hq _ hh => exact ⟨hq ▸ inv.q, fun c m h1 => inv.held c m (hh c m h1)⟩
  | arrive m he hm hq _ hh =>
    refine ⟨fun x hx => ?_, fun c m h1 => inv.held c m (hh c m h1)⟩
    rcases List.mem_append.1 (hq.subset hx) with g | g
    · exact inv.q x g
    · rw [List.mem_singleton.1 g]; exact hev m he hm
  | take m _ hq _ hh =>
    refine ⟨fun x hx => inv.q x (hq ▸ List.mem_cons_of_mem _ hx), fun c x h1 => ?_⟩
    rcases hh c x h1 with g | ⟨rfl, _⟩
    · exact inv.held c x g
    · exact inv.q x (hq ▸ List.mem_cons_self)

theorem invMsg_run (h : Token → Nat) (cfg : Cfg) (evs : List Event) :
    InvMsg (fun m => arrivalOf m ∈ evs) (run h cfg evs) :=
  List.foldlRecOn evs _ ⟨fun _ hm => absurd hm List.not_mem_nil, fun _ _ hh => absurd hh not_holds_init⟩
    fun s hs e he => invMsg_flow (flow_step h cfg s e) (fun _ hev _ => hev ▸ he) hs

def evTokens : Event → List Token
  | .doStart _ tok _ _ => [tok]
  | .arrive _ tok _ _ => [tok]
  | _ => []

def tokensInPlay (evs : List Event) : List Token := evs.flatMap evTokens

theorem held_tok_inPlay (h : Token → Nat) (cfg : Cfg) (evs : List Event) (c : Nat) (m : Msg)
    (hh : Holds (run h cfg evs) c m) : m.tok ∈ tokensInPlay evs :=
  List.mem_flatMap.2 ⟨arrivalOf m, (invMsg_run h cfg evs).held c m hh, List.mem_singleton.2 rfl⟩

theorem caller_tok_inPlay (h : Token → Nat) (cfg : Cfg) (evs : List Event) (c : Nat) (cl : Caller)
    (hc : (run h cfg evs).callers c = some cl) : cl.tok ∈ tokensInPlay evs :=
  have ⟨_, _, he⟩ := caller_from_request h cfg evs c cl.tok (toks_of_caller hc)
  List.mem_flatMap.2 ⟨_, he, List.mem_singleton.2 rfl⟩

end CoapVerif.Lemmas.TokenTable
