import CoapVerif.Lemmas.Blockwise
/-!
One round of a fault-free transfer, for a symbolic block number and either direction.  `blockOf bt m s ms j` is block `j` of
`m` as `createSendingMessage` cuts it (`Lemmas/Blockwise.lean`; `uploadBlock` and `downloadBlock` are its two instances).  The receiver that holds the
first `j ≥ 1` blocks and is handed block `j` (`processReceived_blockOf`), the receiver that holds nothing and is handed block 0
(`processReceived_blockOf_first`), and the sender that is asked for a block (`handleS_serve`) are one lemma each; the upload
and the download, `Handle` and the Observe branch (which calls `processReceived` on the slots of another key) instantiate them.
Equal non-BERT exponents on both sides throughout: the buffer is one size unit (`bufLen_small`).  The lemmas about `Handle` speak
of an exponent `s` with `cfg.szx = s`, so that the two endpoints of a system are described in the same `s`.
-/
namespace CoapVerif.Lemmas.BlockwiseRounds
open CoapVerif CoapVerif.Model.Blockwise CoapVerif.Model.BlockOpt CoapVerif.Generated.BlockwiseXfer
open CoapVerif.Lemmas.Blockwise CoapVerif.Lemmas.BlockwiseReceive

/-- what `continueSendingMessage` asks `createSendingMessage` for when both sides use the non-BERT exponent `s` and the peer
    names block `j`: block `j` of a download, block `j + 1` of an upload (the acknowledged block is skipped) -/
theorem createSending_blkVal (sm : Msg) {s : Nat} (ms j : Nat) (hs : s < 7) (hj : j < 2 ^ 20) :
    createSending sm s ms (blkVal s j true) =
      createSendingAt sm (sendBT sm.code) s ((match sendBT sm.code with | .b1 => j + 1 | .b2 => j) * sizeN s) (bufLen s ms) := by
  have hskip : block1SkipsSent = true := rfl
  unfold createSending createSendingWith
  rw [decode_blkVal true (Nat.le_of_lt hs) hj]
  simp only [getSzx_eq_min, Nat.min_self, sendOffWith, hskip]
  cases sendBT sm.code
  · simp [bufLen_small ms hs, Nat.add_mul]
  · simp

theorem continueSendingS_block {cfg : Cfg} {e : Entry} {r : Msg} {code blk : Nat} (h : r.block (sendBT code) = some blk) :
    continueSendingS cfg (some e) r code = createSending e.msg cfg.szx cfg.maxSize blk := by
  unfold continueSendingS; rw [h]

theorem finishReceived_fits {cfg : Cfg} {now : Int} {h : HR} {mx : Nat} {m : Msg} (blk : Nat) (hf : h.failed = false)
    (hw : h.w = some m) (hfit : fits startDirectIsLe m.body.length (sizeN mx) = true) : finishReceived cfg now h mx blk = h := by
  obtain ⟨sl, w, d, f⟩ := h
  cases hf
  cases hw
  unfold finishReceived startSendingS
  simp only [hfit, Bool.false_eq_true, if_false, if_true]

theorem handleS_receive_block {cfg : Cfg} {sl : Slots} {now : Int} {r : Msg} {bt : BT} {blk k : Nat} {more : Bool} (app : App)
    (hpath : r.tok = 0 ∨ live sl.snd now = none ∨ wantsToBeReceived r = true) (hbt : dataBT r.code = some bt)
    (hblk : Block sl r bt blk cfg.szx k more) (hs7 : cfg.szx ≤ 7) :
    handleS cfg sl now r app =
      handled r.tok (finishReceived cfg now (processReceived cfg sl now none r cfg.szx app bt) cfg.szx (blkVal cfg.szx 0 true)) := by
  rw [handleS_receive hpath, handleReceived_data (encode_blkVal true hs7 (by decide)) _ _ _ hbt,
    fitSZX_some cfg.szx hblk.opt hblk.dec, Nat.min_self]

/-- A live entry holds exactly the first `j ≥ 1` blocks of `m` under `m`'s ETag; block `j` of `m` arrives, cut with the
    receiver's own exponent.  The last block completes the body, which is handed on with the entry's options; any other is
    appended and answered through `blockReply`. -/
theorem processReceived_blockOf {cfg : Cfg} {sl : Slots} {now : Int} {m : Msg} {ent : Entry} (app : App) {bt : BT} (ms : Nat) {j : Nat}
    (hs : cfg.szx < 7) (htok : m.tok ≠ 0) (hcode : ¬ (m.code = codeGET ∨ m.code = codeDELETE))
    (hsent : ¬ (bt = .b2 ∧ sl.snd = none)) (hl : live sl.rcv now = some ent)
    (hheld : ent.msg.body = m.body.take (j * sizeN cfg.szx)) (hj : j * sizeN cfg.szx ≤ m.body.length)
    (hetag : ent.msg.etag = m.etag) (hnum : j < 2 ^ 20) (hj0 : 0 < j) :
    processReceived cfg sl now none (blockOf bt m cfg.szx ms j) cfg.szx app bt =
      if m.body.length ≤ (j + 1) * sizeN cfg.szx then
        { sl := { sl with rcv := none }, w := next app none ({ ent.msg with body := m.body }.removeBlockSize bt),
          delivered := [{ ent.msg with body := m.body }.removeBlockSize bt] }
      else
        match blockReply bt (sl.snd.map (·.msg)) m.tok cfg.szx j ((j + 1) * sizeN cfg.szx) true with
        | none => { sl := { sl with rcv := none }, w := none, failed := true }
        | some a =>
          { sl := { sl with rcv := some ⟨{ ent.msg with body := m.body.take ((j + 1) * sizeN cfg.szx) }, ent.validUntil⟩ }, w := some a } := by
  have hs7 : cfg.szx ≤ 7 := Nat.le_of_lt hs
  obtain ⟨fc, ft, fe⟩ := blockOf_fields bt m cfg.szx ms j
  -- block `j ≥ 1` is not a first block, so it does not restart the reassembly; it starts where the held bytes end
  have hne0 : ¬ (block0Restarts = true ∧ j * sizeN cfg.szx = 0) := fun h =>
    absurd (mul_sizeN_eq_zero hs7 h.2) (Nat.ne_of_gt hj0)
  have hoff : j * sizeN cfg.szx = ent.msg.body.length := by rw [hheld, List.length_take]; exact (Nat.min_eq_left hj).symm
  rw [processReceived_held none cfg.szx app ⟨ft ▸ htok, fc ▸ hcode, blockOf_block bt m ms j hs hj, decode_blkVal _ hs7 hnum, hsent⟩ hl,
    absorb_same (fe.trans hetag.symm) _ hne0, if_pos hoff]
  simp only [true_and]
  rw [getSzx_eq_min, Nat.min_self, hheld, blockOf_append bt m ms j hs, ft]
  by_cases hlast : m.body.length ≤ (j + 1) * sizeN cfg.szx
  · rw [if_pos hlast, decide_eq_false (Nat.not_lt.mpr hlast), if_pos rfl, List.take_of_length_le hlast]
  · rw [if_neg hlast, decide_eq_true (Nat.lt_of_not_le hlast), if_neg Bool.noConfusion, List.length_take,
      Nat.min_eq_left (Nat.le_of_lt (Nat.lt_of_not_le hlast))]
    rfl

/-- Nothing live is held; block 0 of a body `m` of more than one block arrives: it becomes the entry, valid until the deadline
    of the request it answers, else for the transfer timeout, and is answered through `blockReply` -/
theorem processReceived_blockOf_first {cfg : Cfg} {sl : Slots} {now : Int} {m : Msg} (app : App) {bt : BT} (ms : Nat)
    (hs : cfg.szx < 7) (htok : m.tok ≠ 0) (hcode : ¬ (m.code = codeGET ∨ m.code = codeDELETE))
    (hsent : ¬ (bt = .b2 ∧ sl.snd = none)) (hfree : live sl.rcv now = none) (hmore : sizeN cfg.szx < m.body.length) :
    processReceived cfg sl now none (blockOf bt m cfg.szx ms 0) cfg.szx app bt =
      match blockReply bt (sl.snd.map (·.msg)) m.tok cfg.szx 0 (sizeN cfg.szx) true with
      | none => { sl := { sl with rcv := none }, w := none, failed := true }
      | some a =>
        { sl := { sl with rcv := some ⟨blockOf bt m cfg.szx ms 0,
                    match (sl.snd.map (·.msg)).bind (·.deadline) with | some d => d | none => now + cfg.expiration⟩ },
          w := some a } := by
  have hs7 : cfg.szx ≤ 7 := Nat.le_of_lt hs
  obtain ⟨fc, ft, _⟩ := blockOf_fields bt m cfg.szx ms 0
  have hopt := blockOf_block bt m ms 0 hs (by rw [Nat.zero_mul]; exact Nat.zero_le _)
  rw [Nat.zero_add, Nat.one_mul, decide_eq_true hmore] at hopt
  have hbl : (blockOf bt m cfg.szx ms 0).body.length = sizeN cfg.szx := by
    show ((m.body.drop (0 * _)).take _).length = _
    rw [bufLen_small ms hs, Nat.zero_mul, List.drop_zero, List.length_take]; exact Nat.min_eq_left (Nat.le_of_lt hmore)
  rw [processReceived_free none _ app ⟨ft ▸ htok, fc ▸ hcode, hopt, decode_blkVal _ hs7 (by decide), hsent⟩ hfree,
    getSzx_eq_min, Nat.min_self, Nat.zero_mul,
    show (absorb (blockOf bt m cfg.szx ms 0) { blockOf bt m cfg.szx ms 0 with body := [] } 0).1 = blockOf bt m cfg.szx ms 0 from
      (absorb_first_block rfl _ _).1, hbl, ft]
  rfl

/-- `processReceived_blockOf` seen from `Handle`.  The answer to a block flagged `more` has no body (`blockReply_body`), so
    `startSendingMessage` sends it as it is (`finishReceived_fits` with `fits_nil`); after the last block, what the application
    answers goes through `startSendingMessage`, which is left as a hypothesis. -/
theorem handleS_blockOf {cfg : Cfg} {s : Nat} {sl : Slots} {now : Int} {m : Msg} {ent : Entry} (app : App) {bt : BT} (ms : Nat) {j : Nat}
    (hcfg : cfg.szx = s) (hs : s < 7) (hbt : dataBT m.code = some bt) (htok : m.tok ≠ 0)
    (hpath : live sl.snd now = none ∨ wantsToBeReceived (blockOf bt m s ms j) = true)
    (hsent : ¬ (bt = .b2 ∧ sl.snd = none)) (hl : live sl.rcv now = some ent)
    (hheld : ent.msg.body = m.body.take (j * sizeN s)) (hj : j * sizeN s ≤ m.body.length)
    (hetag : ent.msg.etag = m.etag) (hnum : j < 2 ^ 20) (hj0 : 0 < j) :
    (∀ a, (j + 1) * sizeN s < m.body.length →
      blockReply bt (sl.snd.map (·.msg)) m.tok s j ((j + 1) * sizeN s) true = some a →
      handleS cfg sl now (blockOf bt m s ms j) app =
        ({ sl with rcv := some ⟨{ ent.msg with body := m.body.take ((j + 1) * sizeN s) }, ent.validUntil⟩ }, { reply := some a })) ∧
    (m.body.length ≤ (j + 1) * sizeN s →
      ((handleS cfg sl now (blockOf bt m s ms j) app).1.rcv = none ∧
       (handleS cfg sl now (blockOf bt m s ms j) app).2.delivered = [{ ent.msg with body := m.body }.removeBlockSize bt]) ∧
      ∀ snd rep, startSendingS cfg sl.snd now (next app none ({ ent.msg with body := m.body }.removeBlockSize bt))
          s (blkVal s 0 true) = .ok (snd, rep) →
        handleS cfg sl now (blockOf bt m s ms j) app =
          (⟨snd, none⟩, { reply := rep, delivered := [{ ent.msg with body := m.body }.removeBlockSize bt] })) := by
  subst hcfg
  have hs7 : cfg.szx ≤ 7 := Nat.le_of_lt hs
  obtain ⟨fc, ft, _⟩ := blockOf_fields bt m cfg.szx ms j
  have hcode := dataBT_not_getdelete hbt
  rw [handleS_receive_block app (.inr hpath) (fc ▸ hbt)
      ⟨ft ▸ htok, fc ▸ hcode, blockOf_block bt m ms j hs hj, decode_blkVal _ hs7 hnum, hsent⟩ hs7,
    processReceived_blockOf app ms hs htok hcode hsent hl hheld hj hetag hnum hj0, ft]
  refine ⟨fun a hmore hrep => ?_, fun hlast => ?_⟩
  · rw [if_neg (Nat.not_le.mpr hmore), hrep]
    dsimp only
    rw [finishReceived_fits _ rfl rfl (blockReply_body hrep ▸ fits_nil hs7)]
    rfl
  · rw [if_pos hlast]
    refine ⟨?_, fun snd rep hsend => ?_⟩
    · rw [handled_sl, handled_delivered, (finishReceived_rcv _ _ _ _ _).1, (finishReceived_rcv _ _ _ _ _).2]
      exact ⟨rfl, rfl⟩
    · unfold finishReceived handled
      simp only [Bool.false_eq_true, if_false, hsend]

theorem handleS_blockOf_first {cfg : Cfg} {s : Nat} {sl : Slots} {now : Int} {m a : Msg} (app : App) {bt : BT} (ms : Nat)
    (hcfg : cfg.szx = s) (hs : s < 7) (hbt : dataBT m.code = some bt) (htok : m.tok ≠ 0)
    (hpath : live sl.snd now = none ∨ wantsToBeReceived (blockOf bt m s ms 0) = true)
    (hsent : ¬ (bt = .b2 ∧ sl.snd = none)) (hfree : live sl.rcv now = none) (hmore : sizeN s < m.body.length)
    (hrep : blockReply bt (sl.snd.map (·.msg)) m.tok s 0 (sizeN s) true = some a) :
    handleS cfg sl now (blockOf bt m s ms 0) app =
      ({ sl with rcv := some ⟨blockOf bt m s ms 0,
                  match (sl.snd.map (·.msg)).bind (·.deadline) with | some d => d | none => now + cfg.expiration⟩ },
       { reply := some a }) := by
  subst hcfg
  have hs7 : cfg.szx ≤ 7 := Nat.le_of_lt hs
  obtain ⟨fc, ft, _⟩ := blockOf_fields bt m cfg.szx ms 0
  have hcode := dataBT_not_getdelete hbt
  have hopt := blockOf_block bt m ms 0 hs (by rw [Nat.zero_mul]; exact Nat.zero_le _)
  rw [handleS_receive_block app (.inr hpath) (fc ▸ hbt) ⟨ft ▸ htok, fc ▸ hcode, hopt, decode_blkVal _ hs7 (by decide), hsent⟩ hs7,
    processReceived_blockOf_first app ms hs htok hcode hsent hfree hmore, hrep]
  dsimp only
  rw [finishReceived_fits _ rfl rfl (blockReply_body hrep ▸ fits_nil hs7)]
  rfl

theorem blockReply_ack (sent : Option Msg) (tok : Nat) {s num : Nat} (held : Nat) (hs7 : s ≤ 7) (hnum : num < 2 ^ 20) :
    blockReply .b1 sent tok s num held true = some (uploadAck tok s num) := by
  unfold blockReply
  cases sent <;> (simp only []; rw [encode_blkVal true hs7 hnum]; rfl)

theorem blockReply_next (req : Msg) (tok : Nat) {s : Nat} (num : Nat) {held k : Nat} (hs7 : s ≤ 7) (hk : k + 1 < 2 ^ 20)
    (hheld : held / sizeN s = k + 1) : blockReply .b2 (some req) tok s num held true = some (downloadReq req s (k + 1)) := by
  have hnr0 : (refusesBodylessRestart && decide (k + 1 = 0) && isPostPut req.code) = false := by simp
  unfold blockReply
  simp only [hheld, hnr0, Bool.false_eq_true, if_false]
  rw [encode_blkVal true hs7 hk]
  rfl

/-- `handleS` drops the cached message after its last block only for a response code (`code > DELETE`): the cached request
    of an upload stays -/
theorem postput_not_response {c : Nat} (h : isPostPut c = true) : ¬ c > codeDELETE := by
  rcases postput_codes h with h | h <;> rw [h] <;> decide

theorem downloadReq_continues {req : Msg} (s j : Nat) (h : isRequest req.code = true) :
    wantsToBeReceived (downloadReq req s j) = false := by
  unfold wantsToBeReceived
  simp [show (downloadReq req s j).block1 = none from rfl, show (downloadReq req s j).block2 = some _ from rfl,
    show (downloadReq req s j).code = req.code from rfl, h]

/-- the sender has `m` cached; the peer's message `q` takes the continue path and names block `j'` in the block option of
    `m`'s direction: the sender emits block `j` (`j'` for Block2; `j' + 1` for Block1, where the named block is the
    acknowledged one) and drops `m` with the last block of a response -/
theorem handleS_serve {cfg : Cfg} {s : Nat} {m q : Msg} {exp now : Int} {rcv : Option Entry} (app : App) {j j' : Nat}
    (hcfg : cfg.szx = s) (hs : s < 7) (htok : q.tok ≠ 0) (hlive : now ≤ exp) (hw : wantsToBeReceived q = false)
    (hq : q.block (sendBT m.code) = some (blkVal s j' true)) (hj' : j' < 2 ^ 20)
    (hjj : sendBT m.code = .b1 ∧ j = j' + 1 ∨ sendBT m.code = .b2 ∧ j = j')
    (hj : j * sizeN s ≤ m.body.length) (hne : 0 < m.body.length) (hlen : m.body.length < 4294967296) (hnum : j < 2 ^ 20) :
    handleS cfg ⟨some ⟨m, exp⟩, rcv⟩ now q app =
      (if (j + 1) * sizeN s < m.body.length ∨ ¬ m.code > codeDELETE then ⟨some ⟨m, exp⟩, rcv⟩ else ⟨none, rcv⟩,
       { reply := some (blockOf (sendBT m.code) m s cfg.maxSize j) }) := by
  subst hcfg
  have hs7 : cfg.szx ≤ 7 := Nat.le_of_lt hs
  have hcs : createSending m cfg.szx cfg.maxSize (blkVal cfg.szx j' true) =
      createSendingAt m (sendBT m.code) cfg.szx (j * sizeN cfg.szx) (bufLen cfg.szx cfg.maxSize) := by
    rw [createSending_blkVal m _ _ hs hj']
    rcases hjj with ⟨hb, rfl⟩ | ⟨hb, rfl⟩ <;> rw [hb]
  rw [handleS_continue htok (live_fresh ⟨m, exp⟩ now hlive) hw, continueSendingS_block hq, hcs,
    createSendingAt_aligned m _ _ hs7 hj hne hlen hnum]
  dsimp only
  rw [bufLen_small _ hs, decide_eq_decide.mpr (more_iff hj)]
  by_cases hmore : (j + 1) * sizeN cfg.szx < m.body.length
  · rw [decide_eq_true hmore, if_neg (fun h => nomatch h.1), if_pos (.inl hmore)]
    simp only [blockOf, bufLen_small _ hs, decide_eq_decide.mpr (more_iff hj), decide_eq_true hmore]
  · by_cases hc : m.code > codeDELETE
    · rw [decide_eq_false hmore, if_pos ⟨rfl, hc⟩, if_neg (fun h => h.elim hmore (fun h => h hc))]
      simp only [blockOf, bufLen_small _ hs, decide_eq_decide.mpr (more_iff hj), decide_eq_false hmore]
    · rw [decide_eq_false hmore, if_neg (fun h => hc h.2), if_pos (.inr hc)]
      simp only [blockOf, bufLen_small _ hs, decide_eq_decide.mpr (more_iff hj), decide_eq_false hmore]

end CoapVerif.Lemmas.BlockwiseRounds
