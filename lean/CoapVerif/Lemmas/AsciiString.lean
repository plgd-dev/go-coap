/-!
# Comparing ASCII strings by their bytes

`s ≤ t` on strings is defined through `String.toList`, and evaluating the UTF-8 decoder behind it on a literal is slow.
The characters of an ASCII string are its bytes: `le_iff_of_isAscii` compares two ASCII strings through `bytesAsChars`,
which evaluates fast (`Props/C10Wiring.sortedByOpt_of_bytes`, the order of the generated option type names).
-/
namespace CoapVerif.Lemmas.AsciiString

def bytesAsChars (s : String) : List Char := s.toByteArray.data.toList.map fun b => Char.ofNat b.toNat

def isAscii (s : String) : Bool := s.toByteArray.data.toList.all (· < 128)

theorem utf8EncodeChar_ofNat_toNat (b : UInt8) (h : b < 128) : String.utf8EncodeChar (Char.ofNat b.toNat) = [b] := by
  have hb : b.toNat < 128 := by simpa [UInt8.lt_iff_toNat_lt] using h
  have hv : (Char.ofNat b.toNat).val.toNat = b.toNat := by
    rw [Char.ofNat, dif_pos (by unfold Nat.isValidChar; omega)]
    simp [Char.ofNatAux]
  simp only [String.utf8EncodeChar, hv]
  rw [if_pos (by omega)]
  simp

theorem flatMap_utf8EncodeChar (bs : List UInt8) (h : bs.all (· < 128) = true) :
    (bs.map fun b => Char.ofNat b.toNat).flatMap String.utf8EncodeChar = bs := by
  induction bs with
  | nil => rfl
  | cons b r ih =>
    simp only [List.all_cons, Bool.and_eq_true, decide_eq_true_eq] at h
    simp only [List.map_cons, List.flatMap_cons, utf8EncodeChar_ofNat_toNat b h.1, ih h.2, List.singleton_append]

theorem toList_of_isAscii {s : String} (h : isAscii s = true) : s.toList = bytesAsChars s := by
  have hs : String.ofList (bytesAsChars s) = s := by
    apply String.toByteArray_inj.1
    rw [String.toByteArray_ofList, List.utf8Encode, bytesAsChars, flatMap_utf8EncodeChar _ h]
    exact ByteArray.ext (by simp)
  rw [← String.toList_ofList (l := bytesAsChars s), hs]

theorem le_iff_of_isAscii {s t : String} (hs : isAscii s = true) (ht : isAscii t = true) :
    s ≤ t ↔ bytesAsChars s ≤ bytesAsChars t := by
  rw [← toList_of_isAscii hs, ← toList_of_isAscii ht]
  exact Iff.rfl

end CoapVerif.Lemmas.AsciiString
