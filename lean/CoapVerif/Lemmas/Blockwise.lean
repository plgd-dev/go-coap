import CoapVerif.Go.Basic
import CoapVerif.Model.Blockwise
import CoapVerif.Lemmas.BlockwiseReceive
import CoapVerif.Lemmas.BlockwiseWorld
import CoapVerif.Props.C19
/-!
Lemmas for C04 (`Props/C04.lean`) about one endpoint of `Model/Blockwise.lean`, and about two endpoints and the relay.

The receiver: what an endpoint holds for a token is a prefix of what was supplied under that token and ETag (`HeldOK`), and what
it hands on is exact (`Complete`) or carries no data block of its direction (`NoData`), as long as the arriving blocks are
aligned slices of supplied bodies (`GoodData`; for the direction `dataBT` of a message's code: `GoodMsg`).  This is proved once
for a relation between messages and supplied bodies (`Tracks`, `Tracks.received`) and used here with `Matches R tok`, in
`Lemmas/BlockwiseFrame.lean` keyed by the cache key; then lifted through `Handle` (`handleS_cases`), an endpoint (`EpInv`) and
a run of arrivals (`run_inv`).  The sender: every block `createSendingWith` emits is an aligned slice
(`createSendingWith_slice`).  Both meet in `handleS_sources`, which says where what one `Handle` call replies and stores comes
from: hence everything an endpoint puts on the wire is `GoodMsg` for its peer as long as its sending slots hold whole messages
(`handleS_out`, `doStartS_out`), which is the invariant of two endpoints and the relay (`WInv`; as a `Sys` of
`Lemmas/BlockwiseWorld.lean`, one wording for both sides: `winvSys`, `winvSys_keeps`).
Further: the count behind `Props.C04.once` (`heldNe`, `startOf`, `handleS_once`; `deliveredFor`, `startsFor`), the blocks of a
fault-free transfer (`blockOf` with `uploadBlock`, `downloadBlock`, `uploadAck`, `downloadReq`; their rounds:
`Lemmas/BlockwiseRounds.lean`) and the data the `example`s of the property files evaluate (`exBlk`, `exEp`, `exR`, `exWorld`,
`exDeliveries`).

At the end of the file, in the namespace of `Lemmas/BlockwiseObserve.lean`: `RespCode`.
-/
namespace CoapVerif.Lemmas.Blockwise
open CoapVerif CoapVerif.Model.Blockwise CoapVerif.Model.BlockOpt CoapVerif.Generated.BlockwiseXfer
open CoapVerif.Lemmas.BlockwiseReceive

/-! ### Block sizes, the option value of a triple, slices of a body -/

theorem sizeN_pos {s : Nat} (h : s ≤ 7) : 0 < sizeN s :=
  (by decide : ∀ s, s ≤ 7 → 0 < sizeN s) s h

theorem mul_sizeN_eq_zero {num s : Nat} (hs : s ≤ 7) (h : num * sizeN s = 0) : num = 0 :=
  (Nat.mul_eq_zero.mp h).resolve_right (Nat.ne_of_gt (sizeN_pos hs))

theorem fits_nil {s : Nat} (hs : s ≤ 7) : fits startDirectIsLe ([] : Bytes).length (sizeN s) = true := by
  have hle : startDirectIsLe = false := rfl
  simp [fits, hle, sizeN_pos hs]

theorem bufLen_small {s : Nat} (m : Nat) (h : s < 7) : bufLen s m = sizeN s := by
  unfold bufLen sizeN bufferSize
  simp [Generated.Blockwise.szxBERT, h]

/-- the buffer of a block is a whole number of size units: one, or with BERT as many as fit the maximum message size -/
theorem bufLen_mul {s : Nat} (m : Nat) (h : s ≤ 7) : ∃ k, bufLen s m = k * sizeN s ∧ (s < 7 ∨ 1024 ≤ m → 0 < k) := by
  by_cases h7 : s < 7
  · exact ⟨1, by rw [bufLen_small m h7, Nat.one_mul], fun _ => Nat.one_pos⟩
  · have : s = 7 := by omega
    subst this
    refine ⟨m / 1024, ?_, fun hm => Nat.div_pos (hm.resolve_left h7) (by decide)⟩
    have h := (Props.C19.bert_buffer_multiple m).1
    have : sizeN 7 = 1024 := by decide
    unfold bufLen
    rw [h, this]
    omega

theorem getSzx_eq_min (a b : Nat) : getSzx a b = min a b := by
  unfold getSzx; split <;> omega

theorem getSzx_le_left (a b : Nat) : getSzx a b ≤ a := by rw [getSzx_eq_min]; omega
theorem getSzx_le_right (a b : Nat) : getSzx a b ≤ b := by rw [getSzx_eq_min]; omega

theorem decode_bounds {v s n : Nat} {m : Bool} (h : decodeBlock v = .ok (s, n, m)) : s ≤ 7 ∧ n < 2 ^ 20 := by
  have hd := Props.C19.decode_eq_spec v
  rw [h] at hd
  unfold Spec.BlockOpt.decode at hd
  by_cases hv : v < 2 ^ 24
  · simp only [hv, if_true, Except.toOption] at hd
    injection hd with hd
    injection hd with h1 hd
    injection hd with h2 _
    omega
  · simp [hv, Except.toOption] at hd

/-- raw option value of the block (szx, num, more) -/
def blkVal (szx num : Nat) (more : Bool) : Nat := num * 16 + (if more then 8 else 0) + szx

theorem encode_blkVal {szx num : Nat} (more : Bool) (hs : szx ≤ 7) (hn : num < 2 ^ 20) :
    encodeBlock szx (num : Int) more = .ok (blkVal szx num more) := by
  rw [Props.C19.encode_total szx (num : Int) more hs (by omega) (by omega)]
  simp [blkVal]

theorem decode_blkVal {szx num : Nat} (more : Bool) (hs : szx ≤ 7) (hn : num < 2 ^ 20) :
    decodeBlock (blkVal szx num more) = .ok (szx, num, more) :=
  Props.C19.decode_value more hs hn

def SliceAt (body : Bytes) (off : Nat) (pay : Bytes) : Prop := off ≤ body.length ∧ pay <+: body.drop off

theorem sliceAt_take_drop (body : Bytes) (off n : Nat) (h : off ≤ body.length) :
    SliceAt body off ((body.drop off).take n) := ⟨h, List.take_prefix _ _⟩

theorem prefix_append_slice {held body pay : Bytes} (hp : held <+: body) (hs : SliceAt body held.length pay) :
    held ++ pay <+: body := by
  obtain ⟨t, rfl⟩ := hp
  rw [SliceAt, List.drop_left] at hs
  exact (List.prefix_append_right_inj held).mpr hs.2

theorem prefix_append_slice_complete {held body pay : Bytes} (hp : held <+: body) (hs : SliceAt body held.length pay)
    (he : held.length + pay.length = body.length) : held ++ pay = body :=
  (prefix_append_slice hp hs).eq_of_length (by rw [List.length_append, he])

theorem slice_zero_complete {body pay : Bytes} (hs : SliceAt body 0 pay) (he : pay.length = body.length) : pay = body :=
  List.IsPrefix.eq_of_length hs.2 he

/-! ### The functions of the model, by one equation or one list of cases each
(`processReceived`: `Lemmas/BlockwiseReceive.lean`) -/

/-- `4294967296 = 2^32`: the body length is written into the Size1/Size2 option through `math.SafeCastTo[uint32]`, which
    fails for a longer body (`createSendingMessage`, `Do`) -/
theorem createSendingAt_spec {sm : Msg} {bt : BT} {szx off nb : Nat} {m : Msg} {more : Bool}
    (h : createSendingAt sm bt szx off nb = some (m, more)) :
    ∃ v, m = { (sm.setSize bt sm.body.length).setBlock bt v with body := (sm.body.drop off).take nb } ∧
      decodeBlock v = .ok (szx, off / sizeN szx, more) ∧
      more = decide (off + m.body.length ≠ sm.body.length) ∧
      (nb > 0 → off ≤ sm.body.length) ∧ sm.body.length < 4294967296 := by
  unfold createSendingAt at h
  simp only [Option.ite_none_left_eq_some] at h
  obtain ⟨_, hoff, hlen, h⟩ := h
  generalize he : encodeBlock _ _ _ = e at h
  cases e with
  | error _ => cases h
  | ok v =>
    cases h
    exact ⟨v, rfl, Props.C19.decode_encode _ _ _ _ he, rfl, fun hpos => Nat.le_of_not_gt fun hh => hoff ⟨hpos, hh⟩,
      Nat.lt_of_not_ge hlen⟩

theorem createSendingAt_fields {sm : Msg} {bt : BT} {szx off nb : Nat} {m : Msg} {more : Bool}
    (h : createSendingAt sm bt szx off nb = some (m, more)) :
    m.code = sm.code ∧ m.tok = sm.tok ∧ m.etag = sm.etag ∧ m.other = sm.other := by
  obtain ⟨v, hm, _⟩ := createSendingAt_spec h
  subst hm
  cases bt <;> exact ⟨rfl, rfl, rfl, rfl⟩

theorem createSendingAt_bodyless (hfix : refusesBodylessSending = true) {sm : Msg} (h : sm.body = []) (bt : BT) (szx off nb : Nat) :
    createSendingAt sm bt szx off nb = none := by
  unfold createSendingAt
  rw [if_pos ⟨hfix, h⟩]

theorem bodyless_test_neg {sm : Msg} (h : 0 < sm.body.length) : ¬ (refusesBodylessSending = true ∧ sm.body = []) := by
  intro hh
  rw [hh.2] at h
  exact absurd h (by simp)

theorem createSendingAt_aligned (sm : Msg) (bt : BT) {szx j : Nat} (nb : Nat) (hs7 : szx ≤ 7)
    (hj : j * sizeN szx ≤ sm.body.length) (hne : 0 < sm.body.length) (hlen : sm.body.length < 4294967296) (hnum : j < 2 ^ 20) :
    createSendingAt sm bt szx (j * sizeN szx) nb =
      some ({ (sm.setSize bt sm.body.length).setBlock bt
                (blkVal szx j (decide (j * sizeN szx + ((sm.body.drop (j * sizeN szx)).take nb).length ≠ sm.body.length))) with
              body := (sm.body.drop (j * sizeN szx)).take nb },
            decide (j * sizeN szx + ((sm.body.drop (j * sizeN szx)).take nb).length ≠ sm.body.length)) := by
  unfold createSendingAt
  rw [if_neg (bodyless_test_neg hne), if_neg (fun h => Nat.not_lt.mpr hj h.2), if_neg (Nat.not_le.mpr hlen)]
  simp only [Nat.mul_div_cancel _ (sizeN_pos hs7)]
  rw [encode_blkVal _ hs7 hnum]

theorem applyEtag_cases (r c : Msg) :
    (applyEtag r c = c ∧ (r.etag = c.etag ∨ r.etag = none ∨ c.etag = none)) ∨
    (applyEtag r c = { r with body := [], tok := c.tok, deadline := c.deadline } ∧ r.etag ≠ c.etag ∧
      r.etag ≠ none ∧ c.etag ≠ none) := by
  unfold applyEtag
  cases hr : r.etag <;> cases hc : c.etag
  · simp
  · simp
  · simp
  · rename_i a b
    by_cases hab : a = b
    · simp [hab]
    · simp [hab, restartTakesNewOptions]

/-- the message the payload is appended to: the held one (compatible ETags, not a first block that restarts), or a fresh
    one made from the block (ETag change; a first block, if `block0Restarts`) -/
theorem blockBase_cases (r c : Msg) (off : Nat) :
    (blockBase r c off = c ∧ (r.etag = c.etag ∨ r.etag = none ∨ c.etag = none)) ∨
    (blockBase r c off = { r with body := [], tok := c.tok, deadline := c.deadline }) := by
  unfold blockBase
  split
  · exact Or.inr rfl
  · rcases applyEtag_cases r c with ⟨h, hc⟩ | ⟨h, _⟩
    · exact Or.inl ⟨h, hc⟩
    · exact Or.inr h

theorem blockBase_fresh (r : Msg) (off : Nat) : (blockBase r { r with body := [] } off).body = [] := by
  rcases blockBase_cases r { r with body := [] } off with ⟨h, _⟩ | h <;> rw [h]

theorem absorb_restart {r c0 : Msg} {a b : Bytes} (hr : r.etag = some a) (hc : c0.etag = some b) (hab : a ≠ b) (off : Nat) :
    (absorb r c0 off).1.etag = some a ∧ (absorb r c0 off).1.other = r.other ∧ (absorb r c0 off).1.code = r.code ∧
    (absorb r c0 off).1.body = (if off = 0 then r.body else []) := by
  have he : blockBase r c0 off = { r with body := [], tok := c0.tok, deadline := c0.deadline } := by
    rcases blockBase_cases r c0 off with ⟨_, hcase⟩ | h
    · rw [hr, hc] at hcase
      rcases hcase with h | h | h
      · exact absurd (Option.some.inj h) hab
      · cases h
      · cases h
    · exact h
  unfold absorb
  simp only [he]
  by_cases h0 : off = 0
  · subst h0; simp [hr]
  · have : ¬ off = ([] : Bytes).length := by simpa using h0
    simp [h0, hr]

theorem absorb_same {r c0 : Msg} (h : r.etag = c0.etag) (off : Nat) (hnr : ¬ (block0Restarts = true ∧ off = 0)) :
    absorb r c0 off = if off = c0.body.length then ({ c0 with body := c0.body ++ r.body }, true) else (c0, false) := by
  have he : blockBase r c0 off = c0 := by
    unfold blockBase
    rw [if_neg hnr]
    rcases applyEtag_cases r c0 with ⟨h', _⟩ | ⟨_, hne, _⟩
    · exact h'
    · exact absurd h hne
  unfold absorb
  simp only [he]

theorem absorb_first_block (hfix : block0Restarts = true) (r c0 : Msg) :
    (absorb r c0 0).1 = { r with tok := c0.tok, deadline := c0.deadline } ∧ (absorb r c0 0).2 = true := by
  unfold absorb blockBase
  simp [hfix]

theorem absorb_tok (r c0 : Msg) (off : Nat) : (absorb r c0 off).1.tok = c0.tok := by
  have hb : (blockBase r c0 off).tok = c0.tok := by
    rcases blockBase_cases r c0 off with ⟨h, _⟩ | h <;> rw [h]
  unfold absorb
  simp only []
  split <;> exact hb

theorem live_some {slot : Option Entry} {e : Entry} {now : Int} (h : live slot now = some e) : slot = some e := by
  unfold live at h
  cases slot with
  | none => simp at h
  | some x =>
    simp only at h
    split at h
    · cases h
    · exact h

theorem live_expired (e : Entry) (now : Int) (h : now > e.validUntil) : live (some e) now = none := by
  simp [live, Entry.expired, h]

theorem live_fresh (e : Entry) (now : Int) (h : now ≤ e.validUntil) : live (some e) now = some e := by
  have : ¬ now > e.validUntil := by omega
  simp [live, Entry.expired, this]

theorem storeIfAbsent_free {slot : Option Entry} {now : Int} (e : Entry) (h : live slot now = none) :
    storeIfAbsent slot e now = (some e, false) := by
  unfold storeIfAbsent; rw [h]

theorem next_some {app : App} {d m : Msg} (h : next app none d = some m) : ∃ x, app d = some x ∧ m = { x with tok := d.tok } := by
  unfold next at h
  cases hx : app d with
  | none => rw [hx] at h; cases h
  | some x => rw [hx] at h; injection h with h; exact ⟨x, rfl, h.symm⟩

theorem startSendingS_cases {cfg : Cfg} {snd : Option Entry} {now : Int} {w : Option Msg} {mx blk : Nat}
    {snd' : Option Entry} {w' : Option Msg} (h : startSendingS cfg snd now w mx blk = .ok (snd', w')) :
    (snd' = snd ∧ w' = w) ∨
    ∃ m sm more v, w = some m ∧ createSendingFirst m mx cfg.maxSize blk = some (sm, more) ∧ snd' = some ⟨m, v⟩ ∧ w' = some sm := by
  unfold startSendingS at h
  cases w with
  | none => cases h; exact .inl ⟨rfl, rfl⟩
  | some m =>
    dsimp only at h
    split at h
    · cases h; exact .inl ⟨rfl, rfl⟩
    · cases hc : createSendingFirst m mx cfg.maxSize blk with
      | none => rw [hc] at h; cases h
      | some p =>
        obtain ⟨sm, more⟩ := p
        rw [hc] at h
        dsimp only at h
        unfold storeIfAbsent at h
        split at h
        · cases h
        · cases h; exact .inr ⟨m, sm, more, _, rfl, hc, rfl, rfl⟩

theorem blockReply_cases {bt : BT} {sent : Option Msg} {tok szx num held : Nat} {more : Bool} {m : Msg}
    (h : blockReply bt sent tok szx num held more = some m) :
    ∃ v n, decodeBlock v = .ok (szx, n, more) ∧
      ((∃ s, bt = .b2 ∧ sent = some s ∧ m = (nextRequest s).setBlock .b2 v) ∨
       ((bt = .b1 ∨ sent = none) ∧ m = (continueMsg tok).setBlock bt v)) := by
  unfold blockReply at h
  split at h
  · rename_i s
    simp only [] at h
    split at h
    · cases h
    · split at h
      · cases h
      · rename_i v he
        injection h with h
        exact ⟨v, _, Props.C19.decode_encode _ _ _ _ he, .inl ⟨s, rfl, rfl, h.symm⟩⟩
  · rename_i hne
    split at h
    · cases h
    · rename_i v he
      injection h with h
      refine ⟨v, _, Props.C19.decode_encode _ _ _ _ he, .inr ⟨?_, h.symm⟩⟩
      cases bt with
      | b1 => exact .inl rfl
      | b2 =>
        cases sent with
        | none => exact .inr rfl
        | some s => exact absurd rfl (hne s rfl)

theorem blockReply_body {bt : BT} {sent : Option Msg} {tok szx num held : Nat} {more : Bool} {m : Msg}
    (h : blockReply bt sent tok szx num held more = some m) : m.body = [] := by
  obtain ⟨v, _, _, ⟨s, _, _, rfl⟩ | ⟨_, rfl⟩⟩ := blockReply_cases h
  · rfl
  · cases bt <;> rfl

theorem doStartS_refused {cfg : Cfg} {snd : Option Entry} {now : Int} {r : Msg}
    (h : cfg.szx > 7 ∨ r.tok = 0 ∨ live snd now ≠ none) : doStartS cfg snd now r = (snd, none) := by
  unfold doStartS
  by_cases h7 : cfg.szx > 7
  · rw [if_pos h7]
  rw [if_neg h7]
  by_cases h0 : r.tok = 0
  · rw [if_pos h0]
  rw [if_neg h0]
  cases hl : live snd now with
  | none => exact absurd hl (h.resolve_left h7 |>.resolve_left h0)
  | some x => simp only [storeIfAbsent, hl, if_true]

theorem doStartS_free {cfg : Cfg} {snd : Option Entry} {now : Int} {r : Msg}
    (h7 : cfg.szx ≤ 7) (h0 : r.tok ≠ 0) (hl : live snd now = none) :
    doStartS cfg snd now r =
      if fits doDirectIsLe r.body.length (sizeN cfg.szx) then
        (some ⟨r, match r.deadline with | some d => d | none => never⟩, some r) else
      if !isPostPut r.code then (none, none) else
      if r.body.length ≥ 4294967296 then (none, none) else
      match encodeBlock cfg.szx 0 true with
      | .error _ => (none, none)
      | .ok v => (some ⟨r, match r.deadline with | some d => d | none => never⟩,
          some { r with size1 := some r.body.length, block1 := some v, body := r.body.take (bufLen cfg.szx cfg.maxSize) }) := by
  unfold doStartS
  rw [if_neg (Nat.not_lt.mpr h7), if_neg h0]
  simp only [storeIfAbsent_free _ hl, Bool.false_eq_true, if_false]
  rfl

/-- the ways `Do` can start: refused at once; given up, the slot emptied; or the request is registered and goes out whole or
    as the first block of its upload -/
theorem doStartS_cases (cfg : Cfg) (snd : Option Entry) (now : Int) (r : Msg) :
    doStartS cfg snd now r = (snd, none) ∨ doStartS cfg snd now r = (none, none) ∨
    ∃ m, doStartS cfg snd now r = (some ⟨r, match r.deadline with | some d => d | none => never⟩, some m) ∧
      (m = r ∨ isPostPut r.code = true ∧ ∃ v, encodeBlock cfg.szx 0 true = .ok v ∧
        m = { r with size1 := some r.body.length, block1 := some v, body := r.body.take (bufLen cfg.szx cfg.maxSize) }) := by
  by_cases h : cfg.szx > 7 ∨ r.tok = 0 ∨ live snd now ≠ none
  · exact .inl (doStartS_refused h)
  rw [doStartS_free (Nat.not_lt.mp fun h7 => h (.inl h7)) (fun h0 => h (.inr (.inl h0)))
    (Classical.byContradiction fun hl => h (.inr (.inr hl)))]
  by_cases hfit : fits doDirectIsLe r.body.length (sizeN cfg.szx) = true
  · rw [if_pos hfit]; exact .inr (.inr ⟨r, rfl, .inl rfl⟩)
  rw [if_neg hfit]
  by_cases hpp : (!isPostPut r.code) = true
  · rw [if_pos hpp]; exact .inr (.inl rfl)
  rw [if_neg hpp]
  by_cases hlen : r.body.length ≥ 4294967296
  · rw [if_pos hlen]; exact .inr (.inl rfl)
  rw [if_neg hlen]
  cases he : encodeBlock cfg.szx 0 true with
  | error _ => exact .inr (.inl rfl)
  | ok v => exact .inr (.inr ⟨_, rfl, .inr ⟨by simpa using hpp, v, rfl, rfl⟩⟩)

/-! ### The receiver's invariant for `processReceived` -/

/-- what an application supplied for transfer under a token and an ETag -/
structure Supplied where
  body : Bytes
  other : List (Nat × Bytes)
  code : Nat

/-- token → ETag → what is being sent to this endpoint under that token / ETag -/
abbrev Reg := Nat → Option Bytes → Option Supplied

/-- ETag discipline (RFC 7959 §2.4): representations under one token are told apart by their ETags; a
    representation without ETag is the only one of its token. -/
def Discipline (R : Reg) : Prop :=
  ∀ tok e s s', R tok none = some s → R tok (some e) = some s' → s = s'

def Matches (R : Reg) (tok : Nat) (m : Msg) (s : Supplied) : Prop :=
  R tok m.etag = some s ∧ m.other = s.other ∧ m.code = s.code ∧ m.tok = tok

def HeldOK (R : Reg) (tok : Nat) (c : Msg) : Prop := ∃ s, Matches R tok c s ∧ c.body <+: s.body

theorem supplied_unique {R : Reg} (hd : Discipline R) {k : Nat} {r c : Msg} {s s' : Supplied}
    (h1 : R k r.etag = some s) (h2 : R k c.etag = some s') (he : r.etag = c.etag ∨ r.etag = none ∨ c.etag = none) : s = s' := by
  rcases he with he | he | he
  · rw [he] at h1; rw [h1] at h2; exact Option.some.inj h2
  · rw [he] at h1
    cases hce : c.etag with
    | none => rw [hce] at h2; rw [h1] at h2; exact Option.some.inj h2
    | some e => rw [hce] at h2; exact hd k e s s' h1 h2
  · rw [he] at h2
    cases hre : r.etag with
    | none => rw [hre] at h1; rw [h1] at h2; exact Option.some.inj h2
    | some e => rw [hre] at h1; exact (hd k e s' s h2 h1).symm

/-- every data block of `r` is an aligned slice of what was supplied under its token and ETag, and a block
    without `more` ends that body -/
def GoodData (R : Reg) (bt : BT) (r : Msg) : Prop :=
  ∀ blk szx num more, r.block bt = some blk → decodeBlock blk = .ok (szx, num, more) →
    ∃ s, Matches R r.tok r s ∧ SliceAt s.body (num * sizeN szx) r.body ∧
      (more = false → num * sizeN szx + r.body.length = s.body.length)

def Complete (R : Reg) (tok : Nat) (d : Msg) : Prop :=
  ∃ s, R tok d.etag = some s ∧ d.body = s.body ∧ d.other = s.other ∧ d.code = s.code ∧ d.tok = tok

theorem Complete.self_tok {R : Reg} {tok : Nat} {d : Msg} (h : Complete R tok d) : Complete R d.tok d := by
  obtain ⟨s, c1, c2, c3, c4, c5⟩ := h
  exact ⟨s, by rw [c5]; exact c1, c2, c3, c4, rfl⟩

theorem removeBlockSize_fields (c : Msg) (bt : BT) :
    (c.removeBlockSize bt).etag = c.etag ∧ (c.removeBlockSize bt).body = c.body ∧ (c.removeBlockSize bt).other = c.other ∧
    (c.removeBlockSize bt).code = c.code ∧ (c.removeBlockSize bt).tok = c.tok := by
  cases bt <;> simp [Msg.removeBlockSize]

/-- What `processReceived` asks of a relation `M m s`, "message `m` is part of the transfer of `s`", to keep `m.body <+: s.body`:
    `M` is read off fields that `absorb` leaves alone or takes over from the arriving block, and tells bodies apart as the ETag
    discipline does. It is used for `Matches R tok` and, keyed by cache key alone, for `fun m s => R k m.etag = some s`. -/
structure Tracks (M : Msg → Supplied → Prop) : Prop where
  unique : ∀ {r c s s'}, M r s → M c s' → (r.etag = c.etag ∨ r.etag = none ∨ c.etag = none) → s = s'
  restart : ∀ {r c s s'}, M r s → M c s' → M { r with body := [], tok := c.tok, deadline := c.deadline } s
  body : ∀ {m s} (b : Bytes), M m s → M { m with body := b } s
  strip : ∀ {m s} (bt : BT), M m s → M (m.removeBlockSize bt) s

theorem matches_tracks {R : Reg} (hd : Discipline R) (tok : Nat) : Tracks (Matches R tok) where
  unique h h' he := supplied_unique hd h.1 h'.1 he
  restart h h' := ⟨h.1, h.2.1, h.2.2.1, h'.2.2.2⟩
  body _ h := h
  strip bt h := by
    obtain ⟨f1, _, f3, f4, f5⟩ := removeBlockSize_fields _ bt
    unfold Matches
    rw [f1, f3, f4, f5]
    exact h

theorem etag_tracks {R : Reg} (hd : Discipline R) (k : Nat) : Tracks (fun m s => R k m.etag = some s) where
  unique h h' he := supplied_unique hd h h' he
  restart h _ := h
  body _ h := h
  strip bt h := by rw [(removeBlockSize_fields _ bt).1]; exact h

theorem Tracks.absorbed {M : Msg → Supplied → Prop} (hM : Tracks M) {off : Nat} {r c0 : Msg} {s : Supplied}
    (hc : ∃ s', M c0 s' ∧ c0.body <+: s'.body) (hr : M r s)
    (hs : off = (blockBase r c0 off).body.length → SliceAt s.body off r.body) :
    M (absorb r c0 off).1 s ∧ (absorb r c0 off).1.body <+: s.body ∧
      ((absorb r c0 off).2 = true → off + r.body.length = s.body.length → (absorb r c0 off).1.body = s.body) := by
  obtain ⟨s', hm', hp'⟩ := hc
  have key : M (blockBase r c0 off) s ∧ (blockBase r c0 off).body <+: s.body := by
    rcases blockBase_cases r c0 off with ⟨he, hcase⟩ | he
    · have : s = s' := hM.unique hr hm' hcase
      subst this
      rw [he]; exact ⟨hm', hp'⟩
    · rw [he]
      exact ⟨hM.restart hr hm', List.nil_prefix⟩
  unfold absorb
  simp only []
  split
  · rename_i hoff
    have hsl := hs hoff
    rw [hoff] at hsl
    refine ⟨hM.body _ key.1, prefix_append_slice key.2 hsl, fun _ hend => ?_⟩
    exact prefix_append_slice_complete key.2 hsl (by omega)
  · exact ⟨key.1, key.2, by intro h; cases h⟩

/-- `processReceived` on a receiving slot whose held message is tracked by `M`: if what is held is a prefix of the body it
    belongs to, and every block `r` that reaches the reassembly is an aligned slice of the body `r` belongs to, then what is
    held afterwards is again such a prefix and everything handed on is `r` itself, unassembled, or carries a complete body -/
theorem Tracks.received {M : Msg → Supplied → Prop} (hM : Tracks M) (cfg : Cfg) (sl : Slots) (now : Int) (w : Option Msg)
    (r : Msg) (maxSzx : Nat) (app : App) (bt : BT)
    (hg : ∀ {blk szx num more}, Block sl r bt blk szx num more →
      ∃ s, M r s ∧ SliceAt s.body (num * sizeN szx) r.body ∧ (more = false → num * sizeN szx + r.body.length = s.body.length))
    (hinv : ∀ e, sl.rcv = some e → ∃ s, M e.msg s ∧ e.msg.body <+: s.body) :
    (∀ e, (processReceived cfg sl now w r maxSzx app bt).sl.rcv = some e → ∃ s, M e.msg s ∧ e.msg.body <+: s.body) ∧
    (∀ d ∈ (processReceived cfg sl now w r maxSzx app bt).delivered,
      (d = r ∧ (r.tok = 0 ∨ r.code = codeGET ∨ r.code = codeDELETE ∨ r.block bt = none)) ∨ ∃ s, M d s ∧ d.body = s.body) := by
  have H := processReceived_cases cfg sl now w r maxSzx app bt
  generalize processReceived cfg sl now w r maxSzx app bt = h at H
  cases H with
  | unassembled hu => exact ⟨hinv, fun d hdm => .inl ⟨List.mem_singleton.mp hdm, hu⟩⟩
  | single hb _ =>
    obtain ⟨s, hm, hsl, hend⟩ := hg hb
    refine ⟨hinv, fun d hdm => .inr ⟨s, ?_⟩⟩
    rw [List.mem_singleton.mp hdm]
    rw [Nat.zero_mul] at hsl hend
    exact ⟨hm, slice_zero_complete hsl (by simpa using hend rfl)⟩
  | refused rcv hr =>
    refine ⟨fun e he => ?_, fun d hdm => by cases hdm⟩
    rcases hr with rfl | rfl
    · exact hinv e he
    · cases he
  | @kept blk szx num more c0 off till m hb hc hr =>
    obtain ⟨s, hm, hsl, _⟩ := hg hb
    refine ⟨fun e he => ?_, fun d hdm => by cases hdm⟩
    injection he with he
    subst he
    rcases hc with ⟨_, _, rfl, rfl⟩ | ⟨ent, hl, rfl, rfl⟩
    · -- nothing held: the block is appended to an empty body only if it is block 0
      have hab := hM.absorbed (c0 := { r with body := [] }) (off := num * sizeN (getSzx szx maxSzx))
        ⟨s, hM.body [] hm, List.nil_prefix⟩ hm (by
        intro hoff
        rw [blockBase_fresh] at hoff
        have hn0 := mul_sizeN_eq_zero (Nat.le_trans (getSzx_le_left _ _) (decode_bounds hb.dec).1) hoff
        subst hn0
        simpa using hsl)
      exact ⟨s, hab.1, hab.2.1⟩
    · have hab := hM.absorbed (off := num * sizeN szx) (hinv ent (live_some hl)) hm (fun _ => hsl)
      exact ⟨s, hab.1, hab.2.1⟩
  | completed hb hl ha =>
    obtain ⟨s, hm, hsl, hend⟩ := hg hb
    have hab := hM.absorbed (off := _) (hinv _ (live_some hl)) hm (fun _ => hsl)
    refine ⟨fun e he => (by cases he), fun d hdm => .inr ⟨s, ?_⟩⟩
    rw [List.mem_singleton.mp hdm, (removeBlockSize_fields _ bt).2.1]
    exact ⟨hM.strip bt hab.1, hab.2.2 ha (hend rfl)⟩

theorem processReceived_inv {R : Reg} (hd : Discipline R) (cfg : Cfg) (sl : Slots) (now : Int) (w : Option Msg) (r : Msg)
    (maxSzx : Nat) (app : App) (bt : BT)
    (hg : GoodData R bt r) (hinv : ∀ e, sl.rcv = some e → HeldOK R r.tok e.msg) :
    (∀ e, (processReceived cfg sl now w r maxSzx app bt).sl.rcv = some e → HeldOK R r.tok e.msg) ∧
    (∀ d ∈ (processReceived cfg sl now w r maxSzx app bt).delivered,
      (d = r ∧ (r.tok = 0 ∨ r.code = codeGET ∨ r.code = codeDELETE ∨ r.block bt = none)) ∨ Complete R r.tok d) := by
  obtain ⟨h1, h2⟩ := (matches_tracks hd r.tok).received cfg sl now w r maxSzx app bt (fun hb => hg _ _ _ _ hb.opt hb.dec) hinv
  exact ⟨h1, fun d hdm => (h2 d hdm).imp_right fun ⟨s, hm, hb⟩ => ⟨s, hm.1, hb, hm.2⟩⟩

/-- what is held afterwards and what is handed on carry the token of the message being handled, provided the held reassembly
    message does (always so in the plain model; under the fresh key of the observe branch it carries the ORIGINAL token, which is
    what the `bytes.Equal` line looks at) -/
theorem processReceived_tok (cfg : Cfg) (sl : Slots) (now : Int) (w : Option Msg) (r : Msg) (mx : Nat) (app : App)
    (bt : BT) (hheld : ∀ e, sl.rcv = some e → e.msg.tok = r.tok) :
    (∀ e, (processReceived cfg sl now w r mx app bt).sl.rcv = some e → e.msg.tok = r.tok) ∧
    ∀ d ∈ (processReceived cfg sl now w r mx app bt).delivered, d.tok = r.tok := by
  have H := processReceived_cases cfg sl now w r mx app bt
  generalize processReceived cfg sl now w r mx app bt = h at H
  cases H with
  | unassembled _ => exact ⟨hheld, fun d hd => by rw [List.mem_singleton.mp hd]⟩
  | single _ _ => exact ⟨hheld, fun d hd => by rw [List.mem_singleton.mp hd]⟩
  | refused _ hr =>
    refine ⟨fun e he => ?_, fun _ hd => nomatch hd⟩
    rcases hr with rfl | rfl
    · exact hheld e he
    · cases he
  | completed _ hl _ =>
    refine ⟨fun _ he => (by cases he), fun d hd => ?_⟩
    rw [List.mem_singleton.mp hd, (removeBlockSize_fields _ bt).2.2.2.2, absorb_tok]
    exact hheld _ (live_some hl)
  | kept _ _ hc _ =>
    refine ⟨fun e he => ?_, fun _ hd => nomatch hd⟩
    cases he
    rw [absorb_tok]
    rcases hc with ⟨_, _, rfl, _⟩ | ⟨ent, hl, rfl, _⟩
    · rfl
    · exact hheld ent (live_some hl)

/-! ### `handleReceived` and `handleS`, path by path -/

/-- the block option that describes the payload of a message with this code, as `handleReceivedMessage` dispatches -/
def dataBT (code : Nat) : Option BT :=
  if isSignal code = true ∨ code = codeGET ∨ code = codeDELETE then none
  else if isPostPut code = true then some .b1 else some .b2

theorem dataBT_none_iff {code : Nat} : dataBT code = none ↔ isSignal code = true ∨ code = codeGET ∨ code = codeDELETE := by
  unfold dataBT
  constructor
  · intro h; split at h
    · assumption
    · split at h <;> cases h
  · intro h; rw [if_pos h]

theorem dataBT_not_getdelete {code : Nat} {bt : BT} (h : dataBT code = some bt) : ¬ (code = codeGET ∨ code = codeDELETE) := by
  intro hc
  unfold dataBT at h
  rw [if_pos (Or.inr hc)] at h
  cases h

theorem dataBT_sendBT {c : Nat} {bt : BT} (h : dataBT c = some bt) : sendBT c = bt := by
  unfold dataBT at h
  split at h
  · cases h
  · split at h
    · rename_i hpp; injection h with h; rw [← h]; simp [sendBT, hpp]
    · rename_i hpp; injection h with h; rw [← h]; simp [sendBT, hpp]

theorem postput_codes {c : Nat} (h : isPostPut c = true) : c = codePOST ∨ c = codePUT := by
  simpa [isPostPut] using h

theorem postput_dataBT {c : Nat} (h : isPostPut c = true) : dataBT c = some .b1 := by
  rcases postput_codes h with hc | hc <;> subst hc <;> decide

theorem postput_sendBT {c : Nat} (h : isPostPut c = true) : sendBT c = .b1 := by simp [sendBT, h]

theorem dataBT_b2 {c : Nat} (hsig : isSignal c = false) (hgd : ¬ (c = codeGET ∨ c = codeDELETE)) (hpp : isPostPut c = false) :
    dataBT c = some .b2 := by
  unfold dataBT
  rw [if_neg (fun hc => hc.elim (fun hs => Bool.noConfusion (hsig.symm.trans hs)) hgd), hpp]
  rfl

def GoodMsg (R : Reg) (r : Msg) : Prop := ∀ bt, dataBT r.code = some bt → GoodData R bt r

/-- `r` is handed on as it is because it carries no data block of its direction -/
def NoData (r : Msg) : Prop := r.tok = 0 ∨ dataBT r.code = none ∨ ∃ bt, dataBT r.code = some bt ∧ r.block bt = none

theorem fitSZX_none {r : Msg} {bt : BT} (mx : Nat) (h : r.block bt = none) : fitSZX r bt mx = mx := by
  unfold fitSZX; rw [h]

theorem fitSZX_some {r : Msg} {bt : BT} {v s n : Nat} {m : Bool} (mx : Nat) (h : r.block bt = some v)
    (hd : decodeBlock v = .ok (s, n, m)) : fitSZX r bt mx = min mx s := by
  unfold fitSZX; rw [h]; simp only [hd]
  split <;> omega

theorem fitSZX_le (r : Msg) (bt : BT) (mx : Nat) : fitSZX r bt mx ≤ mx := by
  unfold fitSZX
  split
  · exact Nat.le_refl _
  · split
    · exact Nat.le_refl _
    · split <;> omega

theorem finishReceived_rcv (cfg : Cfg) (now : Int) (h : HR) (mx blk : Nat) :
    (finishReceived cfg now h mx blk).sl.rcv = h.sl.rcv ∧ (finishReceived cfg now h mx blk).delivered = h.delivered := by
  unfold finishReceived
  split
  · exact ⟨rfl, rfl⟩
  · split <;> exact ⟨rfl, rfl⟩

theorem handleReceived_error {cfg : Cfg} {e} (he : encodeBlock cfg.szx 0 true = .error e) (sl : Slots) (now : Int)
    (r : Msg) (app : App) : handleReceived cfg sl now r app = { sl := sl, failed := true } := by
  unfold handleReceived; rw [he]

theorem handleReceived_nodata {cfg : Cfg} {blk0 : Nat} (he : encodeBlock cfg.szx 0 true = .ok blk0) (sl : Slots) (now : Int)
    {r : Msg} (app : App) (hbt : dataBT r.code = none) :
    handleReceived cfg sl now r app = { sl := sl, w := next app none r, delivered := [r] } ∨
    ∃ blk, handleReceived cfg sl now r app =
      finishReceived cfg now { sl := sl, w := next app none r, delivered := [r] } (fitSZX r .b2 cfg.szx) blk := by
  unfold handleReceived
  rw [he]
  by_cases hsig : isSignal r.code = true
  · exact Or.inl (if_pos hsig)
  · exact Or.inr ⟨_, (if_neg hsig).trans (if_pos ((dataBT_none_iff.mp hbt).resolve_left hsig))⟩

theorem handleReceived_data {cfg : Cfg} {blk0 : Nat} (he : encodeBlock cfg.szx 0 true = .ok blk0) (sl : Slots) (now : Int)
    {r : Msg} (app : App) {bt : BT} (hbt : dataBT r.code = some bt) :
    handleReceived cfg sl now r app =
      finishReceived cfg now (processReceived cfg sl now none r (fitSZX r bt cfg.szx) app bt) (fitSZX r bt cfg.szx) blk0 := by
  have hn : ¬ (isSignal r.code = true ∨ r.code = codeGET ∨ r.code = codeDELETE) := fun h => by
    rw [dataBT_none_iff.mpr h] at hbt; cases hbt
  unfold dataBT at hbt
  rw [if_neg hn] at hbt
  unfold handleReceived
  rw [he]
  simp only [if_neg (fun h => hn (.inl h)), if_neg (fun h => hn (.inr h))]
  by_cases hpp : isPostPut r.code = true
  · rw [if_pos hpp] at hbt ⊢; cases hbt; rfl
  · rw [if_neg hpp] at hbt ⊢; cases hbt; rfl

/-- what `Handle` makes of the outcome of the receive path: the local `recv` of `handleS` -/
def handled (tok : Nat) (h : HR) : Slots × Out :=
  if h.failed then (h.sl, { reply := some (entityIncomplete tok), delivered := h.delivered, err := true })
  else (h.sl, { reply := h.w, delivered := h.delivered })

theorem handled_sl (tok : Nat) (h : HR) : (handled tok h).1 = h.sl := by unfold handled; split <;> rfl
theorem handled_delivered (tok : Nat) (h : HR) : (handled tok h).2.delivered = h.delivered := by unfold handled; split <;> rfl

theorem handleS_receive {sl : Slots} {now : Int} {r : Msg} (h : r.tok = 0 ∨ live sl.snd now = none ∨ wantsToBeReceived r = true)
    (cfg : Cfg) (app : App) : handleS cfg sl now r app = handled r.tok (handleReceived cfg sl now r app) := by
  unfold handleS
  by_cases h0 : r.tok = 0
  · exact if_pos h0
  rw [if_neg h0]
  cases hl : live sl.snd now with
  | none => rfl
  | some e => exact if_pos ((h.resolve_left h0).resolve_left (by rw [hl]; exact Option.some_ne_none e))

theorem handleS_continue {sl : Slots} {now : Int} {r : Msg} {e : Entry} (h0 : r.tok ≠ 0) (hl : live sl.snd now = some e)
    (hw : wantsToBeReceived r = false) (cfg : Cfg) (app : App) :
    handleS cfg sl now r app =
      match continueSendingS cfg sl.snd r e.msg.code with
      | none => ({ sl with snd := none }, { err := true })
      | some (sm, more) => (if more = false ∧ e.msg.code > codeDELETE then { sl with snd := none } else sl, { reply := some sm }) := by
  unfold handleS
  rw [if_neg h0]
  simp only [hl, hw, Bool.false_eq_true, if_false]
  rfl

theorem handleS_continue_rcv {sl : Slots} {now : Int} {r : Msg} {e : Entry} (h0 : r.tok ≠ 0) (hl : live sl.snd now = some e)
    (hw : wantsToBeReceived r = false) (cfg : Cfg) (app : App) :
    (handleS cfg sl now r app).1.rcv = sl.rcv ∧ (handleS cfg sl now r app).2.delivered = [] := by
  rw [handleS_continue h0 hl hw]
  cases continueSendingS cfg sl.snd r e.msg.code with
  | none => exact ⟨rfl, rfl⟩
  | some p =>
    refine ⟨?_, rfl⟩
    show (if _ then _ else _ : Slots).rcv = _
    split <;> rfl

theorem handleS_path (sl : Slots) (now : Int) (r : Msg) :
    (r.tok = 0 ∨ live sl.snd now = none ∨ wantsToBeReceived r = true) ∨
    (∃ e, r.tok ≠ 0 ∧ live sl.snd now = some e ∧ wantsToBeReceived r = false) := by
  by_cases h0 : r.tok = 0
  · exact .inl (.inl h0)
  cases hl : live sl.snd now with
  | none => exact .inl (.inr (.inl rfl))
  | some e =>
    cases hw : wantsToBeReceived r with
    | true => exact .inl (.inr (.inr rfl))
    | false => exact .inr ⟨e, h0, rfl, rfl⟩

/-- what `Handle` does to the receiving slot and which messages it hands on: nothing; the arrival as it is, for a code
    without data direction; or what `processReceived` makes of it in the direction of its code -/
theorem handleS_cases (cfg : Cfg) (sl : Slots) (now : Int) (r : Msg) (app : App) :
    ((handleS cfg sl now r app).1.rcv = sl.rcv ∧ (handleS cfg sl now r app).2.delivered = []) ∨
    (dataBT r.code = none ∧ (handleS cfg sl now r app).1.rcv = sl.rcv ∧ (handleS cfg sl now r app).2.delivered = [r]) ∨
    (∃ bt mx, dataBT r.code = some bt ∧
      (handleS cfg sl now r app).1.rcv = (processReceived cfg sl now none r mx app bt).sl.rcv ∧
      (handleS cfg sl now r app).2.delivered = (processReceived cfg sl now none r mx app bt).delivered) := by
  rcases handleS_path sl now r with h | ⟨e, h0, hl, hw⟩
  · rw [handleS_receive h, handled_sl, handled_delivered]
    cases he : encodeBlock cfg.szx 0 true with
    | error e => rw [handleReceived_error he]; exact Or.inl ⟨rfl, rfl⟩
    | ok blk0 =>
      cases hbt : dataBT r.code with
      | none =>
        refine Or.inr (Or.inl ⟨rfl, ?_⟩)
        rcases handleReceived_nodata he sl now app hbt with h | ⟨blk, h⟩ <;> rw [h]
        · exact ⟨rfl, rfl⟩
        · exact finishReceived_rcv _ _ _ _ _
      | some bt =>
        rw [handleReceived_data he sl now app hbt]
        exact Or.inr (Or.inr ⟨bt, _, rfl, finishReceived_rcv _ _ _ _ _⟩)
  · exact .inl (handleS_continue_rcv h0 hl hw cfg app)

theorem handleS_inv {R : Reg} (hd : Discipline R) (cfg : Cfg) (sl : Slots) (now : Int) (r : Msg) (app : App)
    (hg : GoodMsg R r) (hinv : ∀ e, sl.rcv = some e → HeldOK R r.tok e.msg) :
    (∀ e, (handleS cfg sl now r app).1.rcv = some e → HeldOK R r.tok e.msg) ∧
    (∀ d ∈ (handleS cfg sl now r app).2.delivered, (d = r ∧ NoData r) ∨ Complete R r.tok d) := by
  rcases handleS_cases cfg sl now r app with ⟨g1, g2⟩ | ⟨gd, g1, g2⟩ | ⟨bt, mx, gd, g1, g2⟩ <;> rw [g1, g2]
  · exact ⟨hinv, fun d hdm => nomatch hdm⟩
  · exact ⟨hinv, fun d hdm => Or.inl ⟨List.mem_singleton.mp hdm, Or.inr (Or.inl gd)⟩⟩
  · obtain ⟨p1, p2⟩ := processReceived_inv hd cfg sl now none r mx app bt (hg bt gd) hinv
    refine ⟨p1, fun d hdm => (p2 d hdm).imp_left fun ⟨e1, e2⟩ => ⟨e1, ?_⟩⟩
    rcases e2 with e | e | e | e
    · exact Or.inl e
    · exact absurd (Or.inl e) (dataBT_not_getdelete gd)
    · exact absurd (Or.inr e) (dataBT_not_getdelete gd)
    · exact Or.inr (Or.inr ⟨bt, gd, e⟩)

/-! ### What a `put` does to a cache and to an endpoint -/

theorem put_same (c : Cache) (k : Nat) (v : Option Entry) : (c.put k v) k = v := by simp [Cache.put]
theorem put_other (c : Cache) {k k' : Nat} (v : Option Entry) (h : k' ≠ k) : (c.put k v) k' = c k' := by simp [Cache.put, h]

theorem put_forall {P : Nat → Entry → Prop} {c : Cache} (h : ∀ k e, c k = some e → P k e) (k : Nat) {v : Option Entry}
    (hv : ∀ e, v = some e → P k e) : ∀ k' e, (c.put k v) k' = some e → P k' e := by
  intro k' e he
  by_cases hk : k' = k
  · subst hk; rw [put_same] at he; exact hv e he
  · rw [put_other _ _ hk] at he; exact h k' e he

theorem put_put (c : Cache) (k : Nat) (a b : Option Entry) : (c.put k a).put k b = c.put k b := by
  funext k'
  simp only [Cache.put]
  split <;> rfl

theorem put_self (c : Cache) (k : Nat) : c.put k (c k) = c := by
  funext k'
  simp only [Cache.put]
  split
  · rename_i h; rw [h]
  · rfl

theorem put_slots_id (ep : Endpoint) (k : Nat) : ep.put k (ep.slots k) = ep := by
  unfold Endpoint.put Endpoint.slots
  simp only [put_self]

theorem ep_put_slots_same (ep : Endpoint) (k : Nat) (s : Slots) : (ep.put k s).slots k = s := by
  simp [Endpoint.put, Endpoint.slots, put_same]
theorem ep_put_slots_other (ep : Endpoint) {k k' : Nat} (s : Slots) (h : k' ≠ k) : (ep.put k s).slots k' = ep.slots k' := by
  simp [Endpoint.put, Endpoint.slots, put_other _ _ h]
theorem ep_put_slots (ep : Endpoint) (key k : Nat) (sl : Slots) :
    (ep.put key sl).slots k = if k = key then sl else ep.slots k := by
  by_cases h : k = key
  · subst h; simp only [if_true, ep_put_slots_same]
  · simp only [if_neg h, ep_put_slots_other ep sl h]
theorem put_sending (ep : Endpoint) (k : Nat) (sl : Slots) : (ep.put k sl).sending k = sl.snd :=
  congrArg Slots.snd (ep_put_slots_same ep k sl)
theorem put_receiving (ep : Endpoint) (k : Nat) (sl : Slots) : (ep.put k sl).receiving k = sl.rcv :=
  congrArg Slots.rcv (ep_put_slots_same ep k sl)
theorem put_caches_other (ep : Endpoint) {k k' : Nat} (sl : Slots) (h : k' ≠ k) :
    (ep.put k sl).sending k' = ep.sending k' ∧ (ep.put k sl).receiving k' = ep.receiving k' :=
  ⟨congrArg Slots.snd (ep_put_slots_other ep sl h), congrArg Slots.rcv (ep_put_slots_other ep sl h)⟩
theorem ep_put_cfg (ep : Endpoint) (k : Nat) (s : Slots) : (ep.put k s).toCfg = ep.toCfg := rfl

/-- a write to the sending cache alone at `k` (as `startSendingMessage` makes it), before or after a `put` at `k`, is one `put` -/
theorem snd_then_put (ep : Endpoint) (k : Nat) (x : Option Entry) (sl : Slots) :
    ({ ep with sending := ep.sending.put k x } : Endpoint).put k sl = ep.put k sl := by
  simp only [Endpoint.put, put_put]

theorem put_then_snd (ep : Endpoint) (k : Nat) (sl : Slots) (x : Option Entry) :
    ({ toCfg := ep.toCfg, sending := (ep.put k sl).sending.put k x, receiving := (ep.put k sl).receiving } : Endpoint) =
      ep.put k ⟨x, sl.rcv⟩ := by
  simp only [Endpoint.put, put_put]

theorem ep_put_comm (ep : Endpoint) {k1 k2 : Nat} (s1 s2 : Slots) (h : k1 ≠ k2) :
    (ep.put k1 s1).put k2 s2 = (ep.put k2 s2).put k1 s1 := by
  have comm : ∀ (c : Cache) (v1 v2 : Option Entry), (c.put k1 v1).put k2 v2 = (c.put k2 v2).put k1 v1 := by
    intro c v1 v2
    funext k
    simp only [Cache.put]
    by_cases h1 : k = k1
    · subst h1; rw [if_neg h, if_pos rfl, if_pos rfl]
    · rw [if_neg h1, if_neg h1]
  simp only [Endpoint.put]
  rw [comm, comm]

/-! ### The invariant over an endpoint and a run of arrivals -/

def EpInv (R : Reg) (ep : Endpoint) : Prop := ∀ tok e, ep.receiving tok = some e → HeldOK R tok e.msg

theorem handle_inv {R : Reg} (hd : Discipline R) (ep : Endpoint) (now : Int) (r : Msg) (app : App)
    (hg : GoodMsg R r) (hinv : EpInv R ep) :
    EpInv R (handle ep now r app).1 ∧
    (∀ d ∈ (handle ep now r app).2.delivered, (d = r ∧ NoData r) ∨ Complete R r.tok d) := by
  have hs := handleS_inv hd ep.toCfg (ep.slots r.tok) now r app hg (hinv r.tok)
  exact ⟨put_forall hinv r.tok hs.1, hs.2⟩

theorem sweep_receiving_cases (ep : Endpoint) (now : Int) (k : Nat) :
    (sweep ep now).receiving k = none ∨ (sweep ep now).receiving k = ep.receiving k := by
  simp only [sweep, sweepSlots, Endpoint.slots]
  cases ep.receiving k with
  | none => exact .inl rfl
  | some x =>
    simp only
    split
    · exact .inl rfl
    · exact .inr rfl

theorem sweep_sending_cases (ep : Endpoint) (now : Int) (k : Nat) :
    (sweep ep now).sending k = none ∨ (sweep ep now).sending k = ep.sending k := by
  have hlive : live (ep.sending k) now = none ∨ live (ep.sending k) now = ep.sending k := by
    cases ep.sending k with
    | none => exact .inl rfl
    | some e => simp only [live]; split <;> simp
  simp only [sweep, sweepSlots, Endpoint.slots]
  split
  · split
    · exact .inl rfl
    · exact hlive
  · exact hlive

theorem sweep_receiving_forall {P : Nat → Entry → Prop} {ep : Endpoint} (now : Int) (h : ∀ k e, ep.receiving k = some e → P k e) :
    ∀ k e, (sweep ep now).receiving k = some e → P k e := by
  intro k e he
  rcases sweep_receiving_cases ep now k with hs | hs <;> rw [hs] at he
  · cases he
  · exact h k e he

theorem sweep_sending_forall {P : Nat → Entry → Prop} {ep : Endpoint} (now : Int) (h : ∀ k e, ep.sending k = some e → P k e) :
    ∀ k e, (sweep ep now).sending k = some e → P k e := by
  intro k e he
  rcases sweep_sending_cases ep now k with hs | hs <;> rw [hs] at he
  · cases he
  · exact h k e he

theorem sweep_removes (ep : Endpoint) (now : Int) (k : Nat) :
    (∀ e, ep.receiving k = some e → now > e.validUntil → (sweep ep now).receiving k = none ∧ (sweep ep now).sending k = none) ∧
    (∀ e, ep.sending k = some e → now > e.validUntil → (sweep ep now).sending k = none) := by
  constructor
  · intro e he hexp
    simp [sweep, sweepSlots, Endpoint.slots, he, Entry.expired, hexp]
  · intro e he hexp
    simp only [sweep, sweepSlots, Endpoint.slots, he]
    cases hr : ep.receiving k with
    | none => simp [live_expired e now hexp]
    | some x =>
      simp only
      split
      · rfl
      · simp [live_expired e now hexp]

theorem sweep_inv {R : Reg} (ep : Endpoint) (now : Int) (hinv : EpInv R ep) : EpInv R (sweep ep now) :=
  sweep_receiving_forall now hinv

theorem step_inv {R : Reg} (hd : Discipline R) (app : App) (ep : Endpoint) (a : Arrival)
    (hg : ∀ now r, a = .msg now r → GoodMsg R r) (hinv : EpInv R ep) :
    EpInv R (ep.step app a).1 ∧
    (∀ d ∈ (ep.step app a).2, (∃ now, a = .msg now d ∧ NoData d) ∨ Complete R d.tok d) := by
  cases a with
  | msg now r =>
    obtain ⟨h1, h2⟩ := handle_inv hd ep now r app (hg now r rfl) hinv
    refine ⟨h1, ?_⟩
    intro d hdm
    rcases h2 d hdm with ⟨e1, e2⟩ | hc
    · subst e1; exact Or.inl ⟨now, rfl, e2⟩
    · exact Or.inr hc.self_tok
  | sweep now => exact ⟨sweep_inv ep now hinv, by intro d hdm; simp [Endpoint.step] at hdm⟩

theorem Endpoint.isRun (app : App) : Run.IsRun (Endpoint.step app) (Endpoint.run app) := ⟨fun _ => rfl, fun _ _ _ => rfl⟩

theorem run_inv {R : Reg} (hd : Discipline R) (app : App) (as : List Arrival) :
    ∀ (ep : Endpoint), (∀ now r, Arrival.msg now r ∈ as → GoodMsg R r) → EpInv R ep →
    EpInv R (Endpoint.run app ep as).1 ∧
    (∀ d ∈ (Endpoint.run app ep as).2, (∃ now, Arrival.msg now d ∈ as ∧ NoData d) ∨ Complete R d.tok d) := by
  intro ep hg
  refine (Endpoint.isRun app).induct as (fun ep hinv a ha => ?_) ep
  obtain ⟨s1, s2⟩ := step_inv hd app ep a (fun now r h => hg now r (h ▸ ha)) hinv
  exact ⟨s1, fun d hdm => (s2 d hdm).imp_left fun ⟨now, e, nd⟩ => ⟨now, e ▸ ha, nd⟩⟩

/-! ### The count behind `Props.C04.once`
A potential: the messages handed on so far plus `heldNe` of the receiving slot never exceed `heldNe` at the outset plus the
number of arrivals that can start a body (`startOf`). -/

/-- 1 if the slot holds bytes -/
def heldNe (slot : Option Entry) : Nat :=
  match slot with
  | some e => if e.msg.body = [] then 0 else 1
  | none => 0

/-- 1 if `r` can start a body in direction `bt`: it carries no such block option, or block number 0 -/
def isStartBlock (r : Msg) (bt : BT) : Nat :=
  match r.block bt with
  | none => 1
  | some v =>
    match decodeBlock v with
    | .ok (_, num, _) => if num = 0 then 1 else 0
    | .error _ => 0

theorem absorb_held_or_start (r c0 : Msg) (off : Nat) :
    ((absorb r c0 off).2 = true → c0.body ≠ [] ∨ off = 0) ∧
    ((absorb r c0 off).1.body ≠ [] → c0.body ≠ [] ∨ off = 0) := by
  have hb : (blockBase r c0 off).body = c0.body ∨ (blockBase r c0 off).body = [] := by
    rcases blockBase_cases r c0 off with ⟨h, _⟩ | h <;> rw [h] <;> simp
  unfold absorb
  simp only []
  split
  · rename_i hoff
    -- appended: the offset is the length of what is held, or of nothing
    have key : c0.body ≠ [] ∨ off = 0 := by
      by_cases hc : c0.body = []
      · have : (blockBase r c0 off).body = [] := hb.elim (fun h => h.trans hc) id
        exact .inr (by rw [hoff, this]; rfl)
      · exact .inl hc
    exact ⟨fun _ => key, fun _ => key⟩
  · exact ⟨fun h => Bool.noConfusion h, fun hne => hb.elim (fun h => .inl (h ▸ hne)) (fun h => absurd h hne)⟩

theorem heldNe_some_of_ne {e : Entry} (h : e.msg.body ≠ []) : heldNe (some e) = 1 := by
  simp [heldNe, h]

theorem heldNe_live {slot : Option Entry} {now : Int} {e : Entry} (h : live slot now = some e) (hne : e.msg.body ≠ []) :
    heldNe slot = 1 := by
  rw [live_some h]; exact heldNe_some_of_ne hne

/-- a block at offset 0 is block 0 -/
theorem isStartBlock_of_off {r : Msg} {bt : BT} {blk szx num s : Nat} {more : Bool} (hb : r.block bt = some blk)
    (hdec : decodeBlock blk = .ok (szx, num, more)) (hs : s ≤ 7) (h : num * sizeN s = 0) : isStartBlock r bt = 1 := by
  simp [isStartBlock, hb, hdec, mul_sizeN_eq_zero hs h]

theorem processReceived_once (cfg : Cfg) (sl : Slots) (now : Int) (w : Option Msg) (r : Msg)
    (maxSzx : Nat) (app : App) (bt : BT) (htok : r.tok ≠ 0) (hcode : ¬ (r.code = codeGET ∨ r.code = codeDELETE)) :
    (processReceived cfg sl now w r maxSzx app bt).delivered.length +
        heldNe (processReceived cfg sl now w r maxSzx app bt).sl.rcv ≤ heldNe sl.rcv + isStartBlock r bt := by
  have hc := processReceived_cases cfg sl now w r maxSzx app bt
  generalize processReceived cfg sl now w r maxSzx app bt = res at hc ⊢
  cases hc with
  | unassembled hun =>
    have hb : r.block bt = none := (hun.resolve_left htok).elim (fun h => absurd (.inl h) hcode)
      (fun h => h.elim (fun h => absurd (.inr h) hcode) id)
    simp only [isStartBlock, hb]
    exact Nat.le_of_eq (Nat.add_comm 1 _)
  | single hblk _ =>
    rw [isStartBlock_of_off hblk.opt hblk.dec (Nat.le_refl 7) (Nat.zero_mul _)]
    exact Nat.le_of_eq (Nat.add_comm 1 _)
  | refused rcv hr =>
    rcases hr with rfl | rfl
    · exact Nat.le_add_right _ _ |> Nat.le_trans (by simp)
    · simp [heldNe]
  | @kept blk szx num more c0 off till m hblk hc0 _ =>
    -- bytes are held afterwards only if bytes were held before or the block is at offset 0
    have hs7 := (decode_bounds hblk.dec).1
    simp only [List.length_nil, Nat.zero_add]
    by_cases hne : (absorb r c0 off).1.body = []
    · simp [heldNe, hne]
    · rw [heldNe_some_of_ne hne]
      rcases (absorb_held_or_start r c0 off).2 hne, hc0 with ⟨h | h, ⟨_, _, rfl, rfl⟩ | ⟨ent, hl, rfl, rfl⟩⟩
      · exact absurd rfl h
      · rw [heldNe_live hl h]; omega
      · rw [isStartBlock_of_off hblk.opt hblk.dec (Nat.le_trans (getSzx_le_left _ _) hs7) h]; omega
      · rw [isStartBlock_of_off hblk.opt hblk.dec hs7 h]; omega
  | @completed blk szx num ent hblk hl happ =>
    -- … and a body is completed only under the same condition
    have h0 : heldNe (none : Option Entry) = 0 := rfl
    rw [List.length_singleton, h0]
    rcases (absorb_held_or_start r ent.msg (num * sizeN szx)).1 happ with h | h
    · rw [heldNe_live hl h]; omega
    · rw [isStartBlock_of_off hblk.opt hblk.dec (decode_bounds hblk.dec).1 h]; omega

/-- 1 if the arrival of `r` can start a body: not a data block at all, or block number 0 -/
def startOf (r : Msg) : Nat :=
  match dataBT r.code with
  | none => 1
  | some bt => isStartBlock r bt

theorem handleS_once (cfg : Cfg) (sl : Slots) (now : Int) (r : Msg) (app : App) (htok : r.tok ≠ 0) :
    (handleS cfg sl now r app).2.delivered.length + heldNe (handleS cfg sl now r app).1.rcv ≤ heldNe sl.rcv + startOf r := by
  rcases handleS_cases cfg sl now r app with ⟨g1, g2⟩ | ⟨gd, g1, g2⟩ | ⟨bt, mx, gd, g1, g2⟩ <;> rw [g1, g2]
  · simp
  · simp [startOf, gd]; omega
  · have := processReceived_once cfg sl now none r mx app bt htok (dataBT_not_getdelete gd)
    simpa [startOf, gd] using this

/-- number of messages handed to the application while handling arrivals that carry token `tok` -/
def deliveredFor (app : App) (tok : Nat) : Endpoint → List Arrival → Nat
  | _, [] => 0
  | ep, a :: as =>
    (match a with
     | .msg _ r => if r.tok = tok then (ep.step app a).2.length else 0
     | .sweep _ => 0) + deliveredFor app tok (ep.step app a).1 as

/-- number of arrivals with token `tok` that can start a body (no data block, or block number 0) -/
def startsFor (tok : Nat) : List Arrival → Nat
  | [] => 0
  | .msg _ r :: as => (if r.tok = tok then startOf r else 0) + startsFor tok as
  | .sweep _ :: as => startsFor tok as

theorem startsFor_eq_zero {tok : Nat} {as : List Arrival}
    (h : ∀ now r, Arrival.msg now r ∈ as → r.tok = tok → startOf r = 0) : startsFor tok as = 0 := by
  induction as with
  | nil => rfl
  | cons a as ih =>
    cases a with
    | sweep now => exact ih (fun now r hm => h now r (List.mem_cons_of_mem _ hm))
    | msg now r =>
      simp only [startsFor]
      rw [ih (fun now r hm => h now r (List.mem_cons_of_mem _ hm))]
      by_cases ht : r.tok = tok
      · rw [if_pos ht, h now r List.mem_cons_self ht]
      · rw [if_neg ht]

theorem heldNe_sweep (ep : Endpoint) (now : Int) (tok : Nat) :
    heldNe ((sweep ep now).receiving tok) ≤ heldNe (ep.receiving tok) := by
  rcases sweep_receiving_cases ep now tok with h | h <;> rw [h]
  · exact Nat.zero_le _
  · exact Nat.le_refl _

/-! ### The sender: every block `createSendingWith` emits is an aligned slice -/

theorem sendOffWith_aligned (skip : Bool) (bt : BT) {szx : Nat} (num : Nat) {nb k : Nat} (h : szx ≤ 7) (hk : nb = k * sizeN szx) :
    sendOffWith skip bt szx num nb / sizeN szx * sizeN szx = sendOffWith skip bt szx num nb := by
  have hp := sizeN_pos h
  unfold sendOffWith
  rw [hk]
  split
  · rw [← Nat.add_mul, Nat.mul_div_cancel _ hp]
  · rw [Nat.add_zero, Nat.mul_div_cancel _ hp]

theorem setBlock_block (m : Msg) (bt : BT) (v : Nat) : (m.setBlock bt v).block bt = some v := by
  cases bt <;> rfl

/-- `createSendingMessage` succeeds: the block option decodes, and the rest is `createSendingAt` with the negotiated exponent
    and a buffer of `k ≥ 1` size units -/
theorem createSendingWith_at {skip : Bool} {sm : Msg} {mx ms blk : Nat} {m : Msg} {more : Bool}
    (hms : mx < 7 ∨ 1024 ≤ ms) (h : createSendingWith skip sm mx ms blk = some (m, more)) :
    ∃ s0 n0 m0 k, decodeBlock blk = .ok (s0, n0, m0) ∧ getSzx s0 mx ≤ 7 ∧ 0 < k ∧
      bufLen (getSzx s0 mx) ms = k * sizeN (getSzx s0 mx) ∧
      createSendingAt sm (sendBT sm.code) (getSzx s0 mx)
        (sendOffWith skip (sendBT sm.code) (getSzx s0 mx) n0 (bufLen (getSzx s0 mx) ms)) (bufLen (getSzx s0 mx) ms) = some (m, more) := by
  unfold createSendingWith at h
  split at h
  · cases h
  · rename_i s0 n0 m0 hdec
    have hs7 : getSzx s0 mx ≤ 7 := Nat.le_trans (getSzx_le_left _ _) (decode_bounds hdec).1
    obtain ⟨k, hk, hpos⟩ := bufLen_mul ms hs7
    refine ⟨s0, n0, m0, k, hdec, hs7, hpos ?_, hk, h⟩
    have := getSzx_le_right s0 mx
    omega

theorem createSendingWith_slice {skip : Bool} {sm : Msg} {mx ms blk : Nat} {m : Msg} {more : Bool}
    (hms : mx < 7 ∨ 1024 ≤ ms) (h : createSendingWith skip sm mx ms blk = some (m, more)) :
    ∃ v szx num, m.block (sendBT sm.code) = some v ∧ decodeBlock v = .ok (szx, num, more) ∧ szx ≤ mx ∧
      SliceAt sm.body (num * sizeN szx) m.body ∧ m.body.length ≤ bufLen szx ms ∧
      (more = false ↔ num * sizeN szx + m.body.length = sm.body.length) ∧
      m.code = sm.code ∧ m.tok = sm.tok ∧ m.etag = sm.etag ∧ m.other = sm.other := by
  obtain ⟨s0, n0, m0, k, _, hs7, hk0, hk, h⟩ := createSendingWith_at hms h
  obtain ⟨v, hm, hdv, hmore, hoff, _⟩ := createSendingAt_spec h
  have hal := sendOffWith_aligned skip (sendBT sm.code) n0 hs7 hk
  have hpos : 0 < bufLen (getSzx s0 mx) ms := hk ▸ Nat.mul_pos hk0 (sizeN_pos hs7)
  refine ⟨v, getSzx s0 mx, _, ?_, hdv, getSzx_le_right _ _, ?_, ?_, ?_, createSendingAt_fields h⟩
  · rw [hm]; exact setBlock_block _ _ _
  · rw [hal, hm]
    exact sliceAt_take_drop _ _ _ (hoff hpos)
  · rw [hm]; simp; omega
  · rw [hal, hmore]; simp

theorem createSendingWith_fields {skip : Bool} {sm : Msg} {mx ms blk : Nat} {m : Msg} {more : Bool}
    (h : createSendingWith skip sm mx ms blk = some (m, more)) :
    m.code = sm.code ∧ m.tok = sm.tok ∧ m.etag = sm.etag ∧ m.other = sm.other := by
  unfold createSendingWith at h
  split at h
  · cases h
  · exact createSendingAt_fields h

theorem createSending_code {sm : Msg} {mx ms blk : Nat} {m : Msg} {more : Bool}
    (h : createSending sm mx ms blk = some (m, more)) : m.code = sm.code ∧ m.tok = sm.tok :=
  ⟨(createSendingWith_fields h).1, (createSendingWith_fields h).2.1⟩

theorem createSendingWith_bodyless {skip : Bool} {m : Msg} (h : m.body = []) (mx ms blk : Nat) :
    createSendingWith skip m mx ms blk = none := by
  unfold createSendingWith
  split
  · rfl
  · exact createSendingAt_bodyless rfl h _ _ _ _

/-- a POST/PUT block cut by `createSendingMessage` with the "already sent" addend never has block number 0.  The continuation
    path always passes the addend (`block1SkipsSent`); the first call of `startSendingMessage` / one-way `WriteMessage` does so
    iff `startSkipsSent` (DESIGN §6 O1). -/
theorem createSendingWith_block1_not_first {skip : Bool} (hskip : skip = true) {sm : Msg} {mx ms blk : Nat} {m : Msg} {more : Bool}
    (hpp : isPostPut sm.code = true) (hms : mx < 7 ∨ 1024 ≤ ms) (h : createSendingWith skip sm mx ms blk = some (m, more)) :
    startOf m = 0 := by
  obtain ⟨s0, n0, m0, k, _, hs7, hk1, hk, h⟩ := createSendingWith_at hms h
  obtain ⟨v, hm, hdv, _⟩ := createSendingAt_spec h
  -- the offset is the block's own plus a buffer of `k ≥ 1` blocks: its number is at least 1
  have hsz := sizeN_pos hs7
  have hnum : 1 ≤ sendOffWith skip (sendBT sm.code) (getSzx s0 mx) n0 (bufLen (getSzx s0 mx) ms) / sizeN (getSzx s0 mx) := by
    rw [postput_sendBT hpp]
    unfold sendOffWith
    simp only [hskip, beq_self_eq_true, Bool.and_self, if_true, hk]
    rw [← Nat.add_mul, Nat.mul_div_cancel _ hsz]
    omega
  have hblk : m.block .b1 = some v := by
    rw [hm, postput_sendBT hpp]; rfl
  unfold startOf
  rw [(createSendingAt_fields h).1, postput_dataBT hpp]
  simp only [isStartBlock, hblk, hdv]
  rw [if_neg (by omega)]

/-! ### Where what one `Handle` call replies and stores comes from -/

/-- the answers the layer builds itself: 2.31 for a Block1 block, or the stored request again, for the next block of the
    response `r` -/
inductive Layer (sl : Slots) (r : Msg) : Msg → Prop
  | ack (v : Nat) : Layer sl r ((continueMsg r.tok).setBlock .b1 v)
  | followUp {e : Entry} {blk szx num : Nat} {more : Bool} (v : Nat) : sl.snd = some e → dataBT r.code = some .b2 →
      Block sl r .b2 blk szx num more → Layer sl r ((nextRequest e.msg).setBlock .b2 v)

theorem Layer.body {sl : Slots} {r m : Msg} (h : Layer sl r m) : m.body = [] := by cases h <;> rfl

/-- where the reply of one `Handle` call for `r` comes from; `ds` are the messages the call hands to the application -/
inductive Reply (cfg : Cfg) (sl : Slots) (r : Msg) (app : App) (ds : List Msg) : Msg → Prop
  /-- 4.08 -/
  | refused : Reply cfg sl r app ds (entityIncomplete r.tok)
  | layer {m : Msg} : Layer sl r m → Reply cfg sl r app ds m
  /-- what the application answered to a message it was handed, under that message's token … -/
  | answer {d x : Msg} : d ∈ ds → app d = some x → Reply cfg sl r app ds { x with tok := d.tok }
  /-- … or the first block of it -/
  | answerBlock {d x sm : Msg} {mx blk : Nat} {more : Bool} : d ∈ ds → app d = some x → mx ≤ cfg.szx →
      createSendingFirst { x with tok := d.tok } mx cfg.maxSize blk = some (sm, more) → Reply cfg sl r app ds sm
  /-- the block of the stored message that `r` asks for -/
  | nextBlock {e : Entry} {blk : Nat} {sm : Msg} {more : Bool} : sl.snd = some e →
      createSending e.msg cfg.szx cfg.maxSize blk = some (sm, more) → Reply cfg sl r app ds sm

/-- what the sending slot holds after the call: what it held, nothing, or what the application answered to a message it was
    handed and that is now being sent block by block -/
inductive Stored (cfg : Cfg) (sl : Slots) (app : App) (ds : List Msg) : Option Entry → Prop
  | same : Stored cfg sl app ds sl.snd
  | none : Stored cfg sl app ds none
  | answer {d x sm : Msg} {mx blk : Nat} {more : Bool} (v : Int) : d ∈ ds → app d = some x → mx ≤ cfg.szx →
      createSendingFirst { x with tok := d.tok } mx cfg.maxSize blk = some (sm, more) →
      Stored cfg sl app ds (some ⟨{ x with tok := d.tok }, v⟩)

theorem processReceived_sources (cfg : Cfg) (sl : Slots) (now : Int) (r : Msg) (mx : Nat) (app : App) {bt : BT}
    (hbt : dataBT r.code = some bt) :
    ∀ m, (processReceived cfg sl now none r mx app bt).w = some m →
      Layer sl r m ∨
      ∃ d ∈ (processReceived cfg sl now none r mx app bt).delivered, ∃ x, app d = some x ∧ m = { x with tok := d.tok } := by
  have H := processReceived_cases cfg sl now none r mx app bt
  generalize processReceived cfg sl now none r mx app bt = h at H
  intro m hm
  cases H with
  | unassembled _ => exact .inr ⟨r, List.mem_singleton_self r, next_some hm⟩
  | single _ _ => exact .inr ⟨r, List.mem_singleton_self r, next_some hm⟩
  | refused _ _ => cases hm
  | completed _ _ _ => exact .inr ⟨_, List.mem_singleton_self _, next_some hm⟩
  | kept _ hb _ hr =>
    cases hm
    obtain ⟨v, _, _, ⟨s, rfl, hs, rfl⟩ | ⟨hbt', rfl⟩⟩ := blockReply_cases hr
    · cases hsnd : sl.snd with
      | none => rw [hsnd] at hs; cases hs
      | some e => rw [hsnd] at hs; cases hs; exact .inl (.followUp v hsnd hbt hb)
    · cases bt with
      | b1 => exact .inl (.ack v)
      | b2 =>
        rcases hbt' with hbt' | hbt'
        · cases hbt'
        · -- a 2.31 to a Block2 block needs an empty sending slot: such a block does not reach the reassembly (`Block.sent`)
          exact absurd ⟨rfl, by cases hsnd : sl.snd <;> simp [hsnd] at hbt' ⊢⟩ hb.sent

/-- `startSendingMessage` at the end of `handleReceivedMessage`, given where the response writer's message comes from: an answer
    of the layer has no body and goes out as it is -/
theorem finishReceived_sources {cfg : Cfg} {sl : Slots} {r : Msg} {app : App} (now : Int) (h : HR) {mx : Nat} (blk : Nat)
    (hmx : mx ≤ cfg.szx) (hsnd : h.sl.snd = sl.snd)
    (hw : ∀ m, h.w = some m → Layer sl r m ∨ ∃ d ∈ h.delivered, ∃ x, app d = some x ∧ m = { x with tok := d.tok }) :
    ((finishReceived cfg now h mx blk).failed = false → ∀ m, (finishReceived cfg now h mx blk).w = some m →
      Reply cfg sl r app (finishReceived cfg now h mx blk).delivered m) ∧
    Stored cfg sl app (finishReceived cfg now h mx blk).delivered (finishReceived cfg now h mx blk).sl.snd := by
  have hwhole : ∀ m, h.w = some m → Reply cfg sl r app h.delivered m := fun m hm =>
    (hw m hm).elim .layer fun ⟨d, hd, x, hx, e⟩ => e ▸ .answer hd hx
  unfold finishReceived
  split
  · rename_i hf
    exact ⟨fun hnf => (nomatch hf.symm.trans hnf), hsnd ▸ .same⟩
  · split
    · exact ⟨fun hnf => (nomatch hnf), hsnd ▸ .same⟩
    · rename_i snd' w' hst
      rcases startSendingS_cases hst with ⟨rfl, rfl⟩ | ⟨m, sm, more, v, hm, hc, rfl, rfl⟩
      · exact ⟨fun _ => hwhole, hsnd ▸ .same⟩
      · rcases hw m hm with hl | ⟨d, hd, x, hx, rfl⟩
        · rw [createSendingFirst, createSendingWith_bodyless hl.body] at hc; cases hc
        · exact ⟨fun _ m' hm' => by cases hm'; exact .answerBlock hd hx hmx hc, .answer v hd hx hmx hc⟩

theorem handleReceived_sources (cfg : Cfg) (sl : Slots) (now : Int) (r : Msg) (app : App) :
    ((handleReceived cfg sl now r app).failed = false → ∀ m, (handleReceived cfg sl now r app).w = some m →
      Reply cfg sl r app (handleReceived cfg sl now r app).delivered m) ∧
    Stored cfg sl app (handleReceived cfg sl now r app).delivered (handleReceived cfg sl now r app).sl.snd := by
  have hnext : ∀ m, next app none r = some m → Layer sl r m ∨ ∃ d ∈ [r], ∃ x, app d = some x ∧ m = { x with tok := d.tok } :=
    fun m hm => .inr ⟨r, List.mem_singleton_self r, next_some hm⟩
  cases he : encodeBlock cfg.szx 0 true with
  | error e => rw [handleReceived_error he]; exact ⟨fun _ _ hm => (nomatch hm), .same⟩
  | ok blk0 =>
    cases hbt : dataBT r.code with
    | none =>
      rcases handleReceived_nodata he sl now app hbt with h | ⟨blk, h⟩ <;> rw [h]
      · exact ⟨fun _ m hm => (hnext m hm).elim .layer fun ⟨d, hd, x, hx, e⟩ => e ▸ .answer hd hx, .same⟩
      · exact finishReceived_sources now _ blk (fitSZX_le _ _ _) rfl hnext
    | some bt =>
      rw [handleReceived_data he sl now app hbt]
      exact finishReceived_sources now _ blk0 (fitSZX_le _ _ _) (processReceived_snd cfg sl now none r _ app bt)
        (processReceived_sources cfg sl now r _ app hbt)

theorem handleS_sources (cfg : Cfg) (sl : Slots) (now : Int) (r : Msg) (app : App) :
    (∀ m, (handleS cfg sl now r app).2.reply = some m → Reply cfg sl r app (handleS cfg sl now r app).2.delivered m) ∧
    Stored cfg sl app (handleS cfg sl now r app).2.delivered (handleS cfg sl now r app).1.snd := by
  rcases handleS_path sl now r with h | ⟨e, h0, hl, hw⟩
  · obtain ⟨p1, p2⟩ := handleReceived_sources cfg sl now r app
    rw [handleS_receive h, handled_sl, handled_delivered]
    refine ⟨fun m hm => ?_, p2⟩
    unfold handled at hm
    split at hm
    · cases hm; exact .refused
    · rename_i hf; exact p1 (by simpa using hf) m hm
  · rw [handleS_continue h0 hl hw]
    cases hcs : continueSendingS cfg sl.snd r e.msg.code with
    | none => exact ⟨fun _ hm => (nomatch hm), .none⟩
    | some p =>
      obtain ⟨sm, more⟩ := p
      refine ⟨fun m hm => ?_, ?_⟩
      · cases hm
        unfold continueSendingS at hcs
        split at hcs
        · cases hcs
        · rw [live_some hl] at hcs; exact .nextBlock (live_some hl) hcs
      · dsimp only
        split
        · exact .none
        · exact .same

/-! ### What goes on the wire is good for the peer; two endpoints and the relay -/

def WholeMsg (R : Reg) (m : Msg) : Prop :=
  R m.tok m.etag = some ⟨m.body, m.other, m.code⟩ ∧ m.block1 = none ∧ m.block2 = none

/-- a valid exponent, and with BERT (7) a maximum message size that leaves room for one 1024-byte unit, so that the block
    buffer is never empty (`bufLen_mul`) -/
def CfgOK (cfg : Cfg) : Prop := cfg.szx ≤ 7 ∧ (cfg.szx < 7 ∨ 1024 ≤ cfg.maxSize)

theorem goodMsg_of_no_block {R : Reg} {m : Msg} (h : ∀ bt, dataBT m.code = some bt → m.block bt = none) : GoodMsg R m := by
  intro bt hbt blk szx num more hb
  rw [h bt hbt] at hb; cases hb

theorem goodMsg_of_dir {R : Reg} {m : Msg} {bt : BT} (hc : dataBT m.code = some bt) (hb : m.block bt = none) : GoodMsg R m :=
  goodMsg_of_no_block fun bt' h => by rw [hc] at h; cases h; exact hb

theorem WholeMsg.good {R : Reg} {m : Msg} (h : WholeMsg R m) : GoodMsg R m :=
  goodMsg_of_no_block fun bt _ => by cases bt; exact h.2.1; exact h.2.2

theorem createSendingWith_good {R : Reg} {skip : Bool} {sm : Msg} {mx ms blk : Nat} {m : Msg} {more : Bool}
    (hw : WholeMsg R sm) (hms : mx < 7 ∨ 1024 ≤ ms) (h : createSendingWith skip sm mx ms blk = some (m, more)) : GoodMsg R m := by
  obtain ⟨v, szx, num, hb, hdv, _, hsl, _, hmore, hcode, htok, hetag, hother⟩ := createSendingWith_slice hms h
  intro bt hbt blk' szx' num' more' hb' hdec'
  rw [hcode] at hbt
  have := dataBT_sendBT hbt
  subst this
  rw [hb] at hb'
  injection hb' with hb'
  subst hb'
  rw [hdv] at hdec'
  injection hdec' with hdec'; injection hdec' with e1 hdec'; injection hdec' with e2 e3
  subst e1 e2 e3
  refine ⟨⟨sm.body, sm.other, sm.code⟩, ⟨?_, hother, hcode, rfl⟩, hsl, fun hm => hmore.mp hm⟩
  rw [htok, hetag]; exact hw.1

/-- the sending slot holds a whole message (with a property `P` of its code, used for the roles) -/
def SndOK (R : Reg) (P : Nat → Prop) (slot : Option Entry) : Prop := ∀ e, slot = some e → WholeMsg R e.msg ∧ P e.msg.code

theorem sndOK_none {R : Reg} {P : Nat → Prop} : SndOK R P none := fun _ he => nomatch he

theorem sndOK_sweep {R : Reg} {P : Nat → Prop} (ep : Endpoint) (now : Int) (h : ∀ tok, SndOK R P (ep.sending tok)) :
    ∀ tok, SndOK R P ((sweep ep now).sending tok) :=
  sweep_sending_forall now h

/-- codes whose payload is not described by Block2: requests and signals -/
def ReqCode (c : Nat) : Prop := dataBT c ≠ some .b2

def AppOK (R : Reg) (P : Nat → Prop) (app : App) : Prop :=
  ∀ d x, app d = some x → WholeMsg R { x with tok := d.tok } ∧ P x.code

theorem continue_good (R : Reg) (tok v : Nat) : GoodMsg R ((continueMsg tok).setBlock .b1 v) :=
  goodMsg_of_dir (by decide : dataBT codeContinue = some .b2) rfl

theorem nextRequest_good (R : Reg) (s : Msg) (v : Nat) (hs : ReqCode s.code) : GoodMsg R ((nextRequest s).setBlock .b2 v) := by
  apply goodMsg_of_no_block
  intro bt hbt
  have hc : ((nextRequest s).setBlock .b2 v).code = s.code := rfl
  rw [hc] at hbt
  cases bt with
  | b1 => rfl
  | b2 => exact absurd hbt hs

/-- everything one `Handle` call puts on the wire is `GoodMsg` for the peer, and the sending slot keeps holding a whole message.
    `hq`: a block of a response is only ever answered with a stored REQUEST. -/
theorem handleS_out {R : Reg} {P : Nat → Prop} {app : App} (happ : AppOK R P app) {cfg : Cfg} (hcfg : CfgOK cfg)
    (sl : Slots) (now : Int) (r : Msg) (hsnd : SndOK R P sl.snd)
    (hq : ∀ {e blk szx num more}, sl.snd = some e → dataBT r.code = some .b2 → Block sl r .b2 blk szx num more → ReqCode e.msg.code) :
    SndOK R P (handleS cfg sl now r app).1.snd ∧ ∀ m, (handleS cfg sl now r app).2.reply = some m → GoodMsg R m := by
  obtain ⟨hrep, hst⟩ := handleS_sources cfg sl now r app
  generalize (handleS cfg sl now r app).1.snd = snd' at hst
  constructor
  · cases hst with
    | same => exact hsnd
    | none => exact sndOK_none
    | answer v _ hx _ _ => exact fun e he => by cases he; exact happ _ _ hx
  · intro m hm
    cases hrep m hm with
    | refused => exact goodMsg_of_dir (by decide : dataBT codeRequestEntityIncomplete = some .b2) rfl
    | layer hl =>
      cases hl with
      | ack v => exact continue_good R r.tok v
      | followUp v hs hbt hb => exact nextRequest_good R _ v (hq hs hbt hb)
    | answer _ hx => exact (happ _ _ hx).1.good
    | answerBlock _ hx hmx hc => exact createSendingWith_good (happ _ _ hx).1 (hcfg.2.imp_left (Nat.lt_of_le_of_lt hmx)) hc
    | nextBlock hs hc => exact createSendingWith_good (hsnd _ hs).1 hcfg.2 hc

theorem handle_out {R : Reg} {P : Nat → Prop} {app : App} (happ : AppOK R P app) (ep : Endpoint) (hcfg : CfgOK ep.toCfg)
    (now : Int) (r : Msg) (hsnd : ∀ tok, SndOK R P (ep.sending tok))
    (hq : ∀ {e blk szx num more}, ep.sending r.tok = some e → dataBT r.code = some .b2 →
      Block (ep.slots r.tok) r .b2 blk szx num more → ReqCode e.msg.code) :
    (∀ tok, SndOK R P ((handle ep now r app).1.sending tok)) ∧ ∀ m, (handle ep now r app).2.reply = some m → GoodMsg R m :=
  (handleS_out happ hcfg (ep.slots r.tok) now r (hsnd r.tok) hq).imp_left (put_forall hsnd r.tok)

def ReqOK (R : Reg) (r : Msg) : Prop := WholeMsg R r ∧ ReqCode r.code

theorem doStartS_out {R : Reg} {cfg : Cfg} (snd : Option Entry) (now : Int) (r : Msg)
    (hr : ReqOK R r) (hsnd : SndOK R ReqCode snd) :
    SndOK R ReqCode (doStartS cfg snd now r).1 ∧ ∀ m, (doStartS cfg snd now r).2 = some m → GoodMsg R m := by
  rcases doStartS_cases cfg snd now r with h | h | ⟨m, h, hm⟩ <;> rw [h]
  · exact ⟨hsnd, fun m hm => (nomatch hm)⟩
  · exact ⟨sndOK_none, fun m hm => (nomatch hm)⟩
  · refine ⟨fun e he => by cases he; exact hr, fun m' hm' => ?_⟩
    cases hm'
    rcases hm with rfl | ⟨hpp, v, he, rfl⟩
    · exact hr.1.good
    -- the first block of the upload: block number 0, the first buffer of the body, flagged `more`
    intro bt hbt blk szx num more hb hdec
    change dataBT r.code = some bt at hbt
    rw [postput_dataBT hpp] at hbt
    cases hbt
    change some v = some blk at hb
    cases hb
    rw [Props.C19.decode_encode _ _ _ _ he] at hdec
    cases hdec
    refine ⟨⟨r.body, r.other, r.code⟩, ⟨hr.1.1, rfl, rfl, rfl⟩, ?_, fun h => nomatch h⟩
    simp only [Int.toNat_zero, Nat.zero_mul]
    exact ⟨Nat.zero_le _, by simpa using List.take_prefix _ _⟩

/-- a registry that only holds requests (what a client's applications supply) -/
def RegReq (R : Reg) : Prop := ∀ tok e s, R tok e = some s → ReqCode s.code

/-- registry of the bodies being sent *to* a side -/
def regOf (RA RB : Reg) : Side → Reg
  | .A => RA
  | .B => RB

/-- A is the client (its applications call `Do` / `WriteMessage` with requests), B the server (its application answers) -/
structure WInv (RA RB : Reg) (w : World) : Prop where
  ia : EpInv RA w.a
  ib : EpInv RB w.b
  sa : ∀ tok, SndOK RB ReqCode (w.a.sending tok)
  sb : ∀ tok, SndOK RA (fun _ => True) (w.b.sending tok)
  pk : ∀ p, p ∈ w.queue ∨ p ∈ w.hist → GoodMsg (regOf RA RB p.dst) p.msg
  ca : CfgOK w.a.toCfg
  cb : CfgOK w.b.toCfg
  app : AppOK RA (fun _ => True) w.appB

/-- the codes the sending slots of a side may hold: A's hold the requests its applications hand to `Do` / `WriteMessage` -/
def sideCode : Side → Nat → Prop
  | .A => ReqCode
  | .B => fun _ => True

open CoapVerif.Lemmas.BlockwiseWorld in
/-- `WInv RA RB` in the parts `Lemmas/BlockwiseWorld.lean` asks for (`wInv_iff`), each side in the same words: what it holds are
    prefixes of bodies sent TO it, what it sends and what its application answers is supplied to its peer.  A's application
    answers nothing, which is all `WInv` needs to know of it. -/
def winvSys (RA RB : Reg) : Sys where
  ep s e := EpInv (regOf RA RB s) e ∧ (∀ tok, SndOK (regOf RA RB s.other) (sideCode s) (e.sending tok)) ∧ CfgOK e.toCfg
  app s app := AppOK (regOf RA RB s.other) (sideCode s) app
  pk p := GoodMsg (regOf RA RB p.dst) p.msg
  req := ReqOK RB
  dl s d := NoData d ∨ Complete (regOf RA RB s) d.tok d

theorem wInv_iff {RA RB : Reg} {w : World} : WInv RA RB w ↔ (winvSys RA RB).Holds w :=
  ⟨fun h => ⟨fun s => by cases s; exact ⟨h.ia, h.sa, h.ca⟩; exact ⟨h.ib, h.sb, h.cb⟩,
      fun s => by cases s; exact fun _ _ hx => nomatch hx; exact h.app, h.pk⟩,
   fun h => ⟨(h.ep .A).1, (h.ep .B).1, (h.ep .A).2.1, (h.ep .B).2.1, h.pk, (h.ep .A).2.2, (h.ep .B).2.2, h.app .B⟩⟩

theorem winvSys_keeps {RA RB : Reg} (hdA : Discipline RA) (hdB : Discipline RB) (hreq : RegReq RB) : (winvSys RA RB).Keeps where
  handles {s ep app} now r h happ hp := by
    have hi := handle_inv (show Discipline (regOf RA RB s) by cases s; exact hdA; exact hdB) ep now r app hp h.1
    have ho := handle_out happ ep h.2.2 now r h.2.1 (by
      cases s with
      | A => exact fun he _ _ => (h.2.1 r.tok _ he).2
      | B =>
        -- what is supplied to B are requests, so no Block2 data block arrives there
        intro _ _ _ _ _ _ hb2 hb
        obtain ⟨s, hm, _⟩ := hp .b2 hb2 _ _ _ _ hb.opt hb.dec
        exact absurd hb2 (hm.2.2.1 ▸ hreq r.tok r.etag s hm.1))
    exact ⟨⟨hi.1, ho.1, h.2.2⟩, ho.2, fun d hd => (hi.2 d hd).imp (fun ⟨e1, e2⟩ => e1 ▸ e2) Complete.self_tok⟩
  sweeps {s ep} now h := ⟨sweep_inv ep now h.1, sndOK_sweep ep now h.2.1, h.2.2⟩
  finishes tok h := ⟨h.1, put_forall h.2.1 tok sndOK_none, h.2.2⟩
  starts {ep} now r h hr := by
    have hd := doStartS_out (cfg := ep.toCfg) (ep.sending r.tok) now r hr (h.2.1 r.tok)
    exact ⟨⟨h.1, put_forall h.2.1 r.tok hd.1, h.2.2⟩, hd.2⟩
  writes {ep} now r h hr := by
    unfold writeMessage
    split
    · exact ⟨h, fun _ hm => nomatch hm⟩
    · split
      · exact ⟨h, fun _ hm => nomatch hm⟩
      · rename_i hst
        rcases startSendingS_cases hst with ⟨rfl, rfl⟩ | ⟨m, sm, more, v, hm, hc, rfl, rfl⟩
        · exact ⟨⟨h.1, put_forall h.2.1 r.tok (h.2.1 r.tok), h.2.2⟩, fun m hm => by cases hm; exact hr.1.good⟩
        · cases hm
          exact ⟨⟨h.1, put_forall h.2.1 r.tok (fun e he => by cases he; exact hr), h.2.2⟩,
            fun m hm => by cases hm; exact (createSendingWith_good hr.1 h.2.2.2 hc : GoodMsg RB sm)⟩

/-! ### The blocks of a fault-free transfer
(their rounds: `Lemmas/BlockwiseRounds.lean`) -/

/-- block `j` of the upload of `r` with exponent `s` (as `createSendingMessage` cuts it) -/
def uploadBlock (r : Msg) (s ms j : Nat) : Msg :=
  { r with size1 := some r.body.length,
           block1 := some (blkVal s j (decide (j * sizeN s + ((r.body.drop (j * sizeN s)).take (bufLen s ms)).length ≠ r.body.length))),
           body := (r.body.drop (j * sizeN s)).take (bufLen s ms) }

/-- the 2.31 that acknowledges block `k` -/
def uploadAck (tok s k : Nat) : Msg := (continueMsg tok).setBlock .b1 (blkVal s k true)

/-- block `j` of the download of `resp` with exponent `s` (as `createSendingMessage` cuts it) -/
def downloadBlock (resp : Msg) (s ms j : Nat) : Msg :=
  { resp with size2 := some resp.body.length,
              block2 := some (blkVal s j (decide (j * sizeN s + ((resp.body.drop (j * sizeN s)).take (bufLen s ms)).length ≠ resp.body.length))),
              body := (resp.body.drop (j * sizeN s)).take (bufLen s ms) }

/-- the request for block `j` of the response, built from the request that was sent -/
def downloadReq (req : Msg) (s j : Nat) : Msg := (nextRequest req).setBlock .b2 (blkVal s j true)

/-- block `j` of `m` with exponent `s`, sent in direction `bt`, as `createSendingMessage` cuts it: `uploadBlock` for Block1, `downloadBlock` for Block2 -/
def blockOf (bt : BT) (m : Msg) (s ms j : Nat) : Msg :=
  { (m.setSize bt m.body.length).setBlock bt
      (blkVal s j (decide (j * sizeN s + ((m.body.drop (j * sizeN s)).take (bufLen s ms)).length ≠ m.body.length))) with
    body := (m.body.drop (j * sizeN s)).take (bufLen s ms) }

theorem uploadBlock_eq (r : Msg) (s ms j : Nat) : uploadBlock r s ms j = blockOf .b1 r s ms j := rfl
theorem downloadBlock_eq (r : Msg) (s ms j : Nat) : downloadBlock r s ms j = blockOf .b2 r s ms j := rfl

theorem more_iff {body : Bytes} {j sz : Nat} (hj : j * sz ≤ body.length) :
    j * sz + ((body.drop (j * sz)).take sz).length ≠ body.length ↔ (j + 1) * sz < body.length := by
  rw [List.length_take, List.length_drop, Nat.add_mul, Nat.one_mul]; omega

theorem blockOf_fields (bt : BT) (m : Msg) (s ms j : Nat) :
    (blockOf bt m s ms j).code = m.code ∧ (blockOf bt m s ms j).tok = m.tok ∧ (blockOf bt m s ms j).etag = m.etag := by
  cases bt <;> exact ⟨rfl, rfl, rfl⟩

theorem blockOf_block (bt : BT) (m : Msg) {s : Nat} (ms j : Nat) (hs : s < 7) (hj : j * sizeN s ≤ m.body.length) :
    (blockOf bt m s ms j).block bt = some (blkVal s j (decide ((j + 1) * sizeN s < m.body.length))) := by
  cases bt <;> (show some (blkVal s j (decide _)) = _; rw [bufLen_small ms hs, decide_eq_decide.mpr (more_iff hj)])

theorem blockOf_append (bt : BT) (m : Msg) {s : Nat} (ms j : Nat) (hs : s < 7) :
    m.body.take (j * sizeN s) ++ (blockOf bt m s ms j).body = m.body.take ((j + 1) * sizeN s) := by
  show _ ++ (m.body.drop (j * sizeN s)).take (bufLen s ms) = _
  rw [bufLen_small ms hs, Nat.add_mul, Nat.one_mul, List.take_add]

theorem downloadBlock_block (resp : Msg) (s ms j : Nat) :
    (downloadBlock resp s ms j).block .b2 =
      some (blkVal s j (decide (j * sizeN s + ((resp.body.drop (j * sizeN s)).take (bufLen s ms)).length ≠ resp.body.length))) := rfl

theorem downloadBlock_zero_body (resp : Msg) {s : Nat} (ms : Nat) (hs : s < 7) :
    (downloadBlock resp s ms 0).body = resp.body.take (sizeN s) := by
  simp [downloadBlock, bufLen_small _ hs]

theorem fitSZX_downloadBlock (resp : Msg) {s : Nat} (ms j : Nat) (hs : s < 7) (hj : j < 2 ^ 20) :
    fitSZX (downloadBlock resp s ms j) .b2 s = s := by
  rw [fitSZX_some s (downloadBlock_block resp s ms j) (decode_blkVal _ (by omega) hj)]; omega

/-! ### The data the `example`s of the property files evaluate -/

def exBody : Bytes := (List.range 40).map UInt8.ofNat
/-- block `num` (16-byte blocks) of a POST of `exBody` under token 7 -/
def exBlk (num : Nat) (more : Bool) : Msg :=
  { code := 2, tok := 7, block1 := some (num * 16 + (if more then 8 else 0)), size1 := some 40, other := [(11, [99])],
    body := (exBody.drop (num * 16)).take 16 }
def exEp : Endpoint := { szx := 0, maxSize := 64, expiration := 1000 }
def exR : Reg := fun tok e => if tok = 7 ∧ e = none then some ⟨exBody, [(11, [99])], 2⟩ else none

theorem exBlk_good {num : Nat} {more : Bool} (hd : decodeBlock (num * 16 + if more then 8 else 0) = .ok (0, num, more))
    (hs : SliceAt exBody (num * 16) (exBlk num more).body)
    (hend : more = false → num * 16 + (exBlk num more).body.length = exBody.length) : GoodMsg exR (exBlk num more) := by
  intro bt hbt blk szx n mr hb hdec
  cases hbt.symm.trans (by decide : dataBT (2 : Nat) = some .b1)
  cases hb
  rw [hd] at hdec
  cases hdec
  exact ⟨⟨exBody, [(11, [99])], 2⟩, ⟨by simp [exR, exBlk], rfl, rfl, rfl⟩, hs, hend⟩

def exRespBody : Bytes := (List.range 40).map (fun i => UInt8.ofNat (200 - i))
/-- B's application answers a POST under token 7 with 40 bytes -/
def exApp : App := fun d => if d.code = 2 ∧ d.tok = 7 then some { code := 68, tok := 7, other := [(12, [42])], body := exRespBody } else none
def exReq : Msg := { code := 2, tok := 7, other := [(11, [99])], body := exBody }
def exRA : Reg := fun tok e => if tok = 7 ∧ e = none then some ⟨exRespBody, [(12, [42])], 68⟩ else none
def exWorld : World := { a := { szx := 0, maxSize := 64, expiration := 1000 }, b := { szx := 0, maxSize := 64, expiration := 1000 }, appB := exApp }
/-- what the two applications were handed: (side is A, code, length of the body, body is the supplied one) -/
def exDeliveries (evs : List Event) : List (Bool × Nat × Nat × Bool) :=
  evs.filterMap (fun e => match e with
    | .deliver s d => some (s == .A, d.code, d.body.length, d.body == exBody || d.body == exRespBody)
    | _ => none)

end CoapVerif.Lemmas.Blockwise

namespace CoapVerif.Lemmas.BlockwiseObserve
open CoapVerif CoapVerif.Model.Blockwise CoapVerif.Generated.BlockwiseXfer CoapVerif.Lemmas.Blockwise

/-- what a response must look like to be reassembled as a Block2 transfer: asked for by the download of
    `Lemmas/BlockwiseProgress.lean` and by the steps of a notification in `Lemmas/BlockwiseObserve.lean` -/
structure RespCode (c : Nat) : Prop where
  npp : isPostPut c = false
  nreq : isRequest c = false
  nsig : isSignal c = false
  ncont : c ≠ codeContinue

theorem RespCode.not_getdelete {c : Nat} (h : RespCode c) : ¬ (c = codeGET ∨ c = codeDELETE) := by
  intro hc
  have : isRequest c = true := by rcases hc with hc | hc <;> rw [hc] <;> decide
  rw [h.nreq] at this; cases this

theorem RespCode.dataBT {c : Nat} (h : RespCode c) : dataBT c = some .b2 := dataBT_b2 h.nsig h.not_getdelete h.npp

theorem wants_of_respCode {r : Msg} (hrc : RespCode r.code) : wantsToBeReceived r = true := by
  unfold wantsToBeReceived
  simp [hrc.npp, hrc.nreq]
  exact hrc.ncont

end CoapVerif.Lemmas.BlockwiseObserve
