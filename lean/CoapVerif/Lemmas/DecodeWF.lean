import CoapVerif.Lemmas.CoderDecode
/-!
Whatever a decoder accepts is well-formed (`WF`).  It holds no more options than the capacity it was decoded with, and its canonical re-encoding is never
longer than the bytes it was decoded from (so a stream message that was accepted is below the body limit).
-/
namespace CoapVerif.Lemmas.DecodeWF
open CoapVerif.Generated.Codec CoapVerif.Generated.OptionDefs
open CoapVerif.Spec.Wire
open CoapVerif.Model CoapVerif.Model.OptionCodec CoapVerif.Model.PoolMessage
open CoapVerif.Props.C01 (framingOf)
open CoapVerif.Lemmas CoapVerif.Lemmas.OptionCodec CoapVerif.Lemmas.OptionRoundTrip CoapVerif.Lemmas.CoderDecode
open CoapVerif.Lemmas.WireSpec

theorem decLoop_WF {defs : Defs} (hu : noUnknown defs = true) {cap n prev : Nat} {bs : Bytes} {os : List Opt} {rest : Bytes}
    (h : decLoop defs cap n prev bs = .ok (os, rest)) : optsWF (regOf defs) prev os = true := by
  refine decLoop_ok_induct (P := fun _ prev _ os _ => optsWF (regOf defs) prev os = true) ?_ ?_ ?_ h
  · exact fun _ _ => rfl
  · exact fun _ _ _ => rfl
  · intro n prev o bs' os rest h1 h2 h3 _ _ ih
    rw [keepOpt_eq defs hu _ _ (by omega)]
    split
    · rename_i hkeep
      exact optsWF_cons.mpr ⟨h1, hkeep.1, Nat.lt_succ_of_le h2, h3, hkeep.2, ih⟩
    · exact optsWF_mono h1 ih

theorem decLoop_ok_len {defs : Defs} {cap n prev : Nat} {bs : Bytes} {os : List Opt} {rest : Bytes}
    (h : decLoop defs cap n prev bs = .ok (os, rest)) (hn : n ≤ cap) : n + os.length ≤ cap := by
  refine decLoop_ok_induct (P := fun n _ _ os _ => n ≤ cap → n + os.length ≤ cap) ?_ ?_ ?_ h hn
  · exact fun _ _ hn => hn
  · exact fun _ _ _ hn => hn
  · intro n prev o bs' os rest _ _ _ hc _ ih hn
    have hk : (keepOpt defs o.id o.val).toList.length ≤ 1 := Option.length_toList_le
    have := ih (by omega)
    rw [List.length_append]
    omega

theorem decode_ok_len {c : Coder} {cap : Nat} {bs : Bytes} {m : Msg} {k : Nat} (h : c.decode cap bs = .ok (m, k)) :
    m.options.length ≤ cap := by
  obtain ⟨f, os, pay, _, _, hd, rfl, _⟩ := decode_ok h
  simpa using decLoop_ok_len hd (Nat.zero_le _)

/-- `+ 1`: the sum can be one class above both summands (12 + 12: no extension byte, no extension byte, one). -/
theorem ext_length_add (a b : Nat) : (ext (a + b)).length ≤ (ext a).length + 1 + (ext b).length := by
  have := LengthClasses.ext_length_cases a
  have := LengthClasses.ext_length_cases b
  have := LengthClasses.ext_length_cases (a + b)
  omega

/-- Re-basing the first delta after a dropped option `o` costs at most the bytes `o` occupied. -/
theorem encOpts_rebase (reg : List (Nat × Nat × Nat)) (os : List Opt) (prev : Nat) (o : Opt) (hp : prev ≤ o.id)
    (h : optsWF reg o.id os = true) : (encOpts prev os).length ≤ (encOpt prev o).length + (encOpts o.id os).length := by
  cases os with
  | nil => simp [encOpts]
  | cons o' os =>
    have h1 := (optsWF_cons.mp h).1
    simp only [encOpts, List.length_append, encOpt_length]
    have := ext_length_add (o'.id - o.id) (o.id - prev)
    rw [show o'.id - prev = (o'.id - o.id) + (o.id - prev) by omega]
    omega

theorem decLoop_enc_len {defs : Defs} (hu : noUnknown defs = true) {cap n prev : Nat} {bs : Bytes} {os : List Opt}
    {rest : Bytes} (h : decLoop defs cap n prev bs = .ok (os, rest)) :
    (encOpts prev os).length + (encPayload rest).length ≤ bs.length := by
  refine decLoop_ok_induct
    (P := fun _ prev bs os rest => (encOpts prev os).length + (encPayload rest).length ≤ bs.length) ?_ ?_ ?_ h
  · exact fun _ _ => Nat.le_refl _
  · intro _ _ t
    rw [encPayload_len]
    simp only [encOpts, List.length_nil, Nat.zero_add, List.length_cons]
    split <;> omega
  · intro n prev ⟨id, val⟩ bs' os rest h1 _ h3 _ hrec ih
    rw [List.length_append, keepOpt_eq defs hu _ _ (by omega)]
    dsimp only at ih ⊢
    split
    · simp only [Option.toList_some, List.singleton_append, encOpts, List.length_append]
      omega
    · have := encOpts_rebase (regOf defs) os prev ⟨id, val⟩ h1 (decLoop_WF hu hrec)
      dsimp only at this
      simp only [Option.toList_none, List.nil_append]
      omega

theorem decode_body_le {c : Coder} {cap : Nat} {bs : Bytes} {m : Msg} {k : Nat} (h : c.decode cap bs = .ok (m, k)) :
    (encBody m).length ≤ bs.length := by
  obtain ⟨f, os, pay, _, hok, hd, rfl, _⟩ := decode_ok h
  have := decLoop_enc_len hok.noUnknown hd
  have := hok.body_in.length_le
  simp only [encBody, List.length_append] at this ⊢
  omega

theorem decode_WF {c : Coder} {cap : Nat} {bs : Bytes} {m : Msg} {k : Nat} (h : c.decode cap bs = .ok (m, k))
    (hb : c = .tcp → (encBody m).length < tcpBodyLimit) : WF (framingOf c) m = true := by
  obtain ⟨f, os, pay, _, hok, hd, rfl, _⟩ := decode_ok h
  have hwf := decLoop_WF hok.noUnknown hd
  rw [hok.reg] at hwf
  cases c with
  | udp => exact WF_udp.mpr ⟨hok.token_le, hok.code_lt, hwf, hok.typ_range.1, hok.typ_range.2, hok.mid_range.1, hok.mid_range.2⟩
  | tcp => exact WF_tcp.mpr ⟨hok.token_le, hok.code_lt, hwf, hb rfl⟩

end CoapVerif.Lemmas.DecodeWF
