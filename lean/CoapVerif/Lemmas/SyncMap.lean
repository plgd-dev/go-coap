import CoapVerif.Spec.SeqMap
import CoapVerif.Model.Cache
import CoapVerif.Lemmas.KeyedList
/-!
Helper lemmas for C14 (the property theorems are in `Props/C14.lean`, `C14Copy.lean`, `C14Validity.lean`, `C14Current.lean`).

The Go map is modelled as an insertion-ordered list with unique keys (`mget/mset/merase`), the sequential map of the
specification as a sorted list (`sget/sput/sdel`); `canon` sorts the first into the second, and every look-up and update commutes
with it (`sget_canon`; `canon_mset` and `canon_merase` by extensionality of sorted lists, `sorted_ext`).  On that rests the
simulation: `lin_of_atomic_steps` is the generic theorem — if every atomic step of an implementation is invisible or exactly one
atomic transition of the pending specification operation, every schedule of every program is linearizable — and `impl_stepOK`
discharges its hypothesis for the step model of `sync.Map` + `cache.Cache`, under the relation `R` (`canon` of the data, unique
keys).  Beside it: `search_sound` (the judge's search accepts only linearizable histories), `one_winner_aux` (in every schedule
of a program whose calls pass the syntactic test `KeepsKey`, of the `Map.LoadOrStore` calls on one key the first stores, if
the key is absent, and all others load) and
`all_all_guarded`, a Boolean identity for the table of call sites in `Props.C14.callers_use_atomic_forms`.
-/
namespace CoapVerif.Lemmas.SyncMap
open CoapVerif.Spec.SeqMap CoapVerif.Model.SyncMap

def keys (m : Entries) : List Nat := m.map (·.1)
def NoDupKeys (m : Entries) : Prop := (keys m).Nodup
def Sorted (m : Entries) : Prop := (keys m).Pairwise (· < ·)

theorem insertSorted_eq_sput (k : Nat) (v : Val) (m : Entries) : insertSorted k v m = sput k v m := by
  induction m with
  | nil => rfl
  | cons e t ih => obtain ⟨k', v'⟩ := e; simp only [insertSorted, sput, ih]

theorem NoDupKeys_cons {a : Nat} {b : Val} {t : Entries} : NoDupKeys ((a, b) :: t) ↔ a ∉ keys t ∧ NoDupKeys t :=
  List.nodup_cons

theorem Sorted_cons {a : Nat} {b : Val} {t : Entries} : Sorted ((a, b) :: t) ↔ (∀ x ∈ keys t, a < x) ∧ Sorted t :=
  List.pairwise_cons

theorem Sorted.noDupKeys {s : Entries} (h : Sorted s) : NoDupKeys s := List.Pairwise.imp Nat.ne_of_lt h

theorem lt_keys_of_lt_head {k a : Nat} {b : Val} {t : Entries} (h : Sorted ((a, b) :: t)) (hk : k < a) :
    ∀ x ∈ keys ((a, b) :: t), k < x := by
  intro x hx
  rcases List.mem_cons.mp hx with hx | hx
  · exact hx ▸ hk
  · exact Nat.lt_trans hk ((Sorted_cons.mp h).1 x hx)

-- `sget` / `sdel` are `mget` / `merase` with the key test written the other way round (`k = a` for `a = k`)
theorem sget_eq_mget (k : Nat) (s : Entries) : sget k s = mget k s := by
  induction s with
  | nil => rfl
  | cons e t ih =>
    obtain ⟨a, b⟩ := e
    show (if k = a then some b else sget k t) = if a = k then some b else mget k t
    rw [ih]
    exact ite_congr (propext eq_comm) (fun _ => rfl) (fun _ => rfl)

theorem sdel_eq_merase (k : Nat) (s : Entries) : sdel k s = merase k s := by
  induction s with
  | nil => rfl
  | cons e t ih =>
    obtain ⟨a, b⟩ := e
    show (if k = a then t else (a, b) :: sdel k t) = if a = k then t else (a, b) :: merase k t
    rw [ih]
    exact ite_congr (propext eq_comm) (fun _ => rfl) (fun _ => rfl)

theorem mget_mset (k k' : Nat) (v : Val) (m : Entries) : mget k' (mset k v m) = if k' = k then some v else mget k' m := by
  induction m with
  | nil => exact ite_congr (propext eq_comm) (fun _ => rfl) (fun _ => rfl)
  | cons e t ih =>
    obtain ⟨a, b⟩ := e
    show mget k' (if a = k then (k, v) :: t else (a, b) :: mset k v t) =
      if k' = k then some v else if a = k' then some b else mget k' t
    by_cases h1 : a = k
    · subst h1
      rw [if_pos rfl]
      show (if a = k' then some v else mget k' t) = _
      by_cases h2 : a = k'
      · rw [if_pos h2, if_pos h2.symm]
      · rw [if_neg h2, if_neg (Ne.symm h2), if_neg h2]
    · rw [if_neg h1]
      show (if a = k' then some b else mget k' (mset k v t)) = _
      rw [ih]
      by_cases h2 : a = k'
      · rw [if_pos h2, if_neg (h2 ▸ h1), if_pos h2]
      · rw [if_neg h2, if_neg h2]

theorem mem_of_sget {k : Nat} {v : Val} {s : Entries} (h : sget k s = some v) : (k, v) ∈ s := by
  induction s with
  | nil => simp [sget] at h
  | cons e t ih =>
    obtain ⟨a, b⟩ := e
    simp only [sget] at h
    by_cases h1 : k = a
    · simp only [h1, if_true, Option.some.injEq] at h
      simp [h1, h]
    · simp only [h1, if_false] at h
      exact List.mem_cons_of_mem _ (ih h)

theorem mem_keys_of_sget {k : Nat} {v : Val} {s : Entries} (h : sget k s = some v) : k ∈ keys s :=
  List.mem_map.mpr ⟨(k, v), mem_of_sget h, rfl⟩

theorem mem_keys_of_mget {k : Nat} {v : Val} {m : Entries} (h : mget k m = some v) : k ∈ keys m :=
  mem_keys_of_sget ((sget_eq_mget k m).trans h)

theorem mget_none_of_not_mem {k : Nat} {m : Entries} (h : k ∉ keys m) : mget k m = none := by
  cases hh : mget k m with
  | none => rfl
  | some v => exact absurd (mem_keys_of_mget hh) h

theorem mem_keys_iff_mget {k : Nat} {m : Entries} : k ∈ keys m ↔ ∃ v, mget k m = some v := by
  constructor
  · intro h
    induction m with
    | nil => cases h
    | cons e t ih =>
      obtain ⟨a, b⟩ := e
      show ∃ v, (if a = k then some b else mget k t) = some v
      by_cases h1 : a = k
      · exact ⟨b, if_pos h1⟩
      · rw [if_neg h1]
        exact ih ((List.mem_cons.mp h).resolve_left (Ne.symm h1))
  · intro ⟨v, h⟩; exact mem_keys_of_mget h

theorem mget_of_mem {k : Nat} {v : Val} {m : Entries} (hnd : NoDupKeys m) (h : (k, v) ∈ m) : mget k m = some v := by
  induction m with
  | nil => cases h
  | cons e t ih =>
    obtain ⟨a, b⟩ := e
    have hnd' := NoDupKeys_cons.mp hnd
    simp only [List.mem_cons, Prod.mk.injEq] at h
    rcases h with ⟨rfl, rfl⟩ | h
    · simp [mget]
    · have hk : k ∈ keys t := by
        simp only [keys, List.mem_map]; exact ⟨(k, v), h, rfl⟩
      have : ¬ a = k := fun hh => hnd'.1 (hh ▸ hk)
      simp only [mget, this, if_false]
      exact ih hnd'.2 h

theorem sget_none_of_lt {k : Nat} {s : Entries} (h : ∀ x ∈ keys s, k < x) : sget k s = none :=
  sget_eq_mget k s ▸ mget_none_of_not_mem (fun hk => Nat.lt_irrefl k (h k hk))

theorem mget_merase (k k' : Nat) (m : Entries) (hnd : NoDupKeys m) :
    mget k' (merase k m) = if k' = k then none else mget k' m := by
  induction m with
  | nil => simp [merase, mget]
  | cons e t ih =>
    obtain ⟨a, b⟩ := e
    have hnd' := NoDupKeys_cons.mp hnd
    simp only [merase]
    by_cases h1 : a = k
    · subst h1
      simp only [if_true]
      by_cases h2 : k' = a
      · subst h2; simp [mget_none_of_not_mem hnd'.1]
      · have : ¬ a = k' := fun hh => h2 hh.symm
        simp [h2, mget, this]
    · simp only [h1, if_false, mget, ih hnd'.2]
      by_cases h4 : a = k'
      · subst h4; simp [h1]
      · simp [h4]

theorem sget_sdel (k k' : Nat) (s : Entries) (h : Sorted s) :
    sget k' (sdel k s) = if k' = k then none else sget k' s := by
  rw [sdel_eq_merase, sget_eq_mget, sget_eq_mget, mget_merase k k' s h.noDupKeys]

theorem merase_sublist (k : Nat) (m : Entries) : (merase k m).Sublist m := by
  induction m with
  | nil => exact .slnil
  | cons e t ih =>
    obtain ⟨a, b⟩ := e
    show (if a = k then t else (a, b) :: merase k t).Sublist ((a, b) :: t)
    by_cases h : a = k
    · rw [if_pos h]; exact List.sublist_cons_self _ _
    · rw [if_neg h]; exact ih.cons_cons _

theorem NoDupKeys_merase {k : Nat} {m : Entries} (h : NoDupKeys m) : NoDupKeys (merase k m) :=
  List.Pairwise.sublist ((merase_sublist k m).map _) h

theorem Sorted_sdel {k : Nat} {s : Entries} (h : Sorted s) : Sorted (sdel k s) :=
  sdel_eq_merase k s ▸ List.Pairwise.sublist ((merase_sublist k s).map _) h

/-- stated through the look-ups, so that it serves `mset` and `sput` alike -/
theorem mem_keys_of_set {k : Nat} {v : Val} {m m' : Entries} (h : ∀ x, mget x m' = if x = k then some v else mget x m)
    {x : Nat} (hx : x ∈ keys m') : x = k ∨ x ∈ keys m := by
  obtain ⟨w, hw⟩ := mem_keys_iff_mget.mp hx
  by_cases hk : x = k
  · exact Or.inl hk
  · rw [h, if_neg hk] at hw
    exact Or.inr (mem_keys_of_mget hw)

theorem NoDupKeys_mset {k : Nat} {v : Val} {m : Entries} (h : NoDupKeys m) : NoDupKeys (mset k v m) := by
  induction m with
  | nil => exact List.pairwise_singleton _ _
  | cons e t ih =>
    obtain ⟨a, b⟩ := e
    have h' := NoDupKeys_cons.mp h
    show NoDupKeys (if a = k then (k, v) :: t else (a, b) :: mset k v t)
    by_cases h1 : a = k
    · rw [if_pos h1]; exact h1 ▸ h
    · rw [if_neg h1]
      refine NoDupKeys_cons.mpr ⟨fun hm => ?_, ih h'.2⟩
      rcases mem_keys_of_set (fun x => mget_mset k x v t) hm with hk | ht
      · exact h1 hk
      · exact h'.1 ht

theorem sget_sput (k k' : Nat) (v : Val) (s : Entries) : sget k' (sput k v s) = if k' = k then some v else sget k' s := by
  induction s with
  | nil => simp [sput, sget]
  | cons e t ih =>
    obtain ⟨a, b⟩ := e
    simp only [sput]
    by_cases h1 : k < a
    · simp only [h1, if_true, sget]
    · simp only [h1, if_false]
      by_cases h3 : k = a
      · subst h3
        simp only [if_true, sget]
        by_cases h2 : k' = k
        · simp [h2]
        · simp [h2]
      · simp only [h3, if_false, sget, ih]
        by_cases h4 : k' = a
        · subst h4
          have : ¬ k' = k := fun h => h3 h.symm
          simp [this]
        · simp [h4]

theorem Sorted_sput {k : Nat} {v : Val} {s : Entries} (h : Sorted s) : Sorted (sput k v s) := by
  induction s with
  | nil => exact List.pairwise_singleton _ _
  | cons e t ih =>
    obtain ⟨a, b⟩ := e
    have h' := Sorted_cons.mp h
    show Sorted (if k < a then (k, v) :: (a, b) :: t else if k = a then (k, v) :: t else (a, b) :: sput k v t)
    by_cases h1 : k < a
    · rw [if_pos h1]
      exact Sorted_cons.mpr ⟨lt_keys_of_lt_head h h1, h⟩
    · rw [if_neg h1]
      by_cases h3 : k = a
      · rw [if_pos h3]; exact h3 ▸ h
      · rw [if_neg h3]
        refine Sorted_cons.mpr ⟨fun x hx => ?_, ih h'.2⟩
        rcases mem_keys_of_set (k := k) (v := v) (m := t) (fun y => by rw [← sget_eq_mget, ← sget_eq_mget, sget_sput]) hx
          with hx | hx
        · omega
        · exact h'.1 x hx

theorem sorted_ext : ∀ (s s' : Entries), Sorted s → Sorted s' → (∀ k, sget k s = sget k s') → s = s' := by
  intro s
  induction s with
  | nil =>
    intro s' _ _ hl
    cases s' with
    | nil => rfl
    | cons e t =>
      obtain ⟨a, b⟩ := e
      have := hl a
      simp [sget] at this
  | cons e t ih =>
    obtain ⟨a, b⟩ := e
    intro s' hs hs' hl
    have h1 := Sorted_cons.mp hs
    cases s' with
    | nil =>
      have := hl a
      simp [sget] at this
    | cons e' t' =>
      obtain ⟨a', b'⟩ := e'
      have h2 := Sorted_cons.mp hs'
      -- the smaller head would be found in one list and not in the other
      have haa : a = a' := by
        by_cases hlt : a < a'
        · have e1 := hl a
          rw [sget_none_of_lt (lt_keys_of_lt_head hs' hlt)] at e1
          simp [sget] at e1
        · by_cases hgt : a' < a
          · have e1 := hl a'
            rw [sget_none_of_lt (lt_keys_of_lt_head hs hgt)] at e1
            simp [sget] at e1
          · omega
      subst haa
      have hbb : b = b' := by
        have := hl a
        simp [sget] at this
        exact this
      subst hbb
      have ht : t = t' := by
        apply ih t' h1.2 h2.2
        intro k
        by_cases hk : k = a
        · subst hk
          rw [sget_none_of_lt h1.1, sget_none_of_lt h2.1]
        · have := hl k
          simpa [sget, hk] using this
      rw [ht]

theorem mset_self {k : Nat} {o : Val} {m : Entries} (h : mget k m = some o) : mset k o m = m := by
  induction m with
  | nil => cases h
  | cons e t ih =>
    obtain ⟨a, b⟩ := e
    replace h : (if a = k then some b else mget k t) = some o := h
    show (if a = k then (k, o) :: t else (a, b) :: mset k o t) = _
    by_cases h1 : a = k
    · rw [if_pos h1] at h ⊢
      cases h; rw [h1]
    · rw [if_neg h1] at h ⊢
      rw [ih h]

theorem merase_absent {k : Nat} {m : Entries} (h : mget k m = none) : merase k m = m := by
  induction m with
  | nil => rfl
  | cons e t ih =>
    obtain ⟨a, b⟩ := e
    replace h : (if a = k then some b else mget k t) = none := h
    show (if a = k then t else (a, b) :: merase k t) = _
    by_cases h1 : a = k
    · rw [if_pos h1] at h; cases h
    · rw [if_neg h1] at h ⊢
      rw [ih h]

theorem length_mset_absent {k : Nat} {v : Val} {m : Entries} (h : mget k m = none) : (mset k v m).length = m.length + 1 := by
  induction m with
  | nil => simp [mset]
  | cons e t ih =>
    obtain ⟨a, b⟩ := e
    by_cases hk : a = k
    · simp [mget, hk] at h
    · simp only [mget, hk, if_false] at h
      simp [mset, hk, ih h]

theorem canon_cons (e : Nat × Val) (t : Entries) : canon (e :: t) = sput e.1 e.2 (canon t) := by
  simp only [canon, List.foldr_cons, insertSorted_eq_sput]

theorem Sorted_canon (m : Entries) : Sorted (canon m) := by
  induction m with
  | nil => simp [canon, Sorted, keys]
  | cons e t ih => rw [canon_cons]; exact Sorted_sput ih

theorem sget_canon (k : Nat) (m : Entries) : sget k (canon m) = mget k m := by
  induction m with
  | nil => rfl
  | cons e t ih =>
    obtain ⟨a, b⟩ := e
    rw [canon_cons, sget_sput, ih]
    simp only [mget]
    by_cases h : k = a
    · subst h; simp
    · have : ¬ a = k := fun hh => h hh.symm
      simp [h, this]

theorem canon_mset (k : Nat) (v : Val) (m : Entries) : canon (mset k v m) = sput k v (canon m) := by
  apply sorted_ext _ _ (Sorted_canon _) (Sorted_sput (Sorted_canon _))
  intro x
  rw [sget_canon, mget_mset, sget_sput, sget_canon]

theorem canon_merase (k : Nat) (m : Entries) (h : NoDupKeys m) : canon (merase k m) = sdel k (canon m) := by
  apply sorted_ext _ _ (Sorted_canon _) (Sorted_sdel (Sorted_canon _))
  intro x
  rw [sget_canon, mget_merase _ _ _ h, sget_sdel _ _ _ (Sorted_canon _), sget_canon]

theorem length_sput_absent {k : Nat} {v : Val} {s : Entries} (h : sget k s = none) : (sput k v s).length = s.length + 1 := by
  induction s with
  | nil => rfl
  | cons e t ih =>
    obtain ⟨a, b⟩ := e
    simp only [sget] at h
    by_cases h3 : k = a
    · simp [h3] at h
    · simp only [h3, if_false] at h
      simp only [sput]
      by_cases h1 : k < a
      · simp [h1]
      · simp [h1, h3, ih h]

theorem length_canon (m : Entries) (h : NoDupKeys m) : (canon m).length = m.length := by
  induction m with
  | nil => rfl
  | cons e t ih =>
    obtain ⟨a, b⟩ := e
    have hnd' := NoDupKeys_cons.mp h
    rw [canon_cons, length_sput_absent, ih hnd'.2]
    · rfl
    · rw [sget_canon]; exact mget_none_of_not_mem hnd'.1

section Generic
open CoapVerif.Model.SyncSystem

variable {δ P L : Type}

/-- the result of one atomic step is explained by the pending specification operation `op` -/
def ResOK (R : δ → State → Prop) (A : L → Op → Prop) (op : Op) (s : State) : δ × (L ⊕ Res) → Prop
  | (d', .inl l') => (R d' s ∧ A l' op) ∨ (∃ s' op', (s', Outcome.more op') ∈ fires op s ∧ R d' s' ∧ A l' op')
  | (d', .inr r) => ∃ s', (s', Outcome.done r) ∈ fires op s ∧ R d' s'

def StepOK (I : Impl δ P L) (R : δ → State → Prop) (A : L → Op → Prop) : Prop :=
  ∀ l op d s, A l op → R d s → ResOK R A op s (I.step l d)

/-- the per-thread half of the simulation invariant (`R` on the shared states is the other) -/
def Consistent (A : L → Op → Prop) (Ok : P → Prop) (ths : Nat → TSt P L) (Pst : Nat → PSt) : Prop :=
  ∀ t, match ths t with
    | .idle prog => Pst t = .idle ∧ ∀ p ∈ prog, Ok p
    | .run l prog => (∃ op, Pst t = .pend op ∧ A l op) ∧ ∀ p ∈ prog, Ok p

theorem updP_updP (Pst : Nat → PSt) (t : Nat) (x y : PSt) : updP (updP Pst t x) t y = updP Pst t y := by
  funext j; simp only [updP]; split <;> rfl

theorem updP_same (Pst : Nat → PSt) (t : Nat) (x : PSt) : updP Pst t x t = x := by simp [updP]

theorem updP_self {Pst : Nat → PSt} {t : Nat} {x : PSt} (h : Pst t = x) : updP Pst t x = Pst := by
  funext j
  by_cases hj : j = t
  · rw [hj, updP_same, h]
  · exact if_neg hj

/-- `ht` is the clause of `Consistent` for the new pair `(th, x)` alone, written as `Consistent` of constant functions -/
theorem Consistent_upd {A : L → Op → Prop} {Ok : P → Prop} {ths : Nat → TSt P L} {Pst : Nat → PSt} (h : Consistent A Ok ths Pst)
    (t : Nat) {th : TSt P L} {x : PSt} (ht : Consistent A Ok (fun _ => th) (fun _ => x)) :
    Consistent A Ok (upd ths t th) (updP Pst t x) := by
  intro j
  by_cases hj : j = t
  · simp only [upd, updP, if_pos hj]; exact ht t
  · simp only [upd, updP, if_neg hj]; exact h j

/-- `Props.C14.atomic_steps_linearizable` with the induction loaded: from any states `d`, `s` related by `R` and any thread states
    `ths` and call status `Pst` that are `Consistent`, not only from the start. -/
theorem lin_of_atomic_steps (I : Impl δ P L) (R : δ → State → Prop) (A : L → Op → Prop) (Ok : P → Prop)
    (hstart : ∀ p, Ok p → A (I.start p) (I.view p)) (hstep : StepOK I R A) :
    ∀ (sched : List Nat) (d : δ) (s : State) (ths : Nat → TSt P L) (Pst : Nat → PSt),
      R d s → Consistent A Ok ths Pst → Lin s Pst (history I d ths sched) := by
  intro sched
  induction sched with
  | nil => intro d s ths Pst _ _; exact Lin.nil s Pst
  | cons t ts ih =>
    intro d s ths Pst hR hC
    -- Thread `t`, whose call `op` is pending in `Pst'`, makes the step `x`: nothing or a transition of `op` explains it, and
    -- the return event follows if `x` returns.  `Pst'` is `Pst` with the call event of `op` taken into account, if `x`
    -- is the first step of the call.
    have core : ∀ (Pst' : Nat → PSt) (op : Op) (rest : List P) (x : δ × (L ⊕ Res)), Pst' t = .pend op →
        (∀ y, updP Pst' t y = updP Pst t y) → (∀ p ∈ rest, Ok p) → ResOK R A op s x →
        Lin s Pst' (match x with
          | (d', .inl l') => history I d' (upd ths t (.run l' rest)) ts
          | (d', .inr r) => .ret t r :: history I d' (upd ths t (.idle rest)) ts) := by
      intro Pst' op rest x hP hupd hOkr hs
      obtain ⟨d', l' | r⟩ := x
      · rcases hs with ⟨hR', hA'⟩ | ⟨s', op', hf, hR', hA'⟩
        · have hc := Consistent_upd hC t (th := .run l' rest) (fun _ => ⟨⟨op, rfl, hA'⟩, hOkr⟩)
          rw [← hupd, updP_self hP] at hc
          exact ih d' s _ Pst' hR' hc
        · apply Lin.fire hP hf
          rw [hupd]
          exact ih d' s' _ _ hR' (Consistent_upd hC t (th := .run l' rest) (fun _ => ⟨⟨op', rfl, hA'⟩, hOkr⟩))
      · obtain ⟨s', hf, hR'⟩ := hs
        apply Lin.done hP hf
        apply Lin.ret (updP_same _ _ _)
        rw [updP_updP, hupd]
        exact ih d' s' _ _ hR' (Consistent_upd hC t (th := .idle rest) (fun _ => ⟨rfl, hOkr⟩))
    have hCt := hC t
    simp only [history]
    cases hth : ths t with
    | idle prog =>
      rw [hth] at hCt
      obtain ⟨hCt, hOk⟩ := hCt
      cases prog with
      | nil =>
        simp only [sched1, hth, List.nil_append]
        exact ih d s ths Pst hR hC
      | cons p rest =>
        have h := core (updP Pst t (.pend (I.view p))) (I.view p) rest (I.step (I.start p) d) (updP_same _ _ _)
          (updP_updP Pst t _) (fun q hq => hOk q (List.mem_cons_of_mem _ hq))
          (hstep _ _ d s (hstart p (hOk p List.mem_cons_self)) hR)
        simp only [sched1, hth]
        generalize I.step (I.start p) d = x at h ⊢
        obtain ⟨d', l' | r⟩ := x
        · exact Lin.call hCt h
        · exact Lin.call hCt h
    | run l rest =>
      rw [hth] at hCt
      obtain ⟨⟨op, hP, hA⟩, hOkr⟩ := hCt
      have h := core Pst op rest (I.step l d) hP (fun _ => rfl) hOkr (hstep l op d s hA hR)
      simp only [sched1, hth]
      generalize I.step l d = x at h ⊢
      obtain ⟨d', l' | r⟩ := x
      · exact h
      · exact h

end Generic

open CoapVerif.Model.Cache CoapVerif.Model.SyncSystem

def absState (d : MState) : State :=
  { m := canon d.data, now := d.now, gen := d.gen, detached := d.old.map (fun e => (e.1, canon e.2)) }

def R (d : MState) (s : State) : Prop := s = absState d ∧ NoDupKeys d.data

theorem absState_data (d : MState) (m' : Entries) : absState { d with data := m' } = { absState d with m := canon m' } := rfl

theorem canon_msetOpt (k : Nat) (v : Option Val) (m : Entries) (h : NoDupKeys m) :
    canon (msetOpt k v m) = setOpt k v (canon m) := by
  cases v with
  | none => exact canon_merase k m h
  | some v => exact canon_mset k v m

theorem NoDupKeys_msetOpt {k : Nat} {v : Option Val} {m : Entries} (h : NoDupKeys m) : NoDupKeys (msetOpt k v m) := by
  cases v with
  | none => exact NoDupKeys_merase h
  | some v => exact NoDupKeys_mset h

/-- the methods of `Map` that are one locked section working on the map alone (`LoadAndDeleteAll` also detaches the map
    object) -/
def IsMapOp : Op → Prop
  | .range .. | .sweep _ | .cacheLoadOrStore .. | .cacheLoad _ | .tick _ | .loadAndDeleteAll => False
  | _ => True

/-- The critical section of such a method is exactly the atomic transition of the specification: once `canon` is moved
    through the update (`canon_mset`, `canon_merase`) and look-ups are read in the canonical form (`sget_canon`), the pair
    the section produces is literally the one `fires` lists. -/
theorem mapSection_spec (op : Op) (hop : IsMapOp op) (m : Entries) (hnd : NoDupKeys m) (s : State) (hs : s.m = canon m) :
    ∃ m' r, mapSection op m = some (m', r) ∧ ({ s with m := canon m' }, Outcome.done r) ∈ fires op s ∧ NoDupKeys m' := by
  obtain ⟨sm, now, gen, det⟩ := s
  simp only at hs
  subst hs
  cases op
  case store | storeWithFunc => exact ⟨_, _, rfl, by rw [canon_mset]; exact .head _, NoDupKeys_mset hnd⟩
  case load | loadWithFunc => exact ⟨_, _, rfl, by rw [← sget_canon]; exact .head _, hnd⟩
  case loadOrStore k v =>
    cases hg : mget k m with
    | none =>
      exact ⟨mset k v m, .stored v false, by simp only [mapSection, hg], by simp [fires, sget_canon, hg, canon_mset],
        NoDupKeys_mset hnd⟩
    | some o => exact ⟨m, .stored o true, by simp only [mapSection, hg], by simp [fires, sget_canon, hg], hnd⟩
  case replace => exact ⟨_, _, rfl, by rw [canon_mset, ← sget_canon]; exact .head _, NoDupKeys_mset hnd⟩
  case delete => exact ⟨_, _, rfl, by rw [canon_merase _ _ hnd]; exact .head _, NoDupKeys_merase hnd⟩
  case loadAndDelete | deleteWithFunc | loadAndDeleteWithFunc =>
    exact ⟨_, _, rfl, by rw [canon_merase _ _ hnd, ← sget_canon]; exact .head _, NoDupKeys_merase hnd⟩
  case copyData | range2 => exact ⟨_, _, rfl, .head _, hnd⟩
  case length => exact ⟨_, _, rfl, by rw [← length_canon m hnd]; exact .head _, hnd⟩
  case loadOrStoreWithFunc k d v =>
    cases hg : mget k m with
    | none =>
      exact ⟨mset k v m, .storedCb v false none, by simp only [mapSection, hg],
        by simp [fires, sget_canon, hg, canon_mset], NoDupKeys_mset hnd⟩
    | some o =>
      exact ⟨m, .storedCb (o.add d) true (some o), by simp only [mapSection, hg], by simp [fires, sget_canon, hg], hnd⟩
  case replaceWithFunc =>
    exact ⟨_, _, rfl, by rw [canon_msetOpt _ _ _ hnd, ← sget_canon]; exact .head _, NoDupKeys_msetOpt hnd⟩
  all_goals exact hop.elim

theorem IsMapOp_of_mapSection {op : Op} {m : Entries} {mr : Entries × Res} (h : mapSection op m = some mr)
    (hne : op ≠ .loadAndDeleteAll) : IsMapOp op := by
  cases op
  case loadAndDeleteAll => exact hne rfl
  case range | sweep | cacheLoadOrStore | cacheLoad | tick => cases h
  all_goals trivial

theorem mapSection_refines (op : Op) (m m' : Entries) (r : Res) (s : State) (hs : s.m = canon m)
    (h : mapSection op m = some (m', r)) (hnd : NoDupKeys m) (hne : op ≠ .loadAndDeleteAll) :
    ({ s with m := canon m' }, Outcome.done r) ∈ fires op s ∧ NoDupKeys m' := by
  obtain ⟨m'', r'', e, hf⟩ := mapSection_spec op (IsMapOp_of_mapSection h hne) m hnd s hs
  cases e.symm.trans h
  exact hf

theorem cacheLoadOrStore_refines (k : Nat) (e : Val) (m : Entries) (s : State) (hs : s.m = canon m) (hnd : NoDupKeys m) :
    ({ s with m := canon (cacheLoadOrStoreSection k e s.now m).1 }, Outcome.done (cacheLoadOrStoreSection k e s.now m).2)
      ∈ fires (.cacheLoadOrStore k e) s ∧ NoDupKeys (cacheLoadOrStoreSection k e s.now m).1 := by
  obtain ⟨sm, now, gen, det⟩ := s
  simp only at hs
  subst hs
  simp only
  unfold cacheLoadOrStoreSection
  cases hg : mget k m with
  | none => exact ⟨by simp [fires, sget_canon, hg, canon_mset], NoDupKeys_mset hnd⟩
  | some o =>
    by_cases hx : o.expired now = true
    · simp only [hx, if_true]
      exact ⟨by simp [fires, sget_canon, hg, hx, canon_mset], NoDupKeys_mset hnd⟩
    · have hx' : o.expired now = false := by simpa using hx
      simp only [hx', Bool.false_eq_true, if_false]
      rw [mset_self hg]
      exact ⟨by simp [fires, sget_canon, hg, hx'], hnd⟩

theorem cacheLoad_refines (k : Nat) (m : Entries) (s : State) (hs : s.m = canon m) :
    (s, Outcome.done (cacheLoadSection k s.now m)) ∈ fires (.cacheLoad k) s := by
  obtain ⟨sm, now, gen, det⟩ := s
  simp only at hs
  subst hs
  unfold cacheLoadSection
  cases hg : mget k m with
  | none => simp [fires, sget_canon, hg]
  | some o => simp [fires, sget_canon, hg]

/-- closed form: where the section keeps the entry it writes back what it found (`mset k o m`, which is `m`), and where it finds
    none it deletes an absent key, so the map changes only when the expired `e` is removed -/
theorem expireSection_eq (k : Nat) (e : Val) (t : Nat) (m : Entries) :
    expireSection k e t m = if mget k m = some e ∧ e.expired t = true then (merase k m, true) else (m, false) := by
  unfold expireSection
  cases hg : mget k m with
  | none => simp only [merase_absent hg, reduceCtorEq, false_and, if_false]
  | some o =>
    simp only [Option.some.injEq]
    by_cases hx : o = e ∧ o.expired t = true
    · rw [if_pos hx, if_pos ⟨hx.1, hx.1 ▸ hx.2⟩]
    · rw [if_neg hx, if_neg (fun h : o = e ∧ _ => hx ⟨h.1, h.1 ▸ h.2⟩), mset_self hg]

def isSingle : Op → Prop
  | .range .. => False
  | .sweep _ => False
  | _ => True

/-- which pending specification operation a running call stands for: the `A` of `lin_of_atomic_steps` for `impl` -/
def A (l : L) (op : Op) : Prop :=
  match l with
  | .single o => op = o ∧ isSingle o
  | .rangeStart stop _ => op = .range stop [] none
  | .range stop acc _ g => op = .range stop acc (some g)
  | .rangeStop acc => ∃ stop g, op = .range stop acc g
  | .sweepStart t _ => op = .sweep t
  | .sweepIter t _ _ _ => op = .sweep (some t)
  | .sweepExpire t _ _ _ _ _ => op = .sweep (some t)

theorem A_start (c : Call) : A (impl.start c) (impl.view c) := by
  obtain ⟨op, oracle⟩ := c
  cases op
  case range | sweep => show _ = _; rfl
  all_goals exact ⟨rfl, trivial⟩

theorem A_sweepAfterVisit (t c : Nat) (e : Val) (acc : List Val) (cs : List Nat) (g : Nat) :
    A (sweepAfterVisit t c e acc cs g) (.sweep (some t)) := by
  unfold sweepAfterVisit; split <;> simp [A]

theorem advance_some {oracle : List Nat} {m : Entries} {c : Nat} {v : Val} {cs : List Nat}
    (h : advance oracle m = some (c, v, cs)) : mget c m = some v := by
  cases oracle with
  | nil => simp [advance] at h
  | cons a t =>
    simp only [advance, Option.map_eq_some_iff] at h
    obtain ⟨w, hw, he⟩ := h
    simp only [Prod.mk.injEq] at he
    obtain ⟨rfl, rfl, _⟩ := he
    exact hw

theorem iterData_cur (d : MState) : iterData d d.gen = d.data := by simp [iterData]

theorem lookup_map_canon (g : Nat) (l : List (Nat × Entries)) :
    (l.map (fun e => (e.1, canon e.2))).lookup g = (l.lookup g).map canon := by
  induction l with
  | nil => rfl
  | cons e t ih =>
    obtain ⟨a, b⟩ := e
    simp only [List.map_cons, List.lookup_cons]
    by_cases h : g == a
    · simp [h]
    · simp [h, ih]

theorem mapOf_abs (d : MState) (g : Nat) : mapOf (absState d) g = canon (iterData d g) := by
  simp only [mapOf, absState, iterData]
  by_cases h : g = d.gen
  · simp [h]
  · simp only [h, if_false, lookup_map_canon]
    cases d.old.lookup g with
    | none => simp [canon]
    | some m => simp

theorem rangeStep_ok (stop : Option Nat) (acc : Entries) (oracle : List Nat) (g : Nat) (og : Option Nat) (d : MState)
    (hnd : NoDupKeys d.data) (hg : og.getD d.gen = g) :
    ResOK R A (.range stop acc og) (absState d) (rangeStep stop acc oracle g d) := by
  unfold rangeStep
  cases ha : advance oracle (iterData d g) with
  | none => exact ⟨_, .head _, rfl, hnd⟩
  | some x =>
    obtain ⟨c, v, cs⟩ := x
    -- the observation of `(c, v)` is a transition of the pending `Range`, whichever way the callback answers
    have hf : (absState d, Outcome.more (.range stop (acc ++ [(c, v)]) (some g))) ∈ fires (.range stop acc og) (absState d) := by
      have hmem : (c, v) ∈ mapOf (absState d) g := by
        rw [mapOf_abs]; exact mem_of_sget (by rw [sget_canon]; exact advance_some ha)
      have hg' : og.getD (absState d).gen = g := hg
      simp only [fires, hg', List.mem_cons, List.mem_map]
      exact Or.inr ⟨(c, v), hmem, rfl⟩
    show ResOK R A _ _ (if stop = some (acc ++ [(c, v)]).length then _ else _)
    by_cases hstop : stop = some (acc ++ [(c, v)]).length
    · rw [if_pos hstop]
      exact Or.inr ⟨_, _, hf, ⟨rfl, hnd⟩, ⟨stop, some g, rfl⟩⟩
    · rw [if_neg hstop]
      exact Or.inr ⟨_, _, hf, ⟨rfl, hnd⟩, rfl⟩

/-- one read-locked step of the sweep: it returns, or goes on as a sweep at time `t` — which the pending operation already
    is, or becomes by the transition that fixes its time -/
theorem sweepStep_ok (op : Op) (t : Nat) (acc : List Val) (oracle : List Nat) (g : Nat) (d : MState) (hnd : NoDupKeys d.data)
    (hdone : (absState d, Outcome.done .unit) ∈ fires op (absState d))
    (hmore : op = .sweep (some t) ∨ (absState d, Outcome.more (.sweep (some t))) ∈ fires op (absState d)) :
    ResOK R A op (absState d) (sweepStep t acc oracle g d) := by
  unfold sweepStep
  cases advance oracle (iterData d g) with
  | none => exact ⟨_, hdone, rfl, hnd⟩
  | some x =>
    obtain ⟨c, e, cs⟩ := x
    rcases hmore with rfl | hf
    · exact Or.inl ⟨⟨rfl, hnd⟩, A_sweepAfterVisit _ _ _ _ _ _⟩
    · exact Or.inr ⟨_, _, hf, ⟨rfl, hnd⟩, A_sweepAfterVisit _ _ _ _ _ _⟩

/-- `hstep` is a hypothesis because `Cache.step` matches on `op` before it reaches `mapSection`: the equation holds by `rfl` for
    each constructor that `IsMapOp` admits, not for a variable `op` -/
theorem mapOp_stepOK {op : Op} {d : MState} (hop : IsMapOp op) (hnd : NoDupKeys d.data)
    (hstep : impl.step (.single op) d =
      match mapSection op d.data with
      | some (m', r) => ({ d with data := m' }, .inr r)
      | none => (d, .inr .unit)) :
    ResOK R A op (absState d) (impl.step (.single op) d) := by
  obtain ⟨m', r, hm, hf, hn⟩ := mapSection_spec op hop d.data hnd (absState d) rfl
  rw [hstep, hm]
  exact ⟨_, hf, rfl, hn⟩

theorem impl_stepOK : StepOK impl R A := by
  intro l op d s hA hR
  obtain ⟨rfl, hnd⟩ := hR
  cases l with
  | single o =>
    obtain ⟨rfl, hs⟩ := hA
    cases op
    case cacheLoadOrStore k e =>
      obtain ⟨h1, h2⟩ := cacheLoadOrStore_refines k e d.data (absState d) rfl hnd
      exact ⟨_, h1, rfl, h2⟩
    case cacheLoad k => exact ⟨_, cacheLoad_refines k d.data (absState d) rfl, rfl, hnd⟩
    case tick n => exact ⟨{ absState d with now := d.now + n }, .head _, rfl, hnd⟩
    case loadAndDeleteAll => exact ⟨_, .head _, rfl, List.nodup_nil⟩
    case range | sweep => exact hs.elim
    all_goals exact mapOp_stepOK trivial hnd rfl
  | rangeStart stop oracle =>
    cases (show op = _ from hA)
    exact rangeStep_ok stop [] oracle d.gen none d hnd rfl
  | range stop acc oracle g =>
    cases (show op = _ from hA)
    exact rangeStep_ok stop acc oracle g (some g) d hnd rfl
  | rangeStop acc =>
    obtain ⟨stop, g, rfl⟩ := hA
    exact ⟨_, .head _, rfl, hnd⟩
  | sweepStart t oracle =>
    cases (show op = _ from hA)
    cases t with
    | none => exact sweepStep_ok _ d.now [] oracle d.gen d hnd (.tail _ (.head _)) (Or.inr (.head _))
    | some t => exact sweepStep_ok _ t [] oracle d.gen d hnd (.head _) (Or.inl rfl)
  | sweepIter t acc oracle g =>
    cases (show op = _ from hA)
    exact sweepStep_ok _ t acc oracle g d hnd (.head _) (Or.inl rfl)
  | sweepExpire t k e acc cs g =>
    cases (show op = _ from hA)
    show ResOK R A _ _ ({ d with data := (expireSection k e t d.data).1 }, .inl (.sweepIter t _ cs g))
    rw [expireSection_eq]
    by_cases hx : mget k d.data = some e ∧ e.expired t = true
    · rw [if_pos hx]
      refine Or.inr ⟨{ absState d with m := sdel k (canon d.data) }, .sweep (some t), ?_, ⟨?_, NoDupKeys_merase hnd⟩, rfl⟩
      · simp only [fires, List.mem_cons, List.mem_map, List.mem_filter]
        exact Or.inr ⟨(k, e), ⟨mem_of_sget ((sget_canon k d.data).trans hx.1), hx.2⟩, rfl⟩
      · simp only [absState, canon_merase _ _ hnd]
    · rw [if_neg hx]
      exact Or.inl ⟨⟨rfl, hnd⟩, rfl⟩

theorem pget_pset (P : PTab) (t : Nat) (x : PSt) : pget (pset P t x) = updP (pget P) t x := by
  funext j
  simp only [pget, pset, updP, List.find?_cons]
  by_cases h : j = t
  · subst h; simp
  · have : (t == j) = false := by
      have : t ≠ j := fun hh => h hh.symm
      simpa using this
    simp only [this, h, if_false, KeyedList.find?_remove Prod.fst P t j]

theorem search_sound : ∀ (fuel : Nat) (s : State) (P : PTab) (H : List Ev),
    search fuel s P H = true → Lin s (pget P) H := by
  intro fuel
  induction fuel with
  | zero => intro s P H h; simp [search] at h
  | succ n ih =>
    intro s P H h
    simp only [search, Bool.or_eq_true] at h
    rcases h with h | h
    · cases H with
      | nil => exact Lin.nil _ _
      | cons ev H' =>
        cases ev with
        | call t op =>
          simp only [Bool.and_eq_true, beq_iff_eq] at h
          apply Lin.call h.1
          rw [← pget_pset]
          exact ih _ _ _ h.2
        | ret t r =>
          simp only [Bool.and_eq_true, beq_iff_eq] at h
          apply Lin.ret h.1
          rw [← pget_pset]
          exact ih _ _ _ h.2
    · simp only [List.any_eq_true] at h
      obtain ⟨e, he, h⟩ := h
      cases hst : e.2 with
      | idle => simp [hst] at h
      | fin r => simp [hst] at h
      | pend op =>
        simp only [hst, Bool.and_eq_true, beq_iff_eq, List.any_eq_true] at h
        obtain ⟨hp, so, hso, h⟩ := h
        cases ho : so.2 with
        | more op' =>
          simp only [ho, Bool.and_eq_true] at h
          have hm : (so.1, Outcome.more op') ∈ fires op s := by rw [← ho]; exact hso
          apply Lin.fire hp hm
          rw [← pget_pset]
          exact ih _ _ _ h.2
        | done r =>
          simp only [ho, Bool.and_eq_true] at h
          have hm : (so.1, Outcome.done r) ∈ fires op s := by rw [← ho]; exact hso
          apply Lin.done hp hm
          rw [← pget_pset]
          exact ih _ _ _ h.2

theorem judge_sound (H : List Ev) (h : judge H = true) : Linearizable init H :=
  search_sound _ _ _ _ h

/-- results of the `LoadOrStore(k, _)` calls of a history, in order (single-step calls: a call is directly followed by its return) -/
def losResults (k : Nat) : List Ev → List Res
  | .call _ (.loadOrStore k' _) :: .ret _ r :: H => if k' = k then r :: losResults k H else losResults k H
  | _ :: H => losResults k H
  | [] => []

/-- a syntactic test, sufficient and not necessary: the calls it admits never remove or overwrite an existing entry of key `k`
    (`Delete` of another key, `LoadWithFunc`, `Range`, `Cache.Load` keep it too and are not admitted) -/
def KeepsKey (k : Nat) (c : Call) : Prop :=
  match c.op with
  | .loadOrStore _ _ => True
  | .load _ => True
  | .store k' _ => k' ≠ k
  | .length => True
  | .copyData => True
  | _ => False

def AllLoaded (w : Val) (l : List Res) : Prop := ∀ r ∈ l, r = Res.stored w true

/-- what the `LoadOrStore(k, _)` calls still to come report, given the entry of `k`: they all load it; while there is none,
    the first one stores and the others load what it stored -/
def Winner : Option Val → List Res → Prop
  | some w, l => AllLoaded w l
  | none, l => l = [] ∨ ∃ w rest, l = Res.stored w false :: rest ∧ AllLoaded w rest

theorem Winner_nil (o : Option Val) : Winner o [] := by
  cases o with
  | none => exact Or.inl rfl
  | some w => exact fun _ h => (List.not_mem_nil h).elim

def losOf (k : Nat) (op : Op) (r : Res) : List Res :=
  match op with
  | .loadOrStore k' _ => if k' = k then [r] else []
  | _ => []

theorem losResults_pair (k t : Nat) (op : Op) (r : Res) (H : List Ev) :
    losResults k (.call t op :: .ret t r :: H) = losOf k op r ++ losResults k H := by
  cases op
  case loadOrStore k' v =>
    show (if k' = k then r :: losResults k H else losResults k H) = (if k' = k then [r] else []) ++ losResults k H
    by_cases h : k' = k
    · rw [if_pos h, if_pos h]; rfl
    · rw [if_neg h, if_neg h]; rfl
  all_goals rfl

theorem sched1_single {d d' : MState} {ths : Nat → TSt Call L} {t : Nat} {c : Call} {rest : List Call} {r : Res}
    (hth : ths t = .idle (c :: rest)) (hstep : impl.step (impl.start c) d = (d', .inr r)) :
    sched1 impl d ths t = (d', upd ths t (.idle rest), [.call t (impl.view c), .ret t r]) := by
  simp only [sched1, hth, hstep]

/-- `Winner` is carried backwards over one scheduled step of a thread whose next call keeps the key: a `LoadOrStore(k, _)` loads
    the entry of `k`, or stores while there is none; every other call leaves the entry of `k` alone. -/
theorem sched1_keeps (k : Nat) (d : MState) (ths : Nat → TSt Call L) (t : Nat) (c : Call) (rest : List Call)
    (hth : ths t = .idle (c :: rest)) (hc : KeepsKey k c) :
    ∃ d' r, sched1 impl d ths t = (d', upd ths t (.idle rest), [.call t c.op, .ret t r]) ∧
      ∀ l, Winner (mget k d'.data) l → Winner (mget k d.data) (losOf k c.op r ++ l) := by
  obtain ⟨op, oracle⟩ := c
  have same : ∀ {m' : Entries} {ls : List Res}, mget k m' = mget k d.data → ls = [] →
      ∀ l, Winner (mget k m') l → Winner (mget k d.data) (ls ++ l) := by
    intro m' ls hm hl l h; subst hl; exact hm ▸ h
  cases op
  case loadOrStore k' v =>
    have hl : ∀ r, losOf k' (.loadOrStore k' v) r = [r] := fun _ => if_pos rfl
    cases hg : mget k' d.data with
    | some w =>
      refine ⟨d, .stored w true, sched1_single hth (by simp only [impl, start, step, mapSection, hg]), ?_⟩
      by_cases hk : k' = k
      · subst hk
        intro l h
        rw [hg] at h ⊢
        rw [hl]
        exact List.forall_mem_cons.mpr ⟨rfl, h⟩
      · exact same rfl (if_neg hk)
    | none =>
      refine ⟨{ d with data := mset k' v d.data }, .stored v false,
        sched1_single hth (by simp only [impl, start, step, mapSection, hg]), ?_⟩
      by_cases hk : k' = k
      · subst hk
        intro l h
        rw [(mget_mset k' k' v d.data).trans (if_pos rfl)] at h
        rw [hg, hl]
        exact Or.inr ⟨v, l, rfl, h⟩
      · exact same ((mget_mset k' k v d.data).trans (if_neg (Ne.symm hk))) (if_neg hk)
  case load | length | copyData => exact ⟨d, _, sched1_single hth rfl, same rfl rfl⟩
  case store k' v =>
    exact ⟨_, _, sched1_single hth rfl, same ((mget_mset k' k v d.data).trans (if_neg (Ne.symm hc))) rfl⟩
  all_goals exact False.elim hc

/-- The threads start between two calls (`Consistent` with no call pending) and all calls to come keep the key. -/
theorem one_winner_aux (k : Nat) : ∀ (sched : List Nat) (d : MState) (ths : Nat → TSt Call L),
    Consistent A (KeepsKey k) ths (fun _ => .idle) → Winner (mget k d.data) (losResults k (history impl d ths sched)) := by
  intro sched
  induction sched with
  | nil => intro d ths _; exact Winner_nil _
  | cons t ts ih =>
    intro d ths hI
    have hCt := hI t
    cases hth : ths t with
    | run l rest =>
      rw [hth] at hCt
      obtain ⟨⟨_, h, _⟩, _⟩ := hCt
      cases h
    | idle prog =>
      rw [hth] at hCt
      cases prog with
      | nil =>
        have e : history impl d ths (t :: ts) = history impl d ths ts := by simp [history, sched1, hth]
        rw [e]; exact ih d ths hI
      | cons c rest =>
        obtain ⟨d', r, hs, hw⟩ := sched1_keeps k d ths t c rest hth (hCt.2 c List.mem_cons_self)
        have e : history impl d ths (t :: ts) = .call t c.op :: .ret t r :: history impl d' (upd ths t (.idle rest)) ts := by
          simp [history, hs]
        rw [e, losResults_pair]
        have hc := Consistent_upd hI t (th := .idle rest) (fun _ => ⟨rfl, fun c' hc' => hCt.2 c' (List.mem_cons_of_mem _ hc')⟩)
        rw [updP_self rfl] at hc
        exact hw _ (ih d' _ hc)

/-- For `Props.C14.callers_use_atomic_forms`: `noCheckThenAct` ranges over all pairs of call sites, of which only the few plain
    `Load`s (`q`, not excepted by `e`) against the `Store`s and `Delete`s (`r`) matter; the right-hand side is one pass over the
    table for each filter and then the few pairs that are left. -/
theorem all_all_guarded {α β : Type} (l : List α) (l' : List β) (p : α → β → Bool) (q e : α → Bool) (r : β → Bool) :
    l.all (fun a => l'.all (fun b => !(p a b && q a && r b && !e a))) =
      (l.filter (fun a => q a && !e a)).all (fun a => (l'.filter r).all (fun b => !p a b)) := by
  simp only [List.all_filter]
  congr 1; funext a; congr 1
  cases q a <;> cases e a <;> simp [Bool.or_comm]

end CoapVerif.Lemmas.SyncMap
