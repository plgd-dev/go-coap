import CoapVerif.Model.NoResponse
/-! What `wire` puts out for a message the handler set and for one it left alone, each also as the specification's judges
    test it (`wireOk`), `serve` as `wire` after one call, and `foldr_find` (a right fold that keeps the first hit is `find?`, for
    `afterCalls` in `Props/C20`). -/
namespace CoapVerif.Lemmas.NoResponse
open CoapVerif.Model.NoResponse
open CoapVerif.Spec.NoResponse (Transport ReqType Sent Wire)

theorem wire_some (tr : Transport) (rt : ReqType) (c : Nat) :
    ∃ s, wire tr rt (some c) = [s] ∧ s.code = c ∧ s.token = true ∧
      (!(tr == .udp && rt == .con) || (s.typ == "ack" && s.mid == "req")) = true := by
  cases tr
  · by_cases h0 : c = 0
    · subst h0; cases rt <;> exact ⟨_, rfl, rfl, rfl, rfl⟩
    · cases rt <;> exact ⟨_, if_neg h0, rfl, rfl, rfl⟩
  · exact ⟨_, rfl, rfl, rfl, rfl⟩

theorem wire_none (tr : Transport) (rt : ReqType) :
    wire tr rt none = if tr = .udp ∧ rt = .con then [⟨"ack", 0, "req", false⟩] else [] := by
  cases tr <;> cases rt <;> rfl

/-- The judges' test of what was seen on the wire against what is due: the inner `match` of `judge`, `judgeWire`, `judgeCalls`.
    No equation links it to them: `Props.C20.serve_conforms` and `serveCalls_conforms` unfold the judge and close the goal with
    a fact about `wireOk`, which the kernel accepts as long as the judge's match is this one. -/
def wireOk (tr : Transport) (rt : ReqType) (sent : List Sent) : Wire → Bool
  | .nothing => sent.isEmpty
  | .bareAck => sent == [⟨"ack", 0, "req", false⟩]
  | .response c =>
    match sent with
    | [s] => s.code == c && s.token && (!(tr == .udp && rt == .con) || (s.typ == "ack" && s.mid == "req"))
    | _ => false

theorem wire_some_judged (tr : Transport) (rt : ReqType) (c : Nat) : wireOk tr rt (wire tr rt (some c)) (.response c) = true := by
  obtain ⟨s, hs, hc, ht, ha⟩ := wire_some tr rt c
  rw [hs]
  simp only [wireOk, hc, ht, ha, beq_self_eq_true, Bool.and_true]

theorem wire_none_judged (tr : Transport) (rt : ReqType) :
    wireOk tr rt (wire tr rt none) (if tr = .udp ∧ rt = .con then .bareAck else .nothing) = true := by
  cases tr <;> cases rt <;> rfl

theorem serve_eq (tr : Transport) (rt : ReqType) (noResp : Option Nat) (code : Nat) :
    serve tr rt noResp code = (setResponseAccepted noResp code,
      wire tr rt (if setResponseAccepted noResp code then some code else none)) := by
  unfold serve wire
  cases setResponseAccepted noResp code <;> cases tr <;> cases rt <;>
    first | rfl | (simp only [↓reduceIte]; split <;> rfl)

theorem foldr_find {α : Type} (p : α → Bool) : ∀ l : List α, l.foldr (fun c s => if p c then some c else s) none = l.find? p
  | [] => rfl
  | c :: l => by rw [List.foldr_cons, foldr_find p l, List.find?_cons]; cases p c <;> rfl

end CoapVerif.Lemmas.NoResponse
