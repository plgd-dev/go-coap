import CoapVerif.Spec.Wire
/-!
Facts about the specification `Spec/Wire.lean` alone: the Boolean predicates `optsWF` / `WF` read as conjunctions, the
payload part, the length of an encoded option, a stream frame as its header in front of its body.
-/
namespace CoapVerif.Lemmas.WireSpec
open CoapVerif.Spec.Wire

theorem optsWF_cons {reg : List (Nat × Nat × Nat)} {prev : Nat} {o : Opt} {os : List Opt} :
    optsWF reg prev (o :: os) = true ↔
      prev ≤ o.id ∧ o.id ≠ 0 ∧ o.id < 65536 ∧ o.val.length ≤ 65804 ∧ lengthLegal reg o.id o.val.length = true ∧
        optsWF reg o.id os = true := by
  simp only [optsWF, Bool.and_eq_true, decide_eq_true_eq, and_assoc]

theorem optsWF_mono {reg : List (Nat × Nat × Nat)} {os : List Opt} {p p' : Nat} (hp : p' ≤ p)
    (h : optsWF reg p os = true) : optsWF reg p' os = true := by
  cases os with
  | nil => rfl
  | cons o os => exact optsWF_cons.mpr ((optsWF_cons.mp h).imp_left (Nat.le_trans hp))

theorem WF_udp {m : Msg} :
    WF .udp m = true ↔ m.token.length ≤ 8 ∧ m.code < 256 ∧ optsWF rfcRegistry 0 m.options = true ∧
      0 ≤ m.typ ∧ m.typ ≤ 3 ∧ 0 ≤ m.mid ∧ m.mid < 65536 := by
  simp only [WF, registryFor, Bool.and_eq_true, decide_eq_true_eq, and_assoc]

theorem WF_tcp {m : Msg} :
    WF .tcp m = true ↔ m.token.length ≤ 8 ∧ m.code < 256 ∧ optsWF (registryFor .tcp m.code) 0 m.options = true ∧
      (encBody m).length < tcpBodyLimit := by
  simp only [WF, Bool.and_eq_true, decide_eq_true_eq, and_assoc]

theorem encPayload_cases (p : Bytes) : encPayload p = [] ∧ p = [] ∨ encPayload p = 0xff :: p ∧ p ≠ [] := by
  unfold encPayload
  cases p with
  | nil => simp
  | cons b t => simp

/-- The length in the spelling of the code (`len(payload) > 0`). -/
theorem encPayload_len (p : Bytes) : (encPayload p).length = if p.length > 0 then p.length + 1 else p.length := by
  unfold encPayload
  cases p with
  | nil => simp
  | cons b t => simp

theorem encOpt_length (prev : Nat) (o : Opt) :
    (encOpt prev o).length = 1 + (ext (o.id - prev)).length + (ext o.val.length).length + o.val.length := by
  simp [encOpt]; omega

theorem encTcp_split (m : Msg) :
    ∃ hd, encTcp m = hd ++ encBody m ∧ hd.length = 1 + (extLen (encBody m).length).length + 1 + m.token.length :=
  ⟨UInt8.ofNat (lenNib (encBody m).length * 16 + m.token.length) ::
      (extLen (encBody m).length ++ (UInt8.ofNat m.code :: m.token)), by simp [encTcp], by simp; omega⟩

theorem encTcp_length (m : Msg) :
    (encTcp m).length = 1 + (extLen (encBody m).length).length + 1 + m.token.length + (encBody m).length := by
  obtain ⟨hd, e, h⟩ := encTcp_split m
  rw [e, List.length_append, h]

end CoapVerif.Lemmas.WireSpec
