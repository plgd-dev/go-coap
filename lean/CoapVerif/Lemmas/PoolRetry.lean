import CoapVerif.Model.PoolRetry
import CoapVerif.Lemmas.CoderDecode
/-!
The option capacity only decides *whether* a decoder reports `ErrOptionsTooSmall`, never what it
returns otherwise (`decLoop_cap_indep`, `decode_cap_indep`); hence the pooled retry loop returns what the decoder returns
with any sufficient capacity (`decodeRetry_spec`), and `UnmarshalWithDecoder` is that decoder on the message's own copy
of the data (`unmarshalWithDecoder_eq`).
-/
namespace CoapVerif.Lemmas.PoolRetry
open CoapVerif.Generated.Codec CoapVerif.Generated.OptionDefs
open CoapVerif.Spec.Wire (Bytes Opt Msg)
open CoapVerif.Model CoapVerif.Model.OptionCodec CoapVerif.Model.PoolMessage
open CoapVerif.Lemmas CoapVerif.Lemmas.OptionCodec CoapVerif.Lemmas.CoderDecode

theorem decLoop_cap_indep (defs : Defs) (c1 n1 c2 n2 prev : Nat) (bs : Bytes)
    (h1 : decLoop defs c1 n1 prev bs ≠ .error .optCap) (h2 : decLoop defs c2 n2 prev bs ≠ .error .optCap) :
    decLoop defs c1 n1 prev bs = decLoop defs c2 n2 prev bs := by
  fun_induction decLoop defs c1 n1 prev bs generalizing n2 with
  | case1 => rw [decLoop_nil]
  | case5 => exact absurd rfl h1
  | case2 | case3 | case4 =>
    -- the second run takes the same branch
    rw [decLoop_cons]; simp +zetaDelta only [*, if_true, if_false]
  | case6 n prev b t hff delta v t' hd hov hc _ hrec ih
  | case7 n prev b t hff delta v t' hd hov hc _ _ hrec ih =>
    rw [decLoop_cons, if_neg hff, hd] at h2 ⊢
    dsimp only at h2 ⊢
    rw [if_neg hov] at h2 ⊢
    have hc2 : ¬ c2 = n2 := fun h => h2 (if_pos h)
    rw [if_neg hc2] at h2 ⊢
    rw [← ih _ ?_ ?_, hrec]
    · intro h; rw [h] at hrec; cases hrec <;> exact h1 rfl
    · intro h; rw [h] at h2; exact h2 rfl

theorem decode_cap_indep (c : Coder) (c1 c2 : Nat) (bs : Bytes)
    (h1 : c.decode c1 bs ≠ .error .optCap) (h2 : c.decode c2 bs ≠ .error .optCap) : c.decode c1 bs = c.decode c2 bs := by
  simp only [decode_eq, framed] at h1 h2 ⊢
  cases hf : frameOf c bs with
  | error e => rfl
  | ok f =>
    -- the header does not see the capacity
    simp only [hf] at h1 h2 ⊢
    rw [decLoop_cap_indep f.defs c1 0 c2 0 0 f.body (fun h => h1 (by rw [h])) (fun h => h2 (by rw [h]))]

theorem decode_big_cap (c : Coder) (cap : Nat) (bs : Bytes) (h : bs.length ≤ cap) : c.decode cap bs ≠ .error .optCap := by
  intro he
  have := decode_optCap_lt he
  omega

theorem decodeRetry_spec (c : Coder) (cap : Nat) (data : Bytes) :
    ∃ cap', cap ≤ cap' ∧ decodeRetry c cap data = (c.decode cap' data, cap') ∧ c.decode cap' data ≠ .error .optCap := by
  induction hm : data.length - cap using Nat.strongRecOn generalizing cap with
  | _ k ih =>
    rw [decodeRetry.eq_def]
    split
    · rename_i h
      have h1 := decode_optCap_lt h
      have h2 := newCap_gt cap
      obtain ⟨cap', hle, heq, hne⟩ := ih (data.length - newCap cap) (by omega) (newCap cap) rfl
      exact ⟨cap', by omega, heq, hne⟩
    · rename_i hr
      refine ⟨cap, Nat.le_refl _, rfl, ?_⟩
      intro h
      exact hr h

theorem decodeRetryN_eq (c : Coder) (fuel cap : Nat) (data : Bytes) (hf : data.length - cap < fuel) :
    decodeRetryN c fuel cap data = decodeRetry c cap data := by
  induction fuel generalizing cap with
  | zero => omega
  | succ fuel ih =>
    rw [decodeRetryN, decodeRetry.eq_def]
    split
    · rename_i h
      have h1 := decode_optCap_lt h
      have h2 := newCap_gt cap
      have h3 : ¬ (newCap cap ≤ cap) := by omega
      simp only [h3, ↓reduceIte]
      rw [ih (newCap cap) (by omega)]
      split
      · rfl
      · rename_i hne; exact absurd h hne
    · rename_i hne
      split
      · rename_i h; exact absurd h hne
      · rfl

theorem unmarshal_copy (bu data : Bytes) :
    sliceTo (goCopy (if bu.length < data.length then grow bu (data.length - bu.length) else bu) data) data.length = .ok data := by
  have hl : data.length ≤ (if bu.length < data.length then grow bu (data.length - bu.length) else bu).length := by
    split
    · simp [grow]; omega
    · omega
  rw [Slices.goCopy_fits _ _ hl]
  simp [sliceTo]

/-- `UnmarshalWithDecoder` is the decoder on the caller's data, at the capacity the retry loop ends with. -/
theorem unmarshalWithDecoder_eq (c : Coder) (r : PoolMsg) (data : Bytes) :
    ∃ cap', c.decode cap' data ≠ .error .optCap ∧
      unmarshalWithDecoder c r data =
        match c.decode cap' data with
        | .error e => .error e
        | .ok (m, n) => .ok (n, { r with optCap := cap', bufferUnmarshal := data, msg := m }) := by
  obtain ⟨cap', _, heq, hne⟩ := decodeRetry_spec c r.optCap data
  refine ⟨cap', hne, ?_⟩
  unfold unmarshalWithDecoder
  simp only [bind, Except.bind, unmarshal_copy, heq]
  rfl

end CoapVerif.Lemmas.PoolRetry
