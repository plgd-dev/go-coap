import CoapVerif.Lemmas.OptionRoundTrip
import CoapVerif.Lemmas.CoderDecode
import CoapVerif.Spec.CodecJudge
import CoapVerif.Lemmas.BigEndian
/-!
The decoders agree with the reference parsers of `Spec/Rfc7252Parse.lean` / `Spec/Rfc8323Parse.lean`
(tokenise → prefix sums → 16-bit check → leniency filter) on every byte string, given an option
capacity that cannot run out: the option loop is the reference's body parser (`decLoop_eq_parseBody`), the reference
reads the same header (`refParse_frame`), hence `decode_eq_ref` for either coder.
-/
namespace CoapVerif.Lemmas.RefParser
open CoapVerif.Generated.Codec CoapVerif.Generated.OptionDefs
open CoapVerif.Spec.Wire CoapVerif.Spec
open CoapVerif.Model CoapVerif.Model.OptionCodec
open CoapVerif.Lemmas CoapVerif.Lemmas.OptionCodec CoapVerif.Lemmas.OptionRoundTrip CoapVerif.Lemmas.CoderDecode
open CoapVerif.Model.PoolMessage (Coder)
open CoapVerif.Props.C01 (framingOf)
open CoapVerif.Spec.CodecJudge (refParse)

/-- A delta/length field: the code's parser is the grammar's for nibbles 0..14 (its only error is "truncated"). -/
theorem decExt_eq_field (nib : Nat) (h : nib < 15) (t : Bytes) :
    decExt nib t = match Rfc7252.field nib t with | some r => .ok r | none => .error .optTruncated := by
  unfold Rfc7252.field decExt
  by_cases h12 : nib ≤ 12
  · have a : ¬ nib = 13 := by omega
    have b : ¬ nib = 14 := by omega
    simp [h12, a, b]
  · by_cases h13 : nib = 13
    · subst h13
      cases t <;> simp
    · have h14 : nib = 14 := by omega
      subst h14
      match t with
      | [] => simp
      | [_] => simp
      | _ :: _ :: _ => simp

theorem field_15 (t : Bytes) : Rfc7252.field 15 t = none := by simp [Rfc7252.field]

/-- Result of a decoder as a verdict (core `Except.toOption`, fixed to the error type of the codec models). -/
def toOpt {α : Type} : Except Err α → Option α
  | .ok a => some a
  | .error _ => none

/-- The grammar's view of one option is the loop's (`decOpt`). -/
theorem tokens_cons (b : UInt8) (t : Bytes) :
    Rfc7252.tokens (b :: t) =
      if b = 0xff then some ([], t) else
      match toOpt (decOpt b t) with
      | none => none
      | some (d, v, t') =>
        match Rfc7252.tokens t' with
        | none => none
        | some (rest, p) => some ((d, v) :: rest, p) := by
  rw [Rfc7252.tokens.eq_def]
  simp only []
  split
  · rfl
  by_cases hm : b.toNat / 16 = 15 ∨ b.toNat % 16 = 15
  · -- the grammar fails at the reserved nibble (or before it)
    rw [decOpt, if_pos hm]
    cases hd : Rfc7252.field (b.toNat / 16) t with
    | none => rfl
    | some r1 =>
      obtain ⟨d, t1⟩ := r1
      simp only []
      cases hl : Rfc7252.field (b.toNat % 16) t1 with
      | none => rfl
      | some r2 => rcases hm with hm | hm <;> simp [hm, field_15] at hd hl
  · obtain ⟨hd15, hl15⟩ := nibbles_lt b.toNat_lt hm
    rw [decOpt, if_neg hm, decExt_eq_field _ hd15]
    cases hd : Rfc7252.field (b.toNat / 16) t with
    | none => rfl
    | some r1 =>
      obtain ⟨d, t1⟩ := r1
      simp only []
      rw [decExt_eq_field _ hl15]
      cases hl : Rfc7252.field (b.toNat % 16) t1 with
      | none => rfl
      | some r2 =>
        obtain ⟨l, t2⟩ := r2
        simp only []
        split <;> rfl

/-- `Rfc7252.parseBody` with the running option number as a parameter, which the induction of `decLoop_eq_parseBodyFrom`
moves; `parseBody` is the instance at 0 by unfolding. -/
def parseBodyFrom (reg : List (Nat × Nat × Nat)) (prev : Nat) (bs : Bytes) : Option (List Opt × Bytes) :=
  match Rfc7252.tokens bs with
  | none => none
  | some (toks, p) =>
    if (Rfc7252.absolute prev toks).all (fun o => decide (o.id < 65536)) then
      some (Rfc7252.lenient reg (Rfc7252.absolute prev toks), p)
    else none

theorem lenient_cons (reg : List (Nat × Nat × Nat)) (o : Opt) (os : List Opt) :
    Rfc7252.lenient reg (o :: os) = Rfc7252.lenient reg [o] ++ Rfc7252.lenient reg os :=
  List.filter_append (l₁ := [o]) (l₂ := os) ..

theorem lenient_single (reg : List (Nat × Nat × Nat)) (o : Opt) :
    Rfc7252.lenient reg [o] = if o.id ≠ 0 ∧ lengthLegal reg o.id o.val.length = true then [o] else [] := by
  simp only [Rfc7252.lenient, List.filter_cons, List.filter_nil, Bool.and_eq_true, decide_eq_true_eq]

/-- One option of the reference parser: the same decisions in the order `decLoop` takes them. -/
theorem parseBodyFrom_cons (reg : List (Nat × Nat × Nat)) (prev : Nat) (b : UInt8) (t : Bytes) :
    parseBodyFrom reg prev (b :: t) =
      if b = 0xff then some ([], t) else
      match toOpt (decOpt b t) with
      | none => none
      | some (d, v, t') =>
        if prev + d < 65536 then
          match parseBodyFrom reg (prev + d) t' with
          | none => none
          | some (os, p) => some (Rfc7252.lenient reg [⟨prev + d, v⟩] ++ os, p)
        else none := by
  unfold parseBodyFrom
  rw [tokens_cons]
  by_cases hff : b = 0xff
  · rw [if_pos hff, if_pos hff]; rfl
  rw [if_neg hff, if_neg hff]
  cases toOpt (decOpt b t) with
  | none => rfl
  | some r =>
    obtain ⟨d, v, t'⟩ := r
    dsimp only
    cases Rfc7252.tokens t' with
    | none => by_cases h : prev + d < 65536 <;> simp [h]
    | some r3 =>
      obtain ⟨rest, p⟩ := r3
      simp only [Rfc7252.absolute, List.all_cons, lenient_cons reg ⟨prev + d, v⟩ (Rfc7252.absolute (prev + d) rest)]
      by_cases h : prev + d < 65536
      · by_cases hr : ((Rfc7252.absolute (prev + d) rest).all fun o => decide (o.id < 65536)) = true <;> simp [h, hr]
      · simp [h]

theorem decLoop_eq_parseBodyFrom (defs : Defs) (hu : noUnknown defs = true) (cap n prev : Nat) (bs : Bytes)
    (hcap : n + bs.length ≤ cap) :
    toOpt (decLoop defs cap n prev bs) = parseBodyFrom (regOf defs) prev bs := by
  induction hl : bs.length using Nat.strongRecOn generalizing n prev bs with
  | _ len ih =>
    subst hl
    cases bs with
    | nil => rw [decLoop_nil, parseBodyFrom, Rfc7252.tokens.eq_def]; rfl
    | cons b t =>
      rw [decLoop_cons, parseBodyFrom_cons]
      by_cases hff : b = 0xff
      · rw [if_pos hff, if_pos hff]; rfl
      rw [if_neg hff, if_neg hff]
      cases hd : decOpt b t with
      | error e => rfl
      | ok r =>
        obtain ⟨delta, v, t'⟩ := r
        have hv := (decOpt_iff.mp hd).2.1
        have hlen := decOpt_len hd
        dsimp only [toOpt]
        by_cases hov : prev + delta > 65535
        · rw [if_pos hov, if_neg (show ¬ prev + delta < 65536 by omega)]
        rw [List.length_cons] at hcap hlen
        have hk : (keepOpt defs (prev + delta) v).toList.length ≤ 1 := Option.length_toList_le
        rw [if_neg hov, if_neg (show ¬ cap = n by omega), if_pos (show prev + delta < 65536 by omega),
          ← ih _ (by rw [List.length_cons]; omega) (n + (keepOpt defs (prev + delta) v).toList.length) (prev + delta) t'
            (by omega) rfl,
          keepOpt_eq defs hu _ _ (by omega), lenient_single]
        cases decLoop defs cap _ (prev + delta) t' with
        | error e => rfl
        | ok r =>
          obtain ⟨os, rest⟩ := r
          dsimp only [toOpt]
          by_cases hkeep : prev + delta ≠ 0 ∧ lengthLegal (regOf defs) (prev + delta) v.length = true
          · rw [if_pos hkeep, if_pos hkeep]; rfl
          · rw [if_neg hkeep, if_neg hkeep]; rfl

theorem decLoop_eq_parseBody (defs : Defs) (hu : noUnknown defs = true) (cap : Nat) (bs : Bytes) (hcap : bs.length ≤ cap) :
    toOpt (decLoop defs cap 0 0 bs) = Rfc7252.parseBody (regOf defs) bs :=
  decLoop_eq_parseBodyFrom defs hu cap 0 0 bs (by omega)

theorem beVal_eq_be : Rfc8323.beVal = BigEndian.be := rfl

/-- Header verdict of the model in the vocabulary of the reference. -/
def headVerdict : Except Err TcpCoder.Header → Rfc8323.HeadVerdict
  | .ok h => .ok ⟨h.length, h.messageLength, h.code, h.token⟩
  | .error .shortRead => .incomplete
  | .error _ => .malformed

theorem headRest_eq (tkl k opLen : Nat) (t' : Bytes) :
    headVerdict (tcpHdrRest tkl opLen (1 + k) t') = Rfc8323.headRest tkl k opLen t' := by
  unfold tcpHdrRest Rfc8323.headRest
  simp only []
  split
  · rfl
  · cases t' with
    | nil => rfl
    | cons code r =>
      simp only []
      split <;> rfl

/-- The stream `Len` field: the code's parser is the grammar's (`extOf`, `beVal`) for the sixteen nibbles. -/
theorem tcpExt_eq_extOf {nib : Nat} (h : nib ≤ 15) (t : Bytes) :
    tcpExt nib t =
      if t.length < (Rfc8323.extOf nib).1 then .error .shortRead
      else .ok ((if (Rfc8323.extOf nib).1 = 0 then (Rfc8323.extOf nib).2
          else (Rfc8323.extOf nib).2 + Rfc8323.beVal (t.take (Rfc8323.extOf nib).1)),
        t.drop (Rfc8323.extOf nib).1, 1 + (Rfc8323.extOf nib).1) := by
  unfold tcpExt Rfc8323.extOf
  by_cases h12 : nib ≤ 12
  · simp [h12, show nib < 13 by omega]
  by_cases e13 : nib = 13
  · subst e13
    cases t <;> simp [beVal_eq_be, BigEndian.be_one]
  by_cases e14 : nib = 14
  · subst e14
    match t with
    | [] | [_] => simp
    | e0 :: e1 :: r => simp [beVal_eq_be, BigEndian.be_two]
  obtain rfl : nib = 15 := by omega
  match t with
  | [] | [_] | [_, _] | [_, _, _] => simp
  | e0 :: e1 :: e2 :: e3 :: r => simp [beVal_eq_be, BigEndian.be_four, Nat.add_mul, Nat.mul_assoc]

theorem tcpHdr_eq_ref (bs : Bytes) : headVerdict (tcpHdr bs) = Rfc8323.parseHead bs := by
  unfold tcpHdr Rfc8323.parseHead
  cases bs with
  | nil => rfl
  | cons b t =>
    simp only []
    by_cases htk : b.toNat % 16 > 8
    · simp [htk, headVerdict]
    · simp only [htk, ↓reduceIte]
      rw [tcpExt_eq_extOf (by have := b.toNat_lt; omega)]
      rcases Rfc8323.extOf (b.toNat / 16) with ⟨k, base⟩
      dsimp only
      by_cases hk : t.length < k
      · rw [if_pos hk, if_pos hk]; rfl
      · rw [if_neg hk, if_neg hk]; exact headRest_eq (b.toNat % 16) k _ _

/-- The reference parsers read the same header as the decoders (for a stream below 4 GiB, where `uint32(len(data))` is
the length): what they make of an accepted header is the body parser on its option area. -/
theorem refParse_frame (c : Coder) (bs : Bytes) (h32 : c = .tcp → bs.length < 4294967296) :
    refParse (framingOf c) bs =
      match frameOf c bs with
      | .error _ => none
      | .ok f =>
        match Rfc7252.parseBody (registryFor (framingOf c) f.code) f.body with
        | none => none
        | some (os, p) => some (⟨f.typ, f.mid, f.code, f.token, os, p⟩, f.used) := by
  cases c with
  | udp =>
    show (Rfc7252.parse bs).map _ = match udpFrame bs with | .error _ => none | .ok f => _
    unfold udpFrame Rfc7252.parse
    match bs with
    | [] | [_] | [_, _] | [_, _, _] => rfl
    | b0 :: b1 :: b2 :: b3 :: rest =>
      dsimp only
      by_cases hv : b0.toNat / 64 ≠ 1
      · rw [if_pos hv, if_neg (by omega)]; rfl
      rw [if_neg hv]
      by_cases ht : b0.toNat % 16 > 8
      · rw [if_pos ht, if_neg (by omega)]; rfl
      rw [if_neg ht]
      by_cases hl : rest.length < b0.toNat % 16
      · rw [if_pos hl, if_neg (by omega)]; rfl
      rw [if_neg hl, if_pos ⟨by omega, by omega, by omega⟩]
      dsimp only [framingOf, registryFor]
      cases Rfc7252.parseBody rfcRegistry (List.drop (b0.toNat % 16) rest) <;> rfl
  | tcp =>
    show Rfc8323.parse bs = match tcpFrame bs with | .error _ => none | .ok f => _
    unfold tcpFrame Rfc8323.parse
    rw [← tcpHdr_eq_ref bs]
    cases tcpHdr bs with
    | error e => cases e <;> rfl
    | ok h =>
      dsimp only [headVerdict]
      rw [Nat.mod_eq_of_lt (h32 rfl)]
      by_cases hs : bs.length < h.messageLength
      · rw [if_pos hs, if_pos hs]
      · rw [if_neg hs, if_neg hs]; rfl

/-- Decoder = reference parser, for either coder: the same message and the same consumed count (the whole datagram; the
declared frame of a stream, never the bytes behind it). -/
theorem decode_eq_ref (c : Coder) (bs : Bytes) (cap : Nat) (hc : bs.length ≤ cap) (h32 : c = .tcp → bs.length < 4294967296) :
    toOpt (c.decode cap bs) = refParse (framingOf c) bs := by
  rw [decode_eq, framed, refParse_frame c bs h32]
  rcases frameOf_cases c bs with ⟨e, he, _⟩ | ⟨f, hf, hok⟩
  · rw [he]; rfl
  rw [hf]
  dsimp only
  rw [← hok.reg, ← decLoop_eq_parseBody f.defs hok.noUnknown cap f.body (Nat.le_trans hok.body_in.length_le hc)]
  cases decLoop f.defs cap 0 0 f.body <;> rfl

end CoapVerif.Lemmas.RefParser
