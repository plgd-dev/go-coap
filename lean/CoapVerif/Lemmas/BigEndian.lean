/-!
The big-endian value of a byte string: a leading zero byte does not count, and the value is below `256 ^ length`.
`Model.Options.decodeUint32` and `Model.NoResponse.decodeUint32` are `be (bs.take 4)` up to unfolding, which is how
`Props/C19Wire.lean` and `Props/C20.lean` use these facts.  `Spec.Framing.bigEndian` and `Spec.Rfc8323.beVal` are `be`
under names of their own (`Lemmas.Framing.bigEndian_eq_be`, `Lemmas.RefParser.beVal_eq_be`), read through `be_one`, `be_two`,
`be_four`; `Spec.SortedMultiset.uintOf` is `be (bs.take 4)` written out once more, and nothing connects it to `be`.
-/
namespace CoapVerif.Lemmas.BigEndian

def be (bs : List UInt8) : Nat := bs.foldl (fun a b => a * 256 + b.toNat) 0

theorem foldl_eq (bs : List UInt8) : ∀ acc, bs.foldl (fun a b => a * 256 + b.toNat) acc = acc * 256 ^ bs.length + be bs := by
  induction bs with
  | nil => intro acc; simp [be]
  | cons b t ih =>
    intro acc
    rw [be, List.foldl_cons, ih, List.foldl_cons, ih (0 * 256 + _), List.length_cons, Nat.pow_succ']
    simp [Nat.add_mul, Nat.mul_assoc, Nat.add_assoc]

theorem be_cons (b : UInt8) (t : List UInt8) : be (b :: t) = b.toNat * 256 ^ t.length + be t := by
  rw [be, List.foldl_cons, foldl_eq, Nat.zero_mul, Nat.zero_add]

theorem be_one (a : UInt8) : be [a] = a.toNat := by simp [be]
theorem be_two (a b : UInt8) : be [a, b] = a.toNat * 256 + b.toNat := by simp [be]
theorem be_four (a b c d : UInt8) : be [a, b, c, d] = ((a.toNat * 256 + b.toNat) * 256 + c.toNat) * 256 + d.toNat := by
  simp [be]

theorem be_zero_cons (t : List UInt8) : be (0 :: t) = be t := by
  rw [be_cons]; simp

theorem be_lt (bs : List UInt8) : be bs < 256 ^ bs.length := by
  induction bs with
  | nil => exact Nat.one_pos
  | cons b t ih =>
    rw [be_cons, List.length_cons, Nat.pow_succ']
    have := Nat.mul_le_mul_right (256 ^ t.length) (Nat.le_of_lt_succ b.toNat_lt)
    omega

end CoapVerif.Lemmas.BigEndian
