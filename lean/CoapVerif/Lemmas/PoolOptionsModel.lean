import CoapVerif.Model.PoolOptions
import CoapVerif.Lemmas.OptionValuesModel
/-!
Lemmas about `Model/PoolOptions.lean` (C15): the pooled message's invariant (`MsgInv`), growth of the value buffer
(`appendZeros`) keeps every stored value, the retry-after-`ErrTooSmall` pattern of the setters under a contract on
the `Options` method it wraps, and the contracts of those methods.  From these: every operation of a history keeps
the invariant and refines the reference list (`step_spec`, `run_spec`); no history touches a view in a buffer that is
not the message's (`Foreign`, `foreign_run`).
-/
namespace CoapVerif.Lemmas.PoolOptionsModel
open CoapVerif.Model.Options CoapVerif.Spec.SortedMultiset CoapVerif.Lemmas.SortedMultiset
open CoapVerif.Lemmas.OptionsModel CoapVerif.Lemmas.OptionValuesModel

structure MsgInv (r : Msg) : Prop where
  wf : WF r.opts
  sorted : Sorted r.opts.toList
  /-- the unused rest of the value buffer lies inside its backing array -/
  vbIn : SliceIn r.mem r.vb
  /-- every stored value lies inside its buffer and below the cursor of the current value buffer -/
  live : Live r.mem r.vb r.opts
  origIn : SliceIn r.mem r.orig
  vbBid : r.vb.bid < r.mem.length
  origBid : r.orig.bid < r.mem.length

/-- A view is *kept* from `(m, vb)` to `(m', vb')`: if it was inside its buffer and outside the unused part of the
value buffer, it still is, and it reads the same bytes. -/
structure Keeps (m : Mem) (vb : Slice) (m' : Mem) (vb' : Slice) : Prop where
  views : ∀ v, InB m v → Below vb.bid vb.off v → m'.read v = m.read v ∧ InB m' v ∧ Below vb'.bid vb'.off v
  sizes : ∀ b, m.size b ≤ m'.size b
  lengths : m.length ≤ m'.length
  bid : vb.bid < m.length → vb'.bid < m'.length
  /-- the value buffer stays where it is or moves to a buffer allocated later -/
  fresh : vb'.bid = vb.bid ∨ m.length ≤ vb'.bid

theorem Keeps.refl (m : Mem) (vb : Slice) : Keeps m vb m vb :=
  ⟨fun _ h1 h2 => ⟨rfl, h1, h2⟩, fun _ => Nat.le_refl _, Nat.le_refl _, fun h => h, Or.inl rfl⟩

theorem Keeps.trans {m m1 m2 : Mem} {vb vb1 vb2 : Slice} (h1 : Keeps m vb m1 vb1) (h2 : Keeps m1 vb1 m2 vb2) :
    Keeps m vb m2 vb2 := by
  refine ⟨?_, fun b => Nat.le_trans (h1.sizes b) (h2.sizes b), Nat.le_trans h1.lengths h2.lengths,
    fun h => h2.bid (h1.bid h), ?_⟩
  rotate_left
  · rcases h2.fresh with a | a
    · rcases h1.fresh with b | b
      · exact Or.inl (by rw [a, b])
      · exact Or.inr (by rw [a]; exact b)
    · exact Or.inr (Nat.le_trans h1.lengths a)
  intro v hi hb
  obtain ⟨a1, a2, a3⟩ := h1.views v hi hb
  obtain ⟨b1, b2, b3⟩ := h2.views v a2 a3
  exact ⟨by rw [b1, a1], b2, b3⟩

theorem keeps_of_post {m m' : Mem} {buf : Slice} {o' : Options View} {used : Nat} (h : Post m buf m' o' used) :
    Keeps m buf m' (adv buf used) := by
  refine ⟨fun v hi hb => ⟨h.stable v hb, inB_of_size h.size hi, below_mono hb (by simp [adv])⟩,
    fun b => by rw [h.size]; exact Nat.le_refl _, by rw [h.length]; exact Nat.le_refl _,
    fun hb => by rw [h.length]; exact hb, Or.inl rfl⟩

theorem sliceIn_of_keeps {m m' : Mem} {vb vb' : Slice} (hk : Keeps m vb m' vb') {s : Slice} (h : SliceIn m s) :
    SliceIn m' s := by
  unfold SliceIn at *
  exact Nat.le_trans h (hk.sizes s.bid)

theorem keeps_append {m : Mem} (vb vb' : Slice) (extra : Mem)
    (h : vb' = vb ∨ (m.length ≤ vb'.bid ∧ vb'.bid < (m ++ extra).length)) : Keeps m vb (m ++ extra) vb' := by
  refine ⟨fun v hi hb => ?_, size_le_append m extra, by simp, fun hlt => ?_, ?_⟩
  · refine ⟨(inB_append extra hi).1, (inB_append extra hi).2, ?_⟩
    rcases h with h | h
    · rw [h]; exact hb
    · exact below_of_inB hi h.1 _
  · rcases h with h | h
    · rw [h, List.length_append]; omega
    · exact h.2
  · rcases h with h | h
    · exact Or.inl (by rw [h])
    · exact Or.inr h.1

/-- `append(valueBuffer, make([]byte, n)...)` — in place or into a fresh buffer — keeps every stored value. -/
theorem appendZeros_spec (gb : Nat → Nat → Nat) {m : Mem} {s : Slice} (hs : SliceIn m s) (n : Nat) :
    SliceIn (appendZeros gb m s n).1 (appendZeros gb m s n).2 ∧ (appendZeros gb m s n).2.len = s.len + n ∧
      Keeps m s (appendZeros gb m s n).1 (appendZeros gb m s n).2 := by
  unfold appendZeros
  have hs' : s.off + s.len ≤ m.size s.bid := hs
  by_cases c : s.len + n ≤ s.cap m
  · simp only [c, if_true]
    have hcap : s.off + (s.len + n) ≤ m.size s.bid := by unfold Slice.cap at c; omega
    have hin : s.off + s.len + (List.replicate n (0 : UInt8)).length ≤ m.size s.bid := by simp; omega
    refine ⟨?_, trivial, ?_⟩
    · show s.off + (s.len + n) ≤ _
      rw [size_write hin]; exact hcap
    · refine ⟨?_, fun b => by rw [size_write hin]; exact Nat.le_refl _, by rw [length_write]; exact Nat.le_refl _,
        fun hb => by rw [length_write]; exact hb, Or.inl rfl⟩
      intro v hi hb
      exact ⟨read_stable_of_write hin (below_mono hb (Nat.le_add_right _ _)), inB_of_size (size_write hin) hi, hb⟩
  · simp only [c, if_false]
    have hrl : (m.read ⟨s.bid, s.off, s.len⟩).length = s.len := read_length (v := ⟨s.bid, s.off, s.len⟩) hs'
    exact ⟨sliceIn_new m (by simp [hrl]; omega), trivial, keeps_append s _ _ (Or.inr ⟨Nat.le_refl _, by simp⟩)⟩

theorem msg_items (r : Msg) : r.items = items r.mem r.opts := rfl

theorem live_of_keeps {m m' : Mem} {vb vb' : Slice} {o : Options View} (hk : Keeps m vb m' vb') (hl : Live m vb o) :
    Live m' vb' o := by
  intro x hx
  obtain ⟨h1, h2⟩ := hl x hx
  obtain ⟨_, a2, a3⟩ := hk.views x.2 h1 h2
  exact ⟨a2, a3⟩

theorem items_of_keeps {m m' : Mem} {vb vb' : Slice} {o : Options View} (hk : Keeps m vb m' vb') (hl : Live m vb o) :
    items m' o = items m o := by
  unfold items
  apply mapVal_congr
  intro x hx
  obtain ⟨h1, h2⟩ := hl x hx
  exact (hk.views x.2 h1 h2).1

theorem MsgInv.of_keeps {r : Msg} (hinv : MsgInv r) {m1 : Mem} {vb1 : Slice} (hk : Keeps r.mem r.vb m1 vb1)
    (hin : SliceIn m1 vb1) : MsgInv { r with mem := m1, vb := vb1 } :=
  ⟨hinv.wf, hinv.sorted, hin, live_of_keeps hk hinv.live, sliceIn_of_keeps hk hinv.origIn, hk.bid hinv.vbBid,
    Nat.lt_of_lt_of_le hinv.origBid hk.lengths⟩

/-- The three steps of every setter: the value buffer is grown if need be (`hk`), the edit is made in that state
(`hp`), the cursor advances by what the edit consumed. -/
theorem MsgInv.commit {r : Msg} (hinv : MsgInv r) {m1 m' : Mem} {vb1 : Slice} {o' : Options View} {used : Nat}
    (hk : Keeps r.mem r.vb m1 vb1) (hin : SliceIn m1 vb1) (hp : Post m1 vb1 m' o' used) (hle : used ≤ vb1.len) :
    MsgInv { r with mem := m', opts := o', vb := adv vb1 used } ∧ Keeps r.mem r.vb m' (adv vb1 used) := by
  have hk2 := hk.trans (keeps_of_post hp)
  exact ⟨⟨hp.wf, hp.sorted, sliceIn_of_keeps (keeps_of_post hp) (sliceIn_adv hin hle), hp.live,
    sliceIn_of_keeps hk2 hinv.origIn, hk2.bid hinv.vbBid, Nat.lt_of_lt_of_le hinv.origBid hk2.lengths⟩, hk2⟩

theorem msgInv_new (m : Mem) (optCap : Nat) : MsgInv (Msg.new m optCap) := by
  unfold Msg.new Mem.alloc
  simp only
  have hin : SliceIn (m ++ [List.replicate CoapVerif.Generated.OptionList.valueBufferSize (0 : UInt8)])
      ⟨m.length, 0, CoapVerif.Generated.OptionList.valueBufferSize⟩ := sliceIn_new m (by simp)
  refine ⟨?_, ?_, hin, ?_, hin, by simp, by simp⟩
  · unfold WF Options.make; simp
  · simp [Options.make, Options.toList, Sorted]
  · intro x hx; simp [Options.make, Options.toList] at hx

/-- The common end of `Msg.retry` and `Msg.setPath`, which the model writes out in each, given the result of the
decisive call and the buffer it was made with: an error is passed on; otherwise the cursor of the value buffer advances
by what the call consumed. -/
def finish (r : Msg) (res : Res) (vb : Slice) : M (Msg × Option Err) :=
  match res.err with
  | some e => pure ({ r with mem := res.mem, vb := vb }, some e)
  | none =>
    if res.used < 0 then .error .slice
    else do
      let vb' ← vb.tail res.used.toNat
      pure ({ r with mem := res.mem, opts := res.opts, vb := vb' }, none)

theorem finish_ok {r : Msg} (hinv : MsgInv r) {m1 m' : Mem} {vb1 : Slice} {o' : Options View} {used : Nat}
    (hk : Keeps r.mem r.vb m1 vb1) (hin : SliceIn m1 vb1) (hp : Post m1 vb1 m' o' used) (hle : used ≤ vb1.len) :
    ∃ r', finish r ⟨m', o', used, none⟩ vb1 = .ok (r', none) ∧ MsgInv r' ∧ Keeps r.mem r.vb r'.mem r'.vb ∧
      items r'.mem r'.opts = items m' o' ∧ r'.orig = r.orig := by
  have h0 : ¬ ((used : Int) < 0) := by omega
  obtain ⟨hinv2, hk2⟩ := hinv.commit hk hin hp hle
  exact ⟨_, by simp only [finish, h0, if_false, Int.toNat_natCast, tail_ok hle, bind, Except.bind, pure, Except.pure],
    hinv2, hk2, rfl, rfl⟩

/-- What `retry` needs to know about the `Options` method it wraps: it asks for `need` bytes; with less it answers
`ErrTooSmall` and reports `need`, touching nothing; with enough it either refuses with `(-1, ErrInvalidValueLength)`
for a reason that does not depend on the buffer (`refuse`: the Uri-Path length check of `SetBytes`/`AddBytes`, the only
one there is), touching nothing, or performs the edit `spec` consuming exactly `need` bytes.  `ext` are views the
method reads (input of `ResetOptionsTo`). -/
structure Contract (f : Mem → Options View → Slice → M Res) (need : Nat) (refuse : Bool) (ext : List View)
    (spec : Mem → List Item → List Item) : Prop where
  small : ∀ m o buf, buf.len < need → f m o buf = .ok ⟨m, o, need, some .tooSmall⟩
  refused : refuse = true → ∀ m o buf, ¬ buf.len < need → f m o buf = .ok ⟨m, o, -1, some .invalidLen⟩
  ok : refuse = false → ∀ m o buf, ¬ buf.len < need → WF o → Sorted o.toList → SliceIn m buf → Live m buf o →
    (∀ v ∈ ext, InB m v ∧ Below buf.bid buf.off v) →
    ∃ m' o', f m o buf = .ok ⟨m', o', need, none⟩ ∧ Post m buf m' o' need ∧ items m' o' = spec m (items m o)
  specStable : ∀ m m', (∀ v ∈ ext, m'.read v = m.read v) → spec m' = spec m

/-- The retry pattern of `SetOptionString`, `AddOptionString`, `SetOptionUint32`, `AddOptionUint32`,
`ResetOptionsTo`: never a runtime panic; a refusal leaves the list as it was; otherwise the list becomes the
reference's; in every case the invariant holds again and every stored value is kept — also across buffer growth.
The wrapped method `f'` need only agree with one under contract on the message's own option header, the only header
`retry` hands it (`ResetOptionsTo` with an input that is a slice of that header's array: `resetOptionsToAliased_cap`). -/
theorem retry_spec (gb : Nat → Nat → Nat) {r : Msg} (hinv : MsgInv r)
    {f f' : Mem → Options View → Slice → M Res} {need : Nat} {refuse : Bool} {ext : List View}
    {spec : Mem → List Item → List Item} (hc : Contract f need refuse ext spec)
    (hf : ∀ m b, f' m r.opts b = f m r.opts b)
    (hext : ∀ v ∈ ext, InB r.mem v ∧ Below r.vb.bid r.vb.off v) :
    ∃ r' e, r.retry gb f' = .ok (r', e) ∧ MsgInv r' ∧ Keeps r.mem r.vb r'.mem r'.vb ∧
      (if refuse then e = some Err.invalidLen ∧ r'.opts = r.opts ∧ items r'.mem r'.opts = items r.mem r.opts
       else e = none ∧ items r'.mem r'.opts = spec r.mem (items r.mem r.opts)) ∧ r'.orig = r.orig := by
  -- the decisive call, made in the original state or in the one with the grown buffer, and how `retry` ends after it
  have key : ∀ (m1 : Mem) (vb1 : Slice), SliceIn m1 vb1 → Keeps r.mem r.vb m1 vb1 → ¬ vb1.len < need →
      ∃ res r' e, f m1 r.opts vb1 = .ok res ∧ (res.err = none ∨ res.err = some .invalidLen) ∧
        finish r res vb1 = .ok (r', e) ∧ MsgInv r' ∧ Keeps r.mem r.vb r'.mem r'.vb ∧
        (if refuse then e = some Err.invalidLen ∧ r'.opts = r.opts ∧ items r'.mem r'.opts = items r.mem r.opts
         else e = none ∧ items r'.mem r'.opts = spec r.mem (items r.mem r.opts)) ∧ r'.orig = r.orig := by
    intro m1 vb1 hin1 hk1 hfit
    have hi1 : items m1 r.opts = items r.mem r.opts := items_of_keeps hk1 hinv.live
    cases hr : refuse with
    | true =>
      exact ⟨_, { r with mem := m1, vb := vb1 }, some .invalidLen, hc.refused hr m1 r.opts vb1 hfit, Or.inr rfl, rfl,
        hinv.of_keeps hk1 hin1, hk1, ⟨rfl, rfl, hi1⟩, rfl⟩
    | false =>
      have hext1 := fun v hv => hk1.views v (hext v hv).1 (hext v hv).2
      obtain ⟨m2, o2, h2, hp2, hi2⟩ := hc.ok hr m1 r.opts vb1 hfit hinv.wf hinv.sorted hin1
        (live_of_keeps hk1 hinv.live) (fun v hv => (hext1 v hv).2)
      obtain ⟨r', hfin, hinv2, hk2, hi, ho⟩ := finish_ok hinv hk1 hin1 hp2 (by omega)
      refine ⟨_, r', none, h2, Or.inl rfl, hfin, hinv2, hk2, ⟨rfl, ?_⟩, ho⟩
      rw [hi, hi2, hi1, hc.specStable r.mem m1 (fun v hv => (hext1 v hv).1)]
  -- `retry` calls the method on the message's own header only: the first call returns it when the buffer is too small
  unfold Msg.retry
  rw [hf]
  by_cases hsmall : r.vb.len < need
  · obtain ⟨h1, h2, h3⟩ := appendZeros_spec gb hinv.vbIn need
    obtain ⟨res, r', e, hres, _, hfin, rest⟩ := key _ _ h1 h3 (by omega)
    rw [hc.small r.mem r.opts r.vb hsmall]
    simp only [bind, Except.bind, Int.toNat_natCast, hf, hres, pure, Except.pure]
    exact ⟨r', e, hfin, rest⟩
  · obtain ⟨res, r', e, hres, herr, hfin, rest⟩ := key r.mem r.vb hinv.vbIn (Keeps.refl _ _) hsmall
    rw [hres]
    refine ⟨r', e, ?_, rest⟩
    -- what `retry` does after a call that did not answer `ErrTooSmall` is `finish`
    rw [← hfin]
    rcases herr with h | h <;> simp only [finish, bind, Except.bind, pure, Except.pure, h]

open CoapVerif.Generated.OptionList in
/-- `SetBytes`/`AddBytes` (= `SetString`/`AddString`) -/
theorem contract_bytes (isSet : Bool) (g : Nat → Nat) (id : Nat) (data : List UInt8) :
    Contract (fun m o b => if isSet then Options.setBytes g m o b id data else Options.addBytes g m o b id data)
      data.length (decide (id = uriPath ∧ data.length > maxPathValue)) []
      (fun _ l => if isSet then Spec.SortedMultiset.set (id, data) l else ins (id, data) l) where
  small := by
    intro m o buf h
    cases isSet <;> simp [Options.setBytes, Options.addBytes, h, pure, Except.pure]
  refused := by
    intro hr m o buf h
    have hr' : id = uriPath ∧ data.length > maxPathValue := by simpa using hr
    cases isSet <;> simp [Options.setBytes, Options.addBytes, h, hr', pure, Except.pure]
  ok := by
    intro hr m o buf h hwf hs hin hl _
    have hr' : ¬ (id = uriPath ∧ data.length > maxPathValue) := by simpa using hr
    exact putBytes_spec isSet g hwf hs hin hl id data (by omega) hr'
  specStable := fun _ _ _ => rfl

open CoapVerif.Generated.OptionList in
/-- The model's encoder tests `v ≤ 255`, `v ≤ 65535`, … where the reference tests `v < 256`, `v < 65536`, …;
otherwise the two are the same text. -/
theorem encodeUint32Bytes_eq (v : Nat) : encodeUint32Bytes v = uintBytes v := by
  simp only [encodeUint32Bytes, uintBytes, max1ByteNumber, max2ByteNumber, max3ByteNumber, Nat.le_iff_lt_add_one,
    Nat.reduceAdd]

theorem contract_u32 (isSet : Bool) (g : Nat → Nat) (id v : Nat) :
    Contract (fun m o b => if isSet then Options.setUint32 g m o b id v else Options.addUint32 g m o b id v)
      (uintBytes v).length false []
      (fun _ l => if isSet then Spec.SortedMultiset.set (id, uintBytes v) l else ins (id, uintBytes v) l) where
  small := by
    intro m o buf h
    cases isSet <;> simp [Options.setUint32, Options.addUint32, encodeUint32, h, pure, Except.pure, encodeUint32Bytes_eq]
  refused := by intro hr; cases hr
  ok := by
    intro _ m o buf h hwf hs hin hl _
    rw [← encodeUint32Bytes_eq] at h ⊢
    obtain ⟨o', h1, h2, hp, hi, _⟩ := put_spec isSet g hwf hs hin hl id (encodeUint32Bytes v) (by omega)
    refine ⟨m.copyTo buf (encodeUint32Bytes v), o', ?_, hp, hi⟩
    cases isSet with
    | true =>
      simp only [if_true] at h2 ⊢
      simp only [Options.setUint32, encodeUint32, h, if_false, h1, h2, bind, Except.bind, pure, Except.pure]
    | false =>
      simp only [Bool.false_eq_true, if_false] at h2 ⊢
      simp only [Options.addUint32, encodeUint32, h, if_false, h1, h2, bind, Except.bind, pure, Except.pure]
  specStable := fun _ _ _ => rfl

theorem contract_reset (g : Nat → Nat) (inp : List (Opt View)) :
    Contract (fun m o b => Options.resetOptionsTo g m o b inp) (Options.totalLen inp) false (inp.map (·.2))
      (fun m _ => resetTo (inp.map (fun x => (x.1, m.read x.2)))) where
  small := by
    intro m o buf h
    rw [resetOptionsTo_eq, if_pos h]
  refused := by intro hr; cases hr
  ok := by
    intro _ m o buf h hwf hs hin hl hext
    obtain ⟨m', o', h1, h2, h3, _⟩ := resetLoop_from_empty g o.arr hin
      (fun x hx => hext x.2 (List.mem_map_of_mem hx)) h
    exact ⟨m', o', by rw [resetOptionsTo_eq, if_neg h, h1], h2, h3⟩
  specStable := by
    intro m m' h
    funext _
    congr 1
    apply List.map_congr_left
    intro x hx
    rw [h x.2 (List.mem_map_of_mem hx)]

theorem msg_resetOptionsTo_spec (g : Nat → Nat) (gb : Nat → Nat → Nat) {r : Msg} (hinv : MsgInv r)
    (inp : List (Opt View)) (hext : ∀ x ∈ inp, InB r.mem x.2 ∧ Below r.vb.bid r.vb.off x.2) :
    ∃ r', r.resetOptionsTo g gb inp = .ok (r', none) ∧ MsgInv r' ∧ Keeps r.mem r.vb r'.mem r'.vb ∧
      items r'.mem r'.opts = resetTo (inp.map (fun x => (x.1, r.mem.read x.2))) ∧ r'.orig = r.orig := by
  obtain ⟨r', e, h1, h2, h3, ⟨he, h4⟩, h5⟩ := retry_spec gb hinv (contract_reset g inp) (fun _ _ => rfl)
    (List.forall_mem_map.mpr hext) (f' := fun m o b => Options.resetOptionsTo g m o b inp)
  subst he
  exact ⟨r', h1, h2, h3, h4, h5⟩

theorem putOptionBytes_spec (isSet : Bool) (g : Nat → Nat) (gb : Nat → Nat → Nat) {r : Msg} (hinv : MsgInv r)
    (id : Nat) (value : List UInt8) :
    ∃ r', r.putOptionBytes isSet g gb id value = .ok r' ∧ MsgInv r' ∧
      items r'.mem r'.opts = (if isSet then Spec.SortedMultiset.set (id, value) (items r.mem r.opts)
                              else ins (id, value) (items r.mem r.opts)) ∧
      Keeps r.mem r.vb r'.mem r'.vb ∧ r'.orig = r.orig := by
  -- the state after the optional growth
  obtain ⟨m1, vb1, hgrow, hin1, hk1, hfit⟩ : ∃ m1 vb1,
      (if r.vb.len < value.length then appendZeros gb r.mem r.vb (value.length - r.vb.len) else (r.mem, r.vb)) = (m1, vb1) ∧
      SliceIn m1 vb1 ∧ Keeps r.mem r.vb m1 vb1 ∧ value.length ≤ vb1.len := by
    by_cases c : r.vb.len < value.length
    · obtain ⟨h1, h2, h3⟩ := appendZeros_spec gb hinv.vbIn (value.length - r.vb.len)
      exact ⟨_, _, by simp only [c, if_true], h1, h3, by omega⟩
    · exact ⟨r.mem, r.vb, by simp only [c, if_false], hinv.vbIn, Keeps.refl _ _, by omega⟩
  have hl1 : Live m1 vb1 r.opts := live_of_keeps hk1 hinv.live
  have hi1 : items m1 r.opts = items r.mem r.opts := items_of_keeps hk1 hinv.live
  obtain ⟨o', h1, h2, hp, h5, _⟩ := put_spec isSet g hinv.wf hinv.sorted hin1 hl1 id value hfit
  have hmin : min vb1.len value.length = value.length := by omega
  obtain ⟨hinv2, hk2⟩ := hinv.commit hk1 hin1 hp hfit
  refine ⟨{ r with mem := m1.copyTo vb1 value, opts := o', vb := adv vb1 value.length }, ?_, hinv2, by rw [h5, hi1],
    hk2, rfl⟩
  unfold Msg.putOptionBytes
  rw [hgrow]
  simp only [hmin, h1, bind, Except.bind, tail_ok hfit, pure, Except.pure]
  cases isSet with
  | true => simp only [if_true] at h2 ⊢; rw [h2]
  | false => simp only [Bool.false_eq_true, if_false] at h2 ⊢; rw [h2]

theorem msg_setPath_spec (g : Nat → Nat) (gb : Nat → Nat → Nat) {r : Msg} (hinv : MsgInv r) (p : Bytes) :
    ∃ r' e, r.setPath g gb p = .ok (r', e) ∧ MsgInv r' ∧ Keeps r.mem r.vb r'.mem r'.vb ∧
      (match Spec.SortedMultiset.setPath uriPathId p (items r.mem r.opts) with
      | none => e = some Err.invalidLen ∧ r' = r
      | some l' => e = none ∧ items r'.mem r'.opts = l') ∧ r'.orig = r.orig := by
  obtain ⟨res, h1, h2⟩ := setPath_spec g hinv.wf hinv.sorted hinv.vbIn hinv.live uriPathId p
  unfold Msg.setPath
  rw [uriPath_eq, h1]
  simp only [bind, Except.bind]
  cases hsp : Spec.SortedMultiset.setPath uriPathId p (items r.mem r.opts) with
  | none =>
    rw [hsp] at h2
    obtain ⟨he, hm, ho⟩ := h2
    simp only [he, pure, Except.pure]
    refine ⟨r, some .invalidLen, ?_, hinv, Keeps.refl _ _, ⟨rfl, rfl⟩, rfl⟩
    rw [hm]
  | some l' =>
    rw [hsp] at h2
    simp only [] at h2 ⊢
    by_cases c : p ≠ [] ∧ totalSeg (segments p) > r.vb.len
    · rw [if_pos c] at h2
      obtain ⟨he, hm, ho⟩ := h2
      simp only [he]
      -- the size computed for the growth is the total length of the segments
      have hnone : (segments p).any (fun s => decide (s.length > maxSegment)) = false :=
        (setPath_some hsp).elim (fun h => absurd h.1 c.1) (fun h => h.2.1)
      rw [getPathBufferSize_eq, hnone, if_neg Bool.false_ne_true]
      simp only []
      obtain ⟨g1, g2, g3⟩ := appendZeros_spec gb hinv.vbIn (totalSeg (segments p))
      rw [hm, ho]
      generalize hgz : appendZeros gb r.mem r.vb (totalSeg (segments p)) = gz at g1 g2 g3
      obtain ⟨m1, vb1⟩ := gz
      simp only at g1 g2 g3 ⊢
      have hl1 : Live m1 vb1 r.opts := live_of_keeps g3 hinv.live
      have hi1 : items m1 r.opts = items r.mem r.opts := items_of_keeps g3 hinv.live
      obtain ⟨res2, k1, k2⟩ := setPath_spec g hinv.wf hinv.sorted g1 hl1 uriPathId p
      rw [k1]
      simp only [pure, Except.pure]
      rw [hi1, hsp] at k2
      simp only [] at k2
      have c2 : ¬ (p ≠ [] ∧ totalSeg (segments p) > vb1.len) := by omega
      simp only [c2, if_false, c.1] at k2
      obtain ⟨m2, o2, u2, e2⟩ := res2
      obtain ⟨ke, ku, kp, ki⟩ := k2
      simp only at ke ku kp ki
      subst ke ku
      obtain ⟨r', q1, q2, q3, q4, q5⟩ := finish_ok hinv g3 g1 kp (by omega)
      exact ⟨r', none, q1, q2, q3, ⟨rfl, q4.trans ki⟩, q5⟩
    · rw [if_neg c] at h2
      obtain ⟨m2, o2, u2, e2⟩ := res
      obtain ⟨he, hu, hp, hi⟩ := h2
      simp only at he hu hp hi
      subst he hu
      have hle : (if p = [] then 0 else totalSeg (segments p)) ≤ r.vb.len := by
        by_cases hp0 : p = []
        · simp [hp0]
        · simp only [hp0, if_false]
          have : ¬ (totalSeg (segments p) > r.vb.len) := fun h => c ⟨hp0, h⟩
          omega
      obtain ⟨r', q1, q2, q3, q4, q5⟩ := finish_ok hinv (Keeps.refl _ _) hinv.vbIn hp hle
      exact ⟨r', none, q1, q2, q3, ⟨rfl, q4.trans hi⟩, q5⟩

theorem msg_remove_spec {r : Msg} (hinv : MsgInv r) (id : Nat) :
    ∃ r', r.remove id = .ok r' ∧ MsgInv r' ∧ r'.mem = r.mem ∧ r'.vb = r.vb ∧
      items r'.mem r'.opts = remove id (items r.mem r.opts) ∧ r'.orig = r.orig := by
  obtain ⟨o1, h1, h2, _, h5⟩ := remove_spec hinv.wf hinv.sorted id
  refine ⟨{ r with opts := o1 }, ?_, ⟨h2, ?_, hinv.vbIn, ?_, hinv.origIn, hinv.vbBid, hinv.origBid⟩, rfl, rfl,
    items_remove h5, rfl⟩
  · unfold Msg.remove; simp only [h1, bind, Except.bind, pure, Except.pure]
  · rw [h5]; exact remove_sorted id hinv.sorted
  · intro x hx
    rw [h5] at hx
    exact hinv.live x (mem_remove hx)

/-- `Reset()` gives the whole original buffer back: no value is live any more. -/
theorem msg_reset_spec {r : Msg} (hinv : MsgInv r) :
    ∃ r', r.reset = .ok r' ∧ MsgInv r' ∧ items r'.mem r'.opts = [] ∧ r'.vb = r.orig ∧ r'.mem = r.mem ∧
      r'.orig = r.orig := by
  refine ⟨{ r with opts := ⟨r.opts.arr, 0⟩, vb := r.orig }, ?_,
    ⟨Nat.zero_le _, ?_, hinv.origIn, ?_, hinv.origIn, hinv.origBid, hinv.origBid⟩, ?_, rfl, rfl, rfl⟩
  · unfold Msg.reset; simp [Options.reslice, bind, Except.bind, pure, Except.pure]
  · simp [Options.toList, Sorted]
  · intro x hx; simp [Options.toList] at hx
  · simp [items, Options.toList, mapVal]

theorem mem_selectOwn {o : Options View} {idxs : List Nat} {x : Opt View} (h : x ∈ Msg.selectOwn o idxs) :
    x ∈ o.toList := by
  unfold Msg.selectOwn at h
  obtain ⟨i, _, hi⟩ := List.mem_filterMap.mp h
  exact List.mem_of_getElem? hi

theorem allocInputs_spec : ∀ (inp : List Item) (m : Mem),
    ∃ extra, (Msg.allocInputs m inp).1 = m ++ extra ∧
      (Msg.allocInputs m inp).2.map (fun x => (x.1, (m ++ extra).read x.2)) = inp ∧
      ∀ x ∈ (Msg.allocInputs m inp).2, InB (m ++ extra) x.2 ∧ m.length ≤ x.2.bid := by
  intro inp
  induction inp with
  | nil => intro m; exact ⟨[], by simp [Msg.allocInputs], by simp [Msg.allocInputs], by simp [Msg.allocInputs]⟩
  | cons x rest ih =>
    intro m
    obtain ⟨extra, h1, h2, h3⟩ := ih (m ++ [x.2])
    refine ⟨x.2 :: extra, ?_, ?_, ?_⟩
    · simp only [Msg.allocInputs, Mem.allocBytes]; rw [h1]; simp
    · simp only [Msg.allocInputs, Mem.allocBytes, List.map_cons]
      have e : m ++ x.2 :: extra = (m ++ [x.2]) ++ extra := by simp
      rw [e]
      congr 1
      rw [read_append extra _ (Or.inr (by simp)), read_append_new, List.drop_zero, List.take_length]
    · intro y hy
      simp only [Msg.allocInputs, Mem.allocBytes, List.mem_cons] at hy
      have e : m ++ x.2 :: extra = (m ++ [x.2]) ++ extra := by simp
      rw [e]
      rcases hy with hy | hy
      · subst hy
        refine ⟨Or.inr ?_, Nat.le_refl _⟩
        show 0 + x.2.length ≤ _
        rw [size_append_lt extra (by simp), size_append_new, Nat.zero_add]
        exact Nat.le_refl _
      · obtain ⟨a, b⟩ := h3 y hy
        refine ⟨a, ?_⟩
        simp at b; omega

/-- One step of a history: no runtime panic, the invariant is re-established, the list a reader sees is the
reference's, and — unless the step is `Reset`, which gives the buffer back — every stored value is kept. -/
theorem step_spec (g : Nat → Nat) (gb : Nat → Nat → Nat) {r : Msg} (hinv : MsgInv r) (op : Msg.Op) :
    ∃ r', r.step g gb op = .ok r' ∧ MsgInv r' ∧ items r'.mem r'.opts = specStep (items r.mem r.opts) op ∧
      (op ≠ .reset → Keeps r.mem r.vb r'.mem r'.vb) ∧ r'.orig = r.orig := by
  -- a typed setter: `retry` around an `Options` method, its error dropped
  have typed : ∀ {f need refuse spec} (hc : Contract f need refuse [] spec),
      ∃ r', (do let x ← r.retry gb f; pure x.1 : M Msg) = .ok r' ∧ MsgInv r' ∧
        (if refuse then items r'.mem r'.opts = items r.mem r.opts
         else items r'.mem r'.opts = spec r.mem (items r.mem r.opts)) ∧
        Keeps r.mem r.vb r'.mem r'.vb ∧ r'.orig = r.orig := by
    intro f need refuse spec hc
    obtain ⟨r', e, h1, h2, h3, h4, h5⟩ := retry_spec gb hinv hc (f' := f) (fun _ _ => rfl) (List.forall_mem_nil _)
    refine ⟨r', by simp only [h1, bind, Except.bind, pure, Except.pure], h2, ?_, h3, h5⟩
    cases refuse
    · exact h4.2
    · exact h4.2.2
  -- … of a string: a Uri-Path value over 255 bytes is refused
  have str : ∀ (isSet : Bool) (id : Nat) (v : List UInt8),
      ∃ r', (do let x ← r.retry gb (fun m o b =>
          if isSet then Options.setBytes g m o b id v else Options.addBytes g m o b id v); pure x.1 : M Msg) = .ok r' ∧
        MsgInv r' ∧
        items r'.mem r'.opts = (if id = uriPathId ∧ v.length > maxSegment then items r.mem r.opts
          else if isSet then Spec.SortedMultiset.set (id, v) (items r.mem r.opts) else ins (id, v) (items r.mem r.opts)) ∧
        Keeps r.mem r.vb r'.mem r'.vb ∧ r'.orig = r.orig := by
    intro isSet id v
    obtain ⟨r', h1, h2, h3, h4, h5⟩ := typed (contract_bytes isSet g id v)
    refine ⟨r', h1, h2, ?_, h4, h5⟩
    rw [uriPath_eq, maxPathValue_eq] at h3
    by_cases c : id = uriPathId ∧ v.length > maxSegment
    · rw [if_pos c]; rw [decide_eq_true c, if_pos rfl] at h3; exact h3
    · rw [if_neg c]; rw [decide_eq_false c, if_neg Bool.false_ne_true] at h3; exact h3
  -- `Keeps` weakened to `op ≠ .reset → Keeps`, so that all cases share one goal
  have keep : ∀ {x : M Msg} {l : List Item},
      (∃ r', x = .ok r' ∧ MsgInv r' ∧ items r'.mem r'.opts = l ∧ Keeps r.mem r.vb r'.mem r'.vb ∧ r'.orig = r.orig) →
      ∃ r', x = .ok r' ∧ MsgInv r' ∧ items r'.mem r'.opts = l ∧ (op ≠ .reset → Keeps r.mem r.vb r'.mem r'.vb) ∧
        r'.orig = r.orig :=
    fun ⟨r', h1, h2, h3, h4, h5⟩ => ⟨r', h1, h2, h3, fun _ => h4, h5⟩
  cases op with
  | setBytes id v => exact keep (putOptionBytes_spec true g gb hinv id v)
  | addBytes id v => exact keep (putOptionBytes_spec false g gb hinv id v)
  | setString id v => exact keep (str true id v)
  | addString id v => exact keep (str false id v)
  | setUint32 id v => exact keep (typed (contract_u32 true g id v))
  | addUint32 id v => exact keep (typed (contract_u32 false g id v))
  | setPath p =>
    obtain ⟨r', e, h1, h2, h3, h4, h5⟩ := msg_setPath_spec g gb hinv p
    refine ⟨r', ?_, h2, ?_, fun _ => h3, h5⟩
    · simp only [Msg.step, bind, Except.bind, pure, Except.pure, h1]
    · show _ = (Spec.SortedMultiset.setPath uriPathId p (items r.mem r.opts)).getD (items r.mem r.opts)
      cases hsp : Spec.SortedMultiset.setPath uriPathId p (items r.mem r.opts) with
      | none => rw [hsp] at h4; simp only [] at h4; rw [Option.getD_none, h4.2]
      | some l' => rw [hsp] at h4; simp only [] at h4; rw [Option.getD_some]; exact h4.2
  | addQuery q =>
    have := str false CoapVerif.Generated.OptionList.uriQuery q
    rw [if_neg (fun h => absurd h.1 (by decide))] at this
    exact keep this
  | remove id =>
    obtain ⟨r', h1, h2, h3, h4, h5, h6⟩ := msg_remove_spec hinv id
    refine ⟨r', h1, h2, h5, fun _ => ?_, h6⟩
    rw [h3, h4]; exact Keeps.refl _ _
  | resetTo inp =>
    obtain ⟨extra, a1, a2, a3⟩ := allocInputs_spec inp r.mem
    have hk0 : Keeps r.mem r.vb (r.mem ++ extra) r.vb := keeps_append r.vb r.vb extra (Or.inl rfl)
    have hinv0 : MsgInv ({ r with mem := r.mem ++ extra } : Msg) := hinv.of_keeps hk0 (sliceIn_of_keeps hk0 hinv.vbIn)
    obtain ⟨r', h1, h2, h3, h4, h5⟩ := msg_resetOptionsTo_spec g gb hinv0 (Msg.allocInputs r.mem inp).2
      (fun x hx => ⟨(a3 x hx).1, below_of_bid_ne (by show x.2.bid ≠ r.vb.bid; have := hinv.vbBid; have := (a3 x hx).2; omega)⟩)
    refine ⟨r', ?_, h2, ?_, fun _ => hk0.trans h3, h5⟩
    · simp only [Msg.step, bind, Except.bind, pure, Except.pure]
      rw [a1, h1]
    · rw [h4, a2]; rfl
  | resetSelf idxs =>
    -- the sources are the message's own stored values: inside their buffers and below the cursor (the invariant)
    obtain ⟨r', h1, h2, h3, h4, h5⟩ := msg_resetOptionsTo_spec g gb hinv (Msg.selectOwn r.opts idxs)
      (fun x hx => hinv.live x (mem_selectOwn hx))
    refine ⟨r', ?_, h2, ?_, fun _ => h3, h5⟩
    · simp only [Msg.step, bind, Except.bind, pure, Except.pure, h1]
    · rw [h4]
      exact congrArg resetTo (selectOwn_map (fun x => (x.1, r.mem.read x.2)) r.opts.toList idxs)
  | reset =>
    obtain ⟨r', h1, h2, h3, _, _, h6⟩ := msg_reset_spec hinv
    exact ⟨r', h1, h2, h3, fun h => absurd rfl h, h6⟩

theorem run_spec (g : Nat → Nat) (gb : Nat → Nat → Nat) : ∀ (ops : List Msg.Op) {r : Msg}, MsgInv r →
    ∃ r', Msg.run g gb r ops = .ok r' ∧ MsgInv r' ∧
      items r'.mem r'.opts = ops.foldl specStep (items r.mem r.opts) ∧
      (Spec.OptionOp.Op.reset ∉ ops → Keeps r.mem r.vb r'.mem r'.vb) := by
  intro ops
  induction ops with
  | nil => intro r hinv; exact ⟨r, rfl, hinv, rfl, fun _ => Keeps.refl _ _⟩
  | cons op ops ih =>
    intro r hinv
    obtain ⟨r1, h1, h2, h3, h4, _⟩ := step_spec g gb hinv op
    obtain ⟨r2, k1, k2, k3, k4⟩ := ih h2
    refine ⟨r2, ?_, k2, ?_, ?_⟩
    · simp only [Msg.run, bind, Except.bind, h1]; exact k1
    · rw [k3, h3]; rfl
    · intro hn
      have hop : op ≠ .reset := fun e => hn (by simp [e])
      have hops : Spec.OptionOp.Op.reset ∉ ops := fun e => hn (by simp [e])
      exact (h4 hop).trans (k4 hops)

/-- A view that does not belong to the message: inside its buffer, in a buffer that is neither the current nor the
original value buffer of the message (e.g. a value of a clone, or of another message). -/
def Foreign (r : Msg) (v : View) : Prop :=
  v.len = 0 ∨ (v.off + v.len ≤ r.mem.size v.bid ∧ v.bid ≠ r.vb.bid ∧ v.bid ≠ r.orig.bid)

theorem foreign_step (g : Nat → Nat) (gb : Nat → Nat → Nat) {r r' : Msg} (hinv : MsgInv r) (op : Msg.Op)
    (h : r.step g gb op = .ok r') {v : View} (hf : Foreign r v) :
    r'.mem.read v = r.mem.read v ∧ Foreign r' v := by
  by_cases c0 : v.len = 0
  · exact ⟨read_congr_zero_len c0, Or.inl c0⟩
  · obtain ⟨h1, h2, h3⟩ : v.off + v.len ≤ r.mem.size v.bid ∧ v.bid ≠ r.vb.bid ∧ v.bid ≠ r.orig.bid :=
      hf.resolve_left c0
    have hlt : v.bid < r.mem.length := size_pos_lt (by omega)
    by_cases hop : op = .reset
    · subst hop
      obtain ⟨r'', k1, _, _, kvb, kmem, korig⟩ := msg_reset_spec hinv
      have h' : r.reset = .ok r' := h
      rw [h'] at k1; injection k1 with k1; subst k1
      exact ⟨by rw [kmem], Or.inr ⟨by rw [kmem]; exact h1, by rw [kvb]; exact h3, by rw [korig]; exact h3⟩⟩
    · obtain ⟨r'', k1, _, _, k4, korig⟩ := step_spec g gb hinv op
      rw [h] at k1; injection k1 with k1; subst k1
      have hk := k4 hop
      obtain ⟨a1, a2, _⟩ := hk.views v (Or.inr h1) (below_of_bid_ne h2)
      refine ⟨a1, Or.inr ⟨a2.resolve_left c0, ?_, by rw [korig]; exact h3⟩⟩
      rcases hk.fresh with f | f
      · rw [f]; exact h2
      · omega

theorem foreign_run (g : Nat → Nat) (gb : Nat → Nat → Nat) : ∀ (ops : List Msg.Op) {r r' : Msg}, MsgInv r →
    Msg.run g gb r ops = .ok r' → ∀ {v : View}, Foreign r v → r'.mem.read v = r.mem.read v ∧ Foreign r' v := by
  intro ops
  induction ops with
  | nil =>
    intro r r' _ h v hf
    simp only [Msg.run, pure, Except.pure, Except.ok.injEq] at h
    subst h; exact ⟨rfl, hf⟩
  | cons op ops ih =>
    intro r r' hinv h v hf
    obtain ⟨r1, s1, s2, _⟩ := step_spec g gb hinv op
    simp only [Msg.run, bind, Except.bind, s1] at h
    obtain ⟨a1, a2⟩ := foreign_step g gb hinv op s1 hf
    obtain ⟨b1, b2⟩ := ih s2 h a2
    exact ⟨by rw [b1, a1], b2⟩

end CoapVerif.Lemmas.PoolOptionsModel
