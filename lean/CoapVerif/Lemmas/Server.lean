import CoapVerif.Model.Server
import CoapVerif.Lemmas.KeyedList
/-!
For C10: the peer table.  `lookupKey` in terms of membership (`lookupKey_none` gives the exact key only: that no wildcard
entry was found either is not stated), and `part B`, the entries of remote address `B`, through the table operations (for
`non_interference` and `table_meets_spec`).  What holds of any list looked up by a key is in `Lemmas/KeyedList`.
-/
namespace CoapVerif.Lemmas.Server
open CoapVerif.Model.Server CoapVerif.Spec.Server

theorem find_part (B : Nat) (t : List Conn) (l : Option Nat) : find (part B t) (B, l) = find t (B, l) := by
  unfold find part
  rw [List.find?_filter]
  congr 1
  funext c
  by_cases hk : c.key = (B, l) <;> simp [hk]

theorem lookupKey_part (B : Nat) (t : List Conn) (loc : Local) : lookupKey (part B t) B loc = lookupKey t B loc := by
  unfold lookupKey
  rw [find_part, find_part]

theorem lookupKey_some {t : List Conn} {r : Nat} {loc : Local} {c : Conn} (h : lookupKey t r loc = some c) :
    c ∈ t ∧ c.key.1 = r := by
  unfold lookupKey at h
  split at h
  · rename_i c' hf
    injection h with h; subst h
    have := KeyedList.find?_some Conn.key hf
    exact ⟨this.1, by rw [this.2]⟩
  · split at h
    · have := KeyedList.find?_some Conn.key h
      exact ⟨this.1, by rw [this.2]⟩
    · cases h

theorem lookupKey_none {t : List Conn} {r : Nat} {loc : Local} (h : lookupKey t r loc = none) :
    ∀ c ∈ t, c.key ≠ (r, normLocal loc) := by
  unfold lookupKey at h
  split at h
  · cases h
  · rename_i hf
    exact KeyedList.find?_none Conn.key hf

theorem mem_part {B : Nat} {t : List Conn} {c : Conn} : c ∈ part B t ↔ c ∈ t ∧ c.key.1 = B := by
  simp [part, List.mem_filter]

theorem part_append (B : Nat) (t u : List Conn) : part B (t ++ u) = part B t ++ part B u := by
  simp [part]

theorem part_single (B : Nat) (c : Conn) : part B [c] = if c.key.1 == B then [c] else [] := by
  simp [part, List.filter]
  split <;> simp_all

theorem part_filter (B : Nat) (t : List Conn) (q : Conn → Bool) : part B (t.filter q) = (part B t).filter q := by
  simp only [part, List.filter_filter]
  apply List.filter_congr
  intro c _
  exact Bool.and_comm _ _

theorem part_map (B : Nat) (t : List Conn) (f : Conn → Conn) (hf : ∀ c, (f c).key = c.key) :
    part B (t.map f) = (part B t).map f := by
  induction t with
  | nil => rfl
  | cons c t ih =>
    simp only [List.map_cons, part, List.filter_cons, hf c]
    simp only [part] at ih
    split <;> simp [ih]

theorem part_filter_other {B : Nat} (t : List Conn) {c : Conn} (hc : c.key.1 ≠ B) :
    part B (t.filter (fun x => x.key != c.key)) = part B t := by
  rw [part_filter]
  apply List.filter_eq_self.mpr
  intro x hx
  have := (mem_part.mp hx).2
  have : x.key ≠ c.key := fun e => hc (by rw [← e]; exact this)
  simpa using this

theorem part_append_other {B : Nat} (t : List Conn) {c : Conn} (hc : c.key.1 ≠ B) : part B (t ++ [c]) = part B t := by
  rw [part_append, part_single]
  have : (c.key.1 == B) = false := by simpa using hc
  simp [this]

theorem part_part (B : Nat) (t : List Conn) : part B (part B t) = part B t := by
  simp [part, List.filter_filter]

end CoapVerif.Lemmas.Server
