import CoapVerif.Model.ReaderPrograms
import CoapVerif.Model.ReaderNStart
/-!
`waitsPreceded` (the first blocking construct of a program has a `replace` before it; the function stops there) on the
library programs of `Model/ReaderPrograms.lean` and `Model/ReaderNStart.lean`: the programs are concatenations of a few parts
(`rep b`, the limiter prefix, the acknowledgement wait, the NSTART slot), and `waitsPreceded` of such a concatenation is a
Boolean combination of the source facts that place the `replace` actions.

Proofs about these programs call `simp -implicitDefEqProofs`: a step that leaves no proof term would have the kernel compare the
programs by evaluation, the string comparisons of `preceded` included.
-/
namespace CoapVerif.Lemmas.ReaderPrograms
open CoapVerif.Model.Reader CoapVerif.Model.ReaderPrograms CoapVerif.Model.ReaderNStart

/-- the defining equations, as rewriting rules that do not look into `p` -/
theorem waitsPreceded_cons (p : List Act) :
    waitsPreceded (.replace :: p) = true ∧ (∀ c b, waitsPreceded (.wait c b :: p) = false) ∧
    (∀ k d, waitsPreceded (.startCall k d :: p) = waitsPreceded p) ∧ (∀ k, waitsPreceded (.send k :: p) = waitsPreceded p) ∧
    (∀ k, waitsPreceded (.endCall k :: p) = waitsPreceded p) ∧ (∀ key, waitsPreceded (.release key :: p) = waitsPreceded p) :=
  ⟨rfl, fun _ _ => rfl, fun _ _ => rfl, fun _ => rfl, fun _ => rfl, fun _ => rfl⟩

theorem waitsPreceded_rep (b : Bool) (p : List Act) : waitsPreceded (rep b ++ p) = (b || waitsPreceded p) := by
  cases b <;> rfl

theorem waitsPreceded_acquire (key limit : Nat) (p : List Act) :
    waitsPreceded (.acquire key limit :: p) = (limit == 0 && waitsPreceded p) := by
  cases limit <;> simp [waitsPreceded]

theorem waitsPreceded_ackPart (udp : Bool) (k : Nat) (p : List Act) :
    waitsPreceded (ackPart udp k ++ p) = if udp then preceded "Conn.waitForAcknowledge" "select" else waitsPreceded p := by
  cases udp
  · rfl
  · simp -implicitDefEqProofs [ackPart, waitsPreceded_rep, waitsPreceded_cons]

theorem waitsPreceded_limiterPart (udp : Bool) (fn : String) (epKey epLimit limit : Nat) (p : List Act) :
    waitsPreceded (limiterPart udp fn epKey epLimit limit ++ p) =
      ((preceded "LimitParallelRequests.acquireEndpoint" "select" || handed udp fn "LimitParallelRequests.acquireEndpoint") ||
        (epLimit == 0 && (preceded fn "acquire" || (limit == 0 && waitsPreceded p)))) := by
  simp -implicitDefEqProofs only [limiterPart, List.append_assoc, List.cons_append, List.nil_append, waitsPreceded_rep, waitsPreceded_acquire]

theorem waitsPreceded_conWrite (udp : Bool) (n k : Nat) (p : List Act) :
    waitsPreceded (conWrite udp n k ++ p) =
      if udp then (if n = 0 then preceded "Conn.waitForAcknowledge" "select" else nstartWaitPreceded) else waitsPreceded p := by
  cases udp
  · rfl
  · cases n <;>
      simp -implicitDefEqProofs [conWrite, takeSlot, giveSlot, waitsPreceded_rep, waitsPreceded_acquire, waitsPreceded_ackPart, waitsPreceded_cons]

theorem conWrite_zero (udp : Bool) (k : Nat) : conWrite udp 0 k = [.send k] ++ ackPart udp k := by
  simp -implicitDefEqProofs [conWrite, takeSlot, giveSlot]

theorem conWrite_stream (n k : Nat) : conWrite false n k = [.send k] := by
  simp -implicitDefEqProofs [conWrite, takeSlot, giveSlot, ackPart]

theorem waitsPreceded_append {p q : List Act} (hp : waitsPreceded p = true) (hq : waitsPreceded q = true) :
    waitsPreceded (p ++ q) = true := by
  induction p with
  | nil => exact hq
  | cons a r ih =>
    cases a with
    | replace => rfl
    | wait c b => simp [waitsPreceded] at hp
    | acquire key limit =>
      rw [List.cons_append, waitsPreceded_acquire] at *
      simp only [Bool.and_eq_true] at hp ⊢
      exact ⟨hp.1, ih hp.2⟩
    | _ => exact ih hp

/-! Two facts of today's source (`Generated.WaitShape`): the selects of `waitForAcknowledge` and `doInternal` have a
    replacement request before them. -/
theorem ackWait_preceded : preceded "Conn.waitForAcknowledge" "select" = true := by decide +kernel
theorem doInternal_preceded : preceded "Conn.doInternal" "select" = true := by decide +kernel

end CoapVerif.Lemmas.ReaderPrograms
