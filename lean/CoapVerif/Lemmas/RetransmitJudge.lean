import CoapVerif.Model.RetransmitHistory
import CoapVerif.Lemmas.RetransmitWindow
/-!
C06: the specification's judge (`Spec.Retransmit.judge`) accepts every history the model emits
(`Model.RetransmitHistory.history`).  A simulation: the judge's records are tied, message ID by message ID, to the
model's call table, pending table and transmission log (`RelReq`, `RelX`, `R`); every model event keeps the tie and makes
the judge's step return `ok`.

The judge's step is known ID by ID when at most one transmission and one return are observed (`stepJ_opt`), and each
stimulus is an update of one record; so an event about one request needs an argument for that request only (`rel_frame`,
`StepOk.of_rel`, `move_step` over `Lemmas.Retransmit.Handled`, what is left being local: `LocalOk`, `sim_*`).  A housekeeping
pass touches every pending entry and is done entry by entry (`foldV_pass`, `Pending.pass`, `step_tick`).  Props/C06Judge puts
the events together.
-/
namespace CoapVerif.Lemmas.RetransmitJudge
open CoapVerif CoapVerif.Model.Retransmit CoapVerif.Model.RetransmitKinds CoapVerif.Model.RetransmitHistory
open CoapVerif.Lemmas CoapVerif.Lemmas.Retransmit CoapVerif.Generated.Retransmit
open CoapVerif.Spec.Retransmit (Cfg Rec JState Tx Ret Step Verdict RKind getRec setRec addRec applyEv checkTx checkRet foldV stepJ
  judgeFrom judge outstanding notExhausted live acknowledges)

/-! ### the judge's table of records; lookups of the model -/

theorem getRec_id {s : JState} {id : Nat} {r : Rec} (h : getRec s id = some r) : r.id = id :=
  (KeyedList.find?_some Rec.id h).2

theorem getRec_mem {s : JState} {id : Nat} {r : Rec} (h : getRec s id = some r) : r ∈ s.recs := List.mem_of_find?_eq_some h

theorem getRec_of_mem {s : JState} (hn : (s.recs.map (·.id)).Nodup) {r : Rec} (hr : r ∈ s.recs) : getRec s r.id = some r :=
  KeyedList.find?_of_mem Rec.id hn hr

theorem getRec_map (s : JState) (f : Rec → Rec) (hf : ∀ r, (f r).id = r.id) (id : Nat) :
    getRec { s with recs := s.recs.map f } id = (getRec s id).map f :=
  KeyedList.find?_map Rec.id s.recs f hf id

theorem getRec_setRec {js : JState} {id : Nat} {r r' : Rec} (hr : getRec js id = some r) (hid : r'.id = r.id) (id' : Nat) :
    getRec (setRec js r') id' = if id' = id then some r' else getRec js id' := by
  have h := KeyedList.find?_update Rec.id js.recs r'.id (fun _ => r') (fun _ _ => rfl) id'
  simp only [getRec, setRec, beq_iff_eq]
  rw [h, hid, getRec_id hr]
  by_cases hi : id' = id
  · subst hi
    simp only [getRec] at hr
    simp [hr]
  · simp [hi]

theorem getRec_setRec_map {js : JState} {id : Nat} {r : Rec} (hr : getRec js id = some r) (f : Rec → Rec)
    (hid : (f r).id = r.id) (id' : Nat) :
    getRec (setRec js (f r)) id' = if id' = id then (getRec js id').map f else getRec js id' := by
  rw [getRec_setRec hr hid]
  by_cases h : id' = id
  · subst h; simp [hr]
  · simp [h]

theorem ids_setRec (s : JState) (r : Rec) : (setRec s r).recs.map (·.id) = s.recs.map (·.id) :=
  KeyedList.map_key_map Rec.id (fun x => by by_cases h : x.id = r.id <;> simp [h]) s.recs

/-- The judge's stimulus leaves the clock and every record but that of `id` alone, and keeps the IDs distinct. -/
structure Touch (js s1 : JState) (id : Nat) : Prop where
  now : s1.now = js.now
  nd : (js.recs.map (·.id)).Nodup → (s1.recs.map (·.id)).Nodup
  other : ∀ id', id' ≠ id → getRec s1 id' = getRec js id'

theorem touch_setRec {js : JState} {id : Nat} {r : Rec} (hr : getRec js id = some r) (r' : Rec) (hid : r'.id = r.id) :
    Touch js (setRec js r') id ∧ getRec (setRec js r') id = some r' :=
  ⟨⟨rfl, fun h => by rw [ids_setRec]; exact h, fun id' hne => (getRec_setRec hr hid id').trans (if_neg hne)⟩,
    (getRec_setRec hr hid id).trans (if_pos rfl)⟩

theorem Touch.refl (js : JState) (id : Nat) : Touch js js id := ⟨rfl, fun h => h, fun _ _ => rfl⟩

def addedRec (js : JState) (id : Nat) (dl : Option Nat) (k : RKind) : Rec :=
  { id := id, deadline := dl.map (· + js.now), kind := k }

theorem addRec_get (js : JState) (id : Nat) (dl : Option Nat) (k : RKind) :
    (addRec js id dl k).now = js.now ∧
    (∀ id', getRec (addRec js id dl k) id' =
      if id' = id then (match getRec js id with | some r => some r | none => some (addedRec js id dl k)) else getRec js id') ∧
    ((getRec js id).isSome = true → addRec js id dl k = js) ∧
    (getRec js id = none → (addRec js id dl k).recs = js.recs ++ [addedRec js id dl k]) := by
  simp only [addRec]
  cases hr : getRec js id with
  | some r =>
    refine ⟨by simp, fun id' => ?_, by simp, by simp⟩
    by_cases h : id' = id
    · subst h; simp [hr]
    · simp [h]
  | none =>
    refine ⟨by simp, fun id' => ?_, by simp, by simp [addedRec]⟩
    have := KeyedList.find?_append_one Rec.id js.recs (addedRec js id dl k) id'
    simp only [getRec, addedRec] at hr this ⊢
    simp only [Option.isSome_none, Bool.false_eq_true, if_false]
    rw [this]
    by_cases h : id' = id
    · subst h; simp [hr]
    · simp [h, Ne.symm h]

theorem touch_addRec {js : JState} {id : Nat} (hnone : getRec js id = none) (dl : Option Nat) (k : RKind) :
    Touch js (addRec js id dl k) id ∧ getRec (addRec js id dl k) id = some (addedRec js id dl k) := by
  obtain ⟨hn, hg, _, hnew⟩ := addRec_get js id dl k
  refine ⟨⟨hn, fun hnd => ?_, fun id' hne => (hg id').trans (if_neg hne)⟩, ?_⟩
  · rw [hnew hnone]
    exact KeyedList.nodup_append_one Rec.id hnd (KeyedList.find?_none Rec.id hnone)
  · rw [hg, if_pos rfl, hnone]

theorem findP_some {ps : List Pend} {id : Nat} {e : Pend} (h : findP ps id = some e) : e ∈ ps ∧ e.id = id :=
  KeyedList.find?_some Pend.id h

theorem findX_setDone (xs : List XCall) (id id' : Nat) :
    findX (setDone xs id) id' = if id' = id then (findX xs id').map (fun x => { x with waiting := false }) else findX xs id' :=
  KeyedList.find?_update XCall.id xs id (fun x => { x with waiting := false }) (fun _ hx => hx) id'

theorem findX_append (xs : List XCall) (x : XCall) (id' : Nat) :
    findX (xs ++ [x]) id' = (findX xs id').or (if x.id = id' then some x else none) :=
  KeyedList.find?_append_one XCall.id xs x id'

theorem isX_eq (s : XState) (id : Nat) : isX s id = (findX s.xcalls id).isSome :=
  List.isSome_find?.symm

theorem isX_some {s : XState} {id : Nat} (h : isX s id = true) : ∃ x, findX s.xcalls id = some x := by
  rw [isX_eq] at h
  cases hf : findX s.xcalls id with
  | none => rw [hf] at h; cases h
  | some x => exact ⟨x, rfl⟩

theorem xown_drop {s : XState} (hown : ∀ e ∈ s.xpend, (findX s.xcalls e.id).isSome = true) (id : Nat) :
    ∀ e ∈ dropPend s.xpend id, (findX (setDone s.xcalls id) e.id).isSome = true := by
  intro e he
  simp only [dropPend, List.mem_filter, bne_iff_ne, ne_eq] at he
  rw [findX_setDone]
  simp only [he.2, if_false]
  exact hown e he.1

theorem queued_iff (b : State) (id : Nat) : queued b id = true ↔ txCount b.log id = 0 := by
  have h : queued b id = !b.log.any (isTx id) := rfl
  simp only [h, txCount, Bool.not_eq_true', List.any_eq_false, List.countP_eq_zero]

theorem pos_of_not_queued {b : State} {id : Nat} (h : queued b id = false) : 1 ≤ txCount b.log id := by
  cases h0 : txCount b.log id with
  | zero => have := (queued_iff b id).mpr h0; rw [h] at this; cases this
  | succ n => omega

theorem liftBase_added (s : XState) (b : State) (added : List Entry) (h : b.log = added ++ s.base.log) :
    liftBase s b = ({ s with base := b }, added.filterMap (outOf b.log)) := by
  simp [liftBase, h]

theorem firstMsg_cons_other {a : Entry} {id : Nat} (ha : ∀ t m, a ≠ Entry.tx id 0 t m) (l : List Entry) :
    firstMsg (a :: l) id = firstMsg l id := by
  simp only [firstMsg, List.findSome?_cons]
  cases a with
  | tx i k t m =>
    cases k with
    | zero =>
      have : i ≠ id := fun e => ha t m (by rw [e])
      simp [this]
    | succ k => rfl
  | ret _ _ _ => rfl
  | stop _ _ => rfl
  | got _ _ => rfl

theorem firstMsg_append (id : Nat) (l : List Entry) : ∀ (pre : List Entry), (∀ x ∈ pre, ∀ t m, x ≠ Entry.tx id 0 t m) →
    firstMsg (pre ++ l) id = firstMsg l id
  | [], _ => rfl
  | x :: r, h => by
    rw [List.cons_append, firstMsg_cons_other (h x List.mem_cons_self)]
    exact firstMsg_append id l r (fun y hy => h y (List.mem_cons_of_mem _ hy))

theorem firstMsg_mem : ∀ (log : List Entry) (id : Nat), (∃ t0 m0, Entry.tx id 0 t0 m0 ∈ log) →
    ∃ t1 m1, firstMsg log id = some m1 ∧ Entry.tx id 0 t1 m1 ∈ log
  | [], _, ⟨_, _, h⟩ => by cases h
  | a :: l, id, ⟨t0, m0, h⟩ => by
    by_cases ha : ∃ t m, a = Entry.tx id 0 t m
    · obtain ⟨t, m, ha⟩ := ha
      subst ha
      exact ⟨t, m, by simp [firstMsg], List.mem_cons_self⟩
    · have hl : Entry.tx id 0 t0 m0 ∈ l := by
        cases h with
        | head => exact (ha ⟨t0, m0, rfl⟩).elim
        | tail _ h => exact h
      obtain ⟨t1, m1, h1, h2⟩ := firstMsg_mem l id ⟨t0, m0, hl⟩
      exact ⟨t1, m1, (firstMsg_cons_other (fun t m e => ha ⟨t, m, e⟩) l).trans h1, List.mem_cons_of_mem _ h2⟩

/-! ### the judge's checks, and its step when at most one transmission and one return are observed

`TxOk` / `RetOk` are the negated branch conditions of `checkTx` / `checkRet`, `txRec` / `retd` the records they leave. -/

def TxOk (c : Cfg) (r : Rec) (x : Tx) : Prop :=
  r.stopped = false ∧ r.count < 1 + c.maxRetransmit ∧ (1 ≤ r.count → r.t0 + r.count * c.ackTimeout ≤ x.t) ∧
    (x.same = true ∨ r.misused = true)

def txRec (x : Tx) (r : Rec) : Rec :=
  { r with count := r.count + 1, t0 := if r.count = 0 then x.t else r.t0, passSince := false }

def RetOk (r : Rec) (y : Ret) : Prop :=
  r.returned = false ∧ (∀ tag, y.res = .ok tag → r.kind = .req ∧ r.resps.contains tag = true) ∧
    (y.res = .acked → r.kind ≠ .req ∧ r.acked = true)

def retd (r : Rec) : Rec := { r with returned := true, stopped := true }

theorem checkTx_ok {c : Cfg} {s : JState} {x : Tx} {r : Rec} (hr : getRec s x.id = some r) (h : TxOk c r x) :
    checkTx c s x = (setRec s (txRec x r), .ok) := by
  obtain ⟨h1, h2, h3, h4⟩ := h
  simp only [checkTx, hr]
  rw [if_neg (by simp [h1]), if_neg (by omega), if_neg, if_neg]
  · rfl
  · rcases h4 with h | h <;> simp [h]
  · simp only [Bool.and_eq_true, decide_eq_true_eq]
    intro ⟨a, b⟩
    have := h3 a
    omega

theorem checkRet_ok {s : JState} {y : Ret} {r : Rec} (hr : getRec s y.id = some r) (h : RetOk r y) :
    checkRet s y = (setRec s (retd r), .ok) := by
  obtain ⟨h1, h2, h3⟩ := h
  simp only [checkRet, hr]
  rw [if_neg (by simp [h1]), if_neg]
  · rfl
  · cases hres : y.res with
    | ok tag =>
      obtain ⟨a, b⟩ := h2 tag hres
      simp only [a, b, beq_self_eq_true, Bool.and_self, Bool.not_true, Bool.false_eq_true, not_false_eq_true]
    | acked =>
      obtain ⟨a, b⟩ := h3 hres
      simp [a, b]
    | ctx => simp
    | deadline => simp
    | nstart => simp
    | other => simp

def updTx (ox : Option Tx) (id : Nat) (o : Option Rec) : Option Rec :=
  match ox with
  | some x => if x.id = id then o.map (txRec x) else o
  | none => o

def updRet (oy : Option Ret) (id : Nat) (o : Option Rec) : Option Rec :=
  match oy with
  | some y => if y.id = id then o.map retd else o
  | none => o

theorem updTx_ne {x : Tx} {id : Nat} (h : x.id ≠ id) (o : Option Rec) : updTx (some x) id o = o := if_neg h
theorem updTx_eq {x : Tx} {id : Nat} (h : x.id = id) (o : Option Rec) : updTx (some x) id o = o.map (txRec x) := if_pos h

theorem updRet_ne {y : Ret} {id : Nat} (h : y.id ≠ id) (o : Option Rec) : updRet (some y) id o = o := by
  simp [updRet, h]

theorem updRet_other {oy : Option Ret} {id : Nat} (h : ∀ y, oy = some y → y.id ≠ id) (o : Option Rec) : updRet oy id o = o := by
  cases oy with
  | none => rfl
  | some y => exact updRet_ne (h y rfl) o

theorem updRet_eq {y : Ret} {id : Nat} (h : y.id = id) (o : Option Rec) : updRet (some y) id o = o.map retd := by
  simp [updRet, h]

/-- The judge's step when at most one transmission and at most one return are observed (every step but a
    housekeeping pass): the table afterwards, ID by ID.  `hne`: in the model such a transmission is the first one of a
    request just admitted, the return that of another exchange. -/
theorem stepJ_opt (c : Cfg) (js : JState) (ev : Spec.Retransmit.Ev) (s1 : JState) (due : Option (Nat × Spec.Retransmit.Res × Bool))
    (happ : applyEv c js ev = (s1, due)) (ox : Option Tx) (oy : Option Ret)
    (hx : ∀ x, ox = some x → ∃ r, getRec s1 x.id = some r ∧ TxOk c r x)
    (hy : ∀ y, oy = some y → ∃ r, getRec s1 y.id = some r ∧ RetOk r y)
    (hne : ∀ x y, ox = some x → oy = some y → x.id ≠ y.id)
    (hdue : ∀ id res l, due = some (id, res, l) → ∃ y, oy = some y ∧ y.id = id ∧ y.res = res) :
    ∃ s3, s3.now = s1.now ∧ s3.recs.map (·.id) = s1.recs.map (·.id) ∧
      (∀ id, getRec s3 id = updRet oy id (updTx ox id (getRec s1 id))) ∧
      (outstanding s3 ≤ c.nstart → stepJ c js ⟨ev, ox.toList, oy.toList⟩ = (s3, .ok)) := by
  have step2 : ∃ s2, foldV (checkTx c) s1 ox.toList = (s2, .ok) ∧ s2.now = s1.now ∧
      s2.recs.map (·.id) = s1.recs.map (·.id) ∧ ∀ id, getRec s2 id = updTx ox id (getRec s1 id) := by
    cases ox with
    | none => exact ⟨s1, rfl, rfl, rfl, fun _ => rfl⟩
    | some x =>
      obtain ⟨r, hr, hok⟩ := hx x rfl
      refine ⟨setRec s1 (txRec x r), ?_, rfl, ids_setRec _ _, ?_⟩
      · simp only [Option.toList, foldV, checkTx_ok hr hok]
      · intro id
        rw [getRec_setRec_map hr (txRec x) rfl]
        by_cases h : x.id = id
        · simp [updTx, h]
        · simp [updTx, h, Ne.symm h]
  obtain ⟨s2, h2, hn2, hi2, hg2⟩ := step2
  have step3 : ∃ s3, foldV checkRet s2 oy.toList = (s3, .ok) ∧ s3.now = s2.now ∧
      s3.recs.map (·.id) = s2.recs.map (·.id) ∧ ∀ id, getRec s3 id = updRet oy id (getRec s2 id) := by
    cases oy with
    | none => exact ⟨s2, rfl, rfl, rfl, fun _ => rfl⟩
    | some y =>
      obtain ⟨r, hr, hok⟩ := hy y rfl
      have hr2 : getRec s2 y.id = some r := by
        rw [hg2]
        cases ox with
        | none => exact hr
        | some x =>
          have := hne x y rfl rfl
          simp [updTx, this, hr]
      refine ⟨setRec s2 (retd r), ?_, rfl, ids_setRec _ _, ?_⟩
      · simp only [Option.toList, foldV, checkRet_ok hr2 hok]
      · intro id
        rw [getRec_setRec_map hr2 retd rfl]
        by_cases h : y.id = id
        · simp [updRet, h]
        · simp [updRet, h, Ne.symm h]
  obtain ⟨s3, h3, hn3, hi3, hg3⟩ := step3
  refine ⟨s3, by rw [hn3, hn2], by rw [hi3, hi2], ?_, ?_⟩
  · intro id
    rw [hg3, hg2]
  · intro hout
    have : ¬ (outstanding s3 > c.nstart) := by omega
    simp only [stepJ, happ, h2, h3]
    cases due with
    | none => simp [this]
    | some d =>
      obtain ⟨id, res, l⟩ := d
      obtain ⟨y, hy1, hy2, hy3⟩ := hdue id res l rfl
      subst hy1
      simp [Option.toList, hy2, hy3, this]

/-! ### each stimulus as an update of one record -/

def mutRec (r : Rec) : Rec := if r.count = 0 && !r.returned then { r with misused := true } else r

/-- `mutRec` as one update, so that the fields an edit leaves alone reduce by themselves. -/
theorem mutRec_eq (r : Rec) : mutRec r = { r with misused := r.misused || (r.count == 0 && !r.returned) } := by
  unfold mutRec
  by_cases h : (decide (r.count = 0) && !r.returned) = true
  · rw [if_pos h]
    have : (r.count == 0 && !r.returned) = true := by simpa using h
    rw [this, Bool.or_true]
  · rw [if_neg h]
    have : (r.count == 0 && !r.returned) = false := by simpa using h
    rw [this, Bool.or_false]

@[simp] theorem mutRec_id (r : Rec) : (mutRec r).id = r.id := by rw [mutRec_eq]
@[simp] theorem mutRec_passSince (r : Rec) : (mutRec r).passSince = r.passSince := by rw [mutRec_eq]
@[simp] theorem mutRec_lateWindow (r : Rec) : (mutRec r).lateWindow = r.lateWindow := by rw [mutRec_eq]
@[simp] theorem mutRec_returned (r : Rec) : (mutRec r).returned = r.returned := by rw [mutRec_eq]

theorem applyEv_mut (c : Cfg) (js : JState) (id : Nat) :
    ∃ s1, applyEv c js (.mut id) = (s1, none) ∧ Touch js s1 id ∧ getRec s1 id = (getRec js id).map mutRec := by
  simp only [applyEv]
  cases hr : getRec js id with
  | none => exact ⟨js, rfl, .refl js id, hr⟩
  | some r =>
    by_cases hc : (r.count = 0 && !r.returned) = true
    · dsimp only
      rw [if_pos hc]
      have hm : mutRec r = { r with misused := true } := by simp [mutRec, hc]
      rw [← hm]
      obtain ⟨ht, hg⟩ := touch_setRec hr (mutRec r) (by rw [hm])
      exact ⟨_, rfl, ht, hg⟩
    · dsimp only
      rw [if_neg hc]
      exact ⟨js, rfl, .refl js id, by rw [hr]; simp [mutRec, hc]⟩

def cancelRec (r : Rec) : Rec := { r with cancelled := true, stopped := true }

theorem applyEv_cancel_some {c : Cfg} {js : JState} {id : Nat} {r : Rec} (hr : getRec js id = some r) :
    applyEv c js (.cancel id) = (setRec js (cancelRec r), none) := by
  simp only [applyEv, hr]
  rfl

theorem applyEv_cancel_none {c : Cfg} {js : JState} {id : Nat} (hr : getRec js id = none) :
    applyEv c js (.cancel id) = (js, none) := by
  simp only [applyEv, hr]

/-- The record after a housekeeping pass whose clock is `t`: what the judge's `tick` does to it, as one update (so that the
    fields a pass leaves alone reduce by themselves). -/
def tickRec (c : Cfg) (t : Nat) (r : Rec) : Rec :=
  { r with passSince := true,
           windowClosed := r.windowClosed || (r.count == c.maxRetransmit + 1 &&
             decide (t > r.t0 + (c.maxRetransmit + 1) * c.ackTimeout)),
           cancelled := r.cancelled || (match r.deadline with | some d => decide (t > d) | none => false) }

theorem applyEv_tick (c : Cfg) (js : JState) (a : Nat) :
    applyEv c js (.tick a) = ({ js with recs := js.recs.map (tickRec c (js.now + a)) }, none) := by
  simp only [applyEv]
  congr 3
  funext r
  unfold tickRec
  cases hd : r.deadline with
  | none => simp
  | some d => by_cases h : js.now + a > d <;> simp [h]

theorem tickRec_wc {c : Cfg} {t : Nat} {r : Rec} (hw : (tickRec c t r).windowClosed = true) :
    r.windowClosed = true ∨ r.count = c.maxRetransmit + 1 := by
  simp only [tickRec, Bool.or_eq_true, Bool.and_eq_true, beq_iff_eq] at hw
  exact hw.imp id And.left

/-- "Got back in time": the first thing to come back, acknowledging, before the attempts are exhausted. -/
def freshAck (c : Cfg) (now : Nat) (k : Spec.Retransmit.Kind) (r : Rec) : Bool :=
  !r.inTime && !r.stopped && acknowledges r.kind k && notExhausted c now r

def recvResps (k : Spec.Retransmit.Kind) (r : Rec) : List Nat :=
  match k with | .pig tag => if r.kind == .req then r.resps ++ [tag] else r.resps | _ => r.resps

/-- The record after something came back for the exchange.  To the judge a separate response to a request is a piggybacked
    one (`.pig tag`), except that no message carrying the message ID has been seen (`mid = false`). -/
def recvRec (c : Cfg) (now : Nat) (mid : Bool) (k : Spec.Retransmit.Kind) (r : Rec) : Rec :=
  { r with stopped := true, acked := mid || r.acked, inTime := r.inTime || freshAck c now k r,
           lateWindow := r.lateWindow || (freshAck c now k r && r.count == c.maxRetransmit + 1 && r.passSince),
           resps := recvResps k r }

def recvDue (c : Cfg) (now : Nat) (id : Nat) (k : Spec.Retransmit.Kind) (r : Rec) : Option (Nat × Spec.Retransmit.Res × Bool) :=
  let late := r.lateWindow || (freshAck c now k r && r.count == c.maxRetransmit + 1 && r.passSince)
  if (r.inTime || freshAck c now k r) && live now r then
    (if r.kind == .req then (recvResps k r).head?.map (fun tag => (id, Spec.Retransmit.Res.ok tag, late))
     else some (id, Spec.Retransmit.Res.acked, late))
  else none

theorem applyEv_recv_some {c : Cfg} {js : JState} {id : Nat} {k : Spec.Retransmit.Kind} {r : Rec}
    (hr : getRec js id = some r) (hc : r.count ≠ 0) :
    applyEv c js (.recvMid id k) = (setRec js (recvRec c js.now true k r), recvDue c js.now id k r) := by
  simp only [applyEv, hr]
  rw [if_neg hc]
  rfl

theorem applyEv_recv_zero {c : Cfg} {js : JState} {id : Nat} {k : Spec.Retransmit.Kind} {r : Rec}
    (hr : getRec js id = some r) (hc : r.count = 0) : applyEv c js (.recvMid id k) = (js, none) := by
  simp only [applyEv, hr, hc, if_true]

theorem applyEv_recv_none {c : Cfg} {js : JState} {id : Nat} {k : Spec.Retransmit.Kind}
    (hr : getRec js id = none) : applyEv c js (.recvMid id k) = (js, none) := by
  simp only [applyEv, hr]

theorem applyEv_resp_some {c : Cfg} {js : JState} {id tag : Nat} {con : Bool} {r : Rec}
    (hr : getRec js id = some r) (hc : r.count ≠ 0) (hk : r.kind = .req) :
    applyEv c js (.resp id con tag) = (setRec js (recvRec c js.now false (.pig tag) r), recvDue c js.now id (.pig tag) r) := by
  simp only [applyEv, hr]
  rw [if_neg hc, if_neg (by simp [hk])]
  simp [recvRec, recvDue, freshAck, recvResps, acknowledges, hk]

theorem applyEv_resp_zero {c : Cfg} {js : JState} {id tag : Nat} {con : Bool} {r : Rec}
    (hr : getRec js id = some r) (hc : r.count = 0) : applyEv c js (.resp id con tag) = (js, none) := by
  simp only [applyEv, hr, hc, if_true]

theorem applyEv_resp_kind {c : Cfg} {js : JState} {id tag : Nat} {con : Bool} {r : Rec}
    (hr : getRec js id = some r) (hk : r.kind ≠ .req) : applyEv c js (.resp id con tag) = (js, none) := by
  simp only [applyEv, hr]
  by_cases hc : r.count = 0
  · simp [hc]
  · simp [hc, hk]

theorem applyEv_resp_none {c : Cfg} {js : JState} {id tag : Nat} {con : Bool}
    (hr : getRec js id = none) : applyEv c js (.resp id con tag) = (js, none) := by
  simp only [applyEv, hr]

theorem notExhausted_wc {c : Cfg} {now : Nat} {r : Rec} (h1 : r.windowClosed = true) (h2 : r.count = c.maxRetransmit + 1) :
    notExhausted c now r = false := by
  simp only [notExhausted, h1, h2]
  simp

theorem live_cancelled {now : Nat} {r : Rec} (h : r.cancelled = true) : live now r = false := by simp [live, h]
theorem live_returned {now : Nat} {r : Rec} (h : r.returned = true) : live now r = false := by simp [live, h]

theorem recvRec_resps {c : Cfg} {now tag : Nat} {mid : Bool} {r : Rec} (hk : r.kind = .req) :
    (recvRec c now mid (.pig tag) r).resps = r.resps ++ [tag] := by simp [recvRec, recvResps, hk]

/-- A return that the stimulus demands at the first response to a request is the return of that response. -/
theorem recvDue_first {c : Cfg} {now id tag : Nat} {r : Rec} (hk : r.kind = .req) (hresps : r.resps = []) {id' : Nat}
    {res : Spec.Retransmit.Res} {l : Bool} (hd : recvDue c now id (.pig tag) r = some (id', res, l)) :
    id = id' ∧ Spec.Retransmit.Res.ok tag = res := by
  simp only [recvDue, recvResps, hk, hresps, beq_self_eq_true, if_true, List.nil_append, List.head?_cons, Option.map_some] at hd
  split at hd
  · cases hd; exact ⟨rfl, rfl⟩
  · cases hd

theorem retOk_first {c : Cfg} {now id tag : Nat} {mid : Bool} {r : Rec} (hk : r.kind = .req) (hret : r.returned = false)
    (t : Nat) : RetOk (recvRec c now mid (.pig tag) r) ⟨id, .ok tag, t⟩ :=
  ⟨hret, fun tg ht => by cases ht; exact ⟨hk, by rw [recvRec_resps hk]; simp⟩, fun ht => by cases ht⟩

/-! ### the tie between the judge's record and the model, for one message ID -/

def kindOf : XKind → RKind
  | .ping => .ping
  | .wcon => .wcon

theorem kindOf_ne (k : XKind) : kindOf k ≠ .req := by cases k <;> simp [kindOf]

/-- The record of an exchange whose entry `e` is in the pending table: nothing has come back yet, and the clock of the copies
    is the entry's.  The entry of a ping is stored without deadline (`entryDeadline`: `time.Time{}`), whatever the caller's.
    A conjunction and not a structure: for a record updated in other fields it is then the same proposition by unfolding
    (`step_mut` hands `hq.ph` on as it is). -/
def Pending (e : Pend) (r : Rec) : Prop :=
  r.stopped = false ∧ r.inTime = false ∧ r.t0 = e.start ∧ (e.deadline = none ∨ e.deadline = r.deadline)

theorem Pending.stopped {e : Pend} {r : Rec} (h : Pending e r) : r.stopped = false := h.1
theorem Pending.inTime {e : Pend} {r : Rec} (h : Pending e r) : r.inTime = false := h.2.1
theorem Pending.t0 {e : Pend} {r : Rec} (h : Pending e r) : r.t0 = e.start := h.2.2.1
theorem Pending.dl {e : Pend} {r : Rec} (h : Pending e r) : e.deadline = none ∨ e.deadline = r.deadline := h.2.2.2

/-- A housekeeping pass gave the exchange up: the deadline of its caller had passed, or the window of its last copy. -/
def GaveUp (r : Rec) : Prop := r.cancelled = true ∨ (r.windowClosed = true ∧ r.inTime = false)

/-- Whatever comes back for an exchange a pass gave up is not in time: no success is demanded, and the exchange stays given
    up. -/
theorem GaveUp.recv {c : Cfg} {r : Rec} (h : GaveUp r) (hwc : r.windowClosed = true → r.count = c.maxRetransmit + 1)
    (now id : Nat) (mid : Bool) (k : Spec.Retransmit.Kind) :
    recvDue c now id k r = none ∧ GaveUp (recvRec c now mid k r) := by
  rcases h with hc | ⟨hw, hit⟩
  · exact ⟨by simp [recvDue, live_cancelled hc], Or.inl hc⟩
  · have hf : freshAck c now k r = false := by simp [freshAck, notExhausted_wc hw (hwc hw)]
    exact ⟨by simp [recvDue, hit, hf], Or.inr ⟨hw, by simp [recvRec, hit, hf]⟩⟩

theorem GaveUp.tick {c : Cfg} {t : Nat} {r : Rec} (h : GaveUp r) : GaveUp (tickRec c t r) :=
  h.imp (fun hc => by show (r.cancelled || _) = true; rw [hc]; rfl)
    (fun hw => ⟨by show (r.windowClosed || _) = true; rw [hw.1]; rfl, hw.2⟩)

/-- The phase of a request against its record.  `waitAck` without a pending entry: a pass has given the request up, the caller
    has not returned yet. -/
def PhRel (c : Call) (pe : Option Pend) (r : Rec) : Prop :=
  match c.phase with
  | .waitSem => r.stopped = false ∧ r.inTime = false ∧ r.resps = [] ∧ c.buf = none
  | .waitAck =>
    match pe with
    | some e => Pending e r ∧ r.resps = [] ∧ c.buf = none
    | none => GaveUp r
  | .waitResp => r.acked = true ∧ r.resps = []
  | .done => True

structure RelReq (P : Params) (c : Call) (pe : Option Pend) (cnt : Nat) (r : Rec) : Prop where
  kind : r.kind = .req
  count : r.count = cnt
  dl : r.deadline = c.deadline
  ret : r.returned = true ↔ c.phase = .done
  mis : c.touched = true → r.misused = true
  wc : r.windowClosed = true → r.count = P.maxRetransmit + 1
  ph : PhRel c pe r

/-- A ping or a confirmable non-request write has no phases: it is pending (`pe`) or it is not.  Count and bound of the
    entry are part of the tie here: `xpend` has no invariant of its own (for a request they come from `Inv.pendCount`). -/
def XPhRel (P : Params) (x : XCall) (pe : Option Pend) (r : Rec) : Prop :=
  match pe with
  | some e => x.waiting = true ∧ Pending e r ∧ r.count = e.n + 1 ∧ e.n ≤ P.maxRetransmit
  | none => x.waiting = false ∨ GaveUp r

structure RelX (P : Params) (x : XCall) (pe : Option Pend) (r : Rec) : Prop where
  kind : r.kind = kindOf x.kind
  ret : r.returned = true ↔ x.waiting = false
  wc : r.windowClosed = true → r.count = P.maxRetransmit + 1
  pos : 1 ≤ r.count
  ph : XPhRel P x pe r

def viewX (s : XState) (id : Nat) : IdView × Option XCall × Option Pend := (viewOf s.base id, findX s.xcalls id, findP s.xpend id)

/-- The tie for one message ID: what the judge's table holds for it against what the model holds of it.  No record: the
    model does not know the ID either. -/
def RelO (P : Params) : IdView × Option XCall × Option Pend → Option Rec → Prop
  | (⟨oc, _, _⟩, ox, _), none => oc = none ∧ ox = none
  | (⟨oc, pe, cnt⟩, ox, xpe), some r =>
    (∃ c, oc = some c ∧ ox = none ∧ RelReq P c pe cnt r) ∨ (∃ x, ox = some x ∧ oc = none ∧ RelX P x xpe r)

def RelId (P : Params) (s : XState) (js : JState) (id : Nat) : Prop := RelO P (viewX s id) (getRec js id)

structure R (P : Params) (s : XState) (js : JState) : Prop where
  inv : Inv P s.base
  now : js.now = s.base.now
  nd : (js.recs.map (·.id)).Nodup
  xpid : (s.xpend.map (·.id)).Nodup
  xown : ∀ e ∈ s.xpend, (findX s.xcalls e.id).isSome = true
  rel : ∀ id, RelId P s js id

theorem RelO.req {P : Params} {oc : Option Call} {pe xpe : Option Pend} {cnt : Nat} {ox : Option XCall} {o : Option Rec} {c : Call}
    (h : RelO P (⟨oc, pe, cnt⟩, ox, xpe) o) (hc : oc = some c) : ∃ r, o = some r ∧ ox = none ∧ RelReq P c pe cnt r := by
  subst hc
  cases o with
  | none => cases h.1
  | some r =>
    rcases h with ⟨c', hfc, hfx, hq⟩ | ⟨x', _, hfc, _⟩
    · cases hfc; exact ⟨r, rfl, hfx, hq⟩
    · cases hfc

theorem RelO.x {P : Params} {oc : Option Call} {pe xpe : Option Pend} {cnt : Nat} {ox : Option XCall} {o : Option Rec} {x : XCall}
    (h : RelO P (⟨oc, pe, cnt⟩, ox, xpe) o) (hx : ox = some x) : ∃ r, o = some r ∧ oc = none ∧ RelX P x xpe r := by
  subst hx
  cases o with
  | none => cases h.2
  | some r =>
    rcases h with ⟨c, _, hfx, _⟩ | ⟨x', hfx, hfc, hq⟩
    · cases hfx
    · cases hfx; exact ⟨r, rfl, hfc, hq⟩

theorem RelReq.not_returned {P : Params} {c : Call} {pe : Option Pend} {cnt : Nat} {r : Rec} (hq : RelReq P c pe cnt r)
    (hph : c.phase ≠ .done) : r.returned = false := by
  cases hr : r.returned with
  | false => rfl
  | true => exact (hph (hq.ret.mp hr)).elim

theorem RelX.not_returned {P : Params} {x : XCall} {pe : Option Pend} {r : Rec} (hq : RelX P x pe r)
    (hw : x.waiting = true) : r.returned = false := by
  cases hr : r.returned with
  | false => rfl
  | true => exact (Bool.false_ne_true ((hq.ret.mp hr).symm.trans hw)).elim

theorem known_iff {P : Params} {s : XState} {js : JState} (h : R P s js) (id : Nat) :
    known s id = (getRec js id).isSome := by
  have hrel := h.rel id
  simp only [RelId, RelO, viewX, viewOf] at hrel
  simp only [known, isX_eq]
  cases hr : getRec js id with
  | none => rw [hr] at hrel; simp [hrel.1, hrel.2]
  | some r =>
    rw [hr] at hrel
    rcases hrel with ⟨c, hfc, _, _⟩ | ⟨x, hfx, _, _⟩
    · simp [hfc]
    · simp [hfx]

theorem none_of_not_known {P : Params} {s : XState} {js : JState} (h : R P s js) {id : Nat} (hk : known s id = false) :
    getRec js id = none ∧ findCall s.base.calls id = none ∧ findX s.xcalls id = none := by
  have hk' := known_iff h id
  rw [hk] at hk'
  have hrel := h.rel id
  cases hr : getRec js id with
  | none => rw [RelId, hr] at hrel; exact ⟨rfl, hrel⟩
  | some r => rw [hr] at hk'; cases hk'

theorem getRec_none_of_unknown {P : Params} {s : XState} {js : JState} (h : R P s js) {id : Nat}
    (hc : findCall s.base.calls id = none) (hx : isX s id = false) : getRec js id = none :=
  (none_of_not_known h (by simp only [known, hc, hx]; rfl)).1

theorem xpend_none_of_findX_none {P : Params} {s : XState} {js : JState} (h : R P s js) {id : Nat}
    (hx : findX s.xcalls id = none) : findP s.xpend id = none := by
  cases hp : findP s.xpend id with
  | none => rfl
  | some e =>
    obtain ⟨hm, hid⟩ := findP_some hp
    have := h.xown e hm
    rw [hid, hx] at this
    cases this

theorem count_zero_of_queued {P : Params} {s : XState} {js : JState} (h : R P s js) {id : Nat} {r : Rec}
    (hx : isX s id = false) (hq : queued s.base id = true) (hr : getRec js id = some r) : r.count = 0 := by
  have hrel := h.rel id
  simp only [RelId, RelO, viewX, viewOf, hr] at hrel
  rcases hrel with ⟨c, _, _, hc⟩ | ⟨x, hfx, _, _⟩
  · rw [hc.count]; exact (queued_iff _ _).mp hq
  · rw [isX_eq, hfx] at hx; cases hx

/-! ### NSTART: the judge's count of outstanding requests is bounded by the calls holding a slot -/

theorem outstanding_le {P : Params} {s : XState} {js : JState} (h : R P s js) : outstanding js ≤ P.nstart := by
  have hns := h.inv.slots
  refine Nat.le_trans ?_ hns
  -- every counted record belongs to a call that holds a slot
  let cnt : Rec → Bool := fun r => r.kind == .req && decide (r.count ≥ 1) && !r.acked && !r.returned
  have hl : outstanding js = ((js.recs.filter cnt).map (·.id)).length := by simp [outstanding, cnt]
  have hr : inflight s.base.calls = ((s.base.calls.filter (fun c => c.phase == .waitAck)).map (·.id)).length := by
    simp [inflight, List.countP_eq_length_filter]
  rw [hl, hr]
  apply List.Nodup.length_le_of_subset
  · exact (List.Sublist.map _ List.filter_sublist).nodup h.nd
  · intro a ha
    obtain ⟨r, hr1, hr2⟩ := List.mem_map.mp ha
    obtain ⟨hmem, hc⟩ := List.mem_filter.mp hr1
    have hg := getRec_of_mem h.nd hmem
    have hrel := h.rel r.id
    simp only [RelId, RelO, viewX, viewOf, hg] at hrel
    simp only [cnt, Bool.and_eq_true, decide_eq_true_eq, Bool.not_eq_true', beq_iff_eq] at hc
    obtain ⟨⟨⟨hk, hcnt⟩, hack⟩, hret⟩ := hc
    rcases hrel with ⟨c, hfc, _, hq⟩ | ⟨x, _, _, hq⟩
    · obtain ⟨hcm, hcid⟩ := findCall_some hfc
      refine List.mem_map.mpr ⟨c, List.mem_filter.mpr ⟨hcm, ?_⟩, by rw [hcid, hr2]⟩
      have hph := hq.ph
      have hret' := hq.ret
      cases hp : c.phase with
      | waitAck => rfl
      | waitSem =>
        exfalso
        have := h.inv.queuedSilent c hcm hp
        rw [hcid] at this
        have := hq.count
        omega
      | waitResp =>
        exfalso
        simp only [PhRel, hp] at hph
        rw [hph.1] at hack
        cases hack
      | done =>
        exfalso
        rw [hret'.mpr hp] at hret
        cases hret
    · exfalso
      have := hq.kind
      rw [hk] at this
      exact kindOf_ne _ this.symm

/-! ### one accepted step; the events that move nothing, pings and writes -/

open CoapVerif.Model.RetransmitKinds renaming step → xstep

def StepOk (P : Params) (s : XState) (js : JState) (e : XEv) : Prop :=
  ∃ js', stepJ (cfgOf P) js (stepOf e (xstep P s e).2) = (js', .ok) ∧ R P (xstep P s e).1 js'

/-- Re-establishing the tie after a step that concerns the exchange `id` only: the records and what the model holds of all
    other IDs are what they were, so only `id` needs an argument. -/
theorem rel_frame {P : Params} {s s' : XState} {js : JState} (h : R P s js) (id : Nat) {g : Nat → Option Rec}
    (hg : ∀ id', id' ≠ id → g id' = getRec js id') (hv : ∀ id', id' ≠ id → viewX s' id' = viewX s id')
    (hid : RelO P (viewX s' id) (g id)) : ∀ id', RelO P (viewX s' id') (g id') := by
  intro id'
  by_cases hne : id' = id
  · rw [hne]; exact hid
  · rw [hg id' hne, hv id' hne]
    exact h.rel id'

/-- The common part of every step that is not a housekeeping pass: the judge accepts the step, and the tie holds afterwards
    if it holds ID by ID for the table the judge is left with. -/
theorem StepOk.of_rel {P : Params} {s : XState} {js : JState} (e : XEv) (s' : XState) (outs : List Out)
    (hstep : xstep P s e = (s', outs))
    (hinv : Inv P s'.base) (hxpid : (s'.xpend.map (·.id)).Nodup)
    (hxown : ∀ e ∈ s'.xpend, (findX s'.xcalls e.id).isSome = true)
    (ox : Option Tx) (oy : Option Ret) (htx : outs.filterMap txOf = ox.toList) (hret : outs.filterMap retOf = oy.toList)
    (s1 : JState) (due : Option (Nat × Spec.Retransmit.Res × Bool))
    (happ : applyEv (cfgOf P) js (specEv e) = (s1, due)) (hn1 : s1.now = s'.base.now) (hi1 : (s1.recs.map (·.id)).Nodup)
    (hx : ∀ x, ox = some x → ∃ r, getRec s1 x.id = some r ∧ TxOk (cfgOf P) r x)
    (hy : ∀ y, oy = some y → ∃ r, getRec s1 y.id = some r ∧ RetOk r y)
    (hne : ∀ x y, ox = some x → oy = some y → x.id ≠ y.id)
    (hdue : ∀ id res l, due = some (id, res, l) → ∃ y, oy = some y ∧ y.id = id ∧ y.res = res)
    (hrel : ∀ id, RelO P (viewX s' id) (updRet oy id (updTx ox id (getRec s1 id)))) : StepOk P s js e := by
  obtain ⟨s3, hn, hi, hg, hfin⟩ := stepJ_opt (cfgOf P) js (specEv e) s1 due happ ox oy hx hy hne hdue
  have hR : R P s' s3 := by
    refine ⟨hinv, by rw [hn, hn1], by rw [hi]; exact hi1, hxpid, hxown, fun id => ?_⟩
    simp only [RelId, hg]
    exact hrel id
  refine ⟨s3, ?_, ?_⟩
  · rw [hstep]
    simp only [stepOf, htx, hret]
    exact hfin (outstanding_le hR)
  · rw [hstep]; exact hR

theorem StepOk.of_rel_quiet {P : Params} {s : XState} {js : JState} (e : XEv) (s' : XState)
    (hstep : xstep P s e = (s', [])) (hinv : Inv P s'.base) (hxpid : (s'.xpend.map (·.id)).Nodup)
    (hxown : ∀ e ∈ s'.xpend, (findX s'.xcalls e.id).isSome = true)
    (s1 : JState) (due : Option (Nat × Spec.Retransmit.Res × Bool))
    (happ : applyEv (cfgOf P) js (specEv e) = (s1, due)) (hdue : due = none) (hn1 : s1.now = s'.base.now)
    (hi1 : (s1.recs.map (·.id)).Nodup) (hrel : ∀ id, RelO P (viewX s' id) (getRec s1 id)) : StepOk P s js e :=
  StepOk.of_rel e s' [] hstep hinv hxpid hxown none none rfl rfl s1 due happ hn1 hi1 (by intro x hx; cases hx)
    (by intro y hy; cases hy) (by intro x y hx; cases hx) (by intro id res l hd; rw [hdue] at hd; cases hd) hrel

theorem step_noop {P : Params} {s : XState} {js : JState} (h : R P s js) (e : XEv) (hstep : xstep P s e = (s, []))
    (happ : applyEv (cfgOf P) js (specEv e) = (js, none)) : StepOk P s js e :=
  StepOk.of_rel_quiet e s hstep h.inv h.xpid h.xown js none happ rfl h.now h.nd h.rel

theorem step_advance {P : Params} {s : XState} {js : JState} (h : R P s js) (d : Nat) : StepOk P s js (.advance d) := by
  refine StepOk.of_rel_quiet (.advance d) _ rfl (inv_advance h.inv d) h.xpid h.xown { js with now := js.now + d } none rfl rfl
    (by simp [h.now]) h.nd h.rel

theorem step_mut {P : Params} {s : XState} {js : JState} (h : R P s js) (id msg : Nat) : StepOk P s js (.mut id msg) := by
  obtain ⟨s1, happ, ht, hg⟩ := applyEv_mut (cfgOf P) js id
  have hfc' := findCall_updCall s.base.calls id (editReq msg) (editReq_id msg)
  refine StepOk.of_rel_quiet (.mut id msg) { s with base := { s.base with calls := updCall s.base.calls id (editReq msg) } }
    (liftBase_added s _ [] rfl) (inv_step h.inv (.mut id msg)) h.xpid h.xown s1 none happ rfl (by rw [ht.now, h.now])
    (ht.nd h.nd) ?_
  refine rel_frame h id ht.other (fun id' hne => by simp only [viewX, viewOf, hfc' id', if_neg hne]) ?_
  show RelO P _ (getRec s1 id)
  rw [hg]
  have hrel := h.rel id
  simp only [RelId] at hrel
  cases hr : getRec js id with
  | none =>
    rw [hr] at hrel
    exact ⟨by rw [hfc', if_pos rfl, hrel.1]; rfl, hrel.2⟩
  | some r =>
    rw [hr] at hrel
    rcases hrel with ⟨c, hfc, hfx, hq⟩ | ⟨x, hfx, hfc, hq⟩
    · obtain ⟨hcm, hcid⟩ := findCall_some hfc
      refine Or.inl ⟨editReq msg c, by rw [hfc', if_pos rfl, hfc]; rfl, hfx, ?_⟩
      show RelReq P (editReq msg c) _ _ (mutRec r)
      rw [mutRec_eq]
      refine ⟨hq.kind, hq.count, hq.dl, hq.ret, fun ht => ?_, hq.wc, hq.ph⟩
      -- an edit of a queued request is what the judge notes: nothing transmitted yet, not returned
      simp only [editReq, Bool.or_eq_true, beq_iff_eq] at ht ⊢
      rcases ht with ht | ht
      · exact Or.inl (hq.mis ht)
      · have hc0 : r.count = 0 := by
          rw [hq.count, ← hcid]
          exact h.inv.queuedSilent c hcm ht
        exact Or.inr (by simp [hc0, hq.not_returned (by rw [ht]; decide)])
    · refine Or.inr ⟨x, hfx, by rw [hfc', if_pos rfl, hfc]; rfl, ?_⟩
      show RelX P x _ (mutRec r)
      rw [mutRec_eq]
      exact ⟨hq.kind, hq.ret, hq.wc, hq.pos, hq.ph⟩

theorem step_resp_skipped {P : Params} {s : XState} {js : JState} (h : R P s js) (id tag : Nat)
    (hsk : (isX s id || queued s.base id) = true) : StepOk P s js (.resp id tag) := by
  refine step_noop h _ (by simp [xstep, hsk]) ?_
  simp only [specEv]
  cases hr : getRec js id with
  | none => exact applyEv_resp_none hr
  | some r =>
    by_cases hx : isX s id = true
    · obtain ⟨x, hfx⟩ := isX_some hx
      obtain ⟨r', hr', _, hq⟩ := (h.rel id).x hfx
      rw [hr] at hr'; cases hr'
      exact applyEv_resp_kind hr (by rw [hq.kind]; exact kindOf_ne _)
    · have hx' : isX s id = false := by simpa using hx
      have hq : queued s.base id = true := by simpa [hx'] using hsk
      exact applyEv_resp_zero hr (count_zero_of_queued h hx' hq hr)

theorem step_pig_skipped {P : Params} {s : XState} {js : JState} (h : R P s js) (id tag : Nat)
    (hx : isX s id = false) (hq : queued s.base id = true) : StepOk P s js (.recvMid id (.pig tag)) := by
  refine step_noop h _ (by simp [xstep, hx, hq]) ?_
  simp only [specEv]
  cases hr : getRec js id with
  | none => exact applyEv_recv_none hr
  | some r => exact applyEv_recv_zero hr (count_zero_of_queued h hx hq hr)

theorem step_xsend {P : Params} {s : XState} {js : JState} (h : R P s js) (kind : XKind) (id : Nat) (dl : Option Nat)
    (e : XEv) (he : xstep P s e = xsend s kind id dl)
    (happ : applyEv (cfgOf P) js (specEv e) = (addRec js id dl (kindOf kind), none)) :
    StepOk P s js e := by
  by_cases hkn : known s id = true
  · -- the ID is in use: nothing happens on either side
    have hsome : (getRec js id).isSome = true := by rw [← known_iff h id]; exact hkn
    refine step_noop h e (by rw [he]; simp [xsend, hkn]) ?_
    rw [happ, (addRec_get js id dl (kindOf kind)).2.2.1 hsome]
  · have hkn' : known s id = false := by simpa using hkn
    obtain ⟨hnone, hfc, hfx⟩ := none_of_not_known h hkn'
    have hxp := xpend_none_of_findX_none h hfx
    obtain ⟨ht, hgid⟩ := touch_addRec hnone dl (kindOf kind)
    have hfp : findP (s.xpend ++ [⟨id, s.base.now, entryDeadline kind (dl.map (· + s.base.now)), 0, 0⟩]) id = some _ :=
      KeyedList.find?_append_new Pend.id rfl hxp
    have hfxn : findX (s.xcalls ++ [⟨id, kind, dl.map (· + s.base.now), true⟩]) id = some _ :=
      KeyedList.find?_append_new XCall.id rfl hfx
    have hstep : xstep P s e =
        ({ s with xcalls := s.xcalls ++ [⟨id, kind, dl.map (· + s.base.now), true⟩],
                  xpend := s.xpend ++ [⟨id, s.base.now, entryDeadline kind (dl.map (· + s.base.now)), 0, 0⟩] },
          [.tx id s.base.now true]) := by
      rw [he]; simp [xsend, hkn']
    refine StepOk.of_rel e _ _ hstep h.inv (KeyedList.nodup_append_one Pend.id h.xpid (findP_none hxp))
      (KeyedList.forall_mem_append_one (fun e' he' => ?_) (congrArg Option.isSome hfxn)) (some ⟨id, s.base.now, true⟩) none rfl rfl
      _ _ happ (by rw [ht.now, h.now]) (ht.nd h.nd) ?_ (by intro y hy; cases hy) (by intro x y _ hy; cases hy)
      (by intro id res l hd; cases hd) ?_
    · have := h.xown e' he'
      rw [findX_append]
      cases hf : findX s.xcalls e'.id with
      | none => rw [hf] at this; cases this
      | some y => rfl
    · intro x' hx'
      cases hx'
      exact ⟨_, hgid, rfl, by show 0 < 1 + _; omega, fun h1 => (Nat.not_succ_le_zero 0 h1).elim, Or.inl rfl⟩
    · refine rel_frame h id (fun id' hne => updTx_ne (Ne.symm hne) _ |>.trans (ht.other id' hne)) (fun id' hne => by
        simp only [viewX, findX_append, findP_append, if_neg (Ne.symm hne), Option.or_none]) ?_
      show RelO P _ (updRet none id (updTx _ id (getRec _ id)))
      rw [updTx_eq rfl, hgid]
      refine Or.inr ⟨_, hfxn, hfc, ⟨rfl, Iff.intro (fun hr => Bool.noConfusion hr)
        (fun hw => Bool.noConfusion hw), fun hw => Bool.noConfusion hw, Nat.le_refl _, ?_⟩⟩
      show XPhRel P _ (findP (_ ++ [_]) id) _
      rw [hfp]
      refine ⟨rfl, ⟨rfl, rfl, rfl, ?_⟩, rfl, Nat.zero_le _⟩
      cases kind with
      | ping => exact Or.inl rfl
      | wcon => exact Or.inr (congrArg (fun n => dl.map (· + n)) h.now).symm

theorem step_ping {P : Params} {s : XState} {js : JState} (h : R P s js) (id : Nat) (dl : Option Nat) :
    StepOk P s js (.ping id dl) := step_xsend h .ping id dl _ rfl rfl

theorem step_wcon {P : Params} {s : XState} {js : JState} (h : R P s js) (id : Nat) (dl : Option Nat) :
    StepOk P s js (.wcon id dl) := step_xsend h .wcon id dl _ rfl rfl

theorem step_xrecv {P : Params} {s : XState} {js : JState} (h : R P s js) (id : Nat) (k : Kind) (hx : isX s id = true) :
    StepOk P s js (.recvMid id k) := by
  obtain ⟨x, hfx⟩ := isX_some hx
  obtain ⟨r, hr, hfc, hq⟩ := (h.rel id).x hfx
  have hc : r.count ≠ 0 := by have := hq.pos; omega
  have happ := applyEv_recv_some (c := cfgOf P) (k := specKind k) hr hc
  obtain ⟨ht, hgid⟩ := touch_setRec hr (recvRec (cfgOf P) js.now true (specKind k) r) rfl
  have hkind : r.kind ≠ .req := by rw [hq.kind]; exact kindOf_ne _
  cases hp : findP s.xpend id with
  | some e =>
    -- the pending ping / write is completed
    have hph := hq.ph
    simp only [XPhRel, hp] at hph
    have hpend : isPending s.xpend id = true := isPending_of_findP hp
    have hret := hq.not_returned hph.1
    refine StepOk.of_rel (.recvMid id k) { s with xpend := dropPend s.xpend id, xcalls := setDone s.xcalls id }
      [.ret id .acked s.base.now] (by simp [xstep, hx, xrecv, hpend]) h.inv (nodup_drop h.xpid id)
      (xown_drop h.xown id) none (some ⟨id, .acked, s.base.now⟩) rfl rfl _ _ happ (by rw [ht.now, h.now]) (ht.nd h.nd)
      (by intro x hx; cases hx) ?_ (by intro x y hx; cases hx) ?_ ?_
    · intro y hy
      cases hy
      exact ⟨_, hgid, And.intro hret (And.intro (fun tag ht => by cases ht) (fun _ => ⟨hkind, rfl⟩))⟩
    · intro id' res l hd
      refine ⟨_, rfl, ?_⟩
      simp only [recvDue] at hd
      split at hd
      · simp only [beq_iff_eq, hkind, if_false, Option.some.injEq, Prod.mk.injEq] at hd
        exact ⟨hd.1, hd.2.1⟩
      · cases hd
    · refine rel_frame h id (fun id' hne => (updRet_ne (Ne.symm hne) _).trans (ht.other id' hne)) (fun id' hne => by
        simp only [viewX, findX_setDone, findP_dropPend, if_neg hne]) ?_
      show RelO P _ (updRet _ id (getRec _ id))
      rw [hgid, updRet_eq rfl]
      refine Or.inr ⟨{ x with waiting := false }, (findX_setDone _ _ id).trans (by rw [if_pos rfl, hfx]; rfl), hfc,
        hq.kind, Iff.intro (fun _ => rfl) (fun _ => rfl), hq.wc, hq.pos, ?_⟩
      show XPhRel P _ (findP (dropPend s.xpend id) id) _
      rw [findP_dropPend, if_pos rfl]
      exact Or.inl rfl
  | none =>
    -- nothing is pending under that ID any more: the model does nothing, the judge demands nothing
    have hph := hq.ph
    simp only [XPhRel, hp] at hph
    have hpend : isPending s.xpend id = false := by rw [isPending_eq, hp]; rfl
    have hstay : recvDue (cfgOf P) js.now id (specKind k) r = none ∧
        XPhRel P x none (recvRec (cfgOf P) js.now true (specKind k) r) := by
      rcases hph with hw1 | hg
      · exact ⟨by simp [recvDue, live_returned (hq.ret.mpr hw1)], Or.inl hw1⟩
      · exact ⟨(hg.recv hq.wc _ id true _).1, Or.inr (hg.recv hq.wc _ id true _).2⟩
    refine StepOk.of_rel_quiet (.recvMid id k) s (by simp [xstep, hx, xrecv, hpend]) h.inv h.xpid h.xown
      _ _ happ hstay.1 (by rw [ht.now, h.now]) (ht.nd h.nd) ?_
    refine rel_frame h id ht.other (fun _ _ => rfl) ?_
    show RelO P _ (getRec _ id)
    rw [hgid]
    exact Or.inr ⟨x, hfx, hfc, hq.kind, hq.ret, hq.wc, hq.pos, hp ▸ hstay.2⟩

theorem step_xcancel {P : Params} {s : XState} {js : JState} (h : R P s js) (id : Nat) (why : Why) (hx : isX s id = true) :
    StepOk P s js (.cancel id why) := by
  obtain ⟨x, hfx⟩ := isX_some hx
  obtain ⟨r, hr, hfc, hq⟩ := (h.rel id).x hfx
  have happ := applyEv_cancel_some (c := cfgOf P) hr
  obtain ⟨ht, hgid⟩ := touch_setRec hr (cancelRec r) rfl
  cases hw : x.waiting with
  | true =>
    have hret := hq.not_returned hw
    refine StepOk.of_rel (.cancel id why) { s with xpend := dropPend s.xpend id, xcalls := setDone s.xcalls id }
      [.ret id (.base why.res) s.base.now] (by simp [xstep, hx, xcancel, hfx, hw]) h.inv
      (nodup_drop h.xpid id) (xown_drop h.xown id) none (some ⟨id, specRes (.base why.res), s.base.now⟩) rfl rfl
      _ none happ (by rw [ht.now, h.now]) (ht.nd h.nd)
      (by intro x hx; cases hx) ?_ (by intro x y hx; cases hx) (by intro id' res l hd'; cases hd') ?_
    · intro y hy
      cases hy
      exact ⟨cancelRec r, hgid, And.intro hret (And.intro (fun tag ht => by cases why <;> cases ht)
        (fun ht => by cases why <;> cases ht))⟩
    · refine rel_frame h id (fun id' hne => ?_) (fun id' hne => ?_) ?_
      · rw [updRet_ne (Ne.symm hne)]; exact ht.other id' hne
      · simp only [viewX, findX_setDone, findP_dropPend, if_neg hne]
      · show RelO P _ (updRet _ id (getRec _ id))
        rw [hgid, updRet_eq rfl]
        refine Or.inr ⟨{ x with waiting := false }, by rw [findX_setDone, if_pos rfl, hfx]; rfl, hfc, ?_⟩
        refine ⟨hq.kind, Iff.intro (fun _ => rfl) (fun _ => rfl), hq.wc, hq.pos, ?_⟩
        show XPhRel P _ (findP (dropPend s.xpend id) id) _
        rw [findP_dropPend, if_pos rfl]
        exact Or.inl rfl
  | false =>
    refine StepOk.of_rel_quiet (.cancel id why) s (by simp [xstep, hx, xcancel, hfx, hw]) h.inv h.xpid h.xown
      _ none happ rfl (by rw [ht.now, h.now]) (ht.nd h.nd) ?_
    refine rel_frame h id ht.other (fun _ _ => rfl) ?_
    show RelO P _ (getRec _ id)
    rw [hgid]
    refine Or.inr ⟨x, hfx, hfc, hq.kind, hq.ret, hq.wc, hq.pos, ?_⟩
    -- the call has returned: it has no pending entry
    have hph := hq.ph
    simp only [XPhRel] at hph ⊢
    cases hp : findP s.xpend id with
    | none => exact Or.inl hw
    | some e => rw [hp] at hph; rw [hw] at hph; cases hph.1

/-! ### the events about one request of `Conn.Do` -/

def retEntry : Entry → Option Ret
  | .ret id r t => some ⟨id, specRes (.base r), t⟩
  | _ => none

theorem outs_notTx (log : List Entry) : ∀ (added1 : List Entry), (∀ x ∈ added1, NotTx x) →
    (added1.filterMap (outOf log)).filterMap txOf = [] ∧
    (added1.filterMap (outOf log)).filterMap retOf = added1.filterMap retEntry
  | [], _ => ⟨rfl, rfl⟩
  | x :: t, h => by
    have ih := outs_notTx log t (fun y hy => h y (List.mem_cons_of_mem _ hy))
    have hx := h x List.mem_cons_self
    cases x with
    | tx _ _ _ _ => cases hx
    | ret i r tt =>
      simp only [List.filterMap_cons, outOf, txOf, retOf, retEntry]
      exact ⟨ih.1, by rw [ih.2]⟩
    | stop i tt =>
      simp only [List.filterMap_cons, outOf, retEntry]
      exact ih
    | got i g =>
      simp only [List.filterMap_cons, outOf, retEntry]
      exact ih

/-- What is emitted when the log grows by ghost entries and returns around the first transmission of a newly admitted
    request: that transmission (identical to itself) and the returns. -/
theorem outs_admit (now : Nat) (oc1 : Option Call) (pre added1 rest : List Entry) (hpre : ∀ x ∈ pre, NotTx x)
    (hnt : ∀ x ∈ added1, NotTx x) :
    ((pre ++ admitEntry now oc1 ++ added1).filterMap (outOf (pre ++ admitEntry now oc1 ++ added1 ++ rest))).filterMap txOf =
      (oc1.map (fun c1 => (⟨c1.id, now, true⟩ : Tx))).toList ∧
    ((pre ++ admitEntry now oc1 ++ added1).filterMap (outOf (pre ++ admitEntry now oc1 ++ added1 ++ rest))).filterMap retOf =
      (pre ++ added1).filterMap retEntry := by
  have h1 := outs_notTx (pre ++ admitEntry now oc1 ++ added1 ++ rest) pre hpre
  have h2 := outs_notTx (pre ++ admitEntry now oc1 ++ added1 ++ rest) added1 hnt
  simp only [List.filterMap_append, h1.1, h1.2, h2.1, h2.2, List.nil_append, List.append_nil]
  cases oc1 with
  | none => simp [admitEntry]
  | some c1 =>
    have hfirst : firstMsg (pre ++ Entry.tx c1.id 0 now c1.req :: (added1 ++ rest)) c1.id = some c1.req := by
      rw [firstMsg_append _ _ pre (fun x hx t m e => by have := hpre x hx; rw [e] at this; exact this)]
      simp [firstMsg]
    simp [admitEntry, outOf, hfirst, txOf, retOf]

def retOfRes (id now : Nat) (o : Option Res) : Option Ret := o.map fun r => ⟨id, specRes (.base r), now⟩

theorem move_rets {P : Params} {s b1 : State} {id : Nat} {l : Local} (hm : Move P s id b1 l) :
    l.log.filterMap retEntry = (retOfRes id s.now l.ret).toList := by
  have : l.log.filterMap retEntry = (l.log.filter isRet).filterMap retEntry := by
    rw [List.filterMap_filter]
    congr 1
    funext x
    cases x <;> rfl
  rw [this, hm.ret]
  cases l.ret <;> rfl

/-- The tie of a queued request carries over to its admission: the first transmission passes the judge's checks
    and the record afterwards fits the freshly stored pending entry. -/
theorem relReq_admit {P : Params} {c1 : Call} {pe : Option Pend} {cnt : Nat} {r1 : Rec} {now : Nat}
    (hq : RelReq P c1 pe cnt r1) (hcnt : cnt = 0) (hph : c1.phase = .waitSem) :
    TxOk (cfgOf P) r1 ⟨c1.id, now, true⟩ ∧
    RelReq P (setPhase .waitAck c1) (some ⟨c1.id, now, c1.deadline, 0, c1.msg⟩) (cnt + 1) (txRec ⟨c1.id, now, true⟩ r1) := by
  subst hcnt
  have hp := hq.ph
  simp only [PhRel, hph] at hp
  obtain ⟨h1, h2, h3, h4⟩ := hp
  have hc := hq.count
  constructor
  · refine ⟨h1, by rw [hc]; omega, by intro h; omega, Or.inl rfl⟩
  · refine ⟨by simpa [txRec] using hq.kind, by simp [txRec, hc], by simpa [txRec, setPhase] using hq.dl, ?_, by simpa [txRec, setPhase] using hq.mis, ?_, ?_⟩
    · have := hq.not_returned (by rw [hph]; exact Phase.noConfusion)
      simp [txRec, setPhase, this]
    · intro hw
      have := hq.wc (by simpa [txRec] using hw)
      omega
    · simp only [PhRel, setPhase]
      exact ⟨⟨h1, h2, by simp [txRec, hc], Or.inr hq.dl.symm⟩, h3, h4⟩

/-- What the judge must find in the record `r1` that its stimulus left for a request, against what the model did to that
    request (`l`): the return passes its check, a success the stimulus demands is that return, and the tie holds afterwards. -/
structure LocalOk (P : Params) (id now cnt : Nat) (l : Local) (r1 : Rec) (due : Option (Nat × Spec.Retransmit.Res × Bool)) : Prop where
  ret : ∀ y, retOfRes id now l.ret = some y → RetOk r1 y
  due : ∀ id' res lw, due = some (id', res, lw) → ∃ y, retOfRes id now l.ret = some y ∧ y.id = id' ∧ y.res = res
  rel : RelReq P l.c l.pe cnt (match l.ret with | some _ => retd r1 | none => r1)

/-- One statement for every event that concerns one request of `Conn.Do`.  The model moves the exchange `id` to `l` and may
    admit the next queued request (`hh`); the judge's stimulus touches the record of `id` only (`ht`); what is left to
    show is local (`hl`).  `relReq_admit` carries the tie over the admission. -/
theorem move_step {P : Params} {s : XState} {js : JState} (h : R P s js) (e : XEv) (id : Nat) {b' : State} {l : Local}
    (hstep : xstep P s e = liftBase s b') (hh : Handled P s.base id l b')
    {s1 : JState} {due : Option (Nat × Spec.Retransmit.Res × Bool)}
    (happ : applyEv (cfgOf P) js (specEv e) = (s1, due)) (ht : Touch js s1 id) (hfx : findX s.xcalls id = none)
    {r1 : Rec} (hg : getRec s1 id = some r1) (hl : LocalOk P id s.base.now (txCount s.base.log id) l r1 due) : StepOk P s js e := by
  obtain ⟨b1, oc1, hm, ha⟩ := hh
  obtain ⟨pre, post, hl1, hl2, hpre, hpost⟩ := ha.log
  have hadd : l.log = pre ++ post := List.append_cancel_right (hm.log.symm.trans hl1)
  have houts := outs_admit s.base.now oc1 pre post s.base.log hpre hpost
  rw [← hl2, ← hadd, move_rets hm] at houts
  generalize hoy : retOfRes id s.base.now l.ret = oy at houts
  have hyid : ∀ y, oy = some y → y.id = id := fun y hy => by
    rw [← hoy] at hy
    cases hr : l.ret with
    | none => rw [hr] at hy; cases hy
    | some r => rw [hr] at hy; cases hy; rfl
  have hy : ∀ y, oy = some y → ∃ r, getRec s1 y.id = some r ∧ RetOk r y := fun y hy => by
    rw [hyid y hy]; exact ⟨r1, hg, hl.ret y (hoy ▸ hy)⟩
  have hdue : ∀ id' res lw, due = some (id', res, lw) → ∃ y, oy = some y ∧ y.id = id' ∧ y.res = res := hoy ▸ hl.due
  -- the tie before the admission, ID by ID
  have hrel1 : ∀ id', RelO P (viewX { s with base := b1 } id') (updRet oy id' (getRec s1 id')) := by
    refine rel_frame h id (fun id' hne => (updRet_other (fun y hy => by rw [hyid y hy]; exact Ne.symm hne) _).trans (ht.other id' hne))
      (fun id' hne => by rw [viewX, hm.view, if_neg hne]; rfl) ?_
    have key : ∀ r2, RelReq P l.c l.pe (txCount s.base.log id) r2 → RelO P (viewX { s with base := b1 } id) (some r2) :=
      fun r2 h2 => by rw [viewX, hm.view, if_pos rfl]; exact Or.inl ⟨l.c, rfl, hfx, h2⟩
    have hrel := hl.rel
    rw [hg, ← hoy]
    cases hr : l.ret with
    | none => rw [hr] at hrel; exact key _ hrel
    | some r => rw [hr] at hrel; exact (updRet_eq (y := ⟨id, _, _⟩) rfl _) ▸ key _ hrel
  have fin := fun ox htx => StepOk.of_rel e { s with base := b' } _ (by rw [hstep, liftBase_added s _ _ hl2]) ha.inv h.xpid h.xown
    ox oy htx houts.2 s1 due happ (by rw [ht.now, h.now, ha.now, hm.now]) (ht.nd h.nd)
  cases oc1 with
  | none =>
    refine fin none houts.1 (by intro x hx; cases hx) hy (by intro x y hx; cases hx) hdue (fun id' => ?_)
    rw [viewX, ha.view id']
    exact hrel1 id'
  | some c1 =>
    obtain ⟨hfc1, hph1, hv⟩ := ha.view
    obtain ⟨hcm, _⟩ := findCall_some hfc1
    have hcnt0 : txCount b1.log c1.id = 0 := hm.inv.queuedSilent c1 hcm hph1
    -- the record of the admitted request: it is not the one that returns
    obtain ⟨rc, ho, hfx1, hq1⟩ := (hrel1 c1.id).req hfc1
    have hyne : ∀ y, oy = some y → y.id ≠ c1.id := fun y hy heq => by
      rw [hy, updRet_eq heq] at ho
      obtain ⟨r0, _, rfl⟩ := Option.map_eq_some_iff.mp ho
      exact Bool.noConfusion (hq1.not_returned (by rw [hph1]; exact Phase.noConfusion))
    have hg1 : getRec s1 c1.id = some rc := (updRet_other hyne _).symm.trans ho
    obtain ⟨htxok, hq1'⟩ := relReq_admit (now := s.base.now) hq1 hcnt0 hph1
    refine fin (some ⟨c1.id, s.base.now, true⟩) houts.1 ?_ hy ?_ hdue (fun id' => ?_)
    · intro x hx
      cases hx
      exact ⟨rc, hg1, htxok⟩
    · intro x y hx hy'
      cases hx
      exact fun e => hyne y hy' e.symm
    · rw [viewX, hv id']
      by_cases hid : id' = c1.id
      · subst hid
        rw [if_pos rfl, updTx_eq rfl, hg1, updRet_other hyne]
        exact Or.inl ⟨_, rfl, hfx1, hq1'⟩
      · rw [if_neg hid, updTx_ne (Ne.symm hid)]
        exact hrel1 id'

theorem why_res_cases (why : Why) : specRes (.base why.res) = .ctx ∨ specRes (.base why.res) = .deadline := by
  cases why <;> simp [Why.res, specRes]

theorem sim_cancel {P : Params} {c : Call} {pe : Option Pend} {cnt : Nat} {r : Rec} (hq : RelReq P c pe cnt r) (id now : Nat)
    (why : Why) : LocalOk P id now cnt (onCancel now why c pe) (cancelRec r) none := by
  unfold onCancel
  by_cases hd : c.phase = .done
  · rw [if_pos hd]
    exact ⟨nofun, nofun, hq.kind, hq.count, hq.dl, hq.ret, hq.mis, hq.wc, by unfold PhRel; rw [hd]; trivial⟩
  · rw [if_neg hd]
    refine ⟨fun y hy => ?_, nofun, hq.kind, hq.count, hq.dl, Iff.intro (fun _ => rfl) (fun _ => rfl), hq.mis, hq.wc, trivial⟩
    cases hy
    exact And.intro (hq.not_returned hd) (And.intro (fun tag ht => by cases why <;> cases ht) (fun ht => by cases why <;> cases ht))

theorem step_cancel_base {P : Params} {s : XState} {js : JState} (h : R P s js) (id : Nat) (why : Why)
    (hx : isX s id = false) : StepOk P s js (.cancel id why) := by
  have hstep : xstep P s (.cancel id why) = liftBase s (cancel P s.base id why) := by
    simp [xstep, hx]
  cases hf : findCall s.base.calls id with
  | none =>
    exact step_noop h _ (by rw [hstep, cancel_unknown hf]; exact liftBase_added s _ [] rfl)
      (applyEv_cancel_none (getRec_none_of_unknown h hf hx))
  | some c =>
    obtain ⟨r, hr, hfx, hq⟩ := (h.rel id).req hf
    obtain ⟨ht, hgid⟩ := touch_setRec hr (cancelRec r) rfl
    exact move_step h _ id hstep (cancel_move h.inv hf why) (applyEv_cancel_some hr) ht hfx hgid (sim_cancel hq id _ why)

theorem step_send {P : Params} {s : XState} {js : JState} (h : R P s js) (id msg : Nat) (dl : Option Nat) :
    StepOk P s js (.send id msg dl) := by
  have happ : applyEv (cfgOf P) js (specEv (.send id msg dl)) = (addRec js id dl .req, none) := rfl
  by_cases hkn : known s id = true
  · have hsome : (getRec js id).isSome = true := by rw [← known_iff h id]; exact hkn
    refine step_noop h _ (by simp [xstep, hkn]) ?_
    rw [happ, (addRec_get js id dl .req).2.2.1 hsome]
  · have hkn' : known s id = false := by simpa using hkn
    obtain ⟨hnone, hfc, hfx⟩ := none_of_not_known h hkn'
    have hcnt0 : txCount s.base.log id = 0 := h.inv.unk id (findCall_none hfc)
    have hstep : xstep P s (.send id msg dl) = liftBase s (Model.Retransmit.send P s.base id msg (dl.map (· + s.base.now))) := by
      simp [xstep, hkn']
    obtain ⟨ht, hgid⟩ := touch_addRec hnone dl .req
    refine move_step h _ id hstep (send_move h.inv hfc msg (dl.map (· + s.base.now))) happ ht hfx hgid ?_
    rw [hcnt0]
    unfold onSend
    have hdl : (addedRec js id dl .req).deadline = dl.map (· + s.base.now) := congrArg (fun n => dl.map (· + n)) h.now
    by_cases hn : P.nstart = 0
    · -- NSTART = 0: the call fails at once
      rw [if_pos hn]
      exact ⟨fun y hy => by cases hy; exact And.intro rfl (And.intro (fun tag ht => by cases ht) (fun ht => by cases ht)), nofun,
        ⟨rfl, rfl, hdl, Iff.intro (fun _ => rfl) (fun _ => rfl), fun ht => Bool.noConfusion ht, fun hw => Bool.noConfusion hw, trivial⟩⟩
    · -- the call queues for its slot; the next queued request (possibly this one) is admitted if a slot is free
      rw [if_neg hn]
      exact ⟨nofun, nofun, ⟨rfl, rfl, hdl, Iff.intro (fun hr => Bool.noConfusion hr) (fun hp => Phase.noConfusion hp),
        fun ht => Bool.noConfusion ht, fun hw => Bool.noConfusion hw, rfl, rfl, rfl, rfl⟩⟩

/-- The call returns the first response to its request: any `l` that returns `.ok tag` in phase `done`.  Serves
    the three places where a response is returned: the call waits for it, it wakes the writer (empty channel), or it follows
    the waking message (piggybacked). -/
theorem sim_returns {P : Params} {c : Call} {pe : Option Pend} {cnt : Nat} {r : Rec} {id now tag : Nat} (mid : Bool)
    (hq : RelReq P c pe cnt r) (hnd : c.phase ≠ .done) (hresps : r.resps = []) {l : Local}
    (hl : l.ret = some (.ok tag)) (h1 : l.c.phase = .done) (h2 : l.c.deadline = c.deadline)
    (h3 : l.c.touched = c.touched) :
    LocalOk P id now cnt l (recvRec (cfgOf P) now mid (.pig tag) r) (recvDue (cfgOf P) now id (.pig tag) r) := by
  constructor <;> rw [hl]
  · exact fun y hy => by cases hy; exact retOk_first hq.kind (hq.not_returned hnd) _
  · exact fun id' res lw hd => ⟨_, rfl, recvDue_first hq.kind hresps hd⟩
  · exact ⟨hq.kind, hq.count, hq.dl.trans h2.symm, Iff.intro (fun _ => h1) (fun _ => rfl), fun ht => hq.mis (h3 ▸ ht), hq.wc,
      by unfold PhRel; rw [h1]; trivial⟩

/-- A response reaches the token handler of a request that has been transmitted: whatever the phase of the call. -/
theorem sim_deliver {P : Params} {c : Call} {pe : Option Pend} {cnt : Nat} {r : Rec} {id now tag : Nat} (mid : Bool)
    (hq : RelReq P c pe cnt r) (hnq : c.phase ≠ .waitSem) :
    LocalOk P id now cnt (onDeliver now tag c pe) (recvRec (cfgOf P) now mid (.pig tag) r)
      (recvDue (cfgOf P) now id (.pig tag) r) := by
  have hp := hq.ph
  -- nothing returns and nothing is demanded: the record keeps fitting a call whose phase and entry stay
  have stays : ∀ c' : Call, c'.phase = c.phase → c'.deadline = c.deadline → c'.touched = c.touched →
      recvDue (cfgOf P) now id (.pig tag) r = none → PhRel c' pe (recvRec (cfgOf P) now mid (.pig tag) r) →
      LocalOk P id now cnt ⟨c', pe, [.got c.id tag]⟩ (recvRec (cfgOf P) now mid (.pig tag) r) (recvDue (cfgOf P) now id (.pig tag) r) :=
    fun c' h1 h2 h3 hnone hph =>
    ⟨nofun, fun id' res lw hd => (by rw [hnone] at hd; cases hd),
      hq.kind, hq.count, hq.dl.trans h2.symm, h1 ▸ hq.ret, fun ht => hq.mis (h3 ▸ ht), hq.wc, hph⟩
  unfold onDeliver
  cases hph : c.phase with
  | waitSem => exact (hnq hph).elim
  | done =>
    refine stays c rfl rfl rfl ?_ (by unfold PhRel; rw [hph]; trivial)
    simp [recvDue, live_returned (hq.ret.mpr hph)]
  | waitResp =>
    simp only [PhRel, hph] at hp
    exact sim_returns mid hq (by rw [hph]; exact Phase.noConfusion) hp.2 rfl rfl rfl rfl
  | waitAck =>
    have hnd : c.phase ≠ .done := by rw [hph]; exact Phase.noConfusion
    rw [if_neg Phase.noConfusion, if_neg Phase.noConfusion]
    cases pe with
    | some e =>
      simp only [PhRel, hph] at hp
      obtain ⟨_, hresps, hbuf⟩ := hp
      rw [if_pos hbuf, if_pos ⟨rfl, rfl⟩]
      exact sim_returns mid hq hnd hresps rfl rfl rfl rfl
    | none =>
      simp only [PhRel, hph] at hp
      -- the request was given up by a housekeeping pass: the response is buffered (or dropped), nothing returns
      obtain ⟨hnone, hgu⟩ := hp.recv (c := cfgOf P) hq.wc now id mid (.pig tag)
      have hgo : ∀ c' : Call, c'.phase = c.phase → PhRel c' none (recvRec (cfgOf P) now mid (.pig tag) r) := fun c' hc' => by
        unfold PhRel; rw [hc', hph]; exact hgu
      by_cases hbuf : c.buf = none
      · rw [if_pos hbuf, if_neg (fun hp => Bool.noConfusion hp.2)]
        exact stays (setBuf tag c) rfl rfl rfl hnone (hgo _ rfl)
      · rw [if_neg hbuf]
        exact stays c rfl rfl rfl hnone (hgo _ rfl)

theorem step_resp_base {P : Params} {s : XState} {js : JState} (h : R P s js) (id tag : Nat)
    (hx : isX s id = false) (hqd : queued s.base id = false) : StepOk P s js (.resp id tag) := by
  have hstep : xstep P s (.resp id tag) = liftBase s (deliver P s.base id tag) := by
    simp [xstep, hx, hqd]
  have hpos := pos_of_not_queued hqd
  cases hf : findCall s.base.calls id with
  | none =>
    refine step_noop h _ (by rw [hstep, deliver_unknown hf]; exact liftBase_added s _ [] rfl) ?_
    exact applyEv_resp_none (getRec_none_of_unknown h hf hx)
  | some c =>
    obtain ⟨hcm, hcid⟩ := findCall_some hf
    obtain ⟨r, hr, hfx, hq⟩ := (h.rel id).req hf
    have happ := applyEv_resp_some (c := cfgOf P) (tag := tag) (con := false) hr (by rw [hq.count]; omega) hq.kind
    obtain ⟨ht, hgid⟩ := touch_setRec hr (recvRec (cfgOf P) js.now false (.pig tag) r) rfl
    exact move_step h _ id hstep (deliver_move h.inv hf tag) happ ht hfx hgid
      (h.now ▸ sim_deliver false hq (fun hp => by have := hcid ▸ h.inv.queuedSilent c hcm hp; omega))

theorem sim_recv {P : Params} {c : Call} {pe : Option Pend} {cnt : Nat} {r : Rec} {id now : Nat} (hq : RelReq P c pe cnt r)
    (hnq : c.phase ≠ .waitSem) (hpa : ∀ e, pe = some e → c.phase = .waitAck) (k : Kind) :
    LocalOk P id now cnt (onRecv now k c pe) (recvRec (cfgOf P) now true (specKind k) r) (recvDue (cfgOf P) now id (specKind k) r) := by
  have hp := hq.ph
  cases pe with
  | none =>
    -- an acknowledgement or a reset for a request that is not pending: nothing is demanded, the record still fits the call
    have idle : ∀ k : Spec.Retransmit.Kind, recvResps k r = r.resps →
        LocalOk P id now cnt ⟨c, none, []⟩ (recvRec (cfgOf P) now true k r) (recvDue (cfgOf P) now id k r) := fun k hresps => by
      have key : recvDue (cfgOf P) now id k r = none ∧ PhRel c none (recvRec (cfgOf P) now true k r) := by
        simp only [recvDue, hq.kind, beq_self_eq_true, if_true, hresps]
        cases hph : c.phase with
        | waitSem => exact (hnq hph).elim
        | done => simp [live_returned (hq.ret.mpr hph), PhRel, hph]
        | waitResp =>
          simp only [PhRel, hph] at hp ⊢
          simp [hp.2, recvRec, hresps]
        | waitAck =>
          simp only [PhRel, hph] at hp ⊢
          have := hp.recv (c := cfgOf P) hq.wc now id true k
          simpa only [recvDue, hq.kind, beq_self_eq_true, if_true, hresps] using this
      exact ⟨nofun, fun id' res lw hd => (by rw [key.1] at hd; cases hd),
        hq.kind, hq.count, hq.dl, hq.ret, hq.mis, hq.wc, key.2⟩
    cases k with
    | pig tag => exact sim_deliver true hq hnq
    | ack => exact idle .ack rfl
    | rst => exact idle .rst rfl
  | some e =>
    have hph := hpa e rfl
    simp only [PhRel, hph] at hp
    obtain ⟨_, hresps, hbuf⟩ := hp
    have hnd : c.phase ≠ .done := by rw [hph]; exact Phase.noConfusion
    have hwoken : woken now c = ⟨setPhase .waitResp c, none, [.stop c.id now]⟩ := by unfold woken; rw [hbuf]
    -- the writer is woken by an acknowledgement or a reset: the call goes on to wait for its response
    have wakes : ∀ k : Spec.Retransmit.Kind, recvResps k r = [] →
        LocalOk P id now cnt (woken now c) (recvRec (cfgOf P) now true k r) (recvDue (cfgOf P) now id k r) :=
      fun k hrr => hwoken ▸ ⟨nofun, fun id' res lw hd => (by simp [recvDue, hq.kind, hrr] at hd),
        hq.kind, hq.count, hq.dl,
        Iff.intro (fun hr' => (Bool.false_ne_true ((hq.not_returned hnd).symm.trans hr')).elim) (fun hd => Phase.noConfusion hd),
        hq.mis, hq.wc, rfl, hrr⟩
    unfold onRecv
    cases k with
    | pig tag =>
      rw [hwoken]
      exact sim_returns true hq hnd hresps rfl rfl rfl rfl
    | ack => exact wakes .ack hresps
    | rst => exact wakes .rst hresps

/-- A message carrying the message ID of a request (a piggybacked response only once the request has been transmitted). -/
theorem step_recv_base {P : Params} {s : XState} {js : JState} (h : R P s js) (id : Nat) (k : Kind)
    (hx : isX s id = false) (hqd : ∀ tag, k = .pig tag → queued s.base id = false) : StepOk P s js (.recvMid id k) := by
  have hstep : xstep P s (.recvMid id k) = liftBase s (recvMid P s.base id k) := by
    cases k with
    | pig tag => simp [xstep, hx, hqd tag rfl]
    | ack => simp [xstep, hx]
    | rst => simp [xstep, hx]
  cases hf : findCall s.base.calls id with
  | none =>
    refine step_noop h _ (by rw [hstep, recvMid_unknown hf]; exact liftBase_added s _ [] rfl) ?_
    exact applyEv_recv_none (getRec_none_of_unknown h hf hx)
  | some c =>
    obtain ⟨hcm, hcid⟩ := findCall_some hf
    obtain ⟨r, hr, hfx, hq⟩ := (h.rel id).req hf
    have hpa : ∀ e, findP s.base.pend id = some e → c.phase = .waitAck ∧ 1 ≤ txCount s.base.log id := fun e hp => by
      have hph := waitAck_of_pending h.inv hf hp
      have := (h.inv.pendCount e (findP_some hp).1).1
      rw [(findP_some hp).2] at this
      exact ⟨hph, by omega⟩
    by_cases hc0 : r.count = 0
    · -- nothing has been transmitted: nothing is pending, and it is no response
      have hnp : isPending s.base.pend id = false := by
        rw [isPending_eq]
        cases hp : findP s.base.pend id with
        | none => rfl
        | some e => have := (hpa e hp).2; rw [← hq.count] at this; omega
      refine step_noop h _ ?_ (applyEv_recv_zero hr hc0)
      rw [hstep, recvMid_not_pending k hnp]
      cases k with
      | pig tag => have := pos_of_not_queued (hqd tag rfl); rw [← hq.count] at this; omega
      | ack => simp [liftBase]
      | rst => simp [liftBase]
    · have hc1 : 1 ≤ txCount s.base.log id := by rw [← hq.count]; omega
      have happ := applyEv_recv_some (c := cfgOf P) (k := specKind k) hr hc0
      obtain ⟨ht, hgid⟩ := touch_setRec hr (recvRec (cfgOf P) js.now true (specKind k) r) rfl
      exact move_step h _ id hstep (recv_move h.inv hf k) happ ht hfx hgid
        (h.now ▸ sim_recv hq (fun hp => by have := hcid ▸ h.inv.queuedSilent c hcm hp; omega) (fun e hp => (hpa e hp).1) k)

theorem step_recv_idle {P : Params} {s : XState} {js : JState} (h : R P s js) (id : Nat) (k : Kind)
    (hx : isX s id = false) (hk : ∀ tag, k ≠ .pig tag) (_ : findP s.base.pend id = none) :
    StepOk P s js (.recvMid id k) :=
  step_recv_base h id k hx (fun tag hkt => (hk tag hkt).elim)

theorem step_pig_idle {P : Params} {s : XState} {js : JState} (h : R P s js) (id tag : Nat)
    (hx : isX s id = false) (hqd : queued s.base id = false) (_ : findP s.base.pend id = none) :
    StepOk P s js (.recvMid id (.pig tag)) :=
  step_recv_base h id _ hx (fun _ _ => hqd)

theorem step_recv_pending {P : Params} {s : XState} {js : JState} (h : R P s js) (id : Nat) (k : Kind)
    (hx : isX s id = false) (hk : ∀ tag, k ≠ .pig tag) {e0 : Pend} (_ : findP s.base.pend id = some e0) :
    StepOk P s js (.recvMid id k) :=
  step_recv_base h id k hx (fun tag hkt => (hk tag hkt).elim)

theorem step_pig_pending {P : Params} {s : XState} {js : JState} (h : R P s js) (id tag : Nat)
    (hx : isX s id = false) (hqd : queued s.base id = false) {e0 : Pend} (_ : findP s.base.pend id = some e0) :
    StepOk P s js (.recvMid id (.pig tag)) :=
  step_recv_base h id _ hx (fun _ _ => hqd)

/-! ### a housekeeping pass -/

/-- The copy a pass at `t` writes for the pending entry of one exchange, as the judge sees it (`same e`: it carries the bytes
    of the first transmission). -/
def passTx (P : Params) (t : Nat) (same : Pend → Bool) (pe : Option Pend) : Option Tx :=
  (copied P t pe).map fun e => ⟨e.id, t, same e⟩

def passTxs (P : Params) (t : Nat) (same : Pend → Bool) (ps : List Pend) : List Tx :=
  (ps.filter (bumped P t)).map fun e => ⟨e.id, t, same e⟩

def txRecOpt (ox : Option Tx) (r : Rec) : Rec :=
  match ox with
  | some x => txRec x r
  | none => r

/-- The judge checks the copies of one table (IDs distinct) one after the other: each is accepted if it is acceptable for the
    record of its exchange, and the table afterwards is known ID by ID. -/
theorem foldV_pass (c : Cfg) (P : Params) (t : Nat) (same : Pend → Bool) : ∀ (ps : List Pend) (js : JState),
    (ps.map (·.id)).Nodup →
    (∀ id x, passTx P t same (findP ps id) = some x → ∃ r, getRec js id = some r ∧ TxOk c r x) →
    ∃ js', (∀ rest, foldV (checkTx c) js (passTxs P t same ps ++ rest) = foldV (checkTx c) js' rest) ∧ js'.now = js.now ∧
      js'.recs.map (·.id) = js.recs.map (·.id) ∧
      ∀ id, getRec js' id = (getRec js id).map (txRecOpt (passTx P t same (findP ps id)))
  | [], js, _, _ => ⟨js, fun _ => rfl, rfl, rfl, fun id => by cases getRec js id <;> rfl⟩
  | e :: ps, js, hn, hall => by
    obtain ⟨hne, hn⟩ := List.nodup_cons.mp hn
    have hfe : ∀ id, findP (e :: ps) id = if e.id = id then some e else findP ps id := fun id => by
      by_cases h : e.id = id <;> simp [findP, h]
    have hnone : findP ps e.id = none := by
      cases hp : findP ps e.id with
      | none => rfl
      | some e' => exact (hne (List.mem_map.mpr ⟨e', findP_some hp⟩)).elim
    -- the entries of the tail belong to other exchanges
    have htail : ∀ id x, passTx P t same (findP ps id) = some x →
        id ≠ e.id ∧ ∃ r, getRec js id = some r ∧ TxOk c r x := fun id x hx => by
      have hid : id ≠ e.id := fun heq => by rw [heq, hnone] at hx; cases hx
      exact ⟨hid, hall id x (by rw [hfe, if_neg (Ne.symm hid)]; exact hx)⟩
    by_cases hb : bumped P t e = true
    · have hx : passTx P t same (findP (e :: ps) e.id) = some ⟨e.id, t, same e⟩ := by
        rw [hfe, if_pos rfl]; simp only [passTx, copied, Option.filter_some, if_pos hb]; rfl
      obtain ⟨r, hr, hok⟩ := hall _ _ hx
      have hget := getRec_setRec (r' := txRec ⟨e.id, t, same e⟩ r) hr rfl
      obtain ⟨js', hf, hnow, hids, hg⟩ := foldV_pass c P t same ps (setRec js (txRec ⟨e.id, t, same e⟩ r)) hn
        (fun id x hx' => by rw [hget, if_neg (htail id x hx').1]; exact (htail id x hx').2)
      refine ⟨js', fun rest => ?_, hnow, by rw [hids, ids_setRec], fun id => ?_⟩
      · have : passTxs P t same (e :: ps) = ⟨e.id, t, same e⟩ :: passTxs P t same ps := by
          simp only [passTxs, List.filter_cons, hb, if_true, List.map_cons]
        rw [this, List.cons_append]
        simp only [foldV, checkTx_ok hr hok]
        exact hf rest
      · rw [hg, hget]
        by_cases hid : id = e.id
        · rw [hid, if_pos rfl, hx, hnone, hr]; rfl
        · rw [if_neg hid, hfe, if_neg (Ne.symm hid)]
    · obtain ⟨js', hf, hnow, hids, hg⟩ := foldV_pass c P t same ps js hn (fun id x hx' => (htail id x hx').2)
      refine ⟨js', fun rest => ?_, hnow, hids, fun id => ?_⟩
      · have : passTxs P t same (e :: ps) = passTxs P t same ps := by
          simp only [passTxs, List.filter_cons, hb, Bool.false_eq_true, if_false]
        rw [this]; exact hf rest
      · rw [hg, hfe]
        by_cases hid : id = e.id
        · rw [hid, if_pos rfl, hnone]
          simp only [passTx, copied, Option.filter_some, if_neg hb]; rfl
        · rw [if_neg (Ne.symm hid)]

/-- What a pass emits: the copies it writes (as the judge's transmissions), and no return. -/
theorem tick_outs (P : Params) (t : Nat) (g : Entry → Option Out) (same : Pend → Bool)
    (hg : ∀ e : Pend, g (.tx e.id (e.n + 1) t e.msg) = some (.tx e.id t (same e))) (ps : List Pend) :
    ((tickList P t ps).2.filterMap g).filterMap txOf = passTxs P t same ps ∧
    ((tickList P t ps).2.filterMap g).filterMap retOf = [] := by
  have h : (tickList P t ps).2.filterMap g = (ps.filter (bumped P t)).map (fun e => Out.tx e.id t (same e)) := by
    rw [tickList_eq, List.filterMap_map]
    have : g ∘ (fun e : Pend => Entry.tx e.id (e.n + 1) t e.msg) = some ∘ (fun e => Out.tx e.id t (same e)) := funext hg
    rw [this, List.filterMap_eq_map]
  rw [h, List.filterMap_map, List.filterMap_map]
  have htx : (txOf ∘ fun e : Pend => Out.tx e.id t (same e)) = some ∘ (fun e => (⟨e.id, t, same e⟩ : Tx)) := rfl
  exact ⟨by rw [htx, List.filterMap_eq_map]; rfl, List.filterMap_eq_nil_iff.mpr (fun _ _ => rfl)⟩

/-- Retransmissions are labelled 1, 2, …: they do not change what the first transmission of a request was. -/
theorem firstMsg_tick (P : Params) (t : Nat) (log : List Entry) (id : Nat) (ps : List Pend) :
    firstMsg ((tickList P t ps).2 ++ log) id = firstMsg log id := by
  refine firstMsg_append id log _ (fun x hx t' m e => ?_)
  obtain ⟨_, _, _, hx'⟩ := tick_mem_log P t ps x hx
  rw [e] at hx'
  cases hx'

/-- A pass leaves every part of the tie but `wc` and `ph` as it is. -/
theorem RelReq.tick {P : Params} {c : Call} {pe pe' : Option Pend} {cnt : Nat} {r : Rec} (t : Nat) (hq : RelReq P c pe cnt r)
    (hph : PhRel c pe' (tickRec (cfgOf P) t r)) : RelReq P c pe' cnt (tickRec (cfgOf P) t r) :=
  ⟨hq.kind, hq.count, hq.dl, hq.ret, hq.mis, fun hw => (tickRec_wc hw).elim hq.wc id, hph⟩

theorem RelX.tick {P : Params} {x : XCall} {pe pe' : Option Pend} {r : Rec} (t : Nat) (hq : RelX P x pe r)
    (hph : XPhRel P x pe' (tickRec (cfgOf P) t r)) : RelX P x pe' (tickRec (cfgOf P) t r) :=
  ⟨hq.kind, hq.ret, fun hw => (tickRec_wc hw).elim hq.wc id, hq.pos, hph⟩

/-- One pending entry and its record through a pass (requests, pings and writes alike): the record keeps fitting the entry;
    if the pass drops the entry the exchange is given up in the judge's eyes too; if it writes a copy, the copy passes the
    judge's checks and the record fits the entry with its counter advanced. -/
theorem Pending.pass {P : Params} {t : Nat} {e : Pend} {r : Rec} (hp : Pending e r) (hc : r.count = e.n + 1)
    (hn : e.n ≤ P.maxRetransmit) (hwc : r.windowClosed = true → r.count = P.maxRetransmit + 1) :
    Pending e (tickRec (cfgOf P) t r) ∧ (dropped P t e = true → GaveUp (tickRec (cfgOf P) t r)) ∧
    (bumped P t e = true → ∀ x : Tx, x.t = t → (x.same = true ∨ r.misused = true) →
      TxOk (cfgOf P) (tickRec (cfgOf P) t r) x ∧ Pending { e with n := e.n + 1 } (txRec x (tickRec (cfgOf P) t r)) ∧
      (txRec x (tickRec (cfgOf P) t r)).windowClosed = false ∧ e.n + 1 ≤ P.maxRetransmit) := by
  refine ⟨⟨hp.stopped, hp.inTime, hp.t0, hp.dl⟩, fun hd => ?_, fun hb x hxt hs => ?_⟩
  · rcases (dropped_iff P t e).mp hd with hd | ⟨hd1, hd2⟩
    · left
      show (r.cancelled || _) = true
      cases hed : e.deadline with
      | none => rw [hed] at hd; cases hd
      | some d =>
        rw [hed] at hd
        rcases hp.dl with hdl | hdl
        · rw [hed] at hdl; cases hdl
        · rw [← hdl, hed]
          simp only [pastDeadline, decide_eq_true_eq] at hd
          simp [hd]
    · right
      refine ⟨?_, hp.inTime⟩
      show (r.windowClosed || _) = true
      have hnm : e.n = P.maxRetransmit := by omega
      have h1 : r.count = (cfgOf P).maxRetransmit + 1 := by rw [hc, hnm]; rfl
      have h2 : t > r.t0 + ((cfgOf P).maxRetransmit + 1) * (cfgOf P).ackTimeout := by
        rw [hp.t0]
        show e.start + (P.maxRetransmit + 1) * P.ackTimeout < t
        rw [← hnm]; exact hd2
      simp [h1, h2]
  · simp only [bumped, Bool.and_eq_true, Bool.not_eq_true'] at hb
    have hlt := lt_of_kept_due hb.1 hb.2
    have hsp := spacing_of_due hb.2
    have hwc' : (tickRec (cfgOf P) t r).windowClosed = false := by
      show (r.windowClosed || _) = false
      have h1 : r.windowClosed = false := by
        cases hw : r.windowClosed with
        | false => rfl
        | true => have := hwc hw; omega
      have h2 : (r.count == (cfgOf P).maxRetransmit + 1) = false := by
        have : r.count ≠ P.maxRetransmit + 1 := by omega
        simpa [cfgOf] using this
      simp [h1, h2]
    have hc0 : r.count ≠ 0 := by omega
    refine ⟨⟨hp.stopped, ?_, fun _ => ?_, hs⟩, ⟨hp.stopped, hp.inTime, ?_, hp.dl⟩, hwc', hlt⟩
    · show r.count < 1 + P.maxRetransmit
      omega
    · show r.t0 + r.count * P.ackTimeout ≤ x.t
      rw [hxt, hp.t0, hc]; omega
    · show (if r.count = 0 then x.t else r.t0) = e.start
      rw [if_neg hc0]; exact hp.t0

/-- A request through a pass: without pending entry nothing the tie speaks of changes; a pending one is given up,
    retransmitted (the copy passes the judge's checks), or left alone. -/
theorem RelReq.pass {P : Params} {c : Call} {pe : Option Pend} {cnt : Nat} {r : Rec} (t : Nat) (same : Pend → Bool)
    (hq : RelReq P c pe cnt r)
    (hpe : ∀ e, pe = some e → c.phase = .waitAck ∧ cnt = e.n + 1 ∧ e.n ≤ P.maxRetransmit ∧ (same e = true ∨ r.misused = true)) :
    (∀ x, passTx P t same pe = some x → TxOk (cfgOf P) (tickRec (cfgOf P) t r) x) ∧
    RelReq P c (pe.bind (kept P t)) (cnt + (copied P t pe).toList.length)
      (txRecOpt (passTx P t same pe) (tickRec (cfgOf P) t r)) := by
  have hp := hq.ph
  cases pe with
  | none =>
    refine ⟨nofun, hq.tick t ?_⟩
    unfold PhRel at hp ⊢
    cases hph : c.phase with
    | waitSem => rw [hph] at hp; exact hp
    | waitResp => rw [hph] at hp; exact hp
    | done => trivial
    | waitAck => rw [hph] at hp; exact hp.tick
  | some e =>
    obtain ⟨hph, hcnt, hn, hs⟩ := hpe e rfl
    simp only [PhRel, hph] at hp
    obtain ⟨hpend, hresps, hbuf⟩ := hp
    obtain ⟨hkeep, hdrop, hbump⟩ := hpend.pass (t := t) (hq.count.trans hcnt) hn hq.wc
    show _ ∧ RelReq P c (kept P t e) _ _
    unfold passTx
    rcases pass_cases P t e with ⟨hd, hk, hx⟩ | ⟨hb, hk, hx⟩ | ⟨hd, hdue, hk, hx⟩ <;> rw [hk, hx]
    · exact ⟨nofun, hq.tick t (by simp only [PhRel, hph]; exact hdrop hd)⟩
    · obtain ⟨htx, hpend', hwc', _⟩ := hbump hb ⟨e.id, t, same e⟩ rfl hs
      exact ⟨fun x hx' => by cases hx'; exact htx,
        hq.kind, congrArg (· + 1) hq.count, hq.dl, hq.ret, hq.mis, fun hw => Bool.noConfusion (hwc'.symm.trans hw),
        (by simp only [PhRel, hph]; exact ⟨hpend', hresps, hbuf⟩)⟩
    · exact ⟨nofun, hq.tick t (by simp only [PhRel, hph]; exact ⟨hkeep, hresps, hbuf⟩)⟩

theorem RelX.pass {P : Params} {x : XCall} {pe : Option Pend} {r : Rec} (t : Nat) (hq : RelX P x pe r) :
    (∀ y, passTx P t (fun _ => true) pe = some y → TxOk (cfgOf P) (tickRec (cfgOf P) t r) y) ∧
    RelX P x (pe.bind (kept P t)) (txRecOpt (passTx P t (fun _ => true) pe) (tickRec (cfgOf P) t r)) := by
  have hp := hq.ph
  cases pe with
  | none => exact ⟨nofun, hq.tick t (hp.imp_right GaveUp.tick)⟩
  | some e =>
    obtain ⟨hw, hpend, hc, hn⟩ := hp
    obtain ⟨hkeep, hdrop, hbump⟩ := hpend.pass (t := t) hc hn hq.wc
    show _ ∧ RelX P x (kept P t e) _
    unfold passTx
    rcases pass_cases P t e with ⟨hd, hk, hx⟩ | ⟨hb, hk, hx⟩ | ⟨hd, hdue, hk, hx⟩ <;> rw [hk, hx]
    · exact ⟨nofun, hq.tick t (Or.inr (hdrop hd))⟩
    · obtain ⟨htx, hpend', hwc', hn'⟩ := hbump hb ⟨e.id, t, true⟩ rfl (Or.inl rfl)
      exact ⟨fun y hy => by cases hy; exact htx,
        hq.kind, hq.ret, fun hw' => Bool.noConfusion (hwc'.symm.trans hw'), Nat.le_add_left 1 _,
        hw, hpend', congrArg (· + 1) hc, hn'⟩
    · exact ⟨nofun, hq.tick t ⟨hw, hkeep, hc, hn⟩⟩

/-- What a pass may rely on for a pending request.  Every retransmission carries the bytes of the first transmission — unless
    the caller edited its message while the request was queued, which the judge has noted. -/
theorem pending_req {P : Params} {s : XState} {js : JState} (h : R P s js) {id : Nat} {c : Call} {e : Pend} {r : Rec}
    (hf : findCall s.base.calls id = some c) (hp : findP s.base.pend id = some e)
    (hq : RelReq P c (findP s.base.pend id) (txCount s.base.log id) r) :
    c.phase = .waitAck ∧ txCount s.base.log id = e.n + 1 ∧ e.n ≤ P.maxRetransmit ∧
      ((firstMsg s.base.log e.id == some e.msg) = true ∨ r.misused = true) := by
  obtain ⟨hcm, hcid⟩ := findCall_some hf
  obtain ⟨hem, heid⟩ := findP_some hp
  subst heid
  have hph := waitAck_of_pending h.inv hf hp
  refine ⟨hph, (h.inv.pendCount e hem).1, (h.inv.pendCount e hem).2.1, ?_⟩
  cases ht : c.touched with
  | true => exact Or.inr (hq.mis ht)
  | false =>
    left
    obtain ⟨_, _, m0, hm0⟩ := h.inv.pendCount e hem
    obtain ⟨t1, m1, hfm, hmem⟩ := firstMsg_mem s.base.log e.id ⟨_, _, hm0⟩
    obtain ⟨_, ⟨c', hc', hid', _, h0⟩, _⟩ := h.inv.sent e.id 0 t1 m1 hmem
    have hcc := eq_of_id_eq h.inv.ids hc' hcm (by rw [hid', hcid])
    subst hcc
    have hmsg := h0 rfl ht
    obtain ⟨c'', hc'', hid'', _, hmsg'⟩ := h.inv.pendCall e hem
    have hcc := eq_of_id_eq h.inv.ids hc'' hc' (by rw [hid'', hid'])
    subst hcc
    rw [hfm, ← hmsg, hmsg']
    simp

theorem step_tick {P : Params} {s : XState} {js : JState} (h : R P s js) (ahead : Nat) : StepOk P s js (.tick ahead) := by
  obtain ⟨t, ht⟩ : ∃ t, t = s.base.now + ahead := ⟨_, rfl⟩
  have htj : js.now + ahead = t := by rw [h.now, ht]
  have hb' : Model.Retransmit.tick P s.base ahead =
      { s.base with pend := (tickList P t s.base.pend).1, log := (tickList P t s.base.pend).2 ++ s.base.log } := by
    simp [Model.Retransmit.tick, ht]
  let b' : State := { s.base with pend := (tickList P t s.base.pend).1, log := (tickList P t s.base.pend).2 ++ s.base.log }
  let s' : XState := { s with base := b', xpend := (tickList P t s.xpend).1 }
  let sameB : Pend → Bool := fun e => firstMsg s.base.log e.id == some e.msg
  let sameX : Pend → Bool := fun _ => true
  have hstep : xstep P s (.tick ahead) =
      (s', (tickList P t s.base.pend).2.filterMap (outOf b'.log) ++ (tickList P t s.xpend).2.filterMap txOut) := by
    simp only [xstep]
    rw [hb', liftBase_added s _ (tickList P t s.base.pend).2 rfl, ← ht]
  have houtB := tick_outs P t (outOf b'.log) sameB (by
    intro e
    simp only [outOf, b', sameB]
    rw [firstMsg_tick]) s.base.pend
  have houtX := tick_outs P t txOut sameX (fun _ => rfl) s.xpend
  have htxs : ((tickList P t s.base.pend).2.filterMap (outOf b'.log) ++ (tickList P t s.xpend).2.filterMap txOut).filterMap txOf
      = passTxs P t sameB s.base.pend ++ passTxs P t sameX s.xpend := by
    rw [List.filterMap_append, houtB.1, houtX.1]
  have hrets : ((tickList P t s.base.pend).2.filterMap (outOf b'.log) ++ (tickList P t s.xpend).2.filterMap txOut).filterMap retOf
      = [] := by
    rw [List.filterMap_append, houtB.2, houtX.2]; rfl
  let s1 : JState := { js with recs := js.recs.map (tickRec (cfgOf P) t) }
  have happ : applyEv (cfgOf P) js (.tick ahead) = (s1, none) := by rw [applyEv_tick, htj]
  have hg1 : ∀ id, getRec s1 id = (getRec js id).map (tickRec (cfgOf P) t) := fun id =>
    getRec_map js (tickRec (cfgOf P) t) (fun _ => rfl) id
  have hids1 : s1.recs.map (·.id) = js.recs.map (·.id) := by
    simp only [s1, List.map_map]
    apply List.map_congr_left
    intro r _
    rfl
  -- ID by ID: the copy written for it (from the one table or the other) is acceptable, and the tie holds for the record
  -- after the pass and that copy
  have key : ∀ id,
      (∀ x, passTx P t sameB (findP s.base.pend id) = some x → ∃ r, getRec s1 id = some r ∧ TxOk (cfgOf P) r x) ∧
      (∀ x, passTx P t sameX (findP s.xpend id) = some x →
        ∃ r, (getRec s1 id).map (txRecOpt (passTx P t sameB (findP s.base.pend id))) = some r ∧ TxOk (cfgOf P) r x) ∧
      RelO P (viewX s' id) (((getRec s1 id).map (txRecOpt (passTx P t sameB (findP s.base.pend id)))).map
        (txRecOpt (passTx P t sameX (findP s.xpend id)))) := by
    intro id
    have hrel := h.rel id
    simp only [RelId, RelO, viewX, viewOf] at hrel
    rw [hg1]
    cases hr : getRec js id with
    | none =>
      rw [hr] at hrel
      rw [pend_none_of_findCall_none h.inv hrel.1, xpend_none_of_findX_none h hrel.2]
      exact ⟨fun x hx => (Option.some_ne_none x hx.symm).elim, fun x hx => (Option.some_ne_none x hx.symm).elim, hrel⟩
    | some r =>
      rw [hr] at hrel
      rcases hrel with ⟨c, hf, hfx, hq⟩ | ⟨x, hfx, hf, hq⟩
      · obtain ⟨htx, hq'⟩ := hq.pass t sameB (fun e hp => pending_req h hf hp hq)
        rw [xpend_none_of_findX_none h hfx]
        refine ⟨fun x hx => ⟨_, rfl, htx x hx⟩, fun x hx => (Option.some_ne_none x hx.symm).elim, Or.inl ⟨c, hf, hfx, ?_⟩⟩
        show RelReq P c (findP (tickList P t s.base.pend).1 id) (txCount ((tickList P t s.base.pend).2 ++ s.base.log) id) _
        rw [findP_tick P t _ h.inv.pid, txCount_tick P t _ _ h.inv.pid]
        exact hq'
      · obtain ⟨htx, hq'⟩ := hq.pass t
        rw [pend_none_of_findCall_none h.inv hf]
        refine ⟨fun x hx => (Option.some_ne_none x hx.symm).elim, fun y hy => ⟨_, rfl, htx y hy⟩, Or.inr ⟨x, hfx, hf, ?_⟩⟩
        show RelX P x (findP (tickList P t s.xpend).1 id) _
        rw [findP_tick P t _ h.xpid]
        exact hq'
  obtain ⟨s2, hfB, hn2, hi2, hg2⟩ := foldV_pass (cfgOf P) P t sameB s.base.pend s1 h.inv.pid (fun id => (key id).1)
  obtain ⟨js', hfX, hn', hi', hg'⟩ := foldV_pass (cfgOf P) P t sameX s.xpend s2 h.xpid
    (fun id x hx => by rw [hg2]; exact (key id).2.1 x hx)
  have hinv' : Inv P b' := by
    have := inv_tick h.inv ahead
    rw [hb'] at this
    exact this
  have hxown' : ∀ e ∈ (tickList P t s.xpend).1, (findX s.xcalls e.id).isSome = true := by
    intro e' he'
    rw [tickList_eq] at he'
    obtain ⟨e, he, hk⟩ := List.mem_filterMap.mp he'
    rw [kept_id hk]
    exact h.xown e he
  have hR : R P s' js' := by
    refine ⟨hinv', by rw [hn', hn2]; exact h.now, by rw [hi', hi2, hids1]; exact h.nd,
      (tick_ids_sublist P t s.xpend).nodup h.xpid, hxown', fun id => ?_⟩
    simp only [RelId]
    rw [hg', hg2]
    exact (key id).2.2
  have hfold : foldV (checkTx (cfgOf P)) s1 (passTxs P t sameB s.base.pend ++ passTxs P t sameX s.xpend) = (js', .ok) := by
    rw [hfB, ← List.append_nil (passTxs P t sameX s.xpend), hfX]; rfl
  refine ⟨js', ?_, by rw [hstep]; exact hR⟩
  rw [hstep]
  simp only [stepOf, htxs, hrets, stepJ, specEv, happ, hfold, foldV]
  have : ¬ (outstanding js' > (cfgOf P).nstart) := by
    have := outstanding_le hR
    show ¬ (outstanding js' > P.nstart)
    omega
  simp [this]

end CoapVerif.Lemmas.RetransmitJudge
