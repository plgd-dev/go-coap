import CoapVerif.Model.OptionValues
/-! The five length classes of `message.EncodeUint32` (big-endian, fewest bytes), each with its bytes; before them what
`Props/C19Wire.lean` reads those bytes with: a byte that is not zero (`ofNat_ne_zero`) and the steps by which it folds the bytes
back to the number. -/
namespace CoapVerif.Lemmas.Uint32Bytes
open CoapVerif.Model.Options CoapVerif.Generated.OptionList

theorem ofNat_ne_zero {n : Nat} (h : n % 256 ≠ 0) : UInt8.ofNat n ≠ 0 :=
  fun hc => h (UInt8.toNat_ofNat' ▸ congrArg UInt8.toNat hc)

/-- `decodeUint32` folds `fun a b => a * 256 + b.toNat` from 0; unfolded (`simp only [List.foldl]`) on the bytes of `v` it
leaves `(0 * 256 + top) * 256 + …`.  One step of that: the accumulator holds `v / 256`, the next byte is the lowest of `v`. -/
theorem fold_step (v : Nat) : v / 256 * 256 + (UInt8.ofNat v).toNat = v := by
  rw [UInt8.toNat_ofNat']; exact Nat.div_add_mod' v 256

/-- The first step, from the accumulator 0 the fold starts with. -/
theorem fold_top {v : Nat} (h : v < 256) : 0 * 256 + (UInt8.ofNat v).toNat = v :=
  Nat.div_eq_of_lt h ▸ fold_step v

theorem encodeUint32Bytes_cases (v : Nat) :
    (v = 0 ∧ encodeUint32Bytes v = []) ∨
    (0 < v ∧ v < 256 ∧ encodeUint32Bytes v = [UInt8.ofNat v]) ∨
    (256 ≤ v ∧ v < 65536 ∧ encodeUint32Bytes v = [UInt8.ofNat (v / 256), UInt8.ofNat v]) ∨
    (65536 ≤ v ∧ v < 16777216 ∧
      encodeUint32Bytes v = [UInt8.ofNat (v / 65536), UInt8.ofNat (v / 256), UInt8.ofNat v]) ∨
    (16777216 ≤ v ∧ encodeUint32Bytes v =
      [UInt8.ofNat (v / 16777216), UInt8.ofNat (v / 65536), UInt8.ofNat (v / 256), UInt8.ofNat v]) := by
  unfold encodeUint32Bytes max1ByteNumber max2ByteNumber max3ByteNumber
  by_cases h0 : v = 0
  · rw [if_pos h0]; exact .inl ⟨h0, rfl⟩
  rw [if_neg h0]
  by_cases h1 : v ≤ 255
  · rw [if_pos h1]; exact .inr (.inl ⟨Nat.pos_of_ne_zero h0, Nat.lt_succ_of_le h1, rfl⟩)
  rw [if_neg h1]
  by_cases h2 : v ≤ 65535
  · rw [if_pos h2]; exact .inr (.inr (.inl ⟨Nat.lt_of_not_le h1, Nat.lt_succ_of_le h2, rfl⟩))
  rw [if_neg h2]
  by_cases h3 : v ≤ 16777215
  · rw [if_pos h3]; exact .inr (.inr (.inr (.inl ⟨Nat.lt_of_not_le h2, Nat.lt_succ_of_le h3, rfl⟩)))
  · rw [if_neg h3]; exact .inr (.inr (.inr (.inr ⟨Nat.lt_of_not_le h3, rfl⟩)))

end CoapVerif.Lemmas.Uint32Bytes
