import CoapVerif.Model.Framing
import CoapVerif.Spec.Framing
import CoapVerif.Lemmas.Framing
/-!
The framing model (`Model/Framing.lean`, follows the Go code, generated constants) against the RFC-level
specification (`Spec/Framing.lean`, RFC literals only): option walk, frame decoding, header classification (`next_of_header`),
and the buffer loop against the specification's splitter (`proc_eq_split`).
-/
namespace CoapVerif.Lemmas.FramingSpec
open CoapVerif.Model.Framing CoapVerif.Generated.TcpFraming CoapVerif.Lemmas.Framing
open CoapVerif.Spec.Framing (extBytes bigEndian declared optHead payloadOf Next)

/-- `parseExtOpt` with the literals of RFC 7252 §3.1 for the generated constants -/
theorem parseExt_spec (n : Nat) (t : Bytes) :
    parseExt n t =
      if t.length < (if n = 13 then 1 else if n = 14 then 2 else 0) then none
      else some (if n = 13 then bigEndian (t.take 1) + 13 else if n = 14 then bigEndian (t.take 2) + 269 else n,
        t.drop (if n = 13 then 1 else if n = 14 then 2 else 0)) := by
  unfold parseExt
  simp only [extByteCode, extWordCode, extByteAddend, extWordAddend]
  by_cases h13 : n = 13
  · subst h13
    cases t with
    | nil => rfl
    | cons x r => simp [bigEndian_eq_be, BigEndian.be_one]
  · by_cases h14 : n = 14
    · subst h14
      match t with
      | [] => rfl
      | [x] => rfl
      | x :: y :: r => simp [bigEndian_eq_be, BigEndian.be_two]
    · simp [h13, h14]

theorem optHead_eq (b : UInt8) (t : Bytes) (h15 : ¬ (b.toNat / 16 = 15 ∨ b.toNat % 16 = 15)) :
    optHead (b :: t) =
      match parseExt (b.toNat / 16) t with
      | none => none
      | some (delta, t1) =>
        match parseExt (b.toNat % 16) t1 with
        | none => none
        | some (len, t2) => some (delta, len, t2) := by
  unfold optHead
  simp only [h15, if_false, parseExt_spec]
  generalize (if b.toNat / 16 = 13 then 1 else if b.toNat / 16 = 14 then 2 else 0) = de
  generalize (if b.toNat % 16 = 13 then 1 else if b.toNat % 16 = 14 then 2 else 0) = le
  -- the specification asks for both extensions at once, the code for one after the other
  by_cases h1 : t.length < de
  · rw [if_pos h1, if_pos (by omega)]
  · rw [if_neg h1]
    simp only [List.length_drop]
    by_cases h2 : t.length - de < le
    · rw [if_pos h2, if_pos (by omega)]
    · rw [if_neg h2, if_neg (by omega)]

theorem optHead_reserved {b : UInt8} {t : Bytes} (h15 : b.toNat / 16 = 15 ∨ b.toNat % 16 = 15) : optHead (b :: t) = none := by
  unfold optHead
  simp only [h15, if_true]

theorem optHead_length {b : UInt8} {t r : Bytes} {d l : Nat} (h : optHead (b :: t) = some (d, l, r)) :
    r.length ≤ t.length := by
  by_cases h15 : b.toNat / 16 = 15 ∨ b.toNat % 16 = 15
  · rw [optHead_reserved h15] at h; cases h
  rw [optHead_eq b t h15] at h
  split at h
  · cases h
  · rename_i delta t1 hd
    split at h
    · cases h
    · rename_i len t2 hl
      cases h
      have := parseExt_len hd
      have := parseExt_len hl
      omega

theorem walkOpts_cons (prev : Nat) (b : UInt8) (t : Bytes) :
    walkOpts prev (b :: t) =
      if b = 0xff then some t else
      match optHead (b :: t) with
      | none => none
      | some (d, l, r) =>
        if r.length < l then none
        else if prev + d > 65535 then none
        else walkOpts (prev + d) (r.drop l) := by
  rw [walkOpts.eq_def]
  dsimp only
  by_cases hff : b = 0xff
  · rw [if_pos hff, if_pos hff]
  rw [if_neg hff, if_neg hff]
  by_cases h15 : b.toNat / 16 = extError ∨ b.toNat % 16 = extError   -- `extError` unfolds to the 15 of `optHead`
  · rw [if_pos h15, optHead_reserved h15]
  rw [if_neg h15, optHead_eq b t h15]
  cases hd : parseExt (b.toNat / 16) t with
  | none => rfl
  | some r1 =>
    obtain ⟨d, t1⟩ := r1
    dsimp only
    cases hl : parseExt (b.toNat % 16) t1 with
    | none => rfl
    | some r2 => rfl

theorem walkOpts_eq_payloadOf (prev : Nat) (bs : Bytes) : ∀ fuel, bs.length < fuel → walkOpts prev bs = payloadOf fuel prev bs := by
  intro fuel
  induction fuel generalizing prev bs with
  | zero => intro hf; cases hf
  | succ f ih =>
    intro hf
    cases bs with
    | nil => rw [walkOpts.eq_def]; rfl
    | cons b t =>
      rw [walkOpts_cons, payloadOf]
      by_cases hff : b = 0xff
      · rw [if_pos hff, if_pos hff]
      rw [if_neg hff, if_neg hff]
      cases ho : optHead (b :: t) with
      | none => rfl
      | some x =>
        obtain ⟨d, l, r⟩ := x
        dsimp only
        by_cases hlen : r.length < l
        · rw [if_pos hlen, if_pos hlen]
        by_cases hov : prev + d > 65535
        · rw [if_neg hlen, if_neg hlen, if_pos hov, if_pos hov]
        rw [if_neg hlen, if_neg hlen, if_neg hov, if_neg hov]
        have := optHead_length ho
        exact ih _ _ (by simp only [List.length_drop, List.length_cons] at hf ⊢; omega)

/-- The specification's `next` is the cascade of `decodeHeader_cons` with the limit test put in, so the header parser's answer
    fixes it up to the cases the specification leaves open (`mayClose`): a `.short` header whose length field is complete and
    over the limit while code or token bytes are missing, and an `.invalid` one (reserved token length, 2^32 or more) whose
    header bytes are not all there. -/
theorem next_of_header (max : Nat) (bs : Bytes) :
    match decodeHeader bs with
    | .short => Spec.Framing.next max bs = .needMore ∨ Spec.Framing.next max bs = .mayClose
    | .invalid => Spec.Framing.next max bs = .mayClose ∨ Spec.Framing.next max bs = .mustClose
    | .ok hd => Spec.Framing.next max bs =
        if hd.msgLen > max then .mustClose else if bs.length < hd.msgLen then .needMore
        else .frame (bs.take hd.msgLen) (bs.drop hd.msgLen) := by
  cases bs with
  | nil => exact Or.inl rfl
  | cons first rest =>
    rw [decodeHeader_cons]
    simp only [Spec.Framing.next]
    generalize extBytes (first.toNat / 16) = e
    generalize declared (first.toNat / 16) (rest.take e) = dl
    by_cases ht : first.toNat % 16 > 8
    · simp only [ht, if_true]
      split
      · exact Or.inr rfl
      · exact Or.inl rfl
    · by_cases he : rest.length < e
      · simp only [ht, he, if_true, if_false, true_or]
      · simp only [ht, he, if_false]
        by_cases h32 : 1 + e + 1 + first.toNat % 16 + dl > 4294967295
        · have : 1 + e + 1 + first.toNat % 16 + dl > max ∨ 1 + e + 1 + first.toNat % 16 + dl ≥ 2 ^ 32 := by omega
          simp only [h32, this, if_true]
          split
          · exact Or.inr rfl
          · exact Or.inl rfl
        · by_cases hc : e + 1 + first.toNat % 16 ≤ rest.length
          · simp only [h32, hc, if_true, if_false]
            by_cases hm : 1 + e + 1 + first.toNat % 16 + dl > max
            · simp only [hm, true_or, if_true]
            · have : ¬ 1 + e + 1 + first.toNat % 16 + dl ≥ 2 ^ 32 := by omega
              simp only [hm, this, or_self, if_false]
          · simp only [h32, hc, if_false]
            split
            · exact Or.inr rfl
            · split
              · exact Or.inl rfl
              · rename_i h1 h2
                simp only [List.length_cons] at h2
                omega

-- `Spec/Framing.lean` is written without the model and has a record type of its own: its message read as the model's
def conv (m : Spec.Framing.Msg) : Msg := ⟨m.code, m.token, m.payload⟩

/-- the three places `decodeFrame` reads (code byte, token, option area), in terms of what follows the extended length;
    `… - tkl` stands as `decodeFrame` writes it (`h.len - h.tkl`), so that `decodeFrame_eq` can rewrite with it -/
theorem frame_parts (first : UInt8) {r : Bytes} {e tkl : Nat} (hc : e + 1 + tkl ≤ r.length) :
    ∃ code r2, r.drop e = code :: r2 ∧ r.getD e 0 = code ∧ (first :: r).drop (1 + e + 1 + tkl - tkl) = r2 ∧
      (first :: r).drop (1 + e + 1 + tkl) = r2.drop tkl := by
  cases hr : r.drop e with
  | nil => have := congrArg List.length hr; simp only [List.length_drop, List.length_nil] at this; omega
  | cons code r2 =>
    refine ⟨code, r2, rfl, ?_, ?_, ?_⟩
    · rw [List.getD_eq_getElem?_getD, ← Nat.add_zero e, ← List.getElem?_drop, hr]; rfl
    · rw [show 1 + e + 1 + tkl - tkl = (e + 1) + 1 by omega, List.drop_succ_cons, ← List.drop_drop, hr, List.drop_succ_cons,
        List.drop_zero]
    · rw [show 1 + e + 1 + tkl = (e + (tkl + 1)) + 1 by omega, List.drop_succ_cons, ← List.drop_drop, hr, List.drop_succ_cons]

theorem decodeFrame_eq (f : Bytes) (hd : Hdr) (h : decodeHeader f = .ok hd) (hl : hd.msgLen ≤ f.length) :
    decodeFrame f = (Spec.Framing.parseFrame f).map conv := by
  cases f with
  | nil => cases h
  | cons first r =>
    unfold decodeFrame
    rw [h]
    obtain ⟨ht, hc, h32, rfl⟩ := decodeHeader_ok h
    simp only [if_neg (Nat.not_lt.mpr hl), Spec.Framing.parseFrame]
    generalize extBytes (first.toNat / 16) = e at hc ⊢
    obtain ⟨code, r2, hr1, hcode, htok, hbody⟩ := frame_parts first hc
    simp only [hr1, hbody, htok, hcode]
    rw [walkOpts_eq_payloadOf 0 (r2.drop (first.toNat % 16)) ((r2.drop (first.toNat % 16)).length + 1) (by omega)]
    cases Spec.Framing.payloadOf ((r2.drop (first.toNat % 16)).length + 1) 0 (r2.drop (first.toNat % 16)) with
    | none => rfl
    | some p => rfl

theorem decodeFrame_take {buf : Bytes} {hd : Hdr} (h : decodeHeader buf = .ok hd) (hl : hd.msgLen ≤ buf.length) :
    decodeFrame (buf.take hd.msgLen) = (Spec.Framing.parseFrame (buf.take hd.msgLen)).map conv :=
  decodeFrame_eq _ hd (decodeHeader_take h (decodeHeader_len h).2) (by rw [List.length_take]; omega)

open CoapVerif.Spec.Framing (Status) in
/-- `processBuffer` (the code-following model) against the RFC-level splitter: same deliveries; the
    model keeps the connection open where the specification says open, and closes it where the
    specification says it must be closed (where the specification allows either, nothing is claimed). -/
theorem proc_eq_split (max : Nat) (buf : Bytes) (out : List Msg) :
    ∀ (acc : List Spec.Framing.Msg) (fuel : Nat), out = acc.map conv → buf.length < fuel →
      (proc max buf out).out = (Spec.Framing.split max fuel buf acc).1.map conv ∧
      ((Spec.Framing.split max fuel buf acc).2 = Status.open_ → (proc max buf out).closed = false) ∧
      ((Spec.Framing.split max fuel buf acc).2 = Status.mustClose → (proc max buf out).closed = true) := by
  intro acc fuel
  induction fuel generalizing buf out acc with
  | zero => intro _ hf; cases hf
  | succ f ih =>
    intro ho hf
    have hn := next_of_header max buf
    unfold Spec.Framing.split
    cases hh : decodeHeader buf with
    | short =>
      rw [hh] at hn; rw [proc_eq, hh]
      -- `needMore` is `open_` and `proc` stays open (below: `mustClose`, and `proc` closes); of `mayClose` nothing is claimed
      rcases hn with h | h <;> rw [h] <;> simp [ho]
    | invalid =>
      rw [hh] at hn; rw [proc_eq, hh]
      rcases hn with h | h <;> rw [h] <;> simp [ho]
    | ok hd =>
      rw [hh] at hn; rw [proc_eq, hh, hn]
      by_cases hgt : hd.msgLen > max
      · simp [hgt, ho]
      · by_cases hlt : buf.length < hd.msgLen
        · simp [hgt, hlt, ho]
        · simp only [hgt, hlt, if_false, decodeFrame_take hh (Nat.le_of_not_lt hlt)]
          cases Spec.Framing.parseFrame (buf.take hd.msgLen) with
          | none => simp [ho]
          | some m' =>
            have h2 := decodeHeader_msgLen_pos hh
            exact ih _ _ (acc ++ [m']) (by simp [ho]) (by simp only [List.length_drop]; omega)

end CoapVerif.Lemmas.FramingSpec
