import CoapVerif.Go.Basic
import CoapVerif.Model.Blockwise
import CoapVerif.Model.BlockwiseObserve
import CoapVerif.Model.BlockwiseObserveRun
import CoapVerif.Lemmas.Blockwise
import CoapVerif.Lemmas.BlockwiseObserve
import CoapVerif.Lemmas.BlockwiseConserv
import CoapVerif.Lemmas.BlockwiseWorld
/-!
Conservativity, system level: the observe-aware two-endpoint system `OWorld` (what `Driver/C04.lean` executes) under a script
of operations IS the plain system `World` of `Model/Blockwise.lean` (what `system_safe` is about) as long as nothing of the
Observe branch is involved: no Observe option on anything the applications supply (requests of `Do` / `WriteMessage`, answers
of B's application), none on the messages already in flight or in the relay's history, caches on which the branch never ran
(`PlainEp`), and — `T` is the set of tokens in use — no entry for a token of `T` in either observation table (`TablesSilent`;
for empty tables `T` is everything).  The invariant `PlainW T` is kept by every operation (`plainSys_keeps`, through
`Lemmas/BlockwiseWorld.lean`), so the equality holds for every script.
-/
namespace CoapVerif.Lemmas.BlockwiseConservSys
open CoapVerif CoapVerif.Model.Blockwise CoapVerif.Model.BlockOpt CoapVerif.Generated.BlockwiseXfer
open CoapVerif.Model.BlockwiseObserve CoapVerif.Lemmas.Blockwise CoapVerif.Lemmas.BlockwiseObserve
open CoapVerif.Lemmas.BlockwiseConserv CoapVerif.Lemmas.BlockwiseWorld

structure PlainW (T : Nat → Prop) (w : World) : Prop where
  a : PlainEp w.a
  b : PlainEp w.b
  app : AppNoObs w.appB
  pk : ∀ p, p ∈ w.queue ∨ p ∈ w.hist → hasObserve p.msg = false ∧ T p.msg.tok

def TablesSilent (T : Nat → Prop) (o : OWorld) : Prop := ∀ t, T t → o.outA t = none ∧ o.outB t = none

def NoTables (o : OWorld) : Prop := (∀ t, o.outA t = none) ∧ (∀ t, o.outB t = none)

theorem NoTables.silent {o : OWorld} (h : NoTables o) : TablesSilent (fun _ => True) o := fun t _ => ⟨h.1 t, h.2 t⟩

/-- `PlainW T` as an instance of `Sys` (`plainW_iff`), so that `Sys.Keeps.op` walks the operations once; `req` is what `OpPlain T`
    asks of the requests of the script; `dl := True`: the instance is used for the state only, nothing is claimed of deliveries -/
def plainSys (T : Nat → Prop) : Sys where
  ep _ := PlainEp
  app _ := AppNoObs
  pk p := hasObserve p.msg = false ∧ T p.msg.tok
  req r := hasObserve r = false ∧ T r.tok
  dl _ _ := True

theorem plainW_iff {T : Nat → Prop} {w : World} : PlainW T w ↔ (plainSys T).Holds w :=
  ⟨fun h => ⟨fun s => by cases s; exact h.a; exact h.b, fun s => by cases s; exact fun _ _ hx => nomatch hx; exact h.app, h.pk⟩,
   fun h => ⟨h.ep .A, h.ep .B, h.app .B, h.pk⟩⟩

theorem doStartS_plain (cfg : Cfg) (snd : Option Entry) (now : Int) (r : Msg) (hr : hasObserve r = false)
    (hs : ∀ e, snd = some e → PlainMsg r.tok e.msg) :
    (∀ e, (doStartS cfg snd now r).1 = some e → PlainMsg r.tok e.msg) ∧
    (∀ m, (doStartS cfg snd now r).2 = some m → PlainMsg r.tok m) := by
  rcases doStartS_cases cfg snd now r with h | h | ⟨m, h, hm⟩ <;> rw [h]
  · exact ⟨hs, fun _ hm => nomatch hm⟩
  · exact ⟨fun _ he => (by cases he), fun _ hm => (by cases hm)⟩
  · refine ⟨fun e he => ?_, fun m' hm' => ?_⟩
    · cases he; exact ⟨hr, rfl⟩
    · cases hm'
      rcases hm with rfl | ⟨_, v, _, rfl⟩ <;> exact ⟨hr, rfl⟩

theorem put_sending_plain {ep : Endpoint} (h : PlainEp ep) (k : Nat) {snd : Option Entry}
    (hs : ∀ e, snd = some e → PlainMsg k e.msg) : PlainEp { ep with sending := ep.sending.put k snd } :=
  ⟨put_forall h.sent k hs, h.held⟩

theorem plain_onWire {T : Nat → Prop} {k : Nat} (hk : T k) {x : Option Msg} (hx : ∀ m, x = some m → PlainMsg k m) (s : Side) :
    ∀ m, x = some m → (plainSys T).pk ⟨s, onWire m⟩ :=
  fun m hm => ⟨(hx m hm).1, (show (onWire m).tok = k from (hx m hm).2) ▸ hk⟩

theorem plainSys_keeps (T : Nat → Prop) : (plainSys T).Keeps where
  handles now r h happ hp := by
    obtain ⟨hep, hrep⟩ := handle_plain _ now r _ happ h
    exact ⟨hep, plain_onWire hp.2 hrep _, fun _ _ => trivial⟩
  sweeps now h := sweep_plain _ now h
  finishes tok h := put_sending_plain h tok fun _ he => nomatch he
  starts now r h hr := by
    obtain ⟨d1, d2⟩ := doStartS_plain _ _ now r hr.1 (h.sent r.tok)
    exact ⟨put_sending_plain h r.tok d1, plain_onWire hr.2 d2 _⟩
  writes {ep} now r h hr := by
    unfold writeMessage
    split
    · exact ⟨h, fun _ hm => nomatch hm⟩
    · split
      · exact ⟨h, fun _ hm => nomatch hm⟩
      · rename_i hst
        rcases startSendingS_cases hst with ⟨rfl, rfl⟩ | ⟨m, sm, more, v, hm, hc, rfl, rfl⟩
        · exact ⟨put_sending_plain h r.tok (h.sent r.tok), plain_onWire hr.2 (fun m hm => by cases hm; exact ⟨hr.1, rfl⟩) _⟩
        · cases hm
          obtain ⟨_, ht, _, ho⟩ := createSendingWith_fields hc
          exact ⟨put_sending_plain h r.tok (fun e he => by cases he; exact ⟨hr.1, rfl⟩),
            plain_onWire hr.2 (fun m hm => by cases hm; exact PlainMsg.of_fields ⟨hr.1, rfl⟩ ho ht) _⟩

def OpPlain (T : Nat → Prop) : Op → Prop
  | .doReq r => hasObserve r = false ∧ T r.tok
  | .writeReq r => hasObserve r = false ∧ T r.tok
  | _ => True

theorem opPlain_req {T : Nat → Prop} {x : Op} (hx : OpPlain T x) : ∀ r, x = .doReq r ∨ x = .writeReq r → (plainSys T).req r := by
  rintro r (rfl | rfl) <;> exact hx

theorem op_plain {T : Nat → Prop} {w : World} (h : PlainW T w) (x : Op) (hx : OpPlain T x) : PlainW T (w.op x).1 :=
  plainW_iff.mpr ((plainSys_keeps T).op (plainW_iff.mp h) x (opPlain_req hx)).1

theorem recv_eq {T : Nat → Prop} (o : OWorld) (ht : TablesSilent T o) (h : PlainW T o.w) (p : Packet)
    (hp : hasObserve p.msg = false ∧ T p.msg.tok) :
    o.recv p = ({ o with w := (o.w.recv p).1 }, (o.w.recv p).2) := by
  have hout : o.outside p.dst p.msg.tok = none := by
    cases hd : p.dst <;> simp only [OWorld.outside]
    · exact (ht _ hp.2).1
    · exact (ht _ hp.2).2
  have hstep := handleO_eq_handle (o.w.ep p.dst) (o.outside p.dst) o.nextFresh o.w.now p.msg (o.w.appOf p.dst)
    (not_obsResp_of_not_has hp.1) (PlainEp.stepPlain ((plainW_iff.mp h).ep p.dst) (fun _ => hout))
    (AppNoObs.plain ((plainW_iff.mp h).app p.dst))
  unfold OWorld.recv World.recv
  simp only [hstep, OWorld.consume, Bool.false_eq_true, if_false]
  cases hr : (handle (o.w.ep p.dst) o.w.now p.msg (o.w.appOf p.dst)).2.reply <;> rfl

theorem ofault_relay (o : OWorld) (f : Fault) :
    o.fault f =
      match (relay o.w.queue o.w.hist f).2.2 with
      | none => ({ o with w := { o.w with queue := (relay o.w.queue o.w.hist f).1, hist := (relay o.w.queue o.w.hist f).2.1 } }, [])
      | some p => OWorld.recv { o with w := { o.w with queue := (relay o.w.queue o.w.hist f).1, hist := (relay o.w.queue o.w.hist f).2.1 } } p := by
  obtain ⟨⟨a, b, appB, now, queue, hist, pending⟩, outA, outB, freshQ, freshBase, drawn⟩ := o
  cases f with
  | replay k => simp only [OWorld.fault, relay]; cases hist[k]? <;> rfl
  | swap =>
    match queue with
    | [] | [_] | _ :: _ :: _ => rfl
  | deliver => cases queue <;> rfl
  | dup => cases queue <;> rfl
  | drop => cases queue <;> rfl

theorem fault_eq {T : Nat → Prop} (o : OWorld) (ht : TablesSilent T o) (h : PlainW T o.w) (f : Fault) :
    o.fault f = ({ o with w := (o.w.fault f).1 }, (o.w.fault f).2) := by
  obtain ⟨hsub, hp⟩ := relay_mem o.w.queue o.w.hist f
  rw [ofault_relay, fault_relay]
  cases hrel : (relay o.w.queue o.w.hist f).2.2 with
  | none => rfl
  | some p =>
    exact recv_eq { o with w := { o.w with queue := (relay o.w.queue o.w.hist f).1, hist := (relay o.w.queue o.w.hist f).2.1 } } ht
      (plainW_iff.mpr ((plainW_iff.mp h).relay hsub)) p (h.pk p (hp p hrel))

theorem startWrite_eq (o : OWorld) (s : Side) (r : Msg) (hr : hasObserve r = false) :
    o.startWrite s r = ({ o with w := (o.w.startWrite s r).1 }, (o.w.startWrite s r).2) := by
  unfold OWorld.startWrite World.startWrite
  rw [writeMessageO_eq _ _ _ (not_obsResp_of_not_has hr)]
  rcases hw : writeMessage (o.w.ep s) o.w.now r with ⟨e', _ | m⟩ <;> rfl

theorem op_eq {T : Nat → Prop} (o : OWorld) (ht : TablesSilent T o) (h : PlainW T o.w) (x : Op) (hx : OpPlain T x) :
    o.op x = ({ o with w := (o.w.op x).1 }, (o.w.op x).2) := by
  cases x with
  | fault f => exact fault_eq o ht h f
  | doReq r => rfl
  | writeReq r => exact startWrite_eq o .A r hx.1
  | sleep d => rfl
  | tick s => rfl

/-- every operation of a script of `OpPlain` operations does the same in both systems (`op_eq`) and keeps the plain system
    plain (`op_plain`); the scripted token source is untouched -/
theorem oworld_run_eq {T : Nat → Prop} (ops : List Op) : ∀ (o : OWorld), TablesSilent T o → PlainW T o.w → (∀ x ∈ ops, OpPlain T x) →
    OWorld.run o ops = ({ o with w := (World.run o.w ops).1 }, (World.run o.w ops).2) ∧ PlainW T (World.run o.w ops).1 := by
  induction ops with
  | nil => intro o _ h _; exact ⟨rfl, h⟩
  | cons x xs ih =>
    intro o ht h hx
    have hop := op_eq o ht h x (hx x List.mem_cons_self)
    have hpl := op_plain h x (hx x List.mem_cons_self)
    obtain ⟨r1, r2⟩ := ih { o with w := (o.w.op x).1 } ht hpl (fun y hy => hx y (List.mem_cons_of_mem _ hy))
    refine ⟨?_, r2⟩
    simp only [OWorld.run, World.run, hop]
    rw [r1]

end CoapVerif.Lemmas.BlockwiseConservSys
