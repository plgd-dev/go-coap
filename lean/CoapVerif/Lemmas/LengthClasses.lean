import CoapVerif.Spec.Wire
/-!
The length classes of the wire format, each with its nibble and its extension bytes: option delta/length
fields (RFC 7252 §3.1, `nib`/`ext`) and the stream `Len` field (RFC 8323 §3.2, `lenNib`/`extLen`).  Before them what the
classes are written with, read back: a byte `UInt8.ofNat n`, its two nibbles, the big-endian bytes of a number.
-/
namespace CoapVerif.Lemmas.LengthClasses
open CoapVerif.Spec.Wire

theorem toNat_ofNat_lt {n : Nat} (h : n < 256) : (UInt8.ofNat n).toNat = n := UInt8.toNat_ofNat_of_lt' h

theorem nibbles_toNat {hi lo : Nat} (hh : hi < 16) (hl : lo < 16) :
    (UInt8.ofNat (hi * 16 + lo)).toNat / 16 = hi ∧ (UInt8.ofNat (hi * 16 + lo)).toNat % 16 = lo := by
  rw [toNat_ofNat_lt (by omega)]; omega

theorem ofNat_nibbles (b : UInt8) : UInt8.ofNat (b.toNat / 16 * 16 + b.toNat % 16) = b := by
  rw [Nat.div_add_mod' b.toNat 16, UInt8.ofNat_toNat]

theorem be16_ofNat (b0 b1 : UInt8) :
    UInt8.ofNat ((b0.toNat * 256 + b1.toNat) / 256) = b0 ∧ UInt8.ofNat ((b0.toNat * 256 + b1.toNat) % 256) = b1 := by
  have := b1.toNat_lt
  rw [show (b0.toNat * 256 + b1.toNat) / 256 = b0.toNat by omega, show (b0.toNat * 256 + b1.toNat) % 256 = b1.toNat by omega]
  exact ⟨UInt8.ofNat_toNat, UInt8.ofNat_toNat⟩

theorem be16_toNat {n : Nat} (h : n < 65536) :
    (UInt8.ofNat (n / 256)).toNat * 256 + (UInt8.ofNat (n % 256)).toNat = n := by
  rw [UInt8.toNat_ofNat', UInt8.toNat_ofNat']; omega

theorem be32_toNat {n : Nat} (h : n < 4294967296) :
    (UInt8.ofNat (n / 16777216)).toNat * 16777216 + (UInt8.ofNat (n / 65536 % 256)).toNat * 65536 +
      (UInt8.ofNat (n / 256 % 256)).toNat * 256 + (UInt8.ofNat (n % 256)).toNat = n := by
  -- `omega` does this with one divisor: every quotient as an iterated division by 256
  have h1 : n / 65536 = n / 256 / 256 := by rw [Nat.div_div_eq_div_mul]
  have h2 : n / 16777216 = n / 256 / 256 / 256 := by rw [Nat.div_div_eq_div_mul, Nat.div_div_eq_div_mul]
  simp only [UInt8.toNat_ofNat', h1, h2]
  omega

theorem nib_ext_cases (v : Nat) :
    (v ≤ 12 ∧ nib v = v ∧ ext v = []) ∨
    (13 ≤ v ∧ v ≤ 268 ∧ nib v = 13 ∧ ext v = [UInt8.ofNat (v - 13)]) ∨
    (269 ≤ v ∧ nib v = 14 ∧ ext v = [UInt8.ofNat ((v - 269) / 256), UInt8.ofNat ((v - 269) % 256)]) := by
  unfold nib ext
  by_cases h1 : v ≤ 12
  · rw [if_pos h1, if_pos h1]; exact .inl ⟨h1, rfl, rfl⟩
  · rw [if_neg h1, if_neg h1]
    by_cases h2 : v ≤ 268
    · rw [if_pos h2, if_pos h2]; exact .inr (.inl ⟨by omega, h2, rfl, rfl⟩)
    · rw [if_neg h2, if_neg h2]; exact .inr (.inr ⟨by omega, rfl, rfl⟩)

/-- The value read from one extension byte, and from two (`nib_ext_word`), has those bytes as its encoding: the →
direction of `decExt_iff`. -/
theorem nib_ext_byte (b : UInt8) : nib (b.toNat + 13) = 13 ∧ ext (b.toNat + 13) = [b] := by
  have := b.toNat_lt
  unfold nib ext
  rw [if_neg (by omega), if_pos (by omega), if_neg (by omega), if_pos (by omega), Nat.add_sub_cancel, UInt8.ofNat_toNat]
  exact ⟨rfl, rfl⟩

theorem nib_ext_word (b0 b1 : UInt8) :
    nib (b0.toNat * 256 + b1.toNat + 269) = 14 ∧ ext (b0.toNat * 256 + b1.toNat + 269) = [b0, b1] := by
  unfold nib ext
  rw [if_neg (by omega), if_neg (by omega), if_neg (by omega), if_neg (by omega), Nat.add_sub_cancel, (be16_ofNat b0 b1).1,
    (be16_ofNat b0 b1).2]
  exact ⟨rfl, rfl⟩

theorem nib_lt (v : Nat) : nib v < 15 := by
  rcases nib_ext_cases v with ⟨_, h, _⟩ | ⟨_, _, h, _⟩ | ⟨_, h, _⟩ <;> omega

theorem ext_length_cases (v : Nat) :
    (v ≤ 12 ∧ (ext v).length = 0) ∨ (13 ≤ v ∧ v ≤ 268 ∧ (ext v).length = 1) ∨ (269 ≤ v ∧ (ext v).length = 2) := by
  rcases nib_ext_cases v with ⟨h, _, e⟩ | ⟨h, h', _, e⟩ | ⟨h, _, e⟩
  · exact .inl ⟨h, congrArg List.length e⟩
  · exact .inr (.inl ⟨h, h', congrArg List.length e⟩)
  · exact .inr (.inr ⟨h, congrArg List.length e⟩)

theorem lenNib_extLen_cases (l : Nat) :
    (l ≤ 12 ∧ lenNib l = l ∧ extLen l = []) ∨
    (13 ≤ l ∧ l ≤ 268 ∧ lenNib l = 13 ∧ extLen l = [UInt8.ofNat (l - 13)]) ∨
    (269 ≤ l ∧ l ≤ 65804 ∧ lenNib l = 14 ∧
      extLen l = [UInt8.ofNat ((l - 269) / 256), UInt8.ofNat ((l - 269) % 256)]) ∨
    (65805 ≤ l ∧ lenNib l = 15 ∧ extLen l = be32 (l - 65805)) := by
  unfold lenNib extLen
  by_cases h1 : l ≤ 12
  · rw [if_pos h1, if_pos h1]; exact .inl ⟨h1, rfl, rfl⟩
  · rw [if_neg h1, if_neg h1]
    by_cases h2 : l ≤ 268
    · rw [if_pos h2, if_pos h2]; exact .inr (.inl ⟨by omega, h2, rfl, rfl⟩)
    · rw [if_neg h2, if_neg h2]
      by_cases h3 : l ≤ 65804
      · rw [if_pos h3, if_pos h3]; exact .inr (.inr (.inl ⟨by omega, h3, rfl, rfl⟩))
      · rw [if_neg h3, if_neg h3]; exact .inr (.inr (.inr ⟨by omega, rfl, rfl⟩))

theorem lenNib_le (l : Nat) : lenNib l ≤ 15 := by
  rcases lenNib_extLen_cases l with ⟨_, h, _⟩ | ⟨_, _, h, _⟩ | ⟨_, _, h, _⟩ | ⟨_, h, _⟩ <;> omega

theorem extLen_length_le (l : Nat) : (extLen l).length ≤ 4 := by
  rcases lenNib_extLen_cases l with ⟨_, _, h⟩ | ⟨_, _, _, h⟩ | ⟨_, _, _, h⟩ | ⟨_, _, h⟩ <;> simp [h, be32]

end CoapVerif.Lemmas.LengthClasses
