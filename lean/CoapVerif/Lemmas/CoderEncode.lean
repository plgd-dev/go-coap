import CoapVerif.Lemmas.OptionEncode
import CoapVerif.Model.TcpCoder
/-!
Encoders of the two coders against the RFC encoding: `Size`, `Encode` into a large-enough buffer, `Encode` into a smaller one.

Only the option-level `Marshal`s are `Writes`.  The two `Encode`s are proved in another way: a large-enough buffer is cut
along the fields of the message (`split_for`, `split_len`), so that every write meets exactly its part (`withSub_prefix`,
`goCopy_prefix` of `Slices.lean`, `optionsMarshal_prefix`) and no length is left to compare: written field by field into what
the fields before have left (`goCopy_fits`, `Writes.fits` on `buf.drop _`), every write wants its room shown and the drops
added up at the end, which is the dearer proof.  `udp_encode_eq`, `tcp_encode_eq` give the model's bytes `udpB`, `tcpB`, which
are the RFC encoding on well-formed messages (`udpB_eq_spec`, `tcpB_eq_spec`).
-/
namespace CoapVerif.Lemmas.CoderEncode
open CoapVerif.Generated.Codec
open CoapVerif.Spec.Wire
open CoapVerif.Model CoapVerif.Model.OptionCodec CoapVerif.Lemmas.OptionEncode CoapVerif.Lemmas.WireSpec CoapVerif.Lemmas.Slices

theorem split_for (x buf : Bytes) (h : x.length ≤ buf.length) :
    ∃ p rest, buf = p ++ rest ∧ p.length = x.length ∧ buf.drop x.length = rest :=
  ⟨buf.take x.length, buf.drop x.length, (List.take_append_drop _ buf).symm, List.length_take_of_le h, rfl⟩

theorem split_len (p : Bytes) (a b : Nat) (h : p.length = a + b) : ∃ x y, p = x ++ y ∧ x.length = a ∧ y.length = b :=
  ⟨p.take a, p.drop a, (List.take_append_drop a p).symm, by simp; omega, by simp; omega⟩

theorem optionsMarshal_prefix (os : List Opt) (p y : Bytes) (h : p.length = (optsB 0 os).length) :
    optionsMarshal (some (p ++ y)) os = .ok ((optsB 0 os).length, false, optsB 0 os ++ y) := by
  rw [(options_writes os).fits (by simp; omega), ← h, List.drop_left' rfl]

/-- Payload marker and payload behind the options, as `udp/coder.Encode` writes them. -/
theorem udp_payload (p pp rest : Bytes) (hpp : pp.length = (encPayload p).length) :
    (if p.length > 0 then do
        let buf ← setAt (pp ++ rest) 0 0xff
        withSub buf 1 fun buf => .ok (false, goCopy buf p)
      else .ok (false, goCopy (pp ++ rest) p) : Except Err (Bool × Bytes)) = .ok (false, encPayload p ++ rest) := by
  cases p with
  | nil =>
    obtain rfl := List.eq_nil_of_length_eq_zero hpp
    simp [goCopy, encPayload]
  | cons b t =>
    match pp, hpp with
    | c :: pp', hpp =>
      have hpp' : pp'.length = (b :: t).length := Nat.succ.inj hpp
      simp only [List.length_cons, Nat.zero_lt_succ, ↓reduceIte, List.cons_append, setAt_zero, bind, Except.bind]
      exact (withSub_prefix [255] (pp' ++ rest) _ 1 rfl).trans (by rw [goCopy_prefix pp' rest (b :: t) hpp']; rfl)

/-- The bytes `udp/coder.Encode` writes (in the spelling of the model). -/
def udpB (m : Msg) : Bytes :=
  [((1 : UInt8) <<< 6) ||| (byteOfInt m.typ <<< 4) ||| UInt8.ofNat (0xf &&& m.token.length), UInt8.ofNat m.code,
   UInt8.ofNat ((m.mid % 65536).toNat / 256), UInt8.ofNat ((m.mid % 65536).toNat % 256)] ++
    (m.token ++ (optsB 0 m.options ++ encPayload m.payload))

theorem udpB_length (m : Msg) :
    (udpB m).length = 4 + m.token.length + (optsB 0 m.options).length + (encPayload m.payload).length := by
  simp [udpB]; omega

theorem udp_size (m : Msg) (htk : m.token.length ≤ 8) : UdpCoder.size m = .ok (udpB m).length := by
  unfold UdpCoder.size
  have : ¬ (m.token.length > maxTokenSize) := by simp [maxTokenSize]; omega
  simp only [this, ↓reduceIte, bind, Except.bind, optionsMarshal_nil, Bool.not_true, Bool.false_eq_true]
  rw [udpB_length, encPayload_len]
  congr 1
  split <;> omega

theorem udp_encode_eq (m : Msg) (hmid : UdpCoder.validateMID m.mid = true) (htyp : UdpCoder.validateType m.typ = true)
    (hcode : m.code ≤ 255) (htk : m.token.length ≤ 8) (buf : Bytes) :
    UdpCoder.encode m buf =
      if buf.length < (udpB m).length then .ok ⟨(udpB m).length, true, buf⟩
      else .ok ⟨(udpB m).length, false, udpB m ++ buf.drop (udpB m).length⟩ := by
  unfold UdpCoder.encode
  rw [udp_size m htk]
  have hc : ¬ (m.code > 255) := by omega
  simp only [hmid, htyp, Bool.not_true, Bool.false_eq_true, ↓reduceIte, hc]
  by_cases hs : buf.length < (udpB m).length
  · simp only [hs, ↓reduceIte]
  · simp only [hs, ↓reduceIte]
    -- split the buffer along the fields
    obtain ⟨p, rest, rfl, hp, hdrop⟩ := split_for (udpB m) buf (by omega)
    rw [hdrop]
    rw [udpB_length] at hp
    obtain ⟨p4, q, rfl, hp4, hq⟩ := split_len p 4 (m.token.length + ((optsB 0 m.options).length + (encPayload m.payload).length))
      (by omega)
    obtain ⟨pt, q, rfl, hpt, hq⟩ := split_len q _ _ hq
    obtain ⟨po, pp, rfl, hpo, hpp⟩ := split_len q _ _ hq
    match p4, hp4 with
    | [a0, a1, a2, a3], _ =>
      have htk' : ¬ (m.token.length > maxTokenSize) := by simp [maxTokenSize]; omega
      simp only [List.append_assoc, List.cons_append, List.nil_append, setAt, List.length_cons, Nat.zero_lt_succ,
        Nat.succ_lt_succ_iff, ↓reduceIte, List.set_cons_zero, List.set_cons_succ, bind, Except.bind]
      have e4 : ∀ (x0 x1 x2 x3 : UInt8) (r : Bytes), x0 :: x1 :: x2 :: x3 :: r = [x0, x1, x2, x3] ++ r := by
        intros; rfl
      rw [e4, withSub_prefix _ _ _ 4 rfl]
      simp only [htk', ↓reduceIte]
      rw [goCopy_prefix pt _ m.token hpt, withSub_prefix m.token _ _ m.token.length rfl]
      rw [optionsMarshal_prefix m.options po _ hpo]
      simp only [Bool.false_eq_true, ↓reduceIte]
      rw [withSub_prefix (optsB 0 m.options) _ _ (optsB 0 m.options).length rfl]
      have hpay := udp_payload m.payload pp rest hpp
      simp only [setAt, bind, Except.bind] at hpay
      rw [hpay]
      simp [udpB]

theorem udp_encode_small (m : Msg) (hmid : UdpCoder.validateMID m.mid = true) (htyp : UdpCoder.validateType m.typ = true)
    (hcode : m.code ≤ 255) (htk : m.token.length ≤ 8) (buf : Bytes) (h : buf.length < (udpB m).length) :
    UdpCoder.encode m buf = .ok ⟨(udpB m).length, true, buf⟩ := by
  rw [udp_encode_eq m hmid htyp hcode htk, if_pos h]

theorem udpB_eq_spec (m : Msg) (hwf : WF .udp m = true) : udpB m = encUdp m := by
  obtain ⟨typ, mid, code, token, options, payload⟩ := m
  obtain ⟨htk, hcode, hopts, ht0, ht3, hm0, hm1⟩ := WF_udp.mp hwf
  dsimp only at htk hopts ht0 ht3 hm0 hm1
  obtain ⟨t, rfl⟩ := Int.eq_ofNat_of_zero_le ht0
  obtain ⟨mi, rfl⟩ := Int.eq_ofNat_of_zero_le hm0
  unfold udpB encUdp
  simp only [Int.toNat_natCast]
  rw [optsB_eq_encOpts _ options 0 hopts, byteOfInt_nat]
  have hfb := udp_first_byte ⟨t, by omega⟩ ⟨token.length, by omega⟩
  simp only at hfb
  have hmid : ((mi : Int) % 65536).toNat = mi := by omega
  rw [hfb, hmid]

theorem validateMID_iff (mid : Int) : UdpCoder.validateMID mid = true ↔ 0 ≤ mid ∧ mid ≤ 65535 := by
  unfold UdpCoder.validateMID
  rw [Bool.and_eq_true, decide_eq_true_eq, decide_eq_true_eq]
  rfl

theorem validateType_iff (typ : Int) : UdpCoder.validateType typ = true ↔ 0 ≤ typ ∧ typ ≤ 255 := by
  simp [UdpCoder.validateType]

theorem udp_valid_of_WF (m : Msg) (hwf : WF .udp m = true) :
    UdpCoder.validateMID m.mid = true ∧ UdpCoder.validateType m.typ = true ∧ m.token.length ≤ 8 ∧ m.code ≤ 255 := by
  obtain ⟨htk, hcode, -, ht0, ht3, hm0, hm1⟩ := WF_udp.mp hwf
  exact ⟨(validateMID_iff _).mpr ⟨hm0, by omega⟩, (validateType_iff _).mpr ⟨ht0, by omega⟩, htk, by omega⟩

/-- The header of `tcpB` (the local array `hdr` of `tcp/coder.Encode`): first byte, extended length, code, token. -/
def tcpHdrB (m : Msg) : Bytes :=
  let l := (encPayload m.payload).length + (optsB 0 m.options).length
  (UInt8.ofNat m.token.length ||| (UInt8.ofNat (TcpCoder.getHeader l).1 <<< 4)) ::
    ((TcpCoder.getHeader l).2 ++ (UInt8.ofNat m.code :: m.token))

/-- The bytes `tcp/coder.Encode` writes (in the spelling of the model). -/
def tcpB (m : Msg) : Bytes := tcpHdrB m ++ (optsB 0 m.options ++ encPayload m.payload)

/-- Payload marker and payload at their offsets in the whole buffer, as `tcp/coder.Encode` writes them. -/
theorem tcp_payload (p pre pp rest : Bytes) (n k : Nat) (hk : pre.length = k) (hpp : pp.length = (encPayload p).length) :
    (if p.length > 0 then do
        let ((), buf) ← withSub (pre ++ (pp ++ rest)) k fun sub => .ok ((), goCopy sub [0xff])
        let ((), buf) ← withSub buf (k + 1) fun sub => .ok ((), goCopy sub p)
        .ok ⟨n, false, buf⟩
      else .ok ⟨n, false, pre ++ (pp ++ rest)⟩ : Except Err UdpCoder.EncRes) = .ok ⟨n, false, pre ++ (encPayload p ++ rest)⟩ := by
  cases p with
  | nil =>
    obtain rfl := List.eq_nil_of_length_eq_zero hpp
    rfl
  | cons b t =>
    match pp, hpp with
    | c :: pp', hpp =>
      have hpp' : pp'.length = (b :: t).length := Nat.succ.inj hpp
      simp only [List.length_cons, Nat.zero_lt_succ, ↓reduceIte, bind, Except.bind]
      have hmark : goCopy (c :: pp' ++ rest) [255] = [255] ++ (pp' ++ rest) := goCopy_prefix [c] (pp' ++ rest) [255] rfl
      rw [withSub_prefix pre _ _ k hk, hmark]
      simp only []
      rw [← List.append_assoc pre, withSub_prefix (pre ++ [255]) _ _ (k + 1) (by simp [hk]),
        goCopy_prefix pp' rest (b :: t) hpp']
      simp [encPayload]

theorem tcp_encode_eq (m : Msg) (htk : m.token.length ≤ 8) (hcode : m.code ≤ 255) (buf : Bytes) :
    TcpCoder.encode m buf =
      if buf.length < (tcpB m).length then .ok ⟨(tcpB m).length, true, buf⟩
      else .ok ⟨(tcpB m).length, false, tcpB m ++ buf.drop (tcpB m).length⟩ := by
  unfold TcpCoder.encode
  have htk' : ¬ (m.token.length > maxTokenSize) := by simp [maxTokenSize]; omega
  have hc : ¬ (m.code > 255) := by omega
  simp only [htk', hc, ↓reduceIte, bind, Except.bind, optionsMarshal_nil, Bool.not_true, Bool.false_eq_true]
  have hpl : (if m.payload.length > 0 then m.payload.length + 1 else m.payload.length) = (encPayload m.payload).length := by
    rw [encPayload_len]
  simp only [hpl]
  generalize hL : (encPayload m.payload).length + (optsB 0 m.options).length = L
  have hhdr : tcpHdrB m = (UInt8.ofNat m.token.length ||| (UInt8.ofNat (TcpCoder.getHeader L).1 <<< 4)) ::
      ((TcpCoder.getHeader L).2 ++ (UInt8.ofNat m.code :: m.token)) := by
    unfold tcpHdrB; simp only [hL]
  rcases hg : TcpCoder.getHeader L with ⟨nibL, extL⟩
  rw [hg] at hhdr
  simp only at hhdr ⊢
  have hhl : (tcpHdrB m).length = 1 + extL.length + m.token.length + 1 := by
    rw [hhdr]; simp; omega
  have htl : (tcpB m).length = L + (1 + extL.length + m.token.length + 1) := by
    unfold tcpB; rw [List.length_append, hhl, List.length_append]; omega
  rw [← htl, ← hhdr]
  by_cases hs : buf.length < (tcpB m).length
  · simp [hs]
  · simp only [hs, ↓reduceIte]
    rw [← hhl]
    have hst : sliceTo (tcpHdrB m) (tcpHdrB m).length = .ok (tcpHdrB m) := by simp [sliceTo]
    simp only [hst]
    -- split the buffer along header, options, payload
    obtain ⟨p, rest, rfl, hp, hdrop⟩ := split_for (tcpB m) buf (by omega)
    rw [hdrop]
    obtain ⟨ph, q, rfl, hph, hq⟩ := split_len p (tcpHdrB m).length
      ((optsB 0 m.options).length + (encPayload m.payload).length) (by rw [hp]; simp [tcpB])
    obtain ⟨po, pp, rfl, hpo, hpp⟩ := split_len q _ _ hq
    simp only [List.append_assoc]
    rw [goCopy_prefix ph _ (tcpHdrB m) hph, withSub_prefix (tcpHdrB m) _ _ (tcpHdrB m).length rfl]
    simp only [optionsMarshal_prefix m.options po _ hpo, Bool.false_eq_true, ↓reduceIte]
    rw [← List.append_assoc (tcpHdrB m)]
    have hpay := tcp_payload m.payload (tcpHdrB m ++ optsB 0 m.options) pp rest (tcpB m).length
      ((tcpHdrB m).length + (optsB 0 m.options).length) (by simp) hpp
    simp only [bind, Except.bind] at hpay
    rw [hpay]
    simp [tcpB]

theorem getHeader_eq (l : Nat) (h : l < messageMaxLen) : TcpCoder.getHeader l = (lenNib l, extLen l) := by
  unfold TcpCoder.getHeader
  simp only [msgLen13Base, msgLen14Base, msgLen15Base, messageMaxLen] at h ⊢
  rcases LengthClasses.lenNib_extLen_cases l with ⟨_, hn, he⟩ | ⟨_, _, hn, he⟩ | ⟨_, _, hn, he⟩ | ⟨_, hn, he⟩ <;> rw [hn, he]
  · simp only [show l < 13 by omega, ↓reduceIte, Nat.mod_eq_of_lt (show l < 256 by omega)]
  · simp only [show ¬ l < 13 by omega, show l < 269 by omega, ↓reduceIte]
  · simp only [show ¬ l < 13 by omega, show ¬ l < 269 by omega, show l < 65805 by omega, ↓reduceIte,
      Nat.mod_eq_of_lt (show l - 269 < 65536 by omega)]
  · simp only [show ¬ l < 13 by omega, show ¬ l < 269 by omega, show ¬ l < 65805 by omega, h, ↓reduceIte, TcpCoder.u32,
      Nat.mod_eq_of_lt (show l - 65805 < 4294967296 by omega), be32]

theorem tcpB_eq_spec (m : Msg) (hwf : WF .tcp m = true) : tcpB m = encTcp m := by
  obtain ⟨htk, hcode, hopts, hb⟩ := WF_tcp.mp hwf
  have hopt := optsB_eq_encOpts _ m.options 0 hopts
  unfold tcpB tcpHdrB encTcp
  simp only [hopt]
  have hL : (encPayload m.payload).length + (encOpts 0 m.options).length = (encBody m).length := by
    unfold encBody; simp; omega
  rw [hL, getHeader_eq _ (by unfold tcpBodyLimit at hb; simp [messageMaxLen]; omega)]
  simp only []
  have := tcp_first_byte ⟨lenNib (encBody m).length, Nat.lt_succ_of_le (LengthClasses.lenNib_le _)⟩ ⟨m.token.length, by omega⟩
  simp only at this
  rw [this]
  simp [encBody]

end CoapVerif.Lemmas.CoderEncode
