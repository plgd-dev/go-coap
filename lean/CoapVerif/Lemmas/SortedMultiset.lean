import CoapVerif.Spec.SortedMultiset
/-!
Lemmas about the sorted-multiset specification (C15).  On any list, sorted or not, `ins` puts the new option behind
the leading ones whose number is not larger (`ins_eq_takeWhile`).  A sorted list seen from a number is `lo ++ mid ++ hi`
(`Split`); what each operation does to the three parts needs no sortedness, and with `lt id l = lo.length`,
`le id l = (lo ++ mid).length` the operations get their *index form* (`ins_eq`, `remove_eq`, `set_eq`, `values_eq`,
`findRange_eq`), in which the in-place array code of `message/options.go` is compared with them.  The operations keep
the list sorted and commute with mapping the values (`mapVal`: they only look at the numbers).  Then what reading
option `id'` sees after values of option `id` were inserted or removed, from which `setPath`/`path` are characterised
(what is read back, what is refused, what stays); last, that re-inserting a sorted list gives it back, and `selectOwn`.
-/
namespace CoapVerif.Lemmas.SortedMultiset
open CoapVerif.Spec.SortedMultiset

variable {β γ : Type}

/-- How many options have a number smaller than `id`.  On a sorted list this is the index of the first option whose
number is not smaller (`lt_iff`); `findPosition` returns `lt − 1`. -/
def lt (id : Nat) (l : List (Nat × β)) : Nat := l.countP (fun y => decide (y.1 < id))
/-- How many options have a number not larger than `id`.  On a sorted list this is the index of the first option whose
number is larger (`le_iff`): `findPosition`'s second index, where `Add` inserts. -/
def le (id : Nat) (l : List (Nat × β)) : Nat := l.countP (fun y => decide (y.1 ≤ id))

@[simp] theorem lt_nil (id : Nat) : lt id ([] : List (Nat × β)) = 0 := rfl
@[simp] theorem le_nil (id : Nat) : le id ([] : List (Nat × β)) = 0 := rfl

theorem lt_cons (id : Nat) (y : Nat × β) (l : List (Nat × β)) :
    lt id (y :: l) = lt id l + if y.1 < id then 1 else 0 := by
  simp [lt, List.countP_cons]

theorem le_cons (id : Nat) (y : Nat × β) (l : List (Nat × β)) :
    le id (y :: l) = le id l + if y.1 ≤ id then 1 else 0 := by
  simp [le, List.countP_cons]

theorem lt_le_le (id : Nat) (l : List (Nat × β)) : lt id l ≤ le id l :=
  List.countP_mono_left fun y _ h => by simp only [decide_eq_true_eq] at h ⊢; omega

theorem le_le_length (id : Nat) (l : List (Nat × β)) : le id l ≤ l.length := List.countP_le_length

theorem sorted_cons {y : Nat × β} {l : List (Nat × β)} :
    Sorted (y :: l) ↔ (∀ z ∈ l, y.1 ≤ z.1) ∧ Sorted l := List.pairwise_cons

/-- On a sorted list a test that is downward closed in the number (`hp`) holds exactly on a prefix, whose length is
the count. -/
theorem countP_iff {p : Nat → Bool} (hp : ∀ a b, a ≤ b → p b = true → p a = true) {l : List (Nat × β)}
    (hs : Sorted l) : ∀ (i : Nat) (h : i < l.length), p l[i].1 = true ↔ i < l.countP (fun y => p y.1) := by
  induction l with
  | nil => intro i h; simp at h
  | cons y ys ih =>
    obtain ⟨hy, hs'⟩ := sorted_cons.mp hs
    intro i h
    rw [List.countP_cons]
    by_cases h1 : p y.1 = true
    · cases i with
      | zero => simp [h1]
      | succ i =>
        rw [List.getElem_cons_succ, ih hs' i (by simpa using h), if_pos h1]
        omega
    · -- nothing after `y` passes either
      have hnone : ∀ z ∈ ys, ¬ p z.1 = true := fun z hz hpz => h1 (hp _ _ (hy z hz) hpz)
      rw [if_neg h1, List.countP_eq_zero.mpr hnone]
      cases i with
      | zero => simp [h1]
      | succ i => simpa using hnone _ (List.getElem_mem _)

theorem lt_iff {l : List (Nat × β)} (hs : Sorted l) (id : Nat) (i : Nat) (h : i < l.length) :
    l[i].1 < id ↔ i < lt id l := by
  simpa [lt] using countP_iff (p := fun a => decide (a < id)) (fun a b hab hb => by simp at hb ⊢; omega) hs i h

theorem le_iff {l : List (Nat × β)} (hs : Sorted l) (id : Nat) (i : Nat) (h : i < l.length) :
    l[i].1 ≤ id ↔ i < le id l := by
  simpa [le] using countP_iff (p := fun a => decide (a ≤ id)) (fun a b hab hb => by simp at hb ⊢; omega) hs i h

theorem lt_iff' {l : List (Nat × β)} (hs : Sorted l) (id : Nat) {i : Nat} {x : Nat × β}
    (h : l[i]? = some x) : x.1 < id ↔ i < lt id l := by
  obtain ⟨hi, rfl⟩ := List.getElem?_eq_some_iff.mp h
  exact lt_iff hs id i hi

theorem le_iff' {l : List (Nat × β)} (hs : Sorted l) (id : Nat) {i : Nat} {x : Nat × β}
    (h : l[i]? = some x) : x.1 ≤ id ↔ i < le id l := by
  obtain ⟨hi, rfl⟩ := List.getElem?_eq_some_iff.mp h
  exact le_iff hs id i hi

theorem ins_eq_takeWhile (x : Nat × β) (l : List (Nat × β)) :
    ins x l = l.takeWhile (fun y => decide (y.1 ≤ x.1)) ++ x :: l.dropWhile (fun y => decide (y.1 ≤ x.1)) := by
  induction l with
  | nil => rfl
  | cons y ys ih =>
    rw [ins, List.takeWhile_cons, List.dropWhile_cons]
    by_cases c : x.1 < y.1
    · rw [if_pos c, if_neg (by simpa using c), if_neg (by simpa using c)]; rfl
    · rw [if_neg c, if_pos (by simpa using c), if_pos (by simpa using c), ih]; rfl

theorem ins_append_le (x : Nat × β) (pre post : List (Nat × β)) (hp : ∀ z ∈ pre, z.1 ≤ x.1) :
    ins x (pre ++ post) = pre ++ ins x post := by
  have hp' : ∀ z ∈ pre, decide (z.1 ≤ x.1) = true := fun z hz => decide_eq_true (hp z hz)
  rw [ins_eq_takeWhile, ins_eq_takeWhile, List.takeWhile_append_of_pos hp', List.dropWhile_append_of_pos hp',
    List.append_assoc]

structure Split (id : Nat) (l lo mid hi : List (Nat × β)) : Prop where
  eq : l = lo ++ (mid ++ hi)
  lo_lt : ∀ z ∈ lo, z.1 < id
  mid_eq : ∀ z ∈ mid, z.1 = id
  hi_gt : ∀ z ∈ hi, id < z.1

theorem split_of_sorted {l : List (Nat × β)} (hs : Sorted l) (id : Nat) : ∃ lo mid hi, Split id l lo mid hi := by
  induction l with
  | nil => exact ⟨[], [], [], rfl, nofun, nofun, nofun⟩
  | cons y ys ih =>
    obtain ⟨hy, hs'⟩ := sorted_cons.mp hs
    obtain ⟨lo, mid, hi, rfl, h1, h2, h3⟩ := ih hs'
    by_cases c1 : y.1 < id
    · exact ⟨y :: lo, mid, hi, rfl, List.forall_mem_cons.mpr ⟨c1, h1⟩, h2, h3⟩
    · -- nothing after `y` is below `id`
      obtain rfl : lo = [] := List.eq_nil_iff_forall_not_mem.mpr fun z hz =>
        absurd (h1 z hz) (by have := hy z (List.mem_append_left _ hz); omega)
      by_cases c2 : y.1 = id
      · exact ⟨[], y :: mid, hi, rfl, nofun, List.forall_mem_cons.mpr ⟨c2, h2⟩, h3⟩
      · obtain rfl : mid = [] := List.eq_nil_iff_forall_not_mem.mpr fun z hz =>
          absurd (h2 z hz) (by have := hy z (List.mem_append_right _ (List.mem_append_left _ hz)); omega)
        exact ⟨[], [], y :: hi, rfl, nofun, nofun, List.forall_mem_cons.mpr ⟨by omega, h3⟩⟩

namespace Split
variable {id : Nat} {l lo mid hi : List (Nat × β)}

theorem lt_eq (h : Split id l lo mid hi) : lt id l = lo.length := by
  unfold lt
  rw [h.eq, List.countP_append, List.countP_append,
    List.countP_eq_length.mpr fun z hz => decide_eq_true (h.lo_lt z hz),
    List.countP_eq_zero.mpr fun z hz => by have := h.mid_eq z hz; simp only [decide_eq_true_eq]; omega,
    List.countP_eq_zero.mpr fun z hz => by have := h.hi_gt z hz; simp only [decide_eq_true_eq]; omega]
  rfl

theorem le_eq (h : Split id l lo mid hi) : le id l = (lo ++ mid).length := by
  unfold le
  rw [h.eq, List.countP_append, List.countP_append,
    List.countP_eq_length.mpr fun z hz => decide_eq_true (Nat.le_of_lt (h.lo_lt z hz)),
    List.countP_eq_length.mpr fun z hz => decide_eq_true (Nat.le_of_eq (h.mid_eq z hz)),
    List.countP_eq_zero.mpr fun z hz => by have := h.hi_gt z hz; simp only [decide_eq_true_eq]; omega,
    List.length_append]
  rfl

theorem ins_eq (x : Nat × β) (h : Split x.1 l lo mid hi) : ins x l = lo ++ (mid ++ x :: hi) := by
  rw [h.eq, ← List.append_assoc, ← List.append_assoc, ins_append_le x (lo ++ mid) hi fun z hz => by
    rcases List.mem_append.mp hz with hz | hz
    · have := h.lo_lt z hz; omega
    · have := h.mid_eq z hz; omega]
  cases hi with
  | nil => rfl
  | cons y ys => show _ ++ (if x.1 < y.1 then _ else _) = _; rw [if_pos (h.hi_gt y List.mem_cons_self)]

theorem remove_eq (h : Split id l lo mid hi) : remove id l = lo ++ hi := by
  unfold remove
  rw [h.eq, List.filter_append, List.filter_append,
    List.filter_eq_self.mpr fun z hz => by have := h.lo_lt z hz; simp only [bne_iff_ne, ne_eq]; omega,
    List.filter_eq_nil_iff.mpr fun z hz => by simp [h.mid_eq z hz],
    List.filter_eq_self.mpr fun z hz => by have := h.hi_gt z hz; simp only [bne_iff_ne, ne_eq]; omega, List.nil_append]

theorem set_eq (x : Nat × β) (h : Split x.1 l lo mid hi) : Spec.SortedMultiset.set x l = lo ++ x :: hi := by
  unfold Spec.SortedMultiset.set
  rw [h.remove_eq]
  exact (ins_eq x ⟨rfl, h.lo_lt, nofun, h.hi_gt⟩ : ins x (lo ++ ([] ++ hi)) = _)

theorem values_eq (h : Split id l lo mid hi) : values id l = mid.map (·.2) := by
  unfold values
  rw [h.eq, List.filter_append, List.filter_append,
    List.filter_eq_nil_iff.mpr fun z hz => by have := h.lo_lt z hz; simp only [beq_iff_eq]; omega,
    List.filter_eq_self.mpr fun z hz => by simp [h.mid_eq z hz],
    List.filter_eq_nil_iff.mpr fun z hz => by have := h.hi_gt z hz; simp only [beq_iff_eq]; omega,
    List.nil_append, List.append_nil]

theorem take_lt (h : Split id l lo mid hi) : l.take (lt id l) = lo := by
  rw [h.lt_eq, h.eq]; exact List.take_left

theorem take_le (h : Split id l lo mid hi) : l.take (le id l) = lo ++ mid := by
  rw [h.le_eq, h.eq, ← List.append_assoc]; exact List.take_left

theorem drop_le (h : Split id l lo mid hi) : l.drop (le id l) = hi := by
  rw [h.le_eq, h.eq, ← List.append_assoc]; exact List.drop_left

theorem mid_range (h : Split id l lo mid hi) : (l.drop (lt id l)).take (le id l - lt id l) = mid := by
  rw [h.le_eq, h.lt_eq, h.eq, List.drop_left, List.length_append, Nat.add_sub_cancel_left]; exact List.take_left

end Split

theorem ins_eq (x : Nat × β) {l : List (Nat × β)} (hs : Sorted l) :
    ins x l = l.take (le x.1 l) ++ x :: l.drop (le x.1 l) := by
  obtain ⟨lo, mid, hi, sp⟩ := split_of_sorted hs x.1
  rw [sp.ins_eq, sp.take_le, sp.drop_le, List.append_assoc]

theorem remove_eq (id : Nat) {l : List (Nat × β)} (hs : Sorted l) :
    remove id l = l.take (lt id l) ++ l.drop (le id l) := by
  obtain ⟨lo, mid, hi, sp⟩ := split_of_sorted hs id
  rw [sp.remove_eq, sp.take_lt, sp.drop_le]

theorem remove_sorted (id : Nat) {l : List (Nat × β)} (hs : Sorted l) : Sorted (remove id l) :=
  List.Pairwise.filter _ hs

theorem set_eq (x : Nat × β) {l : List (Nat × β)} (hs : Sorted l) :
    Spec.SortedMultiset.set x l = l.take (lt x.1 l) ++ x :: l.drop (le x.1 l) := by
  obtain ⟨lo, mid, hi, sp⟩ := split_of_sorted hs x.1
  rw [sp.set_eq, sp.take_lt, sp.drop_le]

theorem mem_ins {x z : Nat × β} {l : List (Nat × β)} (h : z ∈ ins x l) : z = x ∨ z ∈ l := by
  rw [ins_eq_takeWhile] at h
  rcases List.mem_append.mp h with h | h
  · exact Or.inr ((List.takeWhile_sublist _).mem h)
  · exact (List.mem_cons.mp h).imp_right (List.dropWhile_sublist _).mem

theorem mem_remove {id : Nat} {z : Nat × β} {l : List (Nat × β)} (h : z ∈ remove id l) : z ∈ l :=
  (List.mem_filter.mp h).1

theorem mem_set {x z : Nat × β} {l : List (Nat × β)} (h : z ∈ Spec.SortedMultiset.set x l) : z = x ∨ z ∈ l :=
  (mem_ins h).imp_right mem_remove

theorem ins_sorted (x : Nat × β) {l : List (Nat × β)} (hs : Sorted l) : Sorted (ins x l) := by
  induction l with
  | nil => simp [ins, Sorted]
  | cons y ys ih =>
    obtain ⟨hy, hs'⟩ := sorted_cons.mp hs
    unfold ins
    by_cases c : x.1 < y.1
    · simp only [c, if_true]
      refine sorted_cons.mpr ⟨?_, hs⟩
      intro z hz
      rcases List.mem_cons.mp hz with h | h
      · subst h; omega
      · have := hy z h; omega
    · simp only [c, if_false]
      refine sorted_cons.mpr ⟨?_, ih hs'⟩
      intro z hz
      rcases mem_ins hz with h | h
      · subst h; omega
      · exact hy z h

theorem set_sorted (x : Nat × β) {l : List (Nat × β)} (hs : Sorted l) : Sorted (Spec.SortedMultiset.set x l) :=
  ins_sorted x (remove_sorted x.1 hs)

theorem foldl_ins_sorted (inp : List (Nat × β)) {acc : List (Nat × β)} (hs : Sorted acc) :
    Sorted (inp.foldl (fun acc x => ins x acc) acc) := by
  induction inp generalizing acc with
  | nil => exact hs
  | cons x xs ih => exact ih (ins_sorted x hs)

theorem foldl_ins_sorted' (id : Nat) (segs : List β) {acc : List (Nat × β)} (hs : Sorted acc) :
    Sorted (segs.foldl (fun acc s => ins (id, s) acc) acc) := by
  have h := foldl_ins_sorted (segs.map (Prod.mk id)) hs
  rwa [List.foldl_map] at h

theorem resetTo_sorted (inp : List (Nat × β)) : Sorted (resetTo inp) :=
  foldl_ins_sorted inp (by simp [Sorted])

theorem values_eq (id : Nat) {l : List (Nat × β)} (hs : Sorted l) :
    values id l = ((l.drop (lt id l)).take (le id l - lt id l)).map (·.2) := by
  obtain ⟨lo, mid, hi, sp⟩ := split_of_sorted hs id
  rw [sp.values_eq, sp.mid_range]

theorem values_length (id : Nat) {l : List (Nat × β)} (hs : Sorted l) :
    (values id l).length = le id l - lt id l := by
  obtain ⟨lo, mid, hi, sp⟩ := split_of_sorted hs id
  rw [sp.values_eq, sp.le_eq, sp.lt_eq, List.length_map, List.length_append, Nat.add_sub_cancel_left]

theorem values_eq_nil_iff (id : Nat) {l : List (Nat × β)} (hs : Sorted l) : values id l = [] ↔ lt id l = le id l := by
  have hv := values_length id hs
  have hll := lt_le_le id l
  rw [← List.length_eq_zero_iff]; omega

theorem findRange_eq (id : Nat) {l : List (Nat × β)} (hs : Sorted l) :
    findRange id l = if lt id l = le id l then none else some (lt id l, le id l) := by
  obtain ⟨lo, mid, hi, sp⟩ := split_of_sorted hs id
  unfold findRange
  simp only [sp.values_eq, sp.lt_eq, sp.le_eq, List.length_map, List.length_append]
  cases mid with
  | nil => rw [if_pos List.length_nil, if_pos (show lo.length = lo.length + [].length from rfl)]
  | cons y mid =>
    -- nothing in `lo` carries the number, `y` does
    have hlo : List.findIdx (fun z => z.1 == id) lo = lo.length :=
      List.findIdx_eq_length.mpr fun z hz => by have := sp.lo_lt z hz; simp only [beq_eq_false_iff_ne, ne_eq]; omega
    rw [if_neg (by simp), if_neg (by simp), sp.eq, List.findIdx_append, hlo, if_neg (Nat.lt_irrefl _),
      List.cons_append, List.findIdx_cons, show (y.1 == id) = true by simp [sp.mid_eq y List.mem_cons_self]]
    simp

def mapVal (f : β → γ) (l : List (Nat × β)) : List (Nat × γ) := l.map (fun y => (y.1, f y.2))

theorem mapVal_congr {f g : β → γ} {l : List (Nat × β)} (h : ∀ x ∈ l, f x.2 = g x.2) : mapVal f l = mapVal g l :=
  List.map_congr_left fun x hx => by rw [h x hx]

theorem mapVal_ins (f : β → γ) (x : Nat × β) (l : List (Nat × β)) :
    mapVal f (ins x l) = ins (x.1, f x.2) (mapVal f l) := by
  unfold mapVal
  rw [ins_eq_takeWhile, ins_eq_takeWhile, List.takeWhile_map, List.dropWhile_map, List.map_append, List.map_cons]
  rfl

theorem mapVal_remove (f : β → γ) (id : Nat) (l : List (Nat × β)) :
    mapVal f (remove id l) = remove id (mapVal f l) := by
  unfold mapVal remove
  rw [List.filter_map]; rfl

theorem mapVal_set (f : β → γ) (x : Nat × β) (l : List (Nat × β)) :
    mapVal f (Spec.SortedMultiset.set x l) = Spec.SortedMultiset.set (x.1, f x.2) (mapVal f l) := by
  unfold Spec.SortedMultiset.set
  rw [mapVal_ins, mapVal_remove]

theorem mapVal_sorted (f : β → γ) {l : List (Nat × β)} : Sorted (mapVal f l) ↔ Sorted l := by
  unfold Sorted mapVal
  rw [List.pairwise_map]

theorem values_mapVal (f : β → γ) (id : Nat) (l : List (Nat × β)) :
    values id (mapVal f l) = (values id l).map f := by
  unfold values mapVal
  rw [List.filter_map, List.map_map, List.map_map]; rfl

theorem lt_mapVal (f : β → γ) (id : Nat) (l : List (Nat × β)) : lt id (mapVal f l) = lt id l := by
  simp [lt, mapVal, List.countP_map]; rfl

theorem le_mapVal (f : β → γ) (id : Nat) (l : List (Nat × β)) : le id (mapVal f l) = le id l := by
  simp [le, mapVal, List.countP_map]; rfl

theorem values_eq_nil_of_forall {id : Nat} {l : List (Nat × β)} (h : ∀ z ∈ l, z.1 ≠ id) : values id l = [] := by
  unfold values
  rw [List.map_eq_nil_iff, List.filter_eq_nil_iff]
  intro a ha
  simpa using h a ha

theorem values_cons (id : Nat) (y : Nat × β) (l : List (Nat × β)) :
    values id (y :: l) = (if y.1 = id then [y.2] else []) ++ values id l := by
  unfold values
  by_cases c : y.1 = id <;> simp [c]

theorem values_ins_same (id : Nat) (s : β) {l : List (Nat × β)} (hs : Sorted l) :
    values id (ins (id, s) l) = values id l ++ [s] := by
  obtain ⟨lo, mid, hi, sp⟩ := split_of_sorted hs id
  have sp' : Split id (ins (id, s) l) lo (mid ++ [(id, s)]) hi :=
    ⟨by rw [Split.ins_eq (id, s) sp, List.append_assoc]; rfl, sp.lo_lt,
      List.forall_mem_append.mpr ⟨sp.mid_eq, List.forall_mem_singleton.mpr rfl⟩, sp.hi_gt⟩
  rw [sp'.values_eq, sp.values_eq, List.map_append]; rfl

theorem values_ins_other {id id' : Nat} (s : β) (l : List (Nat × β)) (h : id' ≠ id) :
    values id' (ins (id, s) l) = values id' l := by
  unfold values
  rw [ins_eq_takeWhile, List.filter_append, List.filter_cons_of_neg (by simpa using h.symm), ← List.filter_append,
    List.takeWhile_append_dropWhile]

theorem values_remove_same (id : Nat) (l : List (Nat × β)) : values id (remove id l) = [] := by
  apply values_eq_nil_of_forall
  intro z hz
  have := (List.mem_filter.mp hz).2
  simpa using this

theorem values_remove_other {id id' : Nat} (l : List (Nat × β)) (h : id' ≠ id) :
    values id' (remove id l) = values id' l := by
  unfold values remove
  rw [List.filter_filter]
  congr 1
  apply List.filter_congr
  intro y _
  by_cases c : y.1 = id'
  · simp [c, h]
  · simp [c]

theorem values_foldl_ins (id : Nat) (segs : List β) {acc : List (Nat × β)} (hs : Sorted acc) :
    values id (segs.foldl (fun acc s => ins (id, s) acc) acc) = values id acc ++ segs := by
  induction segs generalizing acc with
  | nil => simp
  | cons s ss ih =>
    simp only [List.foldl_cons]
    rw [ih (ins_sorted _ hs), values_ins_same id s hs, List.append_assoc]; rfl

theorem values_foldl_ins_other {id id' : Nat} (segs : List β) (acc : List (Nat × β)) (h : id' ≠ id) :
    values id' (segs.foldl (fun acc s => ins (id, s) acc) acc) = values id' acc := by
  induction segs generalizing acc with
  | nil => rfl
  | cons s ss ih =>
    simp only [List.foldl_cons]
    rw [ih, values_ins_other s acc h]

theorem segments_nil : segments [] = [] := by simp [segments, splitAux]

theorem setPath_some {id : Nat} {p : Bytes} {l l' : List Item} (h : setPath id p l = some l') :
    (p = [] ∧ l' = l) ∨ (p ≠ [] ∧ (segments p).any (fun s => decide (s.length > maxSegment)) = false ∧
      l' = (segments p).foldl (fun acc s => ins (id, s) acc) (remove id l)) := by
  unfold setPath at h
  by_cases hp : p = []
  · rw [if_pos hp] at h
    exact Or.inl ⟨hp, (Option.some.inj h).symm⟩
  · rw [if_neg hp] at h
    cases c : (segments p).any (fun s => decide (s.length > maxSegment)) with
    | true => simp [c] at h
    | false =>
      simp only [c, Bool.false_eq_true, if_false] at h
      exact Or.inr ⟨hp, rfl, (Option.some.inj h).symm⟩

theorem path_setPath (id : Nat) (p : Bytes) {l l' : List Item} (hs : Sorted l) (hp : p ≠ [])
    (h : setPath id p l = some l') :
    path id l' = if segments p = [] then none else some (join (segments p)) := by
  obtain ⟨hp', _⟩ | ⟨_, _, rfl⟩ := setPath_some h
  · exact absurd hp' hp
  · unfold path
    rw [values_foldl_ins id _ (remove_sorted id hs), values_remove_same, List.nil_append]
    cases segments p <;> simp

theorem values_setPath_other {id id' : Nat} (p : Bytes) {l l' : List Item} (hne : id' ≠ id)
    (h : setPath id p l = some l') : values id' l' = values id' l := by
  obtain ⟨_, rfl⟩ | ⟨_, _, rfl⟩ := setPath_some h
  · rfl
  · rw [values_foldl_ins_other _ _ hne, values_remove_other _ hne]

theorem setPath_refused_iff (id : Nat) (p : Bytes) (l : List Item) :
    setPath id p l = none ↔ ∃ s ∈ segments p, s.length > maxSegment := by
  unfold setPath
  by_cases hp : p = []
  · subst hp; simp [segments_nil]
  · simp only [hp, if_false]
    by_cases c : (segments p).any (fun s => decide (s.length > maxSegment)) = true
    · simp only [c, if_true, true_iff]
      obtain ⟨s, hs, h⟩ := List.any_eq_true.mp c
      exact ⟨s, hs, by simpa using h⟩
    · simp only [c, if_false, Bool.false_eq_true, reduceCtorEq, false_iff]
      intro ⟨s, hs, h⟩
      exact c (List.any_eq_true.mpr ⟨s, hs, by simpa using h⟩)

theorem foldl_ins_eq_append (l : List (Nat × β)) {acc : List (Nat × β)} (hs : Sorted (acc ++ l)) :
    l.foldl (fun acc x => ins x acc) acc = acc ++ l := by
  induction l generalizing acc with
  | nil => simp
  | cons x xs ih =>
    simp only [List.foldl_cons]
    have hle : ∀ y ∈ acc, y.1 ≤ x.1 := by
      intro y hy
      unfold Sorted at hs
      rw [List.pairwise_append] at hs
      exact hs.2.2 y hy x (by simp)
    have hins : ins x acc = acc ++ [x] := by simpa [ins] using ins_append_le x acc [] hle
    rw [hins, ih (by simpa using hs)]
    simp

/-- Why `ResetOptionsTo` of a list that is already sorted (`Clone`, a message reset to its own options or to a slice
of them) is the identity. -/
theorem resetTo_of_sorted {l : List (Nat × β)} (hs : Sorted l) : resetTo l = l := by
  unfold resetTo
  rw [foldl_ins_eq_append l (acc := []) (by simpa using hs)]
  simp

theorem selectOwn_map (f : β → γ) (l : List β) (idxs : List Nat) :
    (selectOwn l idxs).map f = selectOwn (l.map f) idxs := by
  simp only [selectOwn, List.map_filterMap, List.length_map, List.getElem?_map]

theorem selectOwn_range (l : List β) {n : Nat} (h : n ≤ l.length) : selectOwn l (List.range n) = l.take n := by
  induction n with
  | zero => simp [selectOwn]
  | succ n ih =>
    have hn : n < l.length := by omega
    unfold selectOwn at ih ⊢
    rw [List.range_succ, List.filterMap_append, ih (by omega)]
    simp only [List.filterMap_cons, List.filterMap_nil, Nat.mod_eq_of_lt hn, List.getElem?_eq_getElem hn]
    rw [List.take_add_one, List.getElem?_eq_getElem hn]; rfl

end CoapVerif.Lemmas.SortedMultiset
