import CoapVerif.Model.PoolMessage
import CoapVerif.Lemmas.CoderDecode
/-!
Provenance of decoded fields: token, payload and every option value of an accepted message are
contiguous regions (`<:+:`) of the byte string that was decoded.  (`Props/C02.lean` applies this to the
pooled message's own copy of the input.)
-/
namespace CoapVerif.Lemmas.Views
open CoapVerif.Generated.Codec CoapVerif.Generated.OptionDefs
open CoapVerif.Spec.Wire
open CoapVerif.Model CoapVerif.Model.OptionCodec CoapVerif.Model.PoolMessage
open CoapVerif.Lemmas CoapVerif.Lemmas.OptionCodec CoapVerif.Lemmas.CoderDecode

def ViewsIn (buf : Bytes) (m : Msg) : Prop :=
  m.token <:+: buf ∧ m.payload <:+: buf ∧ ∀ o ∈ m.options, o.val <:+: buf

theorem val_infix_encOpt (prev : Nat) (o : Opt) : o.val <:+: encOpt prev o :=
  ((List.suffix_append _ _).trans ((List.suffix_append _ _).trans (List.suffix_cons _ _))).isInfix

theorem decLoop_views {defs : Defs} {cap n prev : Nat} {bs : Bytes} {os : List Opt} {rest : Bytes}
    (h : decLoop defs cap n prev bs = .ok (os, rest)) : ∀ o ∈ os, o.val <:+: bs := by
  refine decLoop_ok_induct (P := fun _ _ bs os _ => ∀ o ∈ os, o.val <:+: bs) ?_ ?_ ?_ h
  · exact fun _ _ _ ho => nomatch ho
  · exact fun _ _ _ _ ho => nomatch ho
  · intro n prev o bs' os rest _ _ _ _ _ hv o' ho
    rcases List.mem_append.mp ho with ho | ho
    · rw [keepOpt_some (Option.mem_toList.mp ho)]
      exact (val_infix_encOpt prev o).trans (List.prefix_append _ _).isInfix
    · exact (hv o' ho).trans (List.suffix_append _ _).isInfix

theorem decode_views {c : Coder} {cap : Nat} {bs : Bytes} {m : Msg} {k : Nat} (h : c.decode cap bs = .ok (m, k)) :
    ViewsIn bs m := by
  obtain ⟨f, os, pay, _, hok, hd, rfl, _⟩ := decode_ok h
  exact ⟨hok.token_in, (decLoop_suffix hd).isInfix.trans hok.body_in,
    fun o ho => (decLoop_views hd o ho).trans hok.body_in⟩

end CoapVerif.Lemmas.Views
