import CoapVerif.Model.Framing
import CoapVerif.Spec.Framing
import CoapVerif.Lemmas.BigEndian
/-! The header parser of `Model/Framing.lean` as one case distinction over the RFC 8323 table (`decodeHeader_cons`, written with
the specification's `extBytes` / `declared`); its result depends only on the header bytes, so it is stable under appending more
bytes; the equations of `proc`. -/
namespace CoapVerif.Lemmas.Framing
open CoapVerif.Model.Framing CoapVerif.Generated.TcpFraming
open CoapVerif.Spec.Framing (extBytes bigEndian declared)
open CoapVerif.Lemmas.BigEndian

theorem bigEndian_eq_be : bigEndian = be := rfl

/-- the `switch` on the Len nibble is the RFC 8323 table; a nibble is below 16 (`hL`), so the `switch`'s fall-through
    (`some (1, 0)`) is never reached -/
theorem lenField_spec (L : Nat) (hL : L < 16) (rest : Bytes) :
    lenField L rest = if rest.length < extBytes L then none else some (1 + extBytes L, declared L (rest.take (extBytes L))) := by
  have hcases : L ≤ 12 ∨ L = 13 ∨ L = 14 ∨ L = 15 := by omega
  rcases hcases with h | rfl | rfl | rfl
  · simp [lenField, extBytes, declared, len13Base, h, Nat.lt_succ_of_le h]
  · cases rest with
    | nil => rfl
    | cons b r => show _ = some (2, be [b] + 13); rw [be_one, Nat.add_comm]; rfl
  · match rest with
    | [] => rfl
    | [x] => rfl
    | x :: y :: r => show _ = some (3, be [x, y] + 269); rw [be_two, Nat.add_comm]; rfl
  · match rest with
    | [] => rfl
    | [x] => rfl
    | [x, y] => rfl
    | [x, y, z] => rfl
    | x :: y :: z :: w :: r => show _ = some (5, be [x, y, z, w] + 65805); rw [be_four, Nat.add_comm]; rfl

theorem decodeHeader_cons (first : UInt8) (rest : Bytes) :
    decodeHeader (first :: rest) =
      if first.toNat % 16 > 8 then .invalid
      else if rest.length < extBytes (first.toNat / 16) then .short
      else if 1 + extBytes (first.toNat / 16) + 1 + first.toNat % 16 +
          declared (first.toNat / 16) (rest.take (extBytes (first.toNat / 16))) > 4294967295 then .invalid
      else if extBytes (first.toNat / 16) + 1 + first.toNat % 16 ≤ rest.length then
        .ok ⟨1 + extBytes (first.toNat / 16) + 1 + first.toNat % 16,
          1 + extBytes (first.toNat / 16) + 1 + first.toNat % 16 +
            declared (first.toNat / 16) (rest.take (extBytes (first.toNat / 16))),
          (rest.getD (extBytes (first.toNat / 16)) 0).toNat, first.toNat % 16⟩
      else .short := by
  have hL : first.toNat / 16 < 16 := by have := first.toNat_lt; omega
  unfold decodeHeader
  dsimp only
  -- the generated constants: the check is on, the largest token has 8 bytes
  rw [show (headerChecksTkl && decide (first.toNat % 16 > maxTokenSize)) = decide (first.toNat % 16 > 8) from rfl,
    lenField_spec _ hL]
  by_cases ht : first.toNat % 16 > 8
  · rw [if_pos (decide_eq_true ht), if_pos ht]
  rw [if_neg (mt of_decide_eq_true ht), if_neg ht]
  by_cases he : rest.length < extBytes (first.toNat / 16)
  · rw [if_pos he, if_pos he]
  rw [if_neg he, if_neg he]
  dsimp only
  unfold mkHdr
  rw [Nat.add_comm 1 (extBytes _), List.getD_cons_succ, List.length_cons]
  generalize extBytes (first.toNat / 16) = e
  generalize declared (first.toNat / 16) (rest.take e) = dl
  by_cases h32 : e + 1 + 1 + first.toNat % 16 + dl > 4294967295
  · rw [if_pos h32, if_pos h32]
  rw [if_neg h32, if_neg h32]
  by_cases hc : e + 1 + first.toNat % 16 ≤ rest.length
  · rw [if_neg (by omega), if_neg (by omega), if_pos hc]
  rw [if_neg hc]
  by_cases h1 : rest.length + 1 < e + 1 + 1
  · rw [if_pos h1]
  · rw [if_neg h1, if_pos (by omega)]

theorem decodeHeader_ok {first : UInt8} {rest : Bytes} {hd : Hdr} (h : decodeHeader (first :: rest) = .ok hd) :
    ¬ first.toNat % 16 > 8 ∧ extBytes (first.toNat / 16) + 1 + first.toNat % 16 ≤ rest.length ∧
    hd.msgLen ≤ 4294967295 ∧
    hd = ⟨1 + extBytes (first.toNat / 16) + 1 + first.toNat % 16,
      1 + extBytes (first.toNat / 16) + 1 + first.toNat % 16 + declared (first.toNat / 16) (rest.take (extBytes (first.toNat / 16))),
      (rest.getD (extBytes (first.toNat / 16)) 0).toNat, first.toNat % 16⟩ := by
  rw [decodeHeader_cons] at h
  by_cases ht : first.toNat % 16 > 8
  · rw [if_pos ht] at h; cases h
  by_cases he : rest.length < extBytes (first.toNat / 16)
  · rw [if_neg ht, if_pos he] at h; cases h
  rw [if_neg ht, if_neg he] at h
  by_cases h32 : 1 + extBytes (first.toNat / 16) + 1 + first.toNat % 16 +
      declared (first.toNat / 16) (rest.take (extBytes (first.toNat / 16))) > 4294967295
  · rw [if_pos h32] at h; cases h
  by_cases hc : extBytes (first.toNat / 16) + 1 + first.toNat % 16 ≤ rest.length
  · rw [if_neg h32, if_pos hc] at h
    cases h
    exact ⟨ht, hc, Nat.le_of_not_gt h32, rfl⟩
  · rw [if_neg h32, if_neg hc] at h; cases h

theorem decodeHeader_len {bs : Bytes} {hd : Hdr} (h : decodeHeader bs = .ok hd) :
    hd.len ≤ bs.length ∧ hd.len ≤ hd.msgLen := by
  cases bs with
  | nil => cases h
  | cons first r =>
    obtain ⟨_, hc, _, rfl⟩ := decodeHeader_ok h
    exact ⟨by simp only [List.length_cons]; omega, Nat.le_add_right _ _⟩

theorem decodeHeader_prefix {bs bs' : Bytes} {hd : Hdr} (h : decodeHeader bs = .ok hd)
    (hp : bs'.take hd.len = bs.take hd.len) : decodeHeader bs' = .ok hd := by
  cases bs with
  | nil => cases h
  | cons first r =>
    obtain ⟨ht, hc, h32, rfl⟩ := decodeHeader_ok h
    rw [show 1 + extBytes (first.toNat / 16) + 1 + first.toNat % 16 = extBytes (first.toNat / 16) + 1 + first.toNat % 16 + 1
      by omega, List.take_succ_cons] at hp
    cases bs' with
    | nil => cases hp
    | cons first' r' =>
      rw [List.take_succ_cons, List.cons.injEq] at hp
      obtain ⟨rfl, hp⟩ := hp
      rw [decodeHeader_cons, if_neg ht]
      generalize extBytes (first'.toNat / 16) = e at *
      generalize first'.toNat % 16 = k at *
      have hlen : e + 1 + k ≤ r'.length := by
        have := congrArg List.length hp
        rw [List.length_take, List.length_take] at this
        omega
      have htt : r'.take e = r.take e := by
        have := congrArg (List.take e) hp
        rwa [List.take_take, List.take_take, Nat.min_eq_left (by omega)] at this
      have hg : r'.getD e 0 = r.getD e 0 := by
        have := congrArg (fun l => l[e]?.getD 0) hp
        simpa only [List.getElem?_take, if_pos (show e < e + 1 + k by omega), ← List.getD_eq_getElem?_getD] using this
      rw [htt, hg, if_neg (by omega), if_neg (Nat.not_lt.mpr h32), if_pos hlen]

theorem decodeHeader_take {bs : Bytes} {hd : Hdr} {n : Nat} (h : decodeHeader bs = .ok hd) (hn : hd.len ≤ n) :
    decodeHeader (bs.take n) = .ok hd :=
  decodeHeader_prefix h (by rw [List.take_take, Nat.min_eq_left hn])

/-- `ErrShortRead` is the one answer of `DecodeHeader` that more bytes can change -/
theorem decodeHeader_append {bs : Bytes} {r : HdrRes} (c : Bytes) (e : decodeHeader bs = r) (h : r ≠ .short) :
    decodeHeader (bs ++ c) = r := by
  cases r with
  | short => exact absurd rfl h
  | ok hd => exact decodeHeader_prefix e (List.take_append_of_le_length (decodeHeader_len e).1)
  | invalid =>
    cases bs with
    | nil => cases e
    | cons first rest =>
      rw [decodeHeader_cons] at e
      rw [List.cons_append, decodeHeader_cons]
      by_cases ht : first.toNat % 16 > 8
      · rw [if_pos ht]
      by_cases he : rest.length < extBytes (first.toNat / 16)
      · rw [if_neg ht, if_pos he] at e; cases e
      rw [if_neg ht, if_neg he] at e
      rw [if_neg ht, if_neg (by rw [List.length_append]; omega), List.take_append_of_le_length (Nat.le_of_not_lt he)]
      split at e
      · rw [if_pos ‹_›]
      · split at e <;> cases e

/-- `proc` unfolded once; its definition binds the header equation for the termination proof, so `rw [proc]` alone leaves
    a `match` that a known header cannot be rewritten into -/
theorem proc_eq (max : Nat) (buf : Bytes) (out : List Msg) :
    proc max buf out =
      match decodeHeader buf with
      | .short => ⟨buf, out, false⟩
      | .invalid => ⟨buf, out, true⟩
      | .ok hd =>
        if hd.msgLen > max then ⟨buf, out, true⟩
        else if buf.length < hd.msgLen then ⟨buf, out, false⟩
        else match decodeFrame (buf.take hd.msgLen) with
          | none => ⟨buf, out, true⟩
          | some m => proc max (buf.drop hd.msgLen) (out ++ [m]) := by
  rw [proc]
  split <;> rename_i h <;> rw [h] <;> rfl

theorem run_singleton (max : Nat) (bs : Bytes) : run max [bs] = proc max bs [] := by
  simp [run, feed, init]

end CoapVerif.Lemmas.Framing
