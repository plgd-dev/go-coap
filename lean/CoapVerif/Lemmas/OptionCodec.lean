import CoapVerif.Lemmas.Slices
import CoapVerif.Lemmas.LengthClasses
import CoapVerif.Lemmas.Bits
/-!
Decoder side of the option codec.  A model file, `Model/PoolRetry.lean`, imports this file (through
`Lemmas/CoderDecode.lean`) for the termination argument of the capacity retry.

A delta/length field has exactly one encoding (`decExt_iff`), so an accepted option is its RFC encoding
(`decOpt_iff`).  The checked-slicing loop `unmarshalLoop` is characterised by the list-level function
`decLoop` (no slicing, no processed counter): `unmarshalLoop_eq`.  `decLoop` appends `keepOpt` of each option, the 0 or 1
options that `Option.Unmarshal` and the `ID != 0` test leave of it (the decoder's leniency).  Later theorems about decoding
are proved on `decLoop`: facts about what it accepts by induction over an accepting run, every option in its RFC
encoding (`decLoop_ok_induct`), facts about its failures from `decLoop_error`, facts about all runs from the unfolding
`decLoop_cons`; `decLoop` has no `Err.panic` branch, so the no-panic theorems follow.  The list-level functions spell the
regenerated constants of `Generated/CodecConsts.lean` as literals (13, 14, 15, 269, 65535); `parseExtOpt_eq` and `unmarshalLoop_eq`
unfold the constants, and are where a regenerated value would break.
-/
namespace CoapVerif.Lemmas.OptionCodec
open CoapVerif.Generated.Codec
open CoapVerif.Spec.Wire
open CoapVerif.Model.OptionCodec CoapVerif.Lemmas.LengthClasses CoapVerif.Lemmas.Slices

theorem sliceFromP_ok {b : Bytes} {i : Nat} (h : i ≤ b.length) : sliceFromP b i = .ok ⟨b.drop i, rfl⟩ := by
  simp [sliceFromP, h]

theorem sliceFromP_cons1 (b : UInt8) (t : Bytes) : sliceFromP (b :: t) 1 = .ok ⟨t, rfl⟩ := by
  simp [sliceFromP]

theorem sliceFromP_append (p r : Bytes) :
    sliceFromP (p ++ r) ((p ++ r).length - r.length) = .ok ⟨r, by simp⟩ := by
  simp [sliceFromP]

/-- List-level `parseExtOpt`: value and remaining bytes of a delta/length field with nibble `nib`.  Nibble 15 falls
through to `.ok (15, bs)` as in the source (`decOpt` has refused it before), hence `n < 15` in `decExt_iff`. -/
def decExt (nib : Nat) (bs : Bytes) : Except Err (Nat × Bytes) :=
  if nib = 13 then
    match bs with
    | b :: r => .ok (b.toNat + 13, r)
    | [] => .error .optTruncated
  else if nib = 14 then
    match bs with
    | b0 :: b1 :: r => .ok (b0.toNat * 256 + b1.toNat + 269, r)
    | _ => .error .optTruncated
  else .ok (nib, bs)

theorem parseExtOpt_eq (data : Bytes) (opt : Nat) :
    parseExtOpt data opt =
      match decExt opt data with
      | .error e => .error e
      | .ok (v, r) => .ok (data.length - r.length, v) := by
  unfold parseExtOpt decExt
  simp only [extByteCode, extWordCode, extByteAddend, extWordAddend]
  by_cases h13 : opt = 13
  · subst h13
    cases data with
    | nil => simp
    | cons b t => simp [bind, Except.bind]
  · by_cases h14 : opt = 14
    · subst h14
      cases data with
      | nil => simp
      | cons b0 t =>
        cases t with
        | nil => simp
        | cons b1 t =>
          have : ¬ (t.length + 1 + 1 < 2) := by omega
          simp [bind, Except.bind, sliceTo, getU16, this]
          omega
    · simp [h13, h14]

theorem decExt_err {nib : Nat} {bs : Bytes} {e : Err} (h : decExt nib bs = .error e) : e = .optTruncated := by
  unfold decExt at h
  split at h
  · split at h
    · cases h
    · cases h; rfl
  · split at h
    · split at h
      · cases h
      · cases h; rfl
    · cases h

/-- The extension codec is a bijection between the values up to 65804 and (nibble below 15, extension bytes). -/
theorem decExt_iff {n : Nat} {t r : Bytes} {v : Nat} (hn : n < 15) :
    decExt n t = .ok (v, r) ↔ v ≤ 65804 ∧ n = nib v ∧ t = ext v ++ r := by
  constructor
  · intro h
    unfold decExt at h
    split at h
    · split at h
      · rename_i b _
        cases h
        have := b.toNat_lt
        exact ⟨by omega, ‹n = 13›.trans (nib_ext_byte b).1.symm, by rw [(nib_ext_byte b).2]; rfl⟩
      · cases h
    split at h
    · split at h
      · rename_i b0 b1 _
        cases h
        have := b0.toNat_lt
        have := b1.toNat_lt
        exact ⟨by omega, ‹n = 14›.trans (nib_ext_word b0 b1).1.symm, by rw [(nib_ext_word b0 b1).2]; rfl⟩
      · cases h
    · cases h
      have h12 : n ≤ 12 := by omega
      exact ⟨by omega, by rw [nib, if_pos h12], by rw [ext, if_pos h12]; rfl⟩
  · rintro ⟨hv, rfl, rfl⟩
    unfold decExt
    rcases nib_ext_cases v with ⟨h1, hn, he⟩ | ⟨h1, h2, hn, he⟩ | ⟨h1, hn, he⟩ <;> rw [hn, he]
    · rw [if_neg (by omega), if_neg (by omega)]; rfl
    · show Except.ok ((UInt8.ofNat (v - 13)).toNat + 13, r) = _
      rw [toNat_ofNat_lt (by omega), Nat.sub_add_cancel h1]
    · show Except.ok ((UInt8.ofNat ((v - 269) / 256)).toNat * 256 + (UInt8.ofNat ((v - 269) % 256)).toNat + 269, r) = _
      rw [be16_toNat (by omega), Nat.sub_add_cancel h1]

/-- One option at the head of an option area (first byte `b`, not the marker): delta, value, the bytes behind it. -/
def decOpt (b : UInt8) (t : Bytes) : Except Err (Nat × Bytes × Bytes) :=
  if b.toNat / 16 = 15 ∨ b.toNat % 16 = 15 then .error .optExtMarker else
  match decExt (b.toNat / 16) t with
  | .error e => .error e
  | .ok (delta, t1) =>
    match decExt (b.toNat % 16) t1 with
    | .error e => .error e
    | .ok (len, t2) => if t2.length < len then .error .optTruncated else .ok (delta, t2.take len, t2.drop len)

/-- An option is accepted iff its bytes are its RFC encoding; `⟨d, v⟩` is an `Opt` that holds the delta in its `id` field,
encoded after the option number 0. -/
theorem decOpt_iff {b : UInt8} {t v rest : Bytes} {d : Nat} :
    decOpt b t = .ok (d, v, rest) ↔ d ≤ 65804 ∧ v.length ≤ 65804 ∧ b :: t = encOpt 0 ⟨d, v⟩ ++ rest := by
  unfold decOpt encOpt
  constructor
  · intro h
    split at h
    · cases h
    rename_i hm
    obtain ⟨hd15, hl15⟩ := nibbles_lt b.toNat_lt hm
    split at h
    · cases h
    rename_i delta t1 hd
    split at h
    · cases h
    rename_i len t2 hl
    split at h
    · cases h
    rename_i hlen
    cases h
    obtain ⟨hdv, hdn, rfl⟩ := (decExt_iff hd15).mp hd
    obtain ⟨hlv, hln, rfl⟩ := (decExt_iff hl15).mp hl
    have hlen' : (t2.take len).length = len := List.length_take_of_le (Nat.le_of_not_lt hlen)
    refine ⟨hdv, by omega, ?_⟩
    simp only [Nat.sub_zero, hlen', ← hdn, ← hln, ofNat_nibbles, List.cons_append, List.append_assoc, List.take_append_drop]
  · rintro ⟨hd, hv, h⟩
    simp only [Nat.sub_zero, List.cons_append, List.append_assoc, List.cons.injEq] at h
    obtain ⟨rfl, rfl⟩ := h
    obtain ⟨e1, e2⟩ := nibbles_toNat (Nat.lt_succ_of_lt (nib_lt d)) (Nat.lt_succ_of_lt (nib_lt v.length))
    have := nib_lt d
    have := nib_lt v.length
    rw [e1, e2, if_neg (by omega), (decExt_iff (nib_lt d)).mpr ⟨hd, rfl, rfl⟩]
    dsimp only
    rw [(decExt_iff (nib_lt v.length)).mpr ⟨hv, rfl, rfl⟩]
    dsimp only
    rw [if_neg (by simp), List.take_left' rfl, List.drop_left' rfl]

theorem decOpt_error {b : UInt8} {t : Bytes} {e : Err} (h : decOpt b t = .error e) : e = .optExtMarker ∨ e = .optTruncated := by
  unfold decOpt at h
  split at h
  · cases h; exact .inl rfl
  split at h
  · cases h; exact .inr (decExt_err ‹_›)
  split at h
  · cases h; exact .inr (decExt_err ‹_›)
  split at h
  · cases h; exact .inr rfl
  · cases h

/-- The header byte alone makes the rest shorter than the input. -/
theorem decOpt_len {b : UInt8} {t v rest : Bytes} {d : Nat} (h : decOpt b t = .ok (d, v, rest)) :
    rest.length < (b :: t).length := by
  rw [(decOpt_iff.mp h).2.2, encOpt, List.length_append, List.length_cons]
  omega

/-- What `Option.Unmarshal` + the `ID != 0` test keep of an option: `none` = dropped. -/
def keepOpt (defs : Defs) (id : Nat) (v : Bytes) : Option Opt :=
  if (optionUnmarshal v defs id).1.id ≠ 0 then some (optionUnmarshal v defs id).1 else none

theorem optionUnmarshal_snd (v : Bytes) (defs : Defs) (id : Nat) : (optionUnmarshal v defs id).2 = v.length := by
  unfold optionUnmarshal
  split
  · split
    · rfl
    · dsimp only
      split <;> rfl
  · rfl

theorem optionUnmarshal_fst (v : Bytes) (defs : Defs) (id : Nat) :
    (optionUnmarshal v defs id).1 = ⟨id, v⟩ ∨ (optionUnmarshal v defs id).1 = ⟨0, []⟩ := by
  unfold optionUnmarshal
  split
  · split
    · exact .inr rfl
    · dsimp only
      split
      · exact .inr rfl
      · exact .inl rfl
  · exact .inl rfl

theorem keepOpt_some {defs : Defs} {id : Nat} {v : Bytes} {o : Opt} (h : keepOpt defs id v = some o) : o = ⟨id, v⟩ := by
  unfold keepOpt at h
  split at h
  · rename_i hne
    cases h
    rcases optionUnmarshal_fst v defs id with e | e
    · exact e
    · rw [e] at hne; exact absurd rfl hne
  · cases h

/-- List-level reading of the loop of `Options.Unmarshal`: options appended and the bytes after the
payload marker (or `[]`). -/
def decLoop (defs : Defs) (cap n prev : Nat) (bs : Bytes) : Except Err (List Opt × Bytes) :=
  match bs with
  | [] => .ok ([], [])
  | b :: t =>
    if b = 0xff then .ok ([], t) else
    match _h : decOpt b t with
    | .error e => .error e
    | .ok (delta, v, t') =>
      if prev + delta > 65535 then .error .optOverflow
      else if cap = n then .error .optCap
      else
        match decLoop defs cap (n + (keepOpt defs (prev + delta) v).toList.length) (prev + delta) t' with
        | .error e => .error e
        | .ok (os, rest) => .ok ((keepOpt defs (prev + delta) v).toList ++ os, rest)
termination_by bs.length
decreasing_by exact decOpt_len _h

theorem decLoop_nil (defs : Defs) (cap n prev : Nat) : decLoop defs cap n prev [] = .ok ([], []) := by
  rw [decLoop]

/-- Unfolding of `decLoop` without the equation binder. -/
theorem decLoop_cons (defs : Defs) (cap n prev : Nat) (b : UInt8) (t : Bytes) :
    decLoop defs cap n prev (b :: t) =
      if b = 0xff then .ok ([], t) else
      match decOpt b t with
      | .error e => .error e
      | .ok (delta, v, t') =>
        if prev + delta > 65535 then .error .optOverflow
        else if cap = n then .error .optCap
        else
          match decLoop defs cap (n + (keepOpt defs (prev + delta) v).toList.length) (prev + delta) t' with
          | .error e => .error e
          | .ok (os, rest) => .ok ((keepOpt defs (prev + delta) v).toList ++ os, rest) := by
  rw [decLoop]
  cases decOpt b t with
  | error e => rfl
  | ok r => rfl

/-- Induction over an accepting run of `decLoop`, which hands out every option, kept or dropped, in its RFC encoding. -/
theorem decLoop_ok_induct {defs : Defs} {cap : Nat} {P : Nat → Nat → Bytes → List Opt → Bytes → Prop}
    (nil : ∀ n prev, P n prev [] [] [])
    (marker : ∀ n prev t, P n prev (0xff :: t) [] t)
    (opt : ∀ n prev (o : Opt) bs' os rest, prev ≤ o.id → o.id ≤ 65535 → o.val.length ≤ 65804 → cap ≠ n →
      decLoop defs cap (n + (keepOpt defs o.id o.val).toList.length) o.id bs' = .ok (os, rest) →
      P (n + (keepOpt defs o.id o.val).toList.length) o.id bs' os rest →
      P n prev (encOpt prev o ++ bs') ((keepOpt defs o.id o.val).toList ++ os) rest)
    {n prev : Nat} {bs : Bytes} {os : List Opt} {rest : Bytes} (h : decLoop defs cap n prev bs = .ok (os, rest)) :
    P n prev bs os rest := by
  fun_induction decLoop defs cap n prev bs generalizing os rest with
  | case1 => cases h; exact nil _ _
  | case2 => cases h; exact marker _ _ _
  | case3 | case4 | case5 | case6 => cases h
  | case7 n prev b t _ delta v t' hd hov hc os' rest' hrec ih =>
    cases h
    have := opt n prev ⟨prev + delta, v⟩ t' os' rest' (Nat.le_add_right _ _) (Nat.le_of_not_lt hov) (decOpt_iff.mp hd).2.1 hc
      hrec (ih hrec)
    rwa [show encOpt prev ⟨prev + delta, v⟩ = encOpt 0 ⟨delta, v⟩ by simp [encOpt], ← (decOpt_iff.mp hd).2.2] at this

theorem decLoop_suffix {defs : Defs} {cap n prev : Nat} {bs : Bytes} {os : List Opt} {rest : Bytes}
    (h : decLoop defs cap n prev bs = .ok (os, rest)) : rest <:+ bs := by
  refine decLoop_ok_induct (P := fun _ _ bs _ rest => rest <:+ bs) ?_ ?_ ?_ h
  · exact fun _ _ => List.suffix_rfl
  · exact fun _ _ t => List.suffix_cons _ t
  · exact fun _ _ _ _ _ _ _ _ _ _ _ ih => ih.trans (List.suffix_append _ _)

/-- The errors of `decLoop`; it reports `ErrOptionsTooSmall` only when the capacity is below the options already
held plus the number of bytes left, since every kept option consumed at least its header byte. -/
theorem decLoop_error {defs : Defs} {cap n prev : Nat} {bs : Bytes} {e : Err} (h : decLoop defs cap n prev bs = .error e) :
    e = .optExtMarker ∨ e = .optTruncated ∨ e = .optOverflow ∨ (e = .optCap ∧ (n ≤ cap → cap < n + bs.length)) := by
  fun_induction decLoop defs cap n prev bs with
  | case1 | case2 => cases h
  | case3 _ _ _ _ _ e' hd => cases h; exact (decOpt_error hd).elim .inl (.inr ∘ .inl)
  | case4 => cases h; exact .inr (.inr (.inl rfl))
  | case5 => cases h; exact .inr (.inr (.inr ⟨rfl, fun _ => by rw [List.length_cons]; omega⟩))
  | case6 n prev b t _ delta v t' hd _ hc e' hrec ih =>
    cases h
    refine (ih hrec).imp id (.imp id (.imp id fun ⟨he, hcap⟩ => ⟨he, fun hn => ?_⟩))
    have hk : (keepOpt defs (prev + delta) v).toList.length ≤ 1 := Option.length_toList_le
    have := decOpt_len hd
    have := hcap (by omega)
    omega
  | case7 => cases h

theorem decLoop_no_panic {defs : Defs} {cap n prev : Nat} {bs : Bytes} : decLoop defs cap n prev bs ≠ .error .panic := by
  intro h
  rcases decLoop_error h with h | h | h | ⟨h, _⟩ <;> cases h

theorem decLoop_optCap {defs : Defs} {cap n prev : Nat} {bs : Bytes}
    (h : decLoop defs cap n prev bs = .error .optCap) (hn : n ≤ cap) : cap < n + bs.length := by
  rcases decLoop_error h with h | h | h | ⟨_, h⟩
  · cases h
  · cases h
  · cases h
  · exact h hn

/-- The last step of `unmarshalLoop_eq`: the counter of `unmarshalLoop` after one option and the recursive call, against
the input length minus the rest.  `eD`, `eL`: lengths of the two extensions; `t2`: of what follows them (value, then the
`pre` bytes the recursive call consumes, then the `rest` it leaves). -/
theorem consumed_add {eD eL t2 k pre rest : Nat} (processed : Nat) (ht : t2 = pre + rest + k) :
    processed + 1 + (eD + (eL + t2) - (eL + t2)) + (eL + t2 - t2) + k + (t2 - k - rest) =
      processed + (eD + (eL + t2) + 1 - rest) := by
  subst ht
  rw [Nat.add_sub_cancel, Nat.add_sub_cancel, Nat.add_sub_cancel, Nat.add_sub_cancel]
  omega

theorem unmarshalLoop_eq (defs : Defs) (cap n prev processed : Nat) (data : Bytes) :
    unmarshalLoop defs cap n prev processed data =
      match decLoop defs cap n prev data with
      | .error e => .error e
      | .ok (os, rest) => .ok (os, processed + (data.length - rest.length)) := by
  induction hl : data.length using Nat.strongRecOn generalizing n prev processed data with
  | _ len ih =>
    subst hl
    rw [unmarshalLoop.eq_def]
    cases data with
    | nil => simp [decLoop_nil]
    | cons b t =>
      rw [decLoop_cons, decOpt]
      simp only [List.length_cons, gt_iff_lt, Nat.zero_lt_succ, ↓reduceDIte, idx_cons_zero]
      by_cases hff : b = 0xff
      · simp [hff]
      · simp only [hff, ↓reduceIte, toNat_shr4, toNat_and15, extError]
        by_cases hm : b.toNat / 16 = 15 ∨ b.toNat % 16 = 15
        · simp [hm]
        · simp only [hm, ↓reduceIte, sliceFromP_cons1, parseExtOpt_eq]
          obtain ⟨hd15, hl15⟩ := nibbles_lt b.toNat_lt hm
          cases hd : decExt (b.toNat / 16) t with
          | error e => simp
          | ok r1 =>
            obtain ⟨delta, t1⟩ := r1
            -- The model slices at offsets `len(data) - len(rest)`.  Writing the input as `ext delta ++ (ext len' ++ t2)`
            -- (by `decExt_iff`, here and for the length below) turns each into `(p ++ r).length - r.length`, which
            -- `sliceFromP_append` computes.
            obtain ⟨-, -, rfl⟩ := (decExt_iff hd15).mp hd
            simp only [sliceFromP_append]
            cases hl2 : decExt (b.toNat % 16) t1 with
            | error e => simp
            | ok r2 =>
              obtain ⟨len', t2⟩ := r2
              obtain ⟨-, -, rfl⟩ := (decExt_iff hl15).mp hl2
              simp only [sliceFromP_append, maxOptionID]
              by_cases hlen : t2.length < len'
              · simp [hlen]
              · simp only [hlen, ↓reduceIte]
                by_cases hov : prev + delta > 65535
                · simp [hov]
                · simp only [hov, ↓reduceIte]
                  rw [sliceTo_ok (by omega)]
                  by_cases hc : cap = n
                  · simp [hc]
                  · simp only [hc, ↓reduceIte]
                    unfold keepOpt
                    have hs := optionUnmarshal_snd (List.take len' t2) defs (prev + delta)
                    rw [List.length_take, Nat.min_eq_left (Nat.le_of_not_lt hlen)] at hs
                    generalize optionUnmarshal (List.take len' t2) defs (prev + delta) = ou at hs ⊢
                    obtain ⟨o, k⟩ := ou
                    subst hs
                    dsimp only
                    rw [sliceFromP_ok (Nat.le_of_not_lt hlen)]
                    have hlt : (t2.drop k).length < (b :: (ext delta ++ (ext k ++ t2))).length := by
                      simp; omega
                    dsimp only
                    rw [ih _ hlt _ _ _ _ rfl]
                    have hn : n + (if o.id ≠ 0 then some o else none).toList.length = if o.id ≠ 0 then n + 1 else n := by
                      by_cases h : o.id ≠ 0 <;> simp [h]
                    rw [hn]
                    cases hrec : decLoop defs cap (if o.id ≠ 0 then n + 1 else n) (prev + delta) (List.drop k t2) with
                    | error e => rfl
                    | ok r =>
                      obtain ⟨os, rest⟩ := r
                      obtain ⟨pre, hpre⟩ := decLoop_suffix hrec
                      have hlen3 := congrArg List.length hpre.symm
                      simp only [List.length_append, List.length_drop] at hlen3 ⊢
                      have : (if o.id ≠ 0 then o :: os else os) = (if o.id ≠ 0 then some o else none).toList ++ os := by
                        by_cases h : o.id ≠ 0 <;> simp [h]
                      simp only [Except.ok.injEq, Prod.mk.injEq, this, true_and]
                      exact consumed_add _ (Nat.eq_add_of_sub_eq (Nat.le_of_not_lt hlen) hlen3)

/-- `Options.Unmarshal` returns the options of `decLoop` and counts the bytes in front of its rest. -/
theorem optionsUnmarshal_eq (defs : Defs) (cap n : Nat) (data : Bytes) :
    optionsUnmarshal defs cap n data =
      match decLoop defs cap n 0 data with
      | .error e => .error e
      | .ok (os, rest) => .ok (os, data.length - rest.length) := by
  simp only [optionsUnmarshal, unmarshalLoop_eq, Nat.zero_add]

/-- The `data[proc:]` both coders take after `Options.Unmarshal` is the rest of `decLoop`. -/
theorem sliceFrom_rest {defs : Defs} {cap n prev : Nat} {data : Bytes} {os : List Opt} {rest : Bytes}
    (h : decLoop defs cap n prev data = .ok (os, rest)) : sliceFrom data (data.length - rest.length) = .ok rest := by
  obtain ⟨pre, rfl⟩ := decLoop_suffix h
  simp [sliceFrom]

theorem unmarshalLoop_optCap (defs : Defs) (cap n prev processed : Nat) (data : Bytes)
    (h : unmarshalLoop defs cap n prev processed data = .error .optCap) (hn : n ≤ cap) :
    cap < n + data.length := by
  rw [unmarshalLoop_eq] at h
  split at h
  · rename_i e he; cases h; exact decLoop_optCap he hn
  · cases h

theorem unmarshalLoop_no_panic (defs : Defs) (cap n prev processed : Nat) (data : Bytes) :
    unmarshalLoop defs cap n prev processed data ≠ .error .panic := by
  rw [unmarshalLoop_eq]
  intro h
  split at h
  · rename_i e he; cases h; exact decLoop_no_panic he
  · cases h

end CoapVerif.Lemmas.OptionCodec
