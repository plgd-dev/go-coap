import CoapVerif.Lemmas.RouterSpec
import CoapVerif.Spec.RouterPrefer
/-!
# C17 lemmas — `Spec/RouterPrefer.lean` alone: parse trees and the preference order

* `isParse_lang`, `lang_isParse` : the words that have a parse tree are the words of `Lang`.
* `better_irrefl`, `better_asymm` : no reading is preferred to itself, and two readings cannot each be preferred to the other.
* `isParse_length` : a parse tree fixes the length of the word it reads.
* `wordPref_cat_eps` : a trailing `ε` in a pattern does not change the preference order on its words.
* `lexPref_antisymm` / `chosen_unique` : two decompositions of the same path that are each preferred to the other are
  equal — THE chosen decomposition.
* `mem_parsesOf`, `betterB_iff`, `wordPrefB_iff`, `lexPrefB_iff`, `chosen_iff` : the executable forms used by the judge
  are exact.
* `delimited_unique` : when every variable is followed by a literal whose first character its pattern excludes, the path has
  at most one decomposition.
-/
namespace CoapVerif.Lemmas.Router
open CoapVerif.Model.Router (Str Pat ClsItem clsHas)
open CoapVerif.Spec.Router

theorem isParse_lang {p : Pat} {t : PTree} {w : Str} (h : IsParse p t w) : Lang p w := by
  induction h with
  | eps => exact .eps
  | chr c => exact .chr c
  | cls n it c hc => exact .cls n it c hc
  | cat _ _ iha ihb => exact .cat iha ihb
  | altL _ ih => exact .altL ih
  | altR _ ih => exact .altR ih
  | starNil => exact .starNil
  | starCons _ _ _ iha ihs => exact .starCons iha ihs

theorem lang_isParse {p : Pat} {w : Str} (h : Lang p w) : ∃ t, IsParse p t w := by
  induction h with
  | eps => exact ⟨_, .eps⟩
  | chr c => exact ⟨_, .chr c⟩
  | cls n it c hc => exact ⟨_, .cls n it c hc⟩
  | cat _ _ iha ihb =>
    obtain ⟨x, hx⟩ := iha
    obtain ⟨y, hy⟩ := ihb
    exact ⟨_, .cat hx hy⟩
  | altL _ ih => obtain ⟨x, hx⟩ := ih; exact ⟨_, .altL hx⟩
  | altR _ ih => obtain ⟨x, hx⟩ := ih; exact ⟨_, .altR hx⟩
  | starNil => exact ⟨_, .starNil⟩
  | @starCons a g u v _ _ iha ihs =>
    obtain ⟨x, hx⟩ := iha
    obtain ⟨xs, hxs⟩ := ihs
    cases u with
    | nil => exact ⟨xs, by simpa using hxs⟩  -- `IsParse` has no empty rounds: the round is dropped
    | cons d u' => exact ⟨_, .starCons hx (by simp) hxs⟩

theorem better_irrefl (p : Pat) (t : PTree) : ¬ Better p t t := by
  induction t generalizing p with
  | leaf => intro h; cases h
  | pair x y ihx ihy =>
    intro h
    cases h with
    | catL h' => exact ihx _ h'
    | catR h' => exact ihy _ h'
  | inl x ih => intro h; cases h with | altL h' => exact ih _ h'
  | inr y ih => intro h; cases h with | altR h' => exact ih _ h'
  | nil => intro h; cases h
  | cons x xs ihx ihxs =>
    intro h
    cases h with
    | starH h' => exact ihx _ h'
    | starT h' => exact ihxs _ h'

theorem better_asymm {p : Pat} {t t' : PTree} (h : Better p t t') : ¬ Better p t' t := by
  induction h with
  | catL hx ih =>
    intro h2
    cases h2 with
    | catL h' => exact ih h'
    | catR _ => exact better_irrefl _ _ hx
  | catR hy ih =>
    intro h2
    cases h2 with
    | catL h' => exact better_irrefl _ _ h'
    | catR h' => exact ih h'
  | altLR => intro h2; cases h2
  | altL _ ih => intro h2; cases h2 with | altL h' => exact ih h'
  | altR _ ih => intro h2; cases h2 with | altR h' => exact ih h'
  | greedy => intro h2; cases h2
  | lazy => intro h2; cases h2
  | starH hx ih =>
    intro h2
    cases h2 with
    | starH h' => exact ih h'
    | starT _ => exact better_irrefl _ _ hx
  | starT hxs ih =>
    intro h2
    cases h2 with
    | starH h' => exact better_irrefl _ _ h'
    | starT h' => exact ih h'

theorem isParse_length {p : Pat} {t : PTree} {w : Str} (h : IsParse p t w) :
    ∀ {w' : Str}, IsParse p t w' → w.length = w'.length := by
  induction h with
  | eps => intro w' h'; cases h'; rfl
  | chr c => intro w' h'; cases h'; rfl
  | cls n it c hc => intro w' h'; cases h'; rfl
  | cat _ _ iha ihb =>
    intro w' h'
    cases h' with
    | cat ha hb => simp only [List.length_append, iha ha, ihb hb]
  | altL _ ih => intro w' h'; cases h' with | altL h1 => exact ih h1
  | altR _ ih => intro w' h'; cases h' with | altR h1 => exact ih h1
  | starNil => intro w' h'; cases h'; rfl
  | starCons _ _ _ iha ihs =>
    intro w' h'
    cases h' with
    | starCons ha _ hs => simp only [List.length_append, iha ha, ihs hs]

/-- preference both ways only gives the two words the same LENGTH (their best parse trees coincide, and a tree fixes the
    length: `isParse_length`); that they start at the same place of the path (`hcommon`) makes them the same word -/
theorem wordPref_antisymm {p : Pat} {u u' w w' : Str} (hcommon : u ++ w = u' ++ w')
    (h1 : WordPref p u u') (h2 : WordPref p u' u) : u = u' := by
  obtain ⟨t, ht, hbest⟩ := h1
  obtain ⟨t', ht', hbest'⟩ := h2
  have hlen : u.length = u'.length := by
    rcases hbest t' ht' with heq | hb
    · subst heq; exact isParse_length ht ht'
    · rcases hbest' t ht with heq | hb'
      · subst heq; exact isParse_length ht ht'
      · exact (better_asymm hb hb').elim
  exact (List.append_inj hcommon hlen).1

theorem isParse_cat_eps {p : Pat} {t : PTree} {w : Str} :
    IsParse (.cat p .eps) t w ↔ ∃ x, t = .pair x .leaf ∧ IsParse p x w := by
  constructor
  · intro h
    cases h with
    | @cat _ _ x y u v hu hv =>
      cases hv
      exact ⟨x, rfl, by simpa using hu⟩
  · rintro ⟨x, rfl, hx⟩
    have := IsParse.cat hx IsParse.eps
    simpa using this

theorem better_cat_eps {p : Pat} {x x' : PTree} :
    Better (.cat p .eps) (.pair x .leaf) (.pair x' .leaf) ↔ Better p x x' := by
  constructor
  · intro h
    cases h with
    | catL h' => exact h'
    | catR h' => cases h'
  · exact fun h => .catL h

theorem wordPref_cat_eps (p : Pat) (u u' : Str) : WordPref (.cat p .eps) u u' ↔ WordPref p u u' := by
  simp only [WordPref, BetterEq, isParse_cat_eps, forall_exists_index, and_imp]
  constructor
  · rintro ⟨_, ⟨x, rfl, hx⟩, hbest⟩
    exact ⟨x, hx, fun x' hx' => by simpa only [PTree.pair.injEq, and_true, better_cat_eps] using hbest _ x' rfl hx'⟩
  · rintro ⟨x, hx, hbest⟩
    refine ⟨_, ⟨x, rfl, hx⟩, ?_⟩
    rintro _ x' rfl hx'
    simpa only [PTree.pair.injEq, and_true, better_cat_eps] using hbest x' hx'

theorem lexPref_refl : ∀ (segs : List Seg) (b : List (Str × Str)), LexPref segs b b
  | [], _ => by simp [LexPref]
  | .lit _ :: r, b => by simp only [LexPref]; exact lexPref_refl r b
  | .var _ _ :: _, [] => by simp [LexPref]
  | .var _ _ :: r, (_, _) :: b => by
    simp only [LexPref]
    exact ⟨fun _ => lexPref_refl r b, fun h => (h rfl).elim⟩

theorem lexPref_antisymm : ∀ (segs : List Seg) (w : Str) (b b' : List (Str × Str)),
    TplMatches segs w b → TplMatches segs w b' → LexPref segs b b' → LexPref segs b' b → b = b' := by
  intro segs
  induction segs with
  | nil =>
    intro w b b' h h' _ _
    cases h; cases h'; rfl
  | cons sg r ih =>
    intro w b b' h h' hp hp'
    cases sg with
    | lit s =>
      obtain ⟨w1, rfl, h1⟩ := tpl_lit_iff.1 h
      obtain ⟨w2, e2, h2⟩ := tpl_lit_iff.1 h'
      have := List.append_cancel_left e2
      subst this
      simp only [LexPref] at hp hp'
      exact ih _ _ _ h1 h2 hp hp'
    | var n p =>
      obtain ⟨v, w1, b1, rfl, rfl, _, h1⟩ := tpl_var_iff.1 h
      obtain ⟨v', w2, b2, e2, rfl, _, h2⟩ := tpl_var_iff.1 h'
      simp only [LexPref] at hp hp'
      have hv : v = v' :=
        Decidable.byContradiction fun hvv => hvv (wordPref_antisymm e2 (hp.2 hvv) (hp'.2 (Ne.symm hvv)))
      subst hv
      have := List.append_cancel_left e2
      subst this
      rw [ih _ _ _ h1 h2 (hp.1 rfl) (hp'.1 rfl)]

theorem chosen_unique {segs : List Seg} {path : Str} {b b' : List (Str × Str)}
    (h : Chosen segs path b) (h' : Chosen segs path b') : b = b' :=
  lexPref_antisymm segs path b b' h.1 h'.1 (h.2 b' h'.1) (h'.2 b h.1)

theorem isParse_star_nil {a : Pat} {g : Bool} {t : PTree} : IsParse (.star a g) t [] ↔ t = .nil := by
  constructor
  · intro h
    generalize hw : ([] : Str) = w0 at h
    cases h with
    | starNil => rfl
    | starCons _ hne _ =>
      rename_i u v _ _
      cases u with
      | nil => exact (hne rfl).elim
      | cons _ _ => simp at hw
  · rintro rfl; exact .starNil

theorem mem_parsesStar (f : Str → List PTree) (a : Pat) (g : Bool)
    (hf : ∀ t w, t ∈ f w ↔ IsParse a t w) :
    ∀ (n : Nat) (w : Str) (t : PTree), w.length ≤ n → (t ∈ parsesStar f n w ↔ IsParse (.star a g) t w) := by
  intro n
  induction n with
  | zero =>
    intro w t hn
    cases w with
    | nil => simp only [parsesStar, List.mem_singleton, isParse_star_nil]
    | cons c r => simp at hn
  | succ n ih =>
    intro w t hn
    cases w with
    | nil => simp only [parsesStar, List.mem_singleton, isParse_star_nil]
    | cons c r =>
      simp only [parsesStar, List.mem_flatMap, List.mem_map]
      constructor
      · rintro ⟨⟨u, v⟩, huv, x, hx, xs, hxs, rfl⟩
        rw [mem_splits] at huv
        simp only at hx hxs
        have hlen : v.length ≤ n := by
          have : (c :: r).length = (c :: (u ++ v)).length := by rw [huv]
          simp only [List.length_cons, List.length_append] at this hn
          omega
        have h1 := (hf x (c :: u)).1 hx
        have h2 := (ih v xs hlen).1 hxs
        have := IsParse.starCons (g := g) h1 (by simp) h2
        rw [huv]
        simpa using this
      · intro h
        generalize hw : c :: r = w0 at h
        cases h with
        | starNil => simp at hw
        | @starCons _ _ x xs u v hu hne hv =>
          cases u with
          | nil => exact (hne rfl).elim
          | cons d u' =>
            simp only [List.cons_append, List.cons.injEq] at hw
            obtain ⟨rfl, rfl⟩ := hw
            have hlen : v.length ≤ n := by
              simp only [List.length_cons, List.length_append] at hn
              omega
            exact ⟨(u', v), (mem_splits _ _ _).2 rfl, x, (hf x _).2 hu, xs, (ih v xs hlen).2 hv, rfl⟩

theorem mem_parsesOf (p : Pat) : ∀ (t : PTree) (w : Str), t ∈ parsesOf p w ↔ IsParse p t w := by
  induction p with
  | eps =>
    intro t w
    simp only [parsesOf]
    constructor
    · intro h
      by_cases hw : w = []
      · simp only [hw, if_true, List.mem_singleton] at h
        subst h; subst hw; exact .eps
      · simp [hw] at h
    · intro h; cases h; simp
  | chr c =>
    intro t w
    simp only [parsesOf]
    constructor
    · intro h
      by_cases hw : w = [c]
      · simp only [hw, if_true, List.mem_singleton] at h
        subst h; subst hw; exact .chr c
      · simp [hw] at h
    · intro h; cases h; simp
  | cls n it =>
    intro t w
    constructor
    · intro h
      match w, h with
      | [d], h =>
        simp only [parsesOf] at h
        by_cases hc : clsHas n it d = true
        · simp only [hc, if_true, List.mem_singleton] at h
          subst h; exact .cls n it d hc
        · simp [hc] at h
      | [], h => simp [parsesOf] at h
      | _ :: _ :: _, h => simp [parsesOf] at h
    · intro h
      cases h with
      | cls _ _ d hc => simp [parsesOf, hc]
  | cat a b iha ihb =>
    intro t w
    simp only [parsesOf, List.mem_flatMap, List.mem_map]
    constructor
    · rintro ⟨⟨u, v⟩, huv, x, hx, y, hy, rfl⟩
      rw [mem_splits] at huv
      subst huv
      exact .cat ((iha x u).1 hx) ((ihb y v).1 hy)
    · intro h
      cases h with
      | @cat _ _ x y u v hu hv =>
        exact ⟨(u, v), (mem_splits _ _ _).2 rfl, x, (iha x u).2 hu, y, (ihb y v).2 hv, rfl⟩
  | alt a b iha ihb =>
    intro t w
    simp only [parsesOf, List.mem_append, List.mem_map]
    constructor
    · rintro (⟨x, hx, rfl⟩ | ⟨y, hy, rfl⟩)
      · exact .altL ((iha x w).1 hx)
      · exact .altR ((ihb y w).1 hy)
    · intro h
      cases h with
      | altL h1 => exact .inl ⟨_, (iha _ w).2 h1, rfl⟩
      | altR h1 => exact .inr ⟨_, (ihb _ w).2 h1, rfl⟩
  | star a g iha =>
    intro t w
    simp only [parsesOf]
    exact mem_parsesStar (parsesOf a) a g iha w.length w t (Nat.le_refl _)

theorem better_of_betterB (p : Pat) (t t' : PTree) : betterB p t t' = true → Better p t t' := by
  -- `betterB` has seven equations for two trees of matching shape, each with a `match p` inside: case 2k-1 is the k-th of
  -- them under the pattern constructor it asks for; the even cases and case 15 are the answers `false`.
  fun_induction betterB p t t' with
  | case1 x y x' y' a b iha ihb =>
    intro h
    simp only [Bool.or_eq_true, Bool.and_eq_true, beq_iff_eq] at h
    rcases h with h | ⟨rfl, h⟩
    · exact .catL (iha h)
    · exact .catR (ihb h)
  | case3 x x' a b iha => exact fun h => .altL (iha h)
  | case5 => exact fun _ => .altLR
  | case7 y y' a b ihb => exact fun h => .altR (ihb h)
  | case9 x xs x' xs' a g iha ihs =>
    intro h
    simp only [Bool.or_eq_true, Bool.and_eq_true, beq_iff_eq] at h
    rcases h with h | ⟨rfl, h⟩
    · exact .starH (iha h)
    · exact .starT (ihs h)
  | case11 x xs a g => intro h; subst h; exact .greedy
  | case13 x xs a g => intro h; rw [Bool.not_eq_true'] at h; subst h; exact .lazy
  | _ => intro h; cases h

theorem betterB_of_better {p : Pat} {t t' : PTree} (h : Better p t t') : betterB p t t' = true := by
  induction h with
  | catL _ ih => simp only [betterB, ih, Bool.true_or]
  | catR _ ih => simp only [betterB, ih, beq_self_eq_true, Bool.and_self, Bool.or_true]
  | altLR => rfl
  | altL _ ih => simpa only [betterB] using ih
  | altR _ ih => simpa only [betterB] using ih
  | greedy => rfl
  | lazy => rfl
  | starH _ ih => simp only [betterB, ih, Bool.true_or]
  | starT _ ih => simp only [betterB, ih, beq_self_eq_true, Bool.and_self, Bool.or_true]

theorem betterB_iff (p : Pat) (t t' : PTree) : betterB p t t' = true ↔ Better p t t' :=
  ⟨better_of_betterB p t t', betterB_of_better⟩

theorem wordPrefB_iff (p : Pat) (u u' : Str) : wordPrefB p u u' = true ↔ WordPref p u u' := by
  simp only [wordPrefB, WordPref, List.any_eq_true, List.all_eq_true, Bool.or_eq_true, beq_iff_eq, mem_parsesOf,
    betterB_iff, BetterEq]

theorem lexPrefB_iff : ∀ (segs : List Seg) (b b' : List (Str × Str)), lexPrefB segs b b' = true ↔ LexPref segs b b' := by
  intro segs
  induction segs with
  | nil => intro b b'; simp [lexPrefB, LexPref]
  | cons sg r ih =>
    intro b b'
    cases sg with
    | lit s => simp only [lexPrefB, LexPref]; exact ih b b'
    | var n p =>
      cases b with
      | nil => simp [lexPrefB, LexPref]
      | cons e b1 =>
        cases b' with
        | nil => simp [lexPrefB, LexPref]
        | cons e' b2 =>
          obtain ⟨n1, v⟩ := e
          obtain ⟨n2, v'⟩ := e'
          simp only [lexPrefB, LexPref]
          by_cases hv : v = v'
          · simp only [hv, if_true, ne_eq, not_true_eq_false, false_implies, and_true, true_implies]
            exact ih b1 b2
          · simp only [hv, if_false, false_implies, true_and, ne_eq, not_false_eq_true, true_implies]
            exact wordPrefB_iff p v v'

theorem chosen_iff (segs : List Seg) (path : Str) (b : List (Str × Str)) :
    chosen segs path = some b ↔ Chosen segs path b := by
  simp only [chosen]
  have sound : ∀ c, (decomps segs path).find? (fun b => (decomps segs path).all (fun b' => lexPrefB segs b b')) = some c →
      Chosen segs path c := by
    intro c hf
    have hall := List.find?_some hf
    simp only [List.all_eq_true] at hall
    exact ⟨(mem_decomps _ _ _).1 (List.mem_of_find?_eq_some hf),
      fun b' hb' => (lexPrefB_iff _ _ _).1 (hall b' ((mem_decomps _ _ _).2 hb'))⟩
  refine ⟨sound b, fun h => ?_⟩
  cases hf : (decomps segs path).find? (fun b => (decomps segs path).all (fun b' => lexPrefB segs b b')) with
  | none =>
    rw [List.find?_eq_none] at hf
    refine (hf b ((mem_decomps _ _ _).2 h.1) ?_).elim
    simp only [List.all_eq_true]
    exact fun b' hb' => (lexPrefB_iff _ _ _).2 (h.2 b' ((mem_decomps _ _ _).1 hb'))
  | some c => rw [chosen_unique (sound c hf) h]

theorem takeWhile_before (c : Char) (u y : Str) (hu : c ∉ u) : (u ++ c :: y).takeWhile (· != c) = u := by
  rw [List.takeWhile_append_of_pos (p := (· != c)) fun a ha => bne_iff_ne.2 fun e => hu (e ▸ ha),
    List.takeWhile_cons_of_neg (by simp), List.append_nil]

/-- both words are what stands before the first `c` -/
theorem split_at_delimiter (c : Char) (v v' x x' : Str) (hc : c ∉ v) (hc' : c ∉ v') (h : v ++ c :: x = v' ++ c :: x') :
    v = v' := by
  rw [← takeWhile_before c v x hc, h, takeWhile_before c v' x' hc']

theorem delimited_unique : ∀ (segs : List Seg) (w : Str) (b b' : List (Str × Str)),
    Delimited segs → TplMatches segs w b → TplMatches segs w b' → b = b' := by
  intro segs
  induction segs with
  | nil => intro w b b' _ h h'; cases h; cases h'; rfl
  | cons sg r ih =>
    intro w b b' hd h h'
    cases sg with
    | lit s =>
      obtain ⟨w1, rfl, h1⟩ := tpl_lit_iff.1 h
      obtain ⟨w2, e2, h2⟩ := tpl_lit_iff.1 h'
      cases List.append_cancel_left e2
      exact ih _ _ _ hd h1 h2
    | var n p =>
      obtain ⟨v, w1, b1, rfl, rfl, hv, h1⟩ := tpl_var_iff.1 h
      obtain ⟨v', w2, b2, e2, rfl, hv', h2⟩ := tpl_var_iff.1 h'
      -- what follows the variable fixes where its word ends: the end of the path, or the first delimiter
      have key : v = v' ∧ Delimited r := by
        cases r with
        | nil => cases h1; cases h2; exact ⟨by simpa using e2, trivial⟩
        | cons sg' r' =>
          cases sg' with
          | var _ _ => exact hd.elim
          | lit s =>
            obtain ⟨w3, rfl, h3⟩ := tpl_lit_iff.1 h1
            obtain ⟨w4, rfl, h4⟩ := tpl_lit_iff.1 h2
            cases s with
            | nil =>
              cases r' with
              | nil => cases h3; cases h4; exact ⟨by simpa using e2, trivial⟩
              | cons _ _ => exact hd.elim
            | cons c s => exact ⟨split_at_delimiter c v v' _ _ (hd.1 v hv) (hd.1 v' hv') e2, hd.2⟩
      obtain ⟨rfl, hdr⟩ := key
      cases List.append_cancel_left e2
      rw [ih _ _ _ hdr h1 h2]

end CoapVerif.Lemmas.Router
