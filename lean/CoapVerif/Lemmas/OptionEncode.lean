import CoapVerif.Lemmas.Slices
import CoapVerif.Lemmas.LengthClasses
import CoapVerif.Lemmas.Bits
import CoapVerif.Lemmas.WireSpec
/-!
Encoder side of the option codec.  The buffer-passing `Marshal`s (`marshalOptionHeaderExt`, `marshalOptionHeader`,
`optionMarshal`, `optionsMarshalLoop`) keep three variables: the buffer, whether it is still live, the count.  `Wrote` says
what they hold after any part of the output, every call through the callers' idiom `onRest` extends it (`Wrote.step`), and so
each `Marshal` is a writer (`Writes`) of its bytes `extB`, `hdrB`, `optB`, `optsB` for every buffer: large enough, too
small (`(length, too small)`, the buffer's length kept) or nil (the sizing pass).
`optsB` is then identified with the RFC encoder `encOpts` on well-formed option lists.
-/
namespace CoapVerif.Lemmas.OptionEncode
open CoapVerif.Generated.Codec
open CoapVerif.Spec.Wire
open CoapVerif.Model.OptionCodec CoapVerif.Lemmas.Slices

/-- The bytes `marshalOptionHeaderExt` writes, in the model's `Int` spelling (as `hdrB`, `optB`, `optsB` for the other
three `Marshal`s).  `13` / `14` are `extByteCode` / `extWordCode` written out: `ext_writes` unfolds the two constants, and is
where a regenerated value would break. -/
def extB (opt ext : Int) : Bytes :=
  if opt = 13 then [byteOfInt ext]
  else if opt = 14 then [UInt8.ofNat ((ext % 65536).toNat / 256), UInt8.ofNat ((ext % 65536).toNat % 256)]
  else []

def hdrB (delta length : Int) : Bytes :=
  (byteOfInt ((extendOpt delta).1 * 16) ||| byteOfInt (extendOpt length).1) ::
    (extB (extendOpt delta).1 (extendOpt delta).2 ++ extB (extendOpt length).1 (extendOpt length).2)

def optB (prev : Nat) (o : Opt) : Bytes := hdrB ((o.id : Int) - (prev : Int)) (o.val.length : Int) ++ o.val

def optsB (prev : Nat) : List Opt → Bytes
  | [] => []
  | o :: os => optB prev o ++ optsB o.id os

/-- The three variables of a `Marshal` after it has produced `acc` for the buffer `b0` it was given (`l0 = false`: the
caller passed nil, the sizing pass): the count, the buffer live exactly while `acc` fits, and then holding `acc` in front
of what was there. -/
structure Wrote (b0 : Bytes) (l0 : Bool) (acc buf : Bytes) (live : Bool) (size : Nat) : Prop where
  size_eq : size = acc.length
  length_eq : buf.length = b0.length
  live_eq : live = (l0 && decide (acc.length ≤ b0.length))
  buf_eq : live = true → buf = acc ++ b0.drop acc.length

/-- What each `Marshal` does with its buffer: it asks for `x.length` bytes, says whether the buffer is too short for them
(its length stays), and otherwise writes `x` at the front. -/
def Writes (g : Bytes → Except Err (Nat × Bool × Bytes)) (x : Bytes) : Prop :=
  ∀ buf, ∃ n live w, g buf = .ok (n, !live, w) ∧ Wrote buf true x w live n

/-- `Writes` without `Wrote`: the result in terms of the buffer alone. -/
theorem Writes.explicit {g : Bytes → Except Err (Nat × Bool × Bytes)} {x : Bytes} (hg : Writes g x) (buf : Bytes) :
    ∃ w, g buf = .ok (x.length, decide (buf.length < x.length), w) ∧ w.length = buf.length ∧
      (x.length ≤ buf.length → w = x ++ buf.drop x.length) := by
  obtain ⟨n, live, w, hw, rfl, hl, rfl, hf⟩ := hg buf
  refine ⟨w, ?_, hl, fun h => hf (by rw [Bool.true_and, decide_eq_true h])⟩
  rw [hw, Bool.true_and, ← decide_not]
  exact congrArg (fun b => Except.ok (x.length, b, w)) (decide_eq_decide.mpr Nat.not_le)

theorem Writes.fits {g : Bytes → Except Err (Nat × Bool × Bytes)} {x : Bytes} (hg : Writes g x) {buf : Bytes}
    (h : x.length ≤ buf.length) : g buf = .ok (x.length, false, x ++ buf.drop x.length) := by
  obtain ⟨w, hw, -, hf⟩ := hg.explicit buf
  rw [hw, hf h, decide_eq_false (Nat.not_lt.mpr h)]

/-- The callers' idiom: the callee gets `buf[size:]` while the buffer is live, `nil` afterwards. -/
def onRest (g : Bytes → Except Err (Nat × Bool × Bytes)) (buf : Bytes) (live : Bool) (size : Nat) :
    Except Err ((Nat × Bool) × Bytes) :=
  if live then withSub buf size fun sub => do
    let (n, small, sub') ← g sub
    .ok ((n, small), sub')
  else do
    let (n, small, _) ← g []
    .ok ((n, small), buf)

theorem Wrote.step {g : Bytes → Except Err (Nat × Bool × Bytes)} {x : Bytes} (hg : Writes g x) {b0 acc buf : Bytes}
    {l0 live : Bool} {size : Nat} (h : Wrote b0 l0 acc buf live size) :
    ∃ small w, onRest g buf live size = .ok ((x.length, small), w) ∧
      Wrote b0 l0 (acc ++ x) w (live && !small) (size + x.length) := by
  obtain ⟨rfl, hlen, hlive, hbuf⟩ := h
  cases live with
  | false =>
    obtain ⟨n, live', w', h0, rfl, -, -, -⟩ := hg []
    refine ⟨!live', buf, by simp [onRest, h0, bind, Except.bind], List.length_append.symm, hlen, ?_, nofun⟩
    cases l0 with
    | false => rfl
    | true =>
      rw [Bool.true_and, Bool.false_and, List.length_append]
      exact (decide_eq_false (by have := of_decide_eq_false hlive.symm; omega)).symm
  | true =>
    obtain rfl := hbuf rfl
    obtain ⟨n, live', w', h0, rfl, hl', hs, hw'⟩ := hg (b0.drop acc.length)
    obtain ⟨rfl, hle⟩ : l0 = true ∧ acc.length ≤ b0.length := by simpa using hlive.symm
    refine ⟨!live', acc ++ w', ?_, List.length_append.symm, ?_, ?_, ?_⟩
    · simp only [onRest, if_true]
      rw [withSub_prefix acc _ _ _ rfl, h0]
      rfl
    · rw [List.length_append, hl', ← List.length_append, hlen]
    · rw [Bool.not_not, hs, List.length_drop, List.length_append]
      simp only [Bool.true_and]
      exact decide_eq_decide.mpr (by omega)
    · intro hl
      rw [hw' (by simpa using hl), List.drop_drop, List.length_append, List.append_assoc]

theorem ext_writes (opt ext : Int) : Writes (marshalOptionHeaderExt · opt ext) (extB opt ext) := by
  intro buf
  unfold marshalOptionHeaderExt extB
  simp only [extByteCode, extWordCode]
  by_cases h13 : opt = 13
  · simp only [h13, ↓reduceIte]
    cases buf with
    | nil => exact ⟨1, false, [], rfl, rfl, rfl, rfl, nofun⟩
    | cons b t => exact ⟨1, true, byteOfInt ext :: t, rfl, rfl, rfl, rfl, fun _ => rfl⟩
  · by_cases h14 : opt = 14
    · simp only [h14, ↓reduceIte]
      match buf with
      | [] => exact ⟨2, false, [], rfl, rfl, rfl, rfl, nofun⟩
      | [b] => exact ⟨2, false, [b], rfl, rfl, rfl, rfl, nofun⟩
      | b0 :: b1 :: t => exact ⟨2, true, _ :: _ :: t, rfl, rfl, rfl, rfl, fun _ => rfl⟩
    · simp only [h13, h14, ↓reduceIte]
      exact ⟨0, true, buf, by simp [h13, h14], rfl, rfl, rfl, fun _ => rfl⟩

theorem headerExtStep_eq (buf : Bytes) (live : Bool) (size : Nat) (opt ext : Int) :
    headerExtStep buf live size opt ext = onRest (marshalOptionHeaderExt · opt ext) buf live size := rfl

theorem header_writes (delta length : Int) : Writes (marshalOptionHeader · delta length) (hdrB delta length) := by
  intro buf
  unfold marshalOptionHeader hdrB
  rcases extendOpt delta with ⟨d, dx⟩
  rcases extendOpt length with ⟨l, lx⟩
  simp only [headerExtStep_eq]
  cases buf with
  | nil =>
    have i0 : Wrote [] true [byteOfInt (d * 16) ||| byteOfInt l] [] false 1 := ⟨rfl, rfl, rfl, nofun⟩
    obtain ⟨s1, w1, e1, i1⟩ := i0.step (ext_writes d dx)
    obtain ⟨s2, w2, e2, i2⟩ := i1.step (ext_writes l lx)
    refine ⟨_, _, w2, ?_, i2⟩
    simp only [List.length_nil, gt_iff_lt, Nat.lt_irrefl, ↓reduceIte, e1, e2, bind, Except.bind, pure, Except.pure]
  | cons b t =>
    have i0 : Wrote (b :: t) true [byteOfInt (d * 16) ||| byteOfInt l] ((byteOfInt (d * 16) ||| byteOfInt l) :: t) true 1 :=
      ⟨rfl, rfl, rfl, fun _ => rfl⟩
    obtain ⟨s1, w1, e1, i1⟩ := i0.step (ext_writes d dx)
    obtain ⟨s2, w2, e2, i2⟩ := i1.step (ext_writes l lx)
    refine ⟨_, _, w2, ?_, i2⟩
    simp only [List.length_cons, gt_iff_lt, Nat.zero_lt_succ, ↓reduceIte, setAt_zero, e1, e2, bind, Except.bind, pure,
      Except.pure]

theorem marshalValue_fst (buf v : Bytes) : (marshalValue buf v).1 = v.length := by
  unfold marshalValue; split <;> rfl

theorem value_writes (v : Bytes) : Writes (fun buf => .ok (marshalValue buf v)) v := by
  intro buf
  unfold marshalValue
  by_cases h : buf.length < v.length
  · exact ⟨v.length, false, buf, by simp only [if_pos h]; rfl, rfl, rfl, by simp; omega, nofun⟩
  · exact ⟨v.length, true, goCopy buf v, by simp only [if_neg h]; rfl,
      ⟨rfl, goCopy_length buf v, by simp; omega, fun _ => goCopy_fits buf v (by omega)⟩⟩

theorem optionMarshal_eq (buf : Bytes) (prev : Nat) (o : Opt) :
    optionMarshal buf prev o =
      (marshalOptionHeader buf ((o.id : Int) - (prev : Int)) ((marshalValue [] o.val).1 : Int)).bind fun h =>
        (onRest (fun sub => .ok (marshalValue sub o.val)) h.2.2 (!h.2.1) h.1).bind fun r =>
          .ok (h.1 + r.1.1, !(!h.2.1 && !r.1.2), r.2) := rfl

theorem option_writes (prev : Nat) (o : Opt) : Writes (optionMarshal · prev o) (optB prev o) := by
  intro buf
  obtain ⟨n, live, w1, h1, i1⟩ := header_writes ((o.id : Int) - (prev : Int)) (o.val.length : Int) buf
  obtain ⟨s2, w2, h2, i2⟩ := i1.step (value_writes o.val)
  refine ⟨_, _, w2, ?_, i2⟩
  simp only [optionMarshal_eq, marshalValue_fst, h1, Bool.not_not, h2, Except.bind]

theorem marshalLoop_cons (buf : Bytes) (live : Bool) (prev length : Nat) (o : Opt) (os : List Opt) :
    optionsMarshalLoop buf live prev length (o :: os) =
      (onRest (optionMarshal · prev o) buf (live && decide (length ≤ buf.length)) length).bind fun r =>
        optionsMarshalLoop r.2 ((live && decide (length ≤ buf.length)) && !r.1.2) o.id (length + r.1.1) os := rfl

theorem marshalLoop_wrote (os : List Opt) {b0 acc buf : Bytes} {l0 live : Bool} {length : Nat} (prev : Nat)
    (h : Wrote b0 l0 acc buf live length) :
    ∃ n live' w, optionsMarshalLoop buf live prev length os = .ok (n, !live', w) ∧
      Wrote b0 l0 (acc ++ optsB prev os) w live' n := by
  induction os generalizing acc buf live prev length with
  | nil => exact ⟨_, _, buf, rfl, by simpa [optsB] using h⟩
  | cons o os ih =>
    -- the test `length > len(buf)` never fires
    have hlive : (live && decide (length ≤ buf.length)) = live := by
      cases live with
      | false => rfl
      | true => simp [h.size_eq, h.length_eq, of_decide_eq_true (Bool.and_eq_true_iff.mp h.live_eq.symm).2]
    obtain ⟨small, w1, h1, i1⟩ := h.step (option_writes prev o)
    obtain ⟨n, live', w, hw, i⟩ := ih o.id i1
    exact ⟨n, live', w, by rw [marshalLoop_cons, hlive, h1]; exact hw, by simpa [optsB] using i⟩

theorem optionsMarshal_nil (os : List Opt) : optionsMarshal none os = .ok ((optsB 0 os).length, true, []) := by
  obtain ⟨n, live', w, hw, i⟩ := marshalLoop_wrote os 0 (⟨rfl, rfl, rfl, nofun⟩ : Wrote [] false [] [] false 0)
  obtain rfl : w = [] := List.eq_nil_of_length_eq_zero i.length_eq
  rw [i.live_eq, i.size_eq] at hw
  simpa [optionsMarshal] using hw

theorem options_writes (os : List Opt) : Writes (fun buf => optionsMarshal (some buf) os) (optsB 0 os) :=
  fun buf => marshalLoop_wrote os 0 (⟨rfl, rfl, rfl, fun _ => rfl⟩ : Wrote buf true [] buf true 0)

theorem byteOfInt_nat (n : Nat) : byteOfInt (n : Int) = UInt8.ofNat n := by
  unfold byteOfInt
  have : ((n : Int) % 256).toNat = n % 256 := by omega
  rw [this]
  apply UInt8.toNat_inj.mp
  simp

theorem extendOpt_nat (n : Nat) :
    extendOpt (n : Int) = (((nib n : Nat) : Int), if n ≤ 12 then (0 : Int) else if n ≤ 268 then ((n - 13 : Nat) : Int) else ((n - 269 : Nat) : Int)) := by
  unfold extendOpt nib
  simp only [extByteAddend, extWordAddend, extByteCode, extWordCode]
  by_cases h1 : n ≤ 12
  · have : ¬ ((n : Int) ≥ ((13 : Nat) : Int)) := by omega
    simp only [this, h1, ↓reduceIte]
  · by_cases h2 : n ≤ 268
    · have a : (n : Int) ≥ ((13 : Nat) : Int) := by omega
      have b : ¬ ((n : Int) ≥ ((269 : Nat) : Int)) := by omega
      simp only [a, b, h1, h2, ↓reduceIte, Prod.mk.injEq, true_and]
      omega
    · have a : (n : Int) ≥ ((13 : Nat) : Int) := by omega
      have b : (n : Int) ≥ ((269 : Nat) : Int) := by omega
      simp only [a, b, h1, h2, ↓reduceIte, Prod.mk.injEq, true_and]
      omega

theorem extB_nat (n : Nat) (h : n ≤ 65804) : extB (extendOpt (n : Int)).1 (extendOpt (n : Int)).2 = ext n := by
  rw [extendOpt_nat]
  unfold extB ext nib
  by_cases h1 : n ≤ 12
  · have a : ¬ ((n : Int) = 13) := by omega
    have b : ¬ ((n : Int) = 14) := by omega
    simp [h1, a, b]
  · by_cases h2 : n ≤ 268
    · simp only [h1, h2, ↓reduceIte]
      have : byteOfInt ((n - 13 : Nat) : Int) = UInt8.ofNat (n - 13) := byteOfInt_nat _
      simp [this]
    · simp only [h1, h2, ↓reduceIte]
      have e : (((n - 269 : Nat) : Int) % 65536).toNat = n - 269 := by omega
      simp [e]

theorem hdrB_nat (d l : Nat) (hd : d ≤ 65804) (hl : l ≤ 65804) :
    hdrB (d : Int) (l : Int) = UInt8.ofNat (nib d * 16 + nib l) :: (ext d ++ ext l) := by
  unfold hdrB
  rw [extB_nat d hd, extB_nat l hl]
  congr 1
  rw [extendOpt_nat d, extendOpt_nat l]
  simp only []
  have e1 : ((nib d : Nat) : Int) * 16 = ((nib d * 16 : Nat) : Int) := by omega
  rw [e1, byteOfInt_nat, byteOfInt_nat]
  exact or_nibbles ⟨nib d, LengthClasses.nib_lt d⟩ ⟨nib l, LengthClasses.nib_lt l⟩

theorem optB_eq_encOpt (prev : Nat) (o : Opt) (h1 : prev ≤ o.id) (h2 : o.id - prev ≤ 65804) (h3 : o.val.length ≤ 65804) :
    optB prev o = encOpt prev o := by
  have : ((o.id : Int) - (prev : Int)) = ((o.id - prev : Nat) : Int) := by omega
  rw [optB, this, hdrB_nat _ _ h2 h3, encOpt, List.cons_append, List.append_assoc]

theorem optsB_eq_encOpts (reg : List (Nat × Nat × Nat)) (os : List Opt) (prev : Nat) (h : optsWF reg prev os = true) :
    optsB prev os = encOpts prev os := by
  induction os generalizing prev with
  | nil => rfl
  | cons o os ih =>
    obtain ⟨h1, -, h2, h3, -, hrest⟩ := WireSpec.optsWF_cons.mp h
    rw [optsB, encOpts, optB_eq_encOpt prev o h1 (by omega) h3, ih o.id hrest]

end CoapVerif.Lemmas.OptionEncode
