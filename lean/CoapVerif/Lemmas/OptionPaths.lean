import CoapVerif.Model.OptionValues
import CoapVerif.Lemmas.SortedMultiset
/-!
Path splitting in `Model/OptionValues.lean` (C15): the `indexSlash` loops of `GetPathBufferSize` and `setPath` cut a
path where the specification's `segments` does — a leading slash is skipped, otherwise the first segment is what
precedes the next slash — so `GetPathBufferSize` is the specification's total (`getPathBufferSize_eq`).  First, the
constants regenerated from /repo (`Generated/OptionList.lean`) are the specification's.
In the namespace of `Lemmas/OptionValuesModel.lean`, which builds on this file.
-/
namespace CoapVerif.Lemmas.OptionValuesModel
open CoapVerif.Model.Options CoapVerif.Spec.SortedMultiset CoapVerif.Lemmas.SortedMultiset

section
open CoapVerif.Generated.OptionList
theorem maxPathValue_eq : maxPathValue = maxSegment := by decide
theorem uriPath_eq : uriPath = uriPathId := by decide
theorem uriQuery_eq : uriQuery = uriQueryId := by decide
theorem contentFormat_eq : contentFormat = contentFormatId := by decide
theorem observe_eq : observe = observeId := by decide
end

/-- The specification's splitter, one byte at a time with an accumulator, in one step from slash to slash. -/
theorem splitAux_index (rest : Bytes) : ∀ (cur : Bytes),
    match Options.indexSlash rest with
    | none => splitAux rest cur = [cur.reverse ++ rest]
    | some k => splitAux rest cur = (cur.reverse ++ rest.take k) :: splitAux (rest.drop (k + 1)) [] := by
  induction rest with
  | nil => intro cur; simp [Options.indexSlash, splitAux]
  | cons c r ih =>
    intro cur
    unfold Options.indexSlash
    by_cases h : c = Options.slash
    · subst h
      simp [splitAux, Options.slash, Spec.SortedMultiset.slash]
    · have h' : ¬ (c = Spec.SortedMultiset.slash) := h
      simp only [h, if_false]
      have := ih (c :: cur)
      cases hi : Options.indexSlash r with
      | none => rw [hi] at this; simp [splitAux, h', this]
      | some k => rw [hi] at this; simp [splitAux, h', this]

theorem segments_of_index_zero {rest : Bytes} (h : Options.indexSlash rest = some 0) :
    segments rest = segments rest.tail := by
  have := splitAux_index rest []
  rw [h] at this
  simp only at this
  unfold segments; rw [this]
  simp

theorem indexSlash_lt {rest : Bytes} {k : Nat} (h : Options.indexSlash rest = some k) : k < rest.length := by
  induction rest generalizing k with
  | nil => simp [Options.indexSlash] at h
  | cons c r ih =>
    unfold Options.indexSlash at h
    by_cases hc : c = Options.slash
    · simp [hc] at h; subst h; simp
    · simp only [hc, if_false, Option.map_eq_some_iff] at h
      obtain ⟨a, ha, hk⟩ := h
      have := ih ha
      simp; omega

theorem segments_step {rest : Bytes} (hne : rest ≠ []) (h0 : Options.indexSlash rest ≠ some 0) :
    ∃ stop, (Options.indexSlash rest).getD rest.length = stop ∧ 0 < stop ∧ stop ≤ rest.length ∧
      segments rest = rest.take stop :: segments (rest.drop (stop + 1)) := by
  have hsplit := splitAux_index rest []
  have hpos : 0 < rest.length := List.length_pos_iff.mpr hne
  cases hi : Options.indexSlash rest with
  | none =>
    rw [hi] at hsplit
    refine ⟨rest.length, rfl, hpos, Nat.le_refl _, ?_⟩
    rw [List.take_length, List.drop_eq_nil_of_le (Nat.le_succ _), segments_nil]
    unfold segments; rw [hsplit]; simp [hne]
  | some k =>
    have hk := indexSlash_lt hi
    have hk0 : k ≠ 0 := fun e => h0 (by rw [hi, e])
    rw [hi] at hsplit
    refine ⟨k, rfl, Nat.pos_of_ne_zero hk0, by omega, ?_⟩
    have hne' : ¬ (rest.take k).isEmpty = true := by
      rw [List.isEmpty_iff]
      intro e
      have := congrArg List.length e
      rw [List.length_take, List.length_nil] at this
      omega
    unfold segments; rw [hsplit]
    simp [hne']

def totalSeg (segs : List Bytes) : Nat := (segs.map List.length).sum

theorem pathSizeLoop_spec : ∀ (fuel : Nat) (rest : Bytes) (size : Nat), rest.length < fuel →
    Options.pathSizeLoop fuel rest size = .ok (
      if (segments rest).any (fun s => s.length > maxSegment) then .error Err.invalidLen
      else .ok (size + totalSeg (segments rest))) := by
  intro fuel
  induction fuel with
  | zero => intro rest size h; omega
  | succ fuel ih =>
    intro rest size hf
    unfold Options.pathSizeLoop
    by_cases hr : rest = []
    · subst hr; simp [segments_nil, totalSeg, pure, Except.pure]
    · rw [if_neg hr]
      split
      · next h0 =>
        rw [segments_of_index_zero h0]
        exact ih _ _ (by have := indexSlash_lt h0; simp; omega)
      · next h0 =>
        obtain ⟨stop, hstop, hpos, hle, hseg⟩ := segments_step hr (fun h => h0 h)
        simp only [hstop]
        rw [hseg, maxPathValue_eq, ih _ _ (by simp; omega)]
        have hlt : (rest.take stop).length = stop := by rw [List.length_take]; omega
        simp only [List.any_cons, hlt, totalSeg, List.map_cons, List.sum_cons]
        by_cases c : stop > maxSegment
        · simp [c, pure, Except.pure]
        · simp [c, Nat.add_assoc]

theorem getPathBufferSize_eq (p : Bytes) :
    Options.getPathBufferSize p = .ok (
      if (segments p).any (fun s => s.length > maxSegment) then .error Err.invalidLen
      else .ok (totalSeg (segments p))) := by
  unfold Options.getPathBufferSize
  rw [pathSizeLoop_spec (p.length + 1) p 0 (Nat.lt_succ_self _), Nat.zero_add]

end CoapVerif.Lemmas.OptionValuesModel
