import CoapVerif.Model.Router
import CoapVerif.Spec.Router
/-!
# C17 lemmas — the template parser: its index lists, its checked slices, what its result stands for

`Good lo idxs hi`: the index list is a sequence of pairs `(o, c)` with `lo ≤ o`, `o + 2 ≤ c` (room for the two braces),
each pair starting at or after the end of the previous one, everything `≤ hi`.  `braceLoop` only ever produces such
lists (`braceIndices_cut` in `Lemmas/RouterSegments.lean`, together with the pieces they cut out); on such lists every
slice expression of `partsLoop` is in range (`goSlice_ok`).  `toSegs` says what the parser's result stands for; what the
compiled expression does (`Lemmas/RouterCompile.lean`) and what the parser yields (`Lemmas/RouterSegments.lean`) are both
stated over it.  `newRouteRegexp_ok` reads an accepted pattern's `RouteRegexp` back as the parse it was compiled from.
-/
namespace CoapVerif.Lemmas.Router
open CoapVerif.Model.Router
open CoapVerif.Spec.Router (Seg)

def Good : Nat → List Nat → Nat → Prop
  | lo, [], hi => lo ≤ hi
  | _, [_], _ => False
  | lo, o :: c :: r, hi => lo ≤ o ∧ o + 2 ≤ c ∧ Good c r hi

theorem Good.mono {lo lo' : Nat} : ∀ {idxs : List Nat} {hi : Nat}, Good lo idxs hi → lo' ≤ lo → Good lo' idxs hi
  | [], _, h, hl => by simp only [Good] at h ⊢; omega
  | [_], _, h, _ => by simp only [Good] at h
  | _ :: _ :: _, _, h, hl => by
    simp only [Good] at h ⊢
    exact ⟨by omega, h.2.1, h.2.2⟩

theorem Good.le : ∀ (l : List Nat) {lo hi : Nat}, Good lo l hi → lo ≤ hi
  | [], _, _, h => by simpa [Good] using h
  | [_], _, _, h => by simp [Good] at h
  | _ :: _ :: r, _, _, h => by
    simp only [Good] at h
    have := Good.le r h.2.2
    omega

/-! The steps of `braceLoop` at a level that is a natural number, as `Spec.Router.cut` counts it. -/

theorem braceLoop_open (t : Str) (i d idx : Nat) (acc : List Nat) :
    braceLoop ('{' :: t) i (d : Int) idx acc = braceLoop t (i + 1) ((d + 1 : Nat) : Int) (if d = 0 then i else idx) acc := by
  have e : ((d : Int) + 1 = 1) ↔ d = 0 := by omega
  simp only [braceLoop, if_true, e, Int.natCast_add, Int.cast_ofNat_Int]

theorem braceLoop_close (t : Str) (i d idx : Nat) (acc : List Nat) :
    braceLoop ('}' :: t) i ((d + 1 : Nat) : Int) idx acc =
      braceLoop t (i + 1) (d : Int) idx (if d = 0 then acc ++ [idx, i + 1] else acc) := by
  have e1 : ((d + 1 : Nat) : Int) - 1 = d := by omega
  have e2 : ((d : Int) = 0) ↔ d = 0 := by omega
  have e3 : ¬ ((d : Int) < 0) := by omega
  have h1 : ¬ ('}' = '{') := by decide
  simp only [braceLoop, h1, if_false, if_true, e1, e2, e3]
  by_cases hd : d = 0
  · simp only [hd, if_true]
  · simp only [hd, if_false]

theorem braceLoop_other {c : Char} (h1 : c ≠ '{') (h2 : c ≠ '}') (t : Str) (i : Nat) (lv : Int) (idx : Nat) (acc : List Nat) :
    braceLoop (c :: t) i lv idx acc = braceLoop t (i + 1) lv idx acc := by
  simp only [braceLoop, h1, h2, if_false]

/-! The checked slice where it is in range; what the parser's result stands for (`toSegs`), and an accepted pattern's
    `RouteRegexp` read back as its parse. -/

def slice (s : Str) (a b : Nat) : Str := (s.drop a).take (b - a)

theorem goSlice_ok (s : Str) (a b : Nat) (h1 : a ≤ b) (h2 : b ≤ s.length) : goSlice s (a : Int) (b : Int) = .ok (slice s a b) := by
  have hc : (0 : Int) ≤ (a : Int) ∧ (a : Int) ≤ (b : Int) ∧ (b : Int) ≤ (s.length : Int) := by omega
  simp only [goSlice, hc, and_self, if_true, Int.toNat_natCast, slice]

def toSegs : List CPart → Str → List Seg
  | [], trailing => [.lit trailing]
  | p :: ps, trailing => .lit p.raw :: .var p.name p.pat :: toSegs ps trailing

theorem newRouteRegexp_ok {tpl : Str} {rx : RouteRegexp} (h : newRouteRegexp tpl = .ok rx) :
    ∃ parts trailing, parseTemplate tpl = .ok (parts, trailing) ∧
      rx = ⟨tpl, compile parts trailing, parts.length, parts.map (·.name)⟩ := by
  simp only [newRouteRegexp, bind, Except.bind] at h
  cases hp : parseTemplate tpl with
  | error e => rw [hp] at h; simp at h
  | ok r =>
    obtain ⟨parts, trailing⟩ := r
    rw [hp] at h
    simp only at h
    split at h
    · simp at h
    · simp only [pure, Except.pure, Except.ok.injEq] at h
      exact ⟨parts, trailing, rfl, h.symm⟩

end CoapVerif.Lemmas.Router
