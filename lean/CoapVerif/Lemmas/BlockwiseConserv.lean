import CoapVerif.Model.Blockwise
import CoapVerif.Model.BlockwiseObserve
import CoapVerif.Lemmas.Blockwise
import CoapVerif.Lemmas.BlockwiseReceive
import CoapVerif.Lemmas.BlockwiseObserve
/-!
Conservativity of the observe-aware model over the plain one: where nothing of the Observe branch is involved,
`handleO` (`Model/BlockwiseObserve.lean`, what the driver executes) IS `handle` (`Model/Blockwise.lean`, what the theorems of
`Props/C04.lean` are about) — on the same `Endpoint` type, so the "state embedding" is the identity.

The two differ in exactly these places (each one a line of the source), and each gets its exact side condition:

* `getSentRequest` falls back to the observation table when the sending slot of the token is EMPTY.  It changes the result
  only then: `StepPlain.table` = "the sending slot is occupied or the table has no entry for the token".
* `sendMessage.Remove(message.Observe)` on every follow-up request: changes the follow-up only if the paired request carries
  an Observe option: `StepPlain.sent`.
* the `bytes.Equal` deletion and the slot `startSendingMessage` works on (token of the RESPONSE = token of the message
  handed on): differ from the plain model only if the held reassembly message carries another token than its key:
  `StepPlain.held` (false exactly under the fresh keys of the observe branch).
* an observe response that goes out block-wise is not stored: differs only if the application answers with an observe
  response: `AppPlain`.
* the observe branch itself: `isObserveResponse r = false`.

`processReceivedO` is read through its local form `procL` (`Lemmas/BlockwiseObserve.lean`), which under these conditions is
`processReceived` on the slots of the message's token (`procL_eq`); what `processReceived` produces is read off
`Lemmas/BlockwiseReceive.lean` (`processReceived_snd_congr`) and `Lemmas/Blockwise.lean` (`processReceived_tok`).

Along a run of `Quiet` arrivals (no observe response, no token the observation table knows) the side conditions on the state
are kept by the invariant `PlainEp` — the message in the sending slot of `k` is `PlainMsg k` (written out in the structure), a
held reassembly message carries the token `k` — if the application never puts an Observe option on an answer (`AppNoObs`):
every reply of `handle` on a `PlainEp` endpoint is `PlainMsg` for the token handled (`handle_plain`).  So `runO` is
`Endpoint.run` over the arrivals without their scripted tokens (`forget`): `runO_eq_run`.
-/
namespace CoapVerif.Lemmas.BlockwiseConserv
open CoapVerif CoapVerif.Model.Blockwise CoapVerif.Model.BlockOpt CoapVerif.Generated.BlockwiseXfer
open CoapVerif.Model.BlockwiseObserve CoapVerif.Lemmas.Blockwise CoapVerif.Lemmas.BlockwiseObserve
open CoapVerif.Lemmas.BlockwiseReceive

/-- what is stored and sent under key `k` as long as the observe branch has not run -/
def PlainMsg (k : Nat) (m : Msg) : Prop := hasObserve m = false ∧ m.tok = k

theorem PlainMsg.of_fields {k : Nat} {m m' : Msg} (h : PlainMsg k m) (ho : m'.other = m.other) (ht : m'.tok = m.tok) :
    PlainMsg k m' := by
  unfold PlainMsg hasObserve at *
  rw [ho, ht]; exact h

/-- the application never answers with an observe response (an observe response that is cut into blocks is not stored by
    `startSendingMessage`: the one place where the SENDER side of the two models differs) -/
def AppPlain (app : App) : Prop := ∀ d x, app d = some x → isObserveResponse x = false

structure StepPlain (ep : Endpoint) (outside : Outside) (tok : Nat) : Prop where
  table : ep.sending tok = none → outside tok = none
  sent : ∀ e, ep.sending tok = some e → hasObserve e.msg = false ∧ e.msg.tok = tok
  held : ∀ e, ep.receiving tok = some e → e.msg.tok = tok

/-- what `getSentRequest` finds is what the sending slot holds: the table is not asked, `Remove(Observe)` removes nothing -/
theorem StepPlain.sentRequest {ep : Endpoint} {outside : Outside} {tok : Nat} (hp : StepPlain ep outside tok) :
    (getSentRequest ep outside tok).map removeObserve = (ep.sending tok).map (·.msg) := by
  unfold getSentRequest
  cases hs : ep.sending tok with
  | none => rw [hp.table hs]; rfl
  | some e => exact congrArg some (removeObserve_id (hp.sent e hs).1)

/-- Off the observe branch `procL` differs from `processReceived` on the slots of `r.tok` in two places: it pairs with `sent`
    minus Observe at expiry 0 (only the message is read: `processReceived_snd_congr`), and `Loc.back` deletes the sending slot
    when something is handed on under another token than `r.tok` (nothing is: `processReceived_tok`). -/
theorem procL_eq (cfg : Cfg) (sR sF : Slots) (sent : Option Msg) (fresh : Nat) (now : Int) (w : Option Msg) (r : Msg)
    (mx : Nat) (app : App) (bt : BT) (hno : isObserveResponse r = false)
    (hsent : sent.map removeObserve = sR.snd.map (·.msg)) (hheld : ∀ e, sR.rcv = some e → e.msg.tok = r.tok) :
    procL cfg sR sF sent fresh now w r mx app bt = Loc.mk (processReceived cfg sR now w r mx app bt) r.tok false := by
  obtain ⟨snd, rcv⟩ := sR
  have hcond : ¬ (reachesSent r bt = true ∧ bt = .b2 ∧ isObserveResponse r = true) :=
    fun h => Bool.noConfusion (hno.symm.trans h.2.2)
  have hany : (processReceived cfg ⟨snd, rcv⟩ now w r mx app bt).delivered.any (fun d => d.tok != r.tok) = false := by
    rw [List.any_eq_false]
    intro d hdm
    simp [(processReceived_tok cfg ⟨snd, rcv⟩ now w r mx app bt hheld).2 d hdm]
  have hpl : ∀ b, Loc.back r.tok snd b
      (processReceived cfg ⟨sent.map (fun s => ⟨removeObserve s, 0⟩), rcv⟩ now w r mx app bt) false =
      Loc.mk (processReceived cfg ⟨snd, rcv⟩ now w r mx app bt) r.tok false := by
    intro b
    rw [processReceived_snd_congr cfg (sent.map (fun s => ⟨removeObserve s, 0⟩)) snd rcv now w r mx app bt
      (by rw [← hsent, Option.map_map]; rfl)]
    simp only [Loc.back, hany, Bool.and_false, Bool.false_eq_true, if_false]
    exact congrArg (fun s => Loc.mk { sl := ⟨s, _⟩, w := _, delivered := _, failed := _ } r.tok false)
      (processReceived_snd cfg ⟨snd, rcv⟩ now w r mx app bt).symm
  unfold procL
  cases sent with
  | none => exact hpl _
  | some s => simp only [if_neg hcond]; exact hpl _

theorem finishReceivedO_onto (ep : Endpoint) (k : Nat) (now : Int) (h : HR) (mx blk : Nat)
    (hw : ∀ m, h.w = some m → m.tok = k ∧ isObserveResponse m = false) :
    finishReceivedO now ((Loc.mk h k false).onto ep) mx blk =
      (Loc.mk (finishReceived ep.toCfg now h mx blk) k false).onto ep := by
  obtain ⟨sl, w, d, f⟩ := h
  unfold finishReceivedO finishReceived
  cases f with
  | true => rfl
  | false =>
    simp only [Loc.onto, Bool.false_eq_true, if_false]
    cases w with
    | none => rfl
    | some m =>
      obtain ⟨htk, hob⟩ := hw m rfl
      have hsnd : (ep.put k sl).sending m.tok = sl.snd := by
        rw [htk]; exact congrArg Slots.snd (ep_put_slots_same ep k sl)
      have hcfg : (ep.put k sl).toCfg = ep.toCfg := rfl
      simp only [hsnd, hcfg]
      rw [startSendingSO_eq hob]
      cases hst : startSendingS ep.toCfg sl.snd now (some m) mx blk with
      | error u => rfl
      | ok p =>
        obtain ⟨snd, w'⟩ := p
        simp only [htk]
        exact congrArg (fun e => ({ ep := e, w := w', delivered := d } : ResO)) (put_then_snd ep k sl snd)

theorem handleReceivedO_eq (ep : Endpoint) (outside : Outside) (fresh : Nat) (now : Int) (r : Msg) (app : App)
    (hno : isObserveResponse r = false) (hp : StepPlain ep outside r.tok) (happ : AppPlain app) :
    handleReceivedO ep outside fresh now r app =
      (Loc.mk (handleReceived ep.toCfg (ep.slots r.tok) now r app) r.tok false).onto ep := by
  cases he : encodeBlock ep.szx 0 true with
  | error e => rw [handleReceivedO_error he, handleReceived_error he]; exact Loc.unchanged ep r.tok _ _ _
  | ok blk0 =>
    cases hbt : dataBT r.code with
    | none =>
      rcases handleReceivedO_nodata he outside fresh now app hbt (ep.slots r.tok) with ⟨h, h'⟩ | ⟨blk, h, h'⟩ <;> rw [h, h']
      · exact Loc.unchanged ep r.tok _ _ _
      · rw [Loc.unchanged ep r.tok]
        refine finishReceivedO_onto ep r.tok now _ _ _ (fun m hm => ?_)
        obtain ⟨x, hx, rfl⟩ := next_some hm
        exact ⟨rfl, happ r x hx⟩
    | some bt =>
      rw [handleReceivedO_data he outside fresh now app hbt, handleReceived_data he _ now app hbt,
        processReceivedO_local, procL_eq _ _ _ _ _ _ _ _ _ _ _ hno hp.sentRequest hp.held]
      refine finishReceivedO_onto ep r.tok now _ _ _ (fun m hm => ?_)
      rcases processReceived_sources ep.toCfg (ep.slots r.tok) now r _ app hbt m hm with hl | ⟨d, hd, x, hx, rfl⟩
      · cases hl with
        | ack v => exact ⟨rfl, rfl⟩
        | followUp v hs _ _ => exact ⟨(hp.sent _ hs).2, not_obsResp_of_not_has (hp.sent _ hs).1⟩
      · exact ⟨(processReceived_tok ep.toCfg (ep.slots r.tok) now none r _ app bt hp.held).2 d hd, happ d x hx⟩

theorem handleO_eq_handle (ep : Endpoint) (outside : Outside) (fresh : Nat) (now : Int) (r : Msg) (app : App)
    (hno : isObserveResponse r = false) (hp : StepPlain ep outside r.tok) (happ : AppPlain app) :
    handleO ep outside fresh now r app = ((handle ep now r app).1, (handle ep now r app).2, false) := by
  rw [handleO_cases]
  by_cases hc : Continues (ep.slots r.tok) now r
  · rw [if_pos hc]
  · rw [if_neg hc, handleReceivedO_eq ep outside fresh now r app hno hp happ]
    rw [recvO_onto]
    unfold handle
    rw [handleS_receive ((handleS_path _ now r).resolve_right fun ⟨_, h0, hl, hw⟩ => hc ⟨h0, by rw [hl]; rfl, hw⟩)]
    exact congrArg (fun sl => (ep.put r.tok sl, _, false)) (handled_sl _ _).symm

theorem writeMessageO_eq (ep : Endpoint) (now : Int) (r : Msg) (hr : isObserveResponse r = false) :
    writeMessageO ep now r = writeMessage ep now r := by
  unfold writeMessageO writeMessage
  cases he : encodeBlock ep.szx 0 true with
  | error e => rfl
  | ok blk =>
    simp only []
    rw [startSendingSO_eq hr]
    rfl

/-- The application never puts an Observe option on what it answers.  Stronger than `AppPlain`, which is exact for one call: an
    answer that is stored becomes the message of a sending slot, and `PlainEp.sent` asks of it that it has no Observe option
    whatever its code. -/
def AppNoObs (app : App) : Prop := ∀ d x, app d = some x → hasObserve x = false

theorem AppNoObs.plain {app : App} (h : AppNoObs app) : AppPlain app := fun d x hx => not_obsResp_of_not_has (h d x hx)

/-- the state of an endpoint on which the Observe branch never ran -/
structure PlainEp (ep : Endpoint) : Prop where
  sent : ∀ k e, ep.sending k = some e → hasObserve e.msg = false ∧ e.msg.tok = k
  held : ∀ k e, ep.receiving k = some e → e.msg.tok = k

theorem PlainEp.stepPlain {ep : Endpoint} (h : PlainEp ep) {outside : Outside} {tok : Nat}
    (ht : ep.sending tok = none → outside tok = none) : StepPlain ep outside tok :=
  ⟨ht, h.sent tok, h.held tok⟩

theorem handleS_plain (cfg : Cfg) (sl : Slots) (now : Int) (r : Msg) (app : App) (happ : AppNoObs app)
    (hsent : ∀ e, sl.snd = some e → PlainMsg r.tok e.msg) (hheld : ∀ e, sl.rcv = some e → e.msg.tok = r.tok) :
    (∀ e, (handleS cfg sl now r app).1.snd = some e → PlainMsg r.tok e.msg) ∧
    (∀ e, (handleS cfg sl now r app).1.rcv = some e → e.msg.tok = r.tok) ∧
    (∀ m, (handleS cfg sl now r app).2.reply = some m → PlainMsg r.tok m) := by
  have hrcv : (∀ e, (handleS cfg sl now r app).1.rcv = some e → e.msg.tok = r.tok) ∧
      ∀ d ∈ (handleS cfg sl now r app).2.delivered, d.tok = r.tok := by
    rcases handleS_cases cfg sl now r app with ⟨g1, g2⟩ | ⟨_, g1, g2⟩ | ⟨bt, mx, _, g1, g2⟩ <;> rw [g1, g2]
    · exact ⟨hheld, fun _ hd => nomatch hd⟩
    · exact ⟨hheld, fun _ hd => List.mem_singleton.mp hd ▸ rfl⟩
    · exact processReceived_tok cfg sl now none r mx app bt hheld
  obtain ⟨hrep, hst⟩ := handleS_sources cfg sl now r app
  refine ⟨?_, hrcv.1, fun m hm => ?_⟩
  · generalize (handleS cfg sl now r app).1.snd = snd' at hst
    cases hst with
    | same => exact hsent
    | none => exact fun _ he => nomatch he
    | answer v hd hx _ _ => exact fun e he => by cases he; exact ⟨(happ _ _ hx :), (hrcv.2 _ hd :)⟩
  · cases hrep m hm with
    | refused => exact ⟨rfl, rfl⟩
    | layer hl =>
      cases hl with
      | ack v => exact ⟨rfl, rfl⟩
      | followUp v hs _ _ => exact hsent _ hs
    | answer hd hx => exact ⟨(happ _ _ hx :), (hrcv.2 _ hd :)⟩
    | @answerBlock d x _ _ _ _ hd hx _ hc =>
      obtain ⟨_, ht, _, ho⟩ := createSendingWith_fields hc
      exact PlainMsg.of_fields (m := { x with tok := d.tok }) ⟨happ d x hx, hrcv.2 d hd⟩ ho ht
    | nextBlock hs hc =>
      obtain ⟨_, ht, _, ho⟩ := createSendingWith_fields hc
      exact (hsent _ hs).of_fields ho ht

theorem handle_plain (ep : Endpoint) (now : Int) (r : Msg) (app : App) (happ : AppNoObs app) (h : PlainEp ep) :
    PlainEp (handle ep now r app).1 ∧ ∀ m, (handle ep now r app).2.reply = some m → PlainMsg r.tok m := by
  obtain ⟨p1, p2, p3⟩ := handleS_plain ep.toCfg (ep.slots r.tok) now r app happ (h.sent r.tok) (h.held r.tok)
  exact ⟨⟨put_forall h.sent r.tok p1, put_forall h.held r.tok p2⟩, p3⟩

theorem sweep_plain (ep : Endpoint) (now : Int) (h : PlainEp ep) : PlainEp (sweep ep now) :=
  ⟨sweep_sending_forall now h.sent, sweep_receiving_forall now h.held⟩

def forget : ArrivalO → Arrival
  | .msg now r _ => .msg now r
  | .sweep now => .sweep now

def Quiet (outside : Outside) : ArrivalO → Prop
  | .msg _ r _ => isObserveResponse r = false ∧ outside r.tok = none
  | .sweep _ => True

theorem stepO_eq_step (app : App) (outside : Outside) (happ : AppNoObs app) {ep : Endpoint} (hp : PlainEp ep) {a : ArrivalO}
    (hq : Quiet outside a) : stepO app outside ep a = ep.step app (forget a) ∧ PlainEp (stepO app outside ep a).1 := by
  cases a with
  | msg now r fresh =>
    have := handleO_eq_handle ep outside fresh now r app hq.1 (hp.stepPlain (fun _ => hq.2)) happ.plain
    simp only [stepO, Endpoint.step, forget, this]
    exact ⟨trivial, (handle_plain ep now r app happ hp).1⟩
  | sweep now => exact ⟨rfl, sweep_plain ep now hp⟩

theorem runO_eq_run (app : App) (outside : Outside) (happ : AppNoObs app) (as : List ArrivalO) :
    ∀ (ep : Endpoint), PlainEp ep → (∀ a ∈ as, Quiet outside a) →
      runO app outside ep as = Endpoint.run app ep (as.map forget) ∧ PlainEp (runO app outside ep as).1 := by
  induction as with
  | nil => intro ep hp _; exact ⟨rfl, hp⟩
  | cons a as ih =>
    intro ep hp hq
    obtain ⟨hstep, hpl⟩ := stepO_eq_step app outside happ hp (hq a List.mem_cons_self)
    obtain ⟨h1, h2⟩ := ih (stepO app outside ep a).1 hpl (fun a' ha' => hq a' (List.mem_cons_of_mem _ ha'))
    exact ⟨by simp only [runO, List.map, Endpoint.run]; rw [h1, hstep], h2⟩

end CoapVerif.Lemmas.BlockwiseConserv
