import CoapVerif.Go.Basic
import CoapVerif.Model.Blockwise
import CoapVerif.Model.BlockwiseObserve
import CoapVerif.Lemmas.Blockwise
import CoapVerif.Lemmas.BlockwiseRounds
/-!
Lemmas for the observe-aware model (`Model/BlockwiseObserve.lean`).  `handleO` is `handle` where a block-wise send continues
and `recvO` of the receive path `handleReceivedO` otherwise (`handleO_cases`); `handleReceivedO` is read by the exit it takes
(`_error` / `_nodata` / `_data`), `startSendingSO` by the kind of message it is given; `processReceivedO` is a function `procL` of
the configuration, the slots of the two keys and the request found, put onto the endpoint as ONE `Endpoint.put` (`Loc`, `Loc.onto`,
`processReceivedO_local`): conservativity (`Lemmas/BlockwiseConserv.lean`) and the frame (`Lemmas/BlockwiseFrame.lean`) both read it
so.  On these rest the steps of a notification
fetched in order (`handleO_first`, `handleO_later_more`, `handleO_later_last`; `runO_msg_cons` walks `runO` over them): the
observe branch calls `processReceived` on the slots of another key, so they are instances of `processReceived_blockOf(_first)` of
`Lemmas/BlockwiseRounds.lean`.  `RespCode`, the codes these steps are stated for, is of this namespace but stands in
`Lemmas/Blockwise.lean`: the download of `Lemmas/BlockwiseProgress.lean` is stated with it too.
-/
namespace CoapVerif.Lemmas.BlockwiseObserve
open CoapVerif CoapVerif.Model.Blockwise CoapVerif.Model.BlockOpt CoapVerif.Generated.BlockwiseXfer
open CoapVerif.Model.BlockwiseObserve CoapVerif.Lemmas.Blockwise CoapVerif.Lemmas.BlockwiseRounds

theorem reachesSent_of {r : Msg} {bt : BT} {blk : Nat} {v : Nat × Nat × Bool} (htok : r.tok ≠ 0)
    (hcode : ¬ (r.code = codeGET ∨ r.code = codeDELETE)) (hopt : r.block bt = some blk) (hdec : decodeBlock blk = .ok v) :
    reachesSent r bt = true := by
  have h1 : ¬ r.code = codeGET := fun hc => hcode (Or.inl hc)
  have h2 : ¬ r.code = codeDELETE := fun hc => hcode (Or.inr hc)
  unfold reachesSent
  simp [htok, h1, h2, hopt, hdec]

theorem reachesSent_not_getdelete {r : Msg} {bt : BT} (h : reachesSent r bt = true) : ¬ (r.code = codeGET ∨ r.code = codeDELETE) := by
  intro hc
  unfold reachesSent at h
  rcases hc with hc | hc <;> simp [hc] at h

theorem reachesSent_downloadBlock (resp : Msg) {s : Nat} (ms j : Nat) (hs : s < 7) (hj : j < 2 ^ 20)
    (hrc : RespCode resp.code) (htok : resp.tok ≠ 0) : reachesSent (downloadBlock resp s ms j) .b2 = true :=
  reachesSent_of htok hrc.not_getdelete (downloadBlock_block resp s ms j) (decode_blkVal _ (Nat.le_of_lt hs) hj)

/-- `Handle` continues a block-wise SEND (`continueSendingMessage`) instead of receiving -/
abbrev Continues (sR : Slots) (now : Int) (r : Msg) : Prop :=
  r.tok ≠ 0 ∧ (live sR.snd now).isSome = true ∧ wantsToBeReceived r = false

def recvO (h : ResO) (r : Msg) : Endpoint × Out × Bool :=
  if h.failed then (h.ep, { reply := some (entityIncomplete r.tok), delivered := h.delivered, err := true }, h.drew)
  else (h.ep, { reply := h.w, delivered := h.delivered }, h.drew)

theorem recvO_fields (h : ResO) (r : Msg) : (recvO h r).1 = h.ep ∧ (recvO h r).2.1.delivered = h.delivered := by
  unfold recvO; split <;> exact ⟨rfl, rfl⟩

theorem handleO_cases (ep : Endpoint) (outside : Outside) (fresh : Nat) (now : Int) (r : Msg) (app : App) :
    handleO ep outside fresh now r app =
      if Continues (ep.slots r.tok) now r then ((handle ep now r app).1, (handle ep now r app).2, false)
      else recvO (handleReceivedO ep outside fresh now r app) r := by
  have hsnd : (ep.slots r.tok).snd = ep.sending r.tok := rfl
  unfold handleO recvO
  by_cases hc : Continues (ep.slots r.tok) now r
  · rw [if_pos hc]
    obtain ⟨ht, hl, hw⟩ := hc
    rw [hsnd] at hl
    cases hl' : live (ep.sending r.tok) now with
    | none => rw [hl'] at hl; cases hl
    | some e => simp only [if_neg ht, hw, Bool.false_eq_true, if_false]
  · rw [if_neg hc]
    by_cases ht : r.tok = 0
    · simp only [if_pos ht]
    cases hl : live (ep.sending r.tok) now with
    | none => simp only [if_neg ht]
    | some e =>
      by_cases hw : wantsToBeReceived r = true
      · simp only [if_neg ht, if_pos hw]
      · exact absurd ⟨ht, by rw [hsnd, hl]; rfl, Bool.eq_false_iff.mpr hw⟩ hc

/-- a result of the receive path that is ONE write: the key, what `HR` says of the two slots written there and of the rest,
    and `drew` of `ResO` -/
structure Loc extends HR where
  key : Nat
  drew : Bool := false

def Loc.onto (x : Loc) (ep : Endpoint) : ResO :=
  { ep := ep.put x.key x.sl, w := x.w, delivered := x.delivered, failed := x.failed, drew := x.drew }

/-- a result that leaves the endpoint alone is a write of the slots of any key onto themselves -/
theorem Loc.unchanged (ep : Endpoint) (k : Nat) (w : Option Msg) (d : List Msg) (f : Bool) :
    ({ ep := ep, w := w, delivered := d, failed := f } : ResO) =
      ({ key := k, sl := ep.slots k, w := w, delivered := d, failed := f } : Loc).onto ep := by
  simp only [Loc.onto, put_slots_id]

theorem recvO_onto (x : Loc) (ep : Endpoint) (r : Msg) :
    recvO (x.onto ep) r = (ep.put x.key x.sl, (handled r.tok x.toHR).2, x.drew) := by
  obtain ⟨⟨sl, w, d, f⟩, key, dr⟩ := x
  cases f <;> rfl

/-- what `writeBack` writes under `key` when `snd` is the sending slot of that key -/
def Loc.back (key : Nat) (snd : Option Entry) (hadLive : Bool) (h : HR) (drew : Bool) : Loc :=
  { key := key, sl := ⟨if (hadLive && h.delivered.any (fun d => d.tok != key)) = true then none else snd, h.sl.rcv⟩,
    w := h.w, delivered := h.delivered, failed := h.failed, drew := drew }

/-- `processReceivedO` on what it reads: the configuration, the slots `sR` of the message's token, the slots `sF` of the
    fresh token, and the request `sent` that `getSentRequest` found -/
def procL (cfg : Cfg) (sR sF : Slots) (sent : Option Msg) (fresh : Nat) (now : Int) (w : Option Msg) (r : Msg)
    (mx : Nat) (app : App) (bt : BT) : Loc :=
  let plain := Loc.back r.tok sR.snd (reachesSent r bt && (live sR.rcv now).isSome)
    (processReceived cfg ⟨sent.map (fun s => ⟨removeObserve s, 0⟩), sR.rcv⟩ now w r mx app bt) false
  match sent with
  | some s =>
    if reachesSent r bt = true ∧ bt = .b2 ∧ isObserveResponse r = true then
      if (storeIfAbsent sF.snd ⟨cloneFor s fresh, now + cfg.expiration⟩ now).2 = true then
        { key := fresh, sl := sF, w := w, failed := true, drew := true }
      else
        Loc.back fresh (storeIfAbsent sF.snd ⟨cloneFor s fresh, now + cfg.expiration⟩ now).1 (live sF.rcv now).isSome
          (processReceived cfg ⟨some ⟨removeObserve { s with tok := fresh, deadline := none }, 0⟩, sF.rcv⟩ now w r mx app bt) true
    else plain
  | none => plain

theorem processReceivedO_local (ep : Endpoint) (outside : Outside) (fresh : Nat) (now : Int) (w : Option Msg) (r : Msg)
    (mx : Nat) (app : App) (bt : BT) :
    processReceivedO ep outside fresh now w r mx app bt =
      (procL ep.toCfg (ep.slots r.tok) (ep.slots fresh) (getSentRequest ep outside r.tok) fresh now w r mx app bt).onto ep := by
  unfold processReceivedO procL Loc.onto
  generalize getSentRequest ep outside r.tok = sent
  cases sent with
  | none => rfl
  | some s =>
    simp only []
    by_cases hc : reachesSent r bt = true ∧ bt = .b2 ∧ isObserveResponse r = true
    · simp only [if_pos hc]
      have hsF : (ep.slots fresh).snd = ep.sending fresh := rfl
      rw [hsF]
      cases hst : storeIfAbsent (ep.sending fresh) ⟨cloneFor s fresh, now + ep.toCfg.expiration⟩ now with
      | mk snd1 loaded =>
        cases loaded with
        | true =>
          simp only [if_true, put_slots_id]
        | false =>
          simp only [Bool.false_eq_true, if_false, writeBack, Loc.back, snd_then_put, put_same]
          rfl
    · simp only [if_neg hc]
      rfl

theorem handleReceivedO_error {ep : Endpoint} {e} (he : encodeBlock ep.szx 0 true = .error e) (outside : Outside) (fresh : Nat)
    (now : Int) (r : Msg) (app : App) : handleReceivedO ep outside fresh now r app = { ep := ep, failed := true } := by
  unfold handleReceivedO; rw [he]

/-- Both models in one statement: the answer to a GET / DELETE goes through `startSendingMessage`, and conservativity needs
    that the two start it at the same block `blk`. -/
theorem handleReceivedO_nodata {ep : Endpoint} {blk0 : Nat} (he : encodeBlock ep.szx 0 true = .ok blk0) (outside : Outside)
    (fresh : Nat) (now : Int) {r : Msg} (app : App) (hbt : dataBT r.code = none) (sl : Slots) :
    (handleReceivedO ep outside fresh now r app = { ep := ep, w := next app none r, delivered := [r] } ∧
     handleReceived ep.toCfg sl now r app = { sl := sl, w := next app none r, delivered := [r] }) ∨
    ∃ blk, handleReceivedO ep outside fresh now r app =
        finishReceivedO now { ep := ep, w := next app none r, delivered := [r] } (fitSZX r .b2 ep.szx) blk ∧
      handleReceived ep.toCfg sl now r app =
        finishReceived ep.toCfg now { sl := sl, w := next app none r, delivered := [r] } (fitSZX r .b2 ep.szx) blk := by
  unfold handleReceivedO handleReceived
  rw [he]
  by_cases hsig : isSignal r.code = true
  · exact .inl ⟨if_pos hsig, if_pos hsig⟩
  · have hgd := (dataBT_none_iff.mp hbt).resolve_left hsig
    exact .inr ⟨_, (if_neg hsig).trans (if_pos hgd), (if_neg hsig).trans (if_pos hgd)⟩

theorem handleReceivedO_data {ep : Endpoint} {blk0 : Nat} (he : encodeBlock ep.szx 0 true = .ok blk0) (outside : Outside)
    (fresh : Nat) (now : Int) {r : Msg} (app : App) {bt : BT} (hbt : dataBT r.code = some bt) :
    handleReceivedO ep outside fresh now r app =
      finishReceivedO now (processReceivedO ep outside fresh now none r (fitSZX r bt ep.szx) app bt) (fitSZX r bt ep.szx) blk0 := by
  have hn : ¬ (isSignal r.code = true ∨ r.code = codeGET ∨ r.code = codeDELETE) := fun h => by
    rw [dataBT_none_iff.mpr h] at hbt; cases hbt
  unfold dataBT at hbt
  rw [if_neg hn] at hbt
  unfold handleReceivedO
  rw [he]
  simp only [if_neg (fun h => hn (.inl h)), if_neg (fun h => hn (.inr h))]
  by_cases hpp : isPostPut r.code = true
  · rw [if_pos hpp] at hbt ⊢; cases hbt; rfl
  · rw [if_neg hpp] at hbt ⊢; cases hbt; rfl

theorem handleReceivedO_b2 (ep : Endpoint) (outside : Outside) (fresh : Nat) (now : Int) (r : Msg) (app : App)
    (hs7 : ep.szx ≤ 7) (hrc : RespCode r.code) :
    handleReceivedO ep outside fresh now r app =
      finishReceivedO now (processReceivedO ep outside fresh now none r (fitSZX r .b2 ep.szx) app .b2)
        (fitSZX r .b2 ep.szx) (blkVal ep.szx 0 true) :=
  handleReceivedO_data (encode_blkVal true hs7 (by decide)) outside fresh now app hrc.dataBT

theorem handleO_downloadBlock (ep : Endpoint) (outside : Outside) (fresh : Nat) (now : Int) (R : Msg) (app : App) (ms j : Nat)
    (hs : ep.szx < 7) (hj : j < 2 ^ 20) (hrc : RespCode R.code) :
    handleO ep outside fresh now (downloadBlock R ep.szx ms j) app =
      recvO (finishReceivedO now (processReceivedO ep outside fresh now none (downloadBlock R ep.szx ms j) ep.szx app .b2)
        ep.szx (blkVal ep.szx 0 true)) (downloadBlock R ep.szx ms j) := by
  have hrc' : RespCode (downloadBlock R ep.szx ms j).code := hrc
  rw [handleO_cases, if_neg (fun h => Bool.noConfusion ((wants_of_respCode hrc').symm.trans h.2.2)),
    handleReceivedO_b2 _ _ _ _ _ _ (Nat.le_of_lt hs) hrc', fitSZX_downloadBlock R ms j hs hj]

theorem getSentRequest_of_sending {ep : Endpoint} {outside : Outside} {tok : Nat} {e : Entry} (h : ep.sending tok = some e) :
    getSentRequest ep outside tok = some e.msg := by
  unfold getSentRequest; rw [h]

theorem getSentRequest_congr {a b : Endpoint} (outside : Outside) {k : Nat} (h : a.slots k = b.slots k) :
    getSentRequest a outside k = getSentRequest b outside k := by
  have : a.sending k = b.sending k := congrArg Slots.snd h
  unfold getSentRequest
  rw [this]

theorem getSentRequest_isSome (ep : Endpoint) (outside : Outside) (k : Nat) (h : (outside k).isSome = true) :
    ∃ s, getSentRequest ep outside k = some s := by
  unfold getSentRequest
  cases ep.sending k with
  | some e => exact ⟨_, rfl⟩
  | none =>
    cases ho : outside k with
    | none => rw [ho] at h; cases h
    | some s => exact ⟨s, rfl⟩

theorem removeObserve_id {m : Msg} (h : hasObserve m = false) : removeObserve m = m := by
  unfold removeObserve
  have : m.other.filter (fun o => o.1 != optObserve) = m.other := by
    rw [List.filter_eq_self]
    intro a ha
    unfold hasObserve at h
    rw [List.any_eq_false] at h
    have := h a ha
    simp only [bne_iff_ne, ne_eq]
    intro hc
    exact this (by simp [hc])
  rw [this]

theorem not_obsResp_of_not_has {m : Msg} (h : hasObserve m = false) : isObserveResponse m = false := by
  unfold isObserveResponse; rw [h]; rfl

theorem isObserveResponse_postPut {r : Msg} (h : isPostPut r.code = true) : isObserveResponse r = false := by
  unfold isObserveResponse
  rcases postput_codes h with hc | hc <;> rw [hc] <;> simp [codeCreated, codePOST, codePUT]

theorem isObserveResponse_block {skip : Bool} {m sm : Msg} {mx ms blk : Nat} {more : Bool}
    (h : createSendingWith skip m mx ms blk = some (sm, more)) : isObserveResponse sm = isObserveResponse m := by
  obtain ⟨hc, _, _, ho⟩ := createSendingWith_fields h
  unfold isObserveResponse hasObserve
  rw [hc, ho]

theorem startSendingSO_eq {m : Msg} (hm : isObserveResponse m = false) (cfg : Cfg) (snd : Option Entry) (now : Int) (mx blk : Nat) :
    startSendingSO cfg snd now (some m) mx blk = startSendingS cfg snd now (some m) mx blk := by
  unfold startSendingSO
  simp only []
  split
  · rename_i hf; unfold startSendingS; simp only [hf, if_true]
  · rename_i hf
    split
    · rename_i hc; unfold startSendingS; simp only [hf, hc]; rfl
    · rename_i sm more hc
      simp only [(isObserveResponse_block hc).trans hm, Bool.false_eq_true, if_false]

theorem startSendingSO_observe {m : Msg} (hm : isObserveResponse m = true) {cfg : Cfg} {snd : Option Entry} {now : Int} {mx blk : Nat}
    {x : Option Entry × Option Msg} (h : startSendingSO cfg snd now (some m) mx blk = .ok x) : x.1 = snd := by
  unfold startSendingSO at h
  simp only [] at h
  split at h
  · cases h; rfl
  · split at h
    · cases h
    · rename_i sm more hc
      simp only [(isObserveResponse_block hc).trans hm, if_true] at h
      cases h; rfl

theorem finishReceivedO_id (now : Int) (h : ResO) (mx blk : Nat) (hmx : mx ≤ 7) (hw : ∀ m, h.w = some m → m.body = []) :
    finishReceivedO now h mx blk = h := by
  obtain ⟨ep, w, d, f, dr⟩ := h
  unfold finishReceivedO
  cases f with
  | true => rfl
  | false =>
    cases w with
    | none => rfl
    | some q =>
      have hfits : fits startDirectIsLe q.body.length (sizeN mx) = true := by rw [hw q rfl]; exact fits_nil hmx
      simp only [Bool.false_eq_true, if_false, startSendingSO, hfits, if_true, put_self]

theorem finishReceivedO_rcv (now : Int) (h : ResO) (mx blk : Nat) :
    (finishReceivedO now h mx blk).ep.receiving = h.ep.receiving ∧ (finishReceivedO now h mx blk).delivered = h.delivered := by
  unfold finishReceivedO
  split
  · exact ⟨rfl, rfl⟩
  · split
    · exact ⟨rfl, rfl⟩
    · split <;> exact ⟨rfl, rfl⟩

theorem downloadReq_body (req : Msg) (s j : Nat) : (downloadReq req s j).body = [] := rfl
theorem downloadReq_tok (req : Msg) (s j : Nat) : (downloadReq req s j).tok = req.tok := rfl

/-- The held message keeps the ORIGINAL token, which the `bytes.Equal` line tests when the transfer completes. -/
theorem handleO_first (ep : Endpoint) (outside : Outside) (F : Nat) (now : Int) (N req : Msg) (app : App) (ms : Nat)
    (hs : ep.szx < 7) (hrc : RespCode N.code) (hobs : isObserveResponse N = true) (htok : N.tok ≠ 0)
    (hmore : sizeN ep.szx < N.body.length)
    (hsent : getSentRequest ep outside N.tok = some req)
    (hfs : live (ep.sending F) now = none) (hfr : live (ep.receiving F) now = none) :
    handleO ep outside F now (downloadBlock N ep.szx ms 0) app =
      (ep.put F ⟨some ⟨cloneFor req F, now + ep.expiration⟩, some ⟨downloadBlock N ep.szx ms 0, now + ep.expiration⟩⟩,
       { reply := some (downloadReq (removeObserve { req with tok := F, deadline := none }) ep.szx 1) }, true) := by
  have hs7 : ep.szx ≤ 7 := by omega
  have hreach := reachesSent_downloadBlock N ms 0 hs (by omega) hrc htok
  have hobs' : isObserveResponse (downloadBlock N ep.szx ms 0) = true := hobs
  have hpro : processReceivedO ep outside F now none (downloadBlock N ep.szx ms 0) ep.szx app .b2 =
      { ep := ep.put F ⟨some ⟨cloneFor req F, now + ep.expiration⟩, some ⟨downloadBlock N ep.szx ms 0, now + ep.expiration⟩⟩,
        w := some (downloadReq (removeObserve { req with tok := F, deadline := none }) ep.szx 1), drew := true } := by
    unfold processReceivedO
    have f1 : (downloadBlock N ep.szx ms 0).tok = N.tok := rfl
    simp only [f1, hsent, hreach, hobs', and_self, if_true]
    unfold storeIfAbsent
    simp only [hfs, Bool.false_eq_true, if_false]
    -- the branch runs `processReceived` on the request without Observe under `F` and the receiving slot of `F`;
    -- nothing is handed on, so `writeBack` is a `put` at `F`
    have hp := processReceived_blockOf_first (cfg := ep.toCfg)
      (sl := ⟨some ⟨removeObserve { req with tok := F, deadline := none }, 0⟩, ep.receiving F⟩) (now := now) (m := N) app (bt := .b2) ms
      hs htok hrc.not_getdelete (fun h => nomatch h.2) hfr hmore
    simp only [Option.map_some, blockReply_next _ N.tok 0 hs7 (by decide) (Nat.div_self (sizeN_pos hs7))] at hp
    rw [downloadBlock_eq, hp]
    simp only [writeBack, hfr, Option.isSome, Bool.false_and, Bool.false_eq_true, if_false, snd_then_put]
    rw [put_same]
    rfl
  rw [handleO_downloadBlock ep outside F now N app ms 0 hs (by omega) hrc, hpro,
    finishReceivedO_id now _ ep.szx (blkVal ep.szx 0 true) hs7 (by intro m hm; cases hm; rfl)]
  rfl

/-- A later block `j ≥ 1`, the last one or not.  The fresh key is `R.tok` (the answers to the follow-up GETs carry it); `fr`, the
    scripted token of this call, is not used.  `processReceived_blockOf` on the slots of `R.tok`. -/
theorem processReceivedO_later (ep : Endpoint) (outside : Outside) (fr : Nat) (now : Int) (R c : Msg) (vs : Int) (ent : Entry)
    (app : App) (ms j : Nat)
    (hs : ep.szx < 7) (hrc : RespCode R.code) (hnobs : isObserveResponse R = false) (htok : R.tok ≠ 0)
    (hsnd : ep.sending R.tok = some ⟨c, vs⟩) (hrcv : ep.receiving R.tok = some ent) (hlive : now ≤ ent.validUntil)
    (hheld : ent.msg.body = R.body.take (j * sizeN ep.szx)) (hj : j * sizeN ep.szx ≤ R.body.length)
    (hetag : ent.msg.etag = R.etag) (hnum : j + 1 < 2 ^ 20) (hj0 : 0 < j) :
    processReceivedO ep outside fr now none (downloadBlock R ep.szx ms j) ep.szx app .b2 =
      if R.body.length ≤ (j + 1) * sizeN ep.szx then
        { ep := ep.put R.tok ⟨if ent.msg.tok ≠ R.tok then none else some ⟨c, vs⟩, none⟩,
          w := next app none { ent.msg with body := R.body, block2 := none, size2 := none },
          delivered := [{ ent.msg with body := R.body, block2 := none, size2 := none }] }
      else
        { ep := ep.put R.tok ⟨some ⟨c, vs⟩, some ⟨{ ent.msg with body := R.body.take ((j + 1) * sizeN ep.szx) }, ent.validUntil⟩⟩,
          w := some (downloadReq (removeObserve c) ep.szx (j + 1)) } := by
  have hs7 : ep.szx ≤ 7 := by omega
  have hnobs' : isObserveResponse (downloadBlock R ep.szx ms j) = false := hnobs
  have hreach := reachesSent_downloadBlock R ms j hs (by omega) hrc htok
  have f1 : (downloadBlock R ep.szx ms j).tok = R.tok := rfl
  have hp := processReceived_blockOf (cfg := ep.toCfg) (sl := ⟨some ⟨removeObserve c, 0⟩, some ent⟩) (now := now) (m := R) app (bt := .b2) ms
    hs htok hrc.not_getdelete (fun h => nomatch h.2) (live_fresh _ _ hlive) hheld hj hetag (by omega) hj0
  unfold processReceivedO
  simp only [f1, getSentRequest_of_sending hsnd, hnobs', Bool.false_eq_true, and_false, if_false, hrcv]
  rw [downloadBlock_eq] at hreach ⊢
  rw [hp]
  by_cases hlast : R.body.length ≤ (j + 1) * sizeN ep.szx
  · have htk : (({ ent.msg with body := R.body } : Msg).removeBlockSize .b2).tok = ent.msg.tok := rfl
    simp only [if_pos hlast, writeBack, hreach, live_fresh _ _ hlive, Option.isSome, Bool.and_self, Bool.true_and, List.any_cons,
      List.any_nil, Bool.or_false, hsnd, htk, bne_iff_ne, ne_eq]
    rfl
  · have hrep : blockReply .b2 (some (removeObserve c)) R.tok ep.szx j ((j + 1) * sizeN ep.szx) true =
        some (downloadReq (removeObserve c) ep.szx (j + 1)) :=
      blockReply_next _ _ j hs7 hnum (Nat.mul_div_cancel _ (sizeN_pos hs7))
    simp only [if_neg hlast, Option.map_some, hrep, writeBack, List.any_nil, Bool.and_false, Bool.false_eq_true, if_false, hsnd]

theorem handleO_later_more (ep : Endpoint) (outside : Outside) (fr : Nat) (now : Int) (R c : Msg) (vs : Int) (ent : Entry)
    (app : App) (ms j : Nat)
    (hs : ep.szx < 7) (hrc : RespCode R.code) (hnobs : isObserveResponse R = false) (htok : R.tok ≠ 0)
    (hsnd : ep.sending R.tok = some ⟨c, vs⟩) (hrcv : ep.receiving R.tok = some ent) (hlive : now ≤ ent.validUntil)
    (hheld : ent.msg.body = R.body.take (j * sizeN ep.szx)) (hj : j * sizeN ep.szx ≤ R.body.length)
    (hetag : ent.msg.etag = R.etag) (hnum : j + 1 < 2 ^ 20) (hj0 : 0 < j)
    (hmore : (j + 1) * sizeN ep.szx < R.body.length) :
    handleO ep outside fr now (downloadBlock R ep.szx ms j) app =
      (ep.put R.tok ⟨some ⟨c, vs⟩, some ⟨{ ent.msg with body := R.body.take ((j + 1) * sizeN ep.szx) }, ent.validUntil⟩⟩,
       { reply := some (downloadReq (removeObserve c) ep.szx (j + 1)) }, false) := by
  rw [handleO_downloadBlock ep outside fr now R app ms j hs (by omega) hrc,
    processReceivedO_later ep outside fr now R c vs ent app ms j hs hrc hnobs htok hsnd hrcv hlive hheld hj hetag hnum hj0,
    if_neg (Nat.not_le.mpr hmore),
    finishReceivedO_id now _ ep.szx (blkVal ep.szx 0 true) (by omega) (by intro m hm; cases hm; rfl)]
  rfl

/-- the clone of the request goes with the reassembly entry because the held message carries another token than the key's
    (`horig`) -/
theorem handleO_later_last (ep : Endpoint) (outside : Outside) (fr : Nat) (now : Int) (R c : Msg) (vs : Int) (ent : Entry)
    (app : App) (ms j : Nat)
    (hs : ep.szx < 7) (hrc : RespCode R.code) (hnobs : isObserveResponse R = false) (htok : R.tok ≠ 0)
    (hsnd : ep.sending R.tok = some ⟨c, vs⟩) (hrcv : ep.receiving R.tok = some ent) (hlive : now ≤ ent.validUntil)
    (hheld : ent.msg.body = R.body.take (j * sizeN ep.szx)) (hj : j * sizeN ep.szx ≤ R.body.length)
    (hetag : ent.msg.etag = R.etag) (hnum : j + 1 < 2 ^ 20) (hj0 : 0 < j)
    (hlast : R.body.length ≤ (j + 1) * sizeN ep.szx) (horig : ent.msg.tok ≠ R.tok)
    (happ : app { ent.msg with body := R.body, block2 := none, size2 := none } = none) :
    handleO ep outside fr now (downloadBlock R ep.szx ms j) app =
      (ep.put R.tok ⟨none, none⟩,
       { delivered := [{ ent.msg with body := R.body, block2 := none, size2 := none }] }, false) := by
  have hnx : next app none { ent.msg with body := R.body, block2 := none, size2 := none } = none := by
    unfold next; rw [happ]
  rw [handleO_downloadBlock ep outside fr now R app ms j hs (by omega) hrc,
    processReceivedO_later ep outside fr now R c vs ent app ms j hs hrc hnobs htok hsnd hrcv hlive hheld hj hetag hnum hj0,
    if_pos hlast, if_pos horig, hnx]
  rfl

/-- the bounds of one round of a fetch whose last block is `j + (k + 1)`: block `j` has a successor, and the bounds for the
    rounds from `j + 1` on are the same bounds, reindexed -/
theorem later_round_bounds {j k S L : Nat} (hnum : j + (k + 1) + 1 < 2 ^ 20) (hlo : (j + (k + 1)) * S < L)
    (hhi : L ≤ (j + (k + 1) + 1) * S) :
    (j + 1) * S < L ∧ j * S ≤ L ∧ j + 1 < 2 ^ 20 ∧ j + 1 + k + 1 < 2 ^ 20 ∧ (j + 1 + k) * S < L ∧ L ≤ (j + 1 + k + 1) * S := by
  rw [Nat.add_right_comm j 1 k]
  have hjk : j + 1 ≤ j + (k + 1) := Nat.add_le_add_left (Nat.le_add_left 1 k) j
  have h1 : (j + 1) * S < L := Nat.lt_of_le_of_lt (Nat.mul_le_mul_right S hjk) hlo
  exact ⟨h1, Nat.le_trans (Nat.mul_le_mul_right S (Nat.le_succ j)) (Nat.le_of_lt h1),
    Nat.lt_of_le_of_lt hjk (Nat.lt_of_succ_lt hnum), hnum, hlo, hhi⟩

theorem isRunO (app : App) (outside : Outside) : Run.IsRun (stepO app outside) (runO app outside) :=
  ⟨fun _ => rfl, fun _ _ _ => rfl⟩

theorem runO_msg_cons {app : App} {outside : Outside} {ep ep' : Endpoint} {now : Int} {r : Msg} {fresh : Nat} {out : Out} {drew : Bool}
    (h : handleO ep outside fresh now r app = (ep', out, drew)) (as : List ArrivalO) :
    runO app outside ep (.msg now r fresh :: as) = ((runO app outside ep' as).1, out.delivered ++ (runO app outside ep' as).2) := by
  simp only [runO, stepO, h]

end CoapVerif.Lemmas.BlockwiseObserve
