import CoapVerif.Model.DedupLock
/-! Invariant of the two-goroutine lock model of `handleReq`, its preservation under every step, and what it says about the
number of handler executions (`Inv.runs_le`, `Inv.final`: what `Props/C05.lean` states). -/
namespace CoapVerif.Lemmas.DedupLock
open CoapVerif.Model.DedupLock

def inCS : PC → Bool
  | .locked | .miss | .handled | .replied => true
  | _ => false

def isHandled : PC → Bool
  | .handled => true
  | _ => false

def beforeStore : PC → Bool
  | .miss | .handled => true
  | _ => false

def hasReplied : PC → Bool
  | .replied | .done => true
  | _ => false

structure Ok (t : Bool) (p : PC) (lock : Option Bool) (cached : Bool) : Prop where
  cs : inCS p = true ↔ lock = some t
  empty : beforeStore p = true → cached = false
  full : hasReplied p = true → cached = true

/-- Handler executions = 1 if this pair of copies filled the cache, plus 1 while a handler result is not stored yet. -/
def runsOf (c0 cached : Bool) (p q : PC) : Nat :=
  (if cached && !c0 then 1 else 0) + (if isHandled p || isHandled q then 1 else 0)

theorem runsOf_comm (c0 cached : Bool) (p q : PC) : runsOf c0 cached p q = runsOf c0 cached q p := by
  rw [runsOf, runsOf, Bool.or_comm]

structure Inv (c0 : Bool) (s : State) : Prop where
  ok : ∀ t, Ok t (pc s t) s.lock s.cached
  start : c0 = true → s.cached = true
  count : s.runs = runsOf c0 s.cached s.pa s.pb

theorem inv_init (c0 : Bool) : Inv c0 (init c0) :=
  ⟨fun t => by cases t <;> exact ⟨⟨nofun, nofun⟩, nofun, nofun⟩, id, by cases c0 <;> rfl⟩

theorem inv_setPc {c0 : Bool} {s : State} {t : Bool} {p : PC} {l : Option Bool} {c : Bool} {r : Nat}
    (hm : Ok t p l c) (ho : Ok (!t) (pc s (!t)) l c) (hc : c0 = true → c = true)
    (hr : r = runsOf c0 c p (pc s (!t))) : Inv c0 (setPc ⟨s.pa, s.pb, l, c, r⟩ t p) := by
  cases t
  · exact ⟨fun u => by cases u; exact hm; exact ho, hc, hr⟩
  · exact ⟨fun u => by cases u; exact ho; exact hm, hc, hr.trans (runsOf_comm ..)⟩

theorem outside {q : PC} (h : inCS q = false) : beforeStore q = false ∧ isHandled q = false := by
  cases q <;> first | exact ⟨rfl, rfl⟩ | cases h

theorem inv_step {c0 : Bool} {s : State} (h : Inv c0 s) (t : Bool) : Inv c0 (step true s t) := by
  have hm := h.ok t
  have ho := h.ok (!t)
  have hr : s.runs = runsOf c0 s.cached (pc s t) (pc s (!t)) := by
    cases t; exact h.count; exact h.count.trans (runsOf_comm ..)
  -- taking or releasing the mutex, `t` never makes the other goroutine its holder
  have ne : ∀ l, l = none ∨ l = some t → ¬ l = some (!t) := by
    rintro _ (rfl | rfl) e <;> cases t <;> cases e
  have out : inCS (pc s t) = true → inCS (pc s (!t)) = false := fun hi =>
    Bool.eq_false_iff.2 fun hq => ne _ (.inr (hm.cs.1 hi)) (ho.cs.1 hq)
  unfold step
  cases hp : pc s t <;> rw [hp] at hm hr out
  case idle =>
    rw [if_pos rfl]
    cases hl : s.lock
    · exact inv_setPc ⟨⟨fun _ => rfl, fun _ => rfl⟩, nofun, nofun⟩
        ⟨ho.cs.trans (iff_of_false (ne _ (.inl hl)) (ne _ (.inr rfl))), ho.empty, ho.full⟩ h.start hr
    · exact h
  case locked =>
    by_cases hc : s.cached = true
    · rw [if_pos hc]
      exact inv_setPc ⟨hm.cs, nofun, fun _ => hc⟩ ho h.start hr
    · rw [if_neg hc]
      exact inv_setPc ⟨hm.cs, fun _ => Bool.eq_false_iff.2 hc, nofun⟩ ho h.start hr
  case miss =>
    -- the handler runs: one more execution, and nobody else is handling
    exact inv_setPc ⟨hm.cs, hm.empty, nofun⟩ ho h.start
      (by rw [hr, runsOf, runsOf, (outside (out rfl)).2]; rfl)
  case handled =>
    -- the store: the cache was empty, so it was empty at the start, and nobody else is handling
    have hc := hm.empty rfl
    have hc0 : c0 = false := Bool.eq_false_iff.2 fun e => Bool.false_ne_true (hc.symm.trans (h.start e))
    have hq := outside (out rfl)
    exact inv_setPc ⟨hm.cs, nofun, fun _ => rfl⟩ ⟨ho.cs, fun e => absurd (e.symm.trans hq.1) Bool.noConfusion, fun _ => rfl⟩
      (fun _ => rfl) (by rw [hr, runsOf, runsOf, hc, hc0, hq.2]; rfl)
  case replied =>
    rw [if_pos rfl]
    exact inv_setPc ⟨⟨nofun, nofun⟩, nofun, hm.full⟩
      ⟨ho.cs.trans (iff_of_false (ne _ (.inr (hm.cs.1 rfl))) (ne _ (.inl rfl))), ho.empty, ho.full⟩ h.start hr
  case done => exact h

theorem inv_exec {c0 : Bool} (sched : List Bool) : ∀ s, Inv c0 s → Inv c0 (exec true s sched) :=
  fun _ h => List.foldlRecOn sched _ h fun _ h t _ => inv_step h t

/-- `run` is `exec` at the regenerated `handleReqLockedPerMID`; this checks because that is `true`. -/
theorem run_inv (c0 : Bool) (sched : List Bool) : Inv c0 (run c0 sched) :=
  inv_exec sched _ (inv_init c0)

/-- With the cache filled nobody is between miss and store, so the count is what this pair contributed. -/
theorem Inv.runs_cached {c0 : Bool} {s : State} (h : Inv c0 s) (hc : s.cached = true) :
    s.runs = if c0 then 0 else 1 := by
  have hn : ∀ p, (beforeStore p = true → s.cached = false) → isHandled p = false := fun p hp => by
    cases p <;> first | rfl | exact Bool.noConfusion (hc.symm.trans (hp rfl))
  rw [h.count, runsOf, hc, hn s.pa (h.ok false).empty, hn s.pb (h.ok true).empty]
  cases c0 <;> rfl

/-- A handler result that is not stored yet means the cache is still empty, so the two summands of `runsOf` are
    never both 1; and a reply cached at the start stays cached. -/
theorem Inv.runs_le {c0 : Bool} {s : State} (h : Inv c0 s) : s.runs ≤ 1 ∧ (c0 = true → s.runs = 0) := by
  cases hc : s.cached
  · have hc0 : c0 = false := Bool.eq_false_iff.2 fun e => Bool.false_ne_true (hc.symm.trans (h.start e))
    rw [h.count, runsOf, hc, hc0]
    cases isHandled s.pa || isHandled s.pb <;> exact ⟨by decide, nofun⟩
  · rw [h.runs_cached hc]
    cases c0 <;> exact ⟨by decide, by decide⟩

/-- Only A's program counter is asked for: once one goroutine is through, a reply is cached and, unless it was there before,
    the handler has run once. -/
theorem Inv.final {c0 : Bool} {s : State} (h : Inv c0 s) (ha : s.pa = .done) :
    s.runs = (if c0 then 0 else 1) ∧ s.cached = true :=
  have hc := (h.ok false).full (show hasReplied s.pa = true by rw [ha]; rfl)
  ⟨h.runs_cached hc, hc⟩

end CoapVerif.Lemmas.DedupLock
