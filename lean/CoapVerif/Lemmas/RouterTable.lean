import CoapVerif.Model.Router
import CoapVerif.Model.RouterAccess
/-!
# C17 lemmas — the route table under registrations

A list of (pattern, route) pairs read with `zGet` / `zHas`, written with `zSet` / `zErase`.  `zGet` is the model's own recursion
and `zSet` overwrites the FIRST entry under the key or appends one, so these are not the `find?` and the update by `map` of
`Lemmas/KeyedList.lean`; what a lookup returns after a write is proved here (`zGet_zSet`, `zGet_zErase`, `zHas_eq_isSome`;
`mem_iff_zGet` on a table without a key twice).  `Handle` and `HandleRemove` keep the table well-formed (`WF`: every route
compiled from its key, no key twice).

After a history the table is what `liveRev` reads off it (`Tracks`, an invariant of `Router.apply`: `tracks_apply`,
`tracks_run`); `live_iff_entry` says so entry by entry, `liveRev_some` that a live pattern is a filtered, accepted one.
-/
namespace CoapVerif.Lemmas.Router
open CoapVerif.Model.Router

theorem mem_zSet {z : List (Str × Route)} {k : Str} {v : Route} {e : Str × Route} (h : e ∈ zSet z k v) :
    e = (k, v) ∨ e ∈ z := by
  induction z with
  | nil => simp only [zSet, List.mem_singleton] at h; exact .inl h
  | cons x xs ih =>
    obtain ⟨k', v'⟩ := x
    simp only [zSet] at h
    by_cases hk : k' = k
    · simp only [hk, if_true, List.mem_cons] at h
      rcases h with h | h
      · exact .inl h
      · exact .inr (by simp [h])
    · simp only [hk, if_false, List.mem_cons] at h
      rcases h with h | h
      · exact .inr (by simp [h])
      · rcases ih h with h' | h'
        · exact .inl h'
        · exact .inr (by simp [h'])

theorem zSet_keys (z : List (Str × Route)) (k : Str) (v : Route) :
    (zSet z k v).map (·.1) = if k ∈ z.map (·.1) then z.map (·.1) else z.map (·.1) ++ [k] := by
  induction z with
  | nil => simp [zSet]
  | cons x xs ih =>
    obtain ⟨k', v'⟩ := x
    simp only [zSet]
    by_cases hk : k' = k
    · simp [hk]
    · have hk' : ¬ k = k' := fun h => hk h.symm
      simp only [hk, if_false, List.map_cons, ih, List.mem_cons, hk', false_or]
      by_cases hm : k ∈ xs.map (·.1)
      · simp [hm]
      · simp [hm]

theorem zSet_nodup {z : List (Str × Route)} (k : Str) (v : Route) (hnd : (z.map (·.1)).Nodup) :
    ((zSet z k v).map (·.1)).Nodup := by
  rw [zSet_keys]
  by_cases hm : k ∈ z.map (·.1)
  · simpa [hm] using hnd
  · simp only [hm, if_false]
    rw [List.nodup_append]
    exact ⟨hnd, by simp, by
      intro a ha b hb
      simp only [List.mem_singleton] at hb
      subst hb
      intro hab; subst hab; exact hm ha⟩

theorem zGet_zSet (z : List (Str × Route)) (k : Str) (v : Route) (q : Str) :
    zGet (zSet z k v) q = if k = q then some v else zGet z q := by
  induction z with
  | nil => simp [zSet, zGet]
  | cons x xs ih =>
    obtain ⟨k', v'⟩ := x
    simp only [zSet]
    by_cases hk : k' = k
    · subst hk
      simp only [if_true, zGet]
      by_cases hq : k' = q <;> simp [hq]
    · simp only [hk, if_false, zGet, ih]
      by_cases hq : k' = q
      · subst hq
        have : ¬ k = k' := fun h => hk h.symm
        simp [this]
      · simp [hq]

theorem zGet_zErase (z : List (Str × Route)) (k q : Str) :
    zGet (zErase z k) q = if k = q then none else zGet z q := by
  induction z with
  | nil => simp [zErase, zGet]
  | cons x xs ih =>
    obtain ⟨k', v'⟩ := x
    unfold zErase at ih ⊢
    by_cases hk : k' = k
    · rw [List.filter_cons_of_neg (by simpa using hk), ih, zGet, hk]; split <;> rfl
    · rw [List.filter_cons_of_pos (by simpa using hk), zGet, zGet, ih]
      by_cases hq : k' = q
      · rw [if_pos hq, if_neg (hq ▸ Ne.symm hk), if_pos hq]
      · rw [if_neg hq, if_neg hq]

theorem zHas_eq_isSome : ∀ (z : List (Str × Route)) (k : Str), zHas z k = (zGet z k).isSome
  | [], _ => rfl
  | (k', _) :: t, k => by
    have ih := zHas_eq_isSome t k
    unfold zHas at ih ⊢
    rw [List.any_cons, ih, zGet]
    by_cases hk : k' = k
    · rw [if_pos hk, decide_eq_true hk]; rfl
    · rw [if_neg hk, decide_eq_false hk]; rfl

theorem zGet_none_of_not_zHas (z : List (Str × Route)) (k : Str) (h : zHas z k = false) : zGet z k = none := by
  rw [zHas_eq_isSome] at h
  exact Option.not_isSome_iff_eq_none.1 (by rw [h]; exact Bool.false_ne_true)

theorem mem_iff_zGet : ∀ (z : List (Str × Route)), (z.map (·.1)).Nodup → ∀ k v, (k, v) ∈ z ↔ zGet z k = some v := by
  intro z
  induction z with
  | nil => intro _ k v; simp [zGet]
  | cons e t ih =>
    intro hnd k v
    obtain ⟨k', v'⟩ := e
    simp only [List.map_cons, List.nodup_cons] at hnd
    simp only [zGet, List.mem_cons, Prod.mk.injEq]
    by_cases hk : k' = k
    · subst hk
      simp only [if_true, Option.some.injEq]
      constructor
      · rintro (⟨_, rfl⟩ | hm)
        · rfl
        · exact (hnd.1 (List.mem_map.2 ⟨_, hm, rfl⟩)).elim
      · rintro rfl; exact .inl ⟨trivial, rfl⟩
    · simp only [hk, if_false]
      rw [← ih hnd.2 k v]
      constructor
      · rintro (⟨rfl, _⟩ | hm)
        · exact (hk rfl).elim
        · exact hm
      · exact fun hm => .inr hm

theorem zErase_zSet_fresh : ∀ (z : List (Str × Route)) (k : Str) (v : Route), zHas z k = false → zErase (zSet z k v) k = z := by
  intro z
  induction z with
  | nil => intro k v _; simp [zSet, zErase]
  | cons e t ih =>
    intro k v hk
    obtain ⟨k', v'⟩ := e
    simp only [zHas, List.any_cons, Bool.or_eq_false_iff, decide_eq_false_iff_not] at hk
    have hne : k' ≠ k := hk.1
    have ht : zHas t k = false := by simpa [zHas] using hk.2
    simp only [zSet, hne, if_false]
    have := ih k v ht
    simp only [zErase] at this ⊢
    simp only [List.filter_cons, ne_eq, hne, not_false_eq_true, decide_true, if_true, this]

theorem zHas_zSet_self (z : List (Str × Route)) (k : Str) (v : Route) : zHas (zSet z k v) k = true := by
  rw [zHas_eq_isSome, zGet_zSet, if_pos rfl]
  rfl

def RouteOK (e : Str × Route) : Prop := e.2.pattern = e.1 ∧ newRouteRegexp e.1 = .ok e.2.rx

def WF (r : Router) : Prop := (∀ e ∈ r.z, RouteOK e) ∧ (r.z.map (·.1)).Nodup

theorem wf_init : WF {} := by simp [WF]

theorem wf_handle {r r' : Router} {pattern : Str} {h : Option Handler} (hwf : WF r)
    (hh : r.handle pattern h = .ok r') : WF r' := by
  simp only [Router.handle] at hh
  cases h with
  | none => simp at hh
  | some hd =>
    simp only at hh
    cases hn : newRouteRegexp (filterPath pattern) with
    | error e => rw [hn] at hh; simp at hh
    | ok rx =>
      rw [hn] at hh
      simp only [Except.ok.injEq] at hh
      subst hh
      refine ⟨?_, ?_⟩
      · intro e he
        rcases mem_zSet he with rfl | he
        · exact ⟨rfl, hn⟩
        · exact hwf.1 e he
      · exact zSet_nodup _ _ hwf.2

theorem wf_handleRemove {r r' : Router} {pattern : Str} (hwf : WF r)
    (hh : r.handleRemove pattern = .ok r') : WF r' := by
  simp only [Router.handleRemove] at hh
  split at hh
  · simp only [Except.ok.injEq] at hh
    subst hh
    refine ⟨?_, ?_⟩
    · intro e he
      simp only [zErase, List.mem_filter] at he
      exact hwf.1 e he.1
    · simp only [zErase]
      exact List.Nodup.sublist (List.Sublist.map _ List.filter_sublist) hwf.2
  · simp at hh

def hOfFunc : Option String → Handler
  | some n => .named n
  | none => .nilFunc

theorem handleFunc_okOr (r : Router) (p : Str) (f : Option String) :
    okOr r (r.handleFunc p f) = okOr r (r.handle p (some (hOfFunc f))) := by
  cases f with
  | some n =>
    simp only [Router.handleFunc, hOfFunc]
    cases hh : r.handle p (some (Handler.named n)) with
    | ok r' => rfl
    | error e => cases e <;> rfl
  | none =>
    simp only [Router.handleFunc, hOfFunc]
    cases hh : r.handle p (some Handler.nilFunc) with
    | ok r' => rfl
    | error e => cases e <;> rfl

theorem wf_apply {r : Router} (hwf : WF r) (op : Op) : WF (r.apply op) := by
  cases op with
  | handle p h =>
    simp only [Router.apply]
    cases hh : r.handle p h with
    | ok r' => exact wf_handle hwf hh
    | error e => exact hwf
  | handleFunc p f =>
    simp only [Router.apply, handleFunc_okOr]
    cases hh : r.handle p (some (hOfFunc f)) with
    | ok r' => exact wf_handle hwf hh
    | error e => exact hwf
  | handleRemove p =>
    simp only [Router.apply]
    cases hh : r.handleRemove p with
    | ok r' => exact wf_handleRemove hwf hh
    | error e => exact hwf
  | defaultHandle h => exact hwf
  | use m => exact hwf

/-- does `Handle` accept the pattern text `q`, already filtered by `filterPath`? -/
def accepts (q : Str) : Bool :=
  match newRouteRegexp q with
  | .ok _ => true
  | .error _ => false

/-- the route `Handle` stores under the pattern `q` for the handler `h` -/
def mkRoute (q : Str) (h : Handler) : Option Route :=
  match newRouteRegexp q with
  | .ok rx => some ⟨h, q, rx⟩
  | .error _ => none

theorem accepts_iff (q : Str) : accepts q = true ↔ ∃ rx, newRouteRegexp q = .ok rx := by
  simp only [accepts]
  cases newRouteRegexp q <;> simp

theorem mkRoute_eq_some (q : Str) (h : Handler) (rt : Route) :
    mkRoute q h = some rt ↔ ∃ rx, newRouteRegexp q = .ok rx ∧ rt = ⟨h, q, rx⟩ := by
  simp only [mkRoute]
  cases newRouteRegexp q <;> simp [eq_comm]

/-- A history (latest operation first) read the way the property's words do: the LAST operation that concerned the pattern `q`
    decides — a successful registration makes `q` live with that handler, a removal makes it gone.  Operations on other patterns,
    refused registrations (a nil handler: the last case; a pattern `Handle` does not accept), `DefaultHandle` and `Use` do not
    matter. -/
def liveRev (q : Str) : List Op → Option Handler
  | [] => none
  | .handle p (some h) :: rest => if filterPath p = q ∧ accepts q = true then some h else liveRev q rest
  | .handleFunc p f :: rest => if filterPath p = q ∧ accepts q = true then some (hOfFunc f) else liveRev q rest
  | .handleRemove p :: rest => if filterPath p = q then none else liveRev q rest
  | _ :: rest => liveRev q rest

/-- the table of `r` is exactly that reading of the history: each live pattern under the route `Handle` builds for it -/
def Tracks (r : Router) (rev : List Op) : Prop := ∀ q, zGet r.z q = (liveRev q rev).bind (mkRoute q)

theorem handle_some_eq (r : Router) (p : Str) (h : Handler) :
    okOr r (r.handle p (some h)) =
      match newRouteRegexp (filterPath p) with
      | .ok rx => { r with z := zSet r.z (filterPath p) ⟨h, filterPath p, rx⟩ }
      | .error _ => r := by
  simp only [Router.handle]
  cases newRouteRegexp (filterPath p) <;> rfl

theorem tracks_handle {r : Router} {rev : List Op} (ht : Tracks r rev) (p : Str) (h : Handler) (op : Op)
    (hop : ∀ q, liveRev q (op :: rev) = if filterPath p = q ∧ accepts q = true then some h else liveRev q rev) :
    Tracks (okOr r (r.handle p (some h))) (op :: rev) := by
  intro q
  rw [hop q, handle_some_eq]
  cases hn : newRouteRegexp (filterPath p) with
  | error e =>
    simp only
    have : ¬ (filterPath p = q ∧ accepts q = true) := by
      rintro ⟨rfl, ha⟩
      simp [accepts, hn] at ha
    rw [if_neg this]
    exact ht q
  | ok rx =>
    simp only [zGet_zSet]
    by_cases hq : filterPath p = q
    · subst hq
      simp [accepts, mkRoute, hn]
    · simp only [hq, false_and, if_false]
      exact ht q

theorem tracks_apply {r : Router} {rev : List Op} (ht : Tracks r rev) (op : Op) :
    Tracks (r.apply op) (op :: rev) := by
  cases op with
  | handle p h =>
    cases h with
    | none =>
      intro q
      simp only [Router.apply, Router.handle, okOr, liveRev]
      exact ht q
    | some h =>
      simp only [Router.apply]
      exact tracks_handle ht p h _ (fun q => rfl)
  | handleFunc p f =>
    simp only [Router.apply, handleFunc_okOr]
    exact tracks_handle ht p (hOfFunc f) _ (fun q => rfl)
  | handleRemove p =>
    intro q
    simp only [Router.apply, Router.handleRemove, liveRev]
    by_cases hhas : zHas r.z (filterPath p) = true
    · simp only [hhas, if_true, okOr, zGet_zErase]
      by_cases hq : filterPath p = q
      · simp [hq]
      · simp only [hq, if_false]; exact ht q
    · have hhas' : zHas r.z (filterPath p) = false := by simpa using hhas
      simp only [hhas', Bool.false_eq_true, if_false, okOr]
      by_cases hq : filterPath p = q
      · subst hq
        simp only [if_true, Option.bind_none]
        exact zGet_none_of_not_zHas _ _ hhas'
      · simp only [hq, if_false]; exact ht q
  | defaultHandle h => intro q; simp only [Router.apply, Router.defaultHandle, liveRev]; exact ht q
  | use m => intro q; simp only [Router.apply, Router.use, liveRev]; exact ht q

theorem tracks_run_from : ∀ (ops : List Op) (r : Router) (rev : List Op), WF r → Tracks r rev →
    WF (r.run ops) ∧ Tracks (r.run ops) (ops.reverse ++ rev) := by
  intro ops
  induction ops with
  | nil => intro r rev hwf ht; exact ⟨hwf, ht⟩
  | cons op ops ih =>
    intro r rev hwf ht
    have := ih (r.apply op) (op :: rev) (wf_apply hwf op) (tracks_apply ht op)
    simpa [Router.run, List.reverse_cons, List.append_assoc] using this

theorem tracks_run (ops : List Op) : WF (({} : Router).run ops) ∧ Tracks (({} : Router).run ops) ops.reverse := by
  have := tracks_run_from ops {} [] wf_init (fun q => rfl)
  simpa using this

theorem filterPath_idem (p : Str) : filterPath (filterPath p) = filterPath p := by
  simp only [filterPath]
  by_cases hp : p = []
  · have : CoapVerif.Generated.RouterLockShape.emptyPathReplacement.toList ≠ [] := by decide
    simp [hp, this]
  · simp [hp]

theorem liveRev_some : ∀ (rev : List Op) (q : Str) (h : Handler), liveRev q rev = some h →
    filterPath q = q ∧ accepts q = true := by
  intro rev
  induction rev with
  | nil => intro q h hl; simp [liveRev] at hl
  | cons op rest ih =>
    intro q h hl
    cases op with
    | handle p ho =>
      cases ho with
      | none => exact ih q h (by simpa [liveRev] using hl)
      | some h' =>
        simp only [liveRev] at hl
        by_cases hc : filterPath p = q ∧ accepts q = true
        · exact ⟨hc.1 ▸ filterPath_idem p, hc.2⟩
        · rw [if_neg hc] at hl; exact ih q h hl
    | handleFunc p f =>
      simp only [liveRev] at hl
      by_cases hc : filterPath p = q ∧ accepts q = true
      · exact ⟨hc.1 ▸ filterPath_idem p, hc.2⟩
      · rw [if_neg hc] at hl; exact ih q h hl
    | handleRemove p =>
      simp only [liveRev] at hl
      by_cases hc : filterPath p = q
      · simp [hc] at hl
      · rw [if_neg hc] at hl; exact ih q h hl
    | defaultHandle h' => exact ih q h (by simpa [liveRev] using hl)
    | use m => exact ih q h (by simpa [liveRev] using hl)

theorem live_iff_entry (ops : List Op) (q : Str) (h : Handler) :
    liveRev q ops.reverse = some h ↔ ∃ rt, (q, rt) ∈ (({} : Router).run ops).z ∧ rt.h = h := by
  obtain ⟨hwf, ht⟩ := tracks_run ops
  simp only [mem_iff_zGet _ hwf.2, ht q]
  constructor
  · intro hl
    obtain ⟨rx, hrx⟩ := (accepts_iff q).1 (liveRev_some _ _ _ hl).2
    exact ⟨⟨h, q, rx⟩, by rw [hl]; exact (mkRoute_eq_some q h _).2 ⟨rx, hrx, rfl⟩, rfl⟩
  · rintro ⟨rt, hget, hh⟩
    cases hl : liveRev q ops.reverse with
    | none => rw [hl] at hget; cases hget
    | some h' =>
      rw [hl] at hget
      obtain ⟨rx, _, rfl⟩ := (mkRoute_eq_some q h' rt).1 hget
      rw [← hh]

end CoapVerif.Lemmas.Router
