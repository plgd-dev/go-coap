import CoapVerif.Lemmas.OptionsModel
import CoapVerif.Lemmas.OptionHeap
import CoapVerif.Lemmas.OptionPaths
/-!
Lemmas about `Model/OptionValues.lean` (C15): the editing functions with a destination buffer refine the
sorted-multiset specification on the list of `(number, bytes)` a reader sees (`items`) and leave every value stored
before as it was (`Post`); `setPath` stores the specification's `segments`.  `ResetOptionsTo` re-inserts its input one
by one (`resetLoop_spec`), also when the input is a slice of the receiver's own array (`resetOptionsToAliased_cap`); on
a sorted input into a fresh buffer that is a copy (`reset_into_fresh`), which is `Clone` (`clone_spec`).  `path` reads
the `join` of the stored segments; the value getters return the specification's `values`.
-/
namespace CoapVerif.Lemmas.OptionValuesModel
open CoapVerif.Model.Options CoapVerif.Spec.SortedMultiset CoapVerif.Lemmas.SortedMultiset CoapVerif.Lemmas.OptionsModel

/-- The view lies inside its buffer.  A view of length 0 — the zero `View` models Go's `nil` / `Option{}` — need not
name a buffer that exists, which is why every predicate on views starts with `v.len = 0 ∨`. -/
def InB (m : Mem) (v : View) : Prop := v.len = 0 ∨ v.off + v.len ≤ m.size v.bid
/-- the view does not reach into the region `[off, ∞)` of buffer `b` (the unused part of a value buffer) -/
def Below (b off : Nat) (v : View) : Prop := v.len = 0 ∨ v.bid ≠ b ∨ v.off + v.len ≤ off
/-- every stored value lies inside its buffer and outside the unused part `buf` of the value buffer -/
def Live (m : Mem) (buf : Slice) (o : Options View) : Prop :=
  ∀ x ∈ o.toList, InB m x.2 ∧ Below buf.bid buf.off x.2
def SliceIn (m : Mem) (s : Slice) : Prop := s.off + s.len ≤ m.size s.bid
/-- the list of `(number, value bytes)` a reader of the options sees -/
def items (m : Mem) (o : Options View) : List Item := mapVal m.read o.toList

theorem sliceIn_new (m : Mem) {blk : List UInt8} {n : Nat} (h : n ≤ blk.length) : SliceIn (m ++ [blk]) ⟨m.length, 0, n⟩ := by
  unfold SliceIn; rw [size_append_new]; simpa using h

theorem inB_bid_lt {m : Mem} {v : View} (h : InB m v) : v.len = 0 ∨ v.bid < m.length := by
  by_cases c : v.len = 0
  · exact Or.inl c
  · exact Or.inr (size_pos_lt (by unfold InB at h; omega))

theorem inB_of_size {m m' : Mem} (h : ∀ b, m'.size b = m.size b) {v : View} (hi : InB m v) : InB m' v := by
  unfold InB at *; rw [h]; exact hi

theorem read_length_of_inB {m : Mem} {v : View} (h : InB m v) : (m.read v).length = v.len := by
  rcases h with h | h
  · rw [read_zero_len _ _ h, h]; rfl
  · exact read_length h

theorem below_mono {b off off' : Nat} {v : View} (h : Below b off v) (hle : off ≤ off') : Below b off' v := by
  unfold Below at *; omega

theorem inB_append {m : Mem} (extra : Mem) {v : View} (hi : InB m v) :
    (m ++ extra).read v = m.read v ∧ InB (m ++ extra) v :=
  ⟨read_append extra v (inB_bid_lt hi), Or.imp_right (Nat.le_trans · (size_le_append m extra v.bid)) hi⟩

theorem below_of_bid_ne {b off : Nat} {v : View} (h : v.bid ≠ b) : Below b off v := Or.inr (Or.inl h)

/-- A view inside the heap `m` is out of the way of every buffer allocated later. -/
theorem below_of_inB {m : Mem} {v : View} (h : InB m v) {b : Nat} (hb : m.length ≤ b) (off : Nat) : Below b off v :=
  (inB_bid_lt h).imp_right fun hlt => Or.inl (by omega)

theorem read_stable_of_write {m : Mem} {b off : Nat} {data : List UInt8} (hin : off + data.length ≤ m.size b)
    {v : View} (hb : Below b off v) : (m.write b off data).read v = m.read v := by
  by_cases c : v.len = 0
  · exact read_congr_zero_len c
  · apply read_write_disj hin
    unfold Below at hb; omega

/-- `buf[n:]`: what is left of a destination buffer after `n` bytes were consumed. -/
def adv (buf : Slice) (n : Nat) : Slice := ⟨buf.bid, buf.off + n, buf.len - n⟩

theorem adv_zero (buf : Slice) : adv buf 0 = buf := by
  cases buf; simp [adv]

theorem adv_adv (buf : Slice) (a b : Nat) : adv (adv buf a) b = adv buf (a + b) := by
  unfold adv; simp only [Slice.mk.injEq, true_and]; omega

theorem sliceIn_adv {m : Mem} {s : Slice} (h : SliceIn m s) {n : Nat} (hn : n ≤ s.len) : SliceIn m (adv s n) := by
  unfold SliceIn adv at *; simp only; omega

theorem tail_ok {s : Slice} {n : Nat} (h : n ≤ s.len) : s.tail n = .ok (adv s n) := by
  unfold Slice.tail adv; simp [h]

/-- What an editing call with destination buffer `buf` that consumed `used` bytes guarantees about heap and list. -/
structure Post (m : Mem) (buf : Slice) (m' : Mem) (o' : Options View) (used : Nat) : Prop where
  wf : WF o'
  sorted : Sorted o'.toList
  size : ∀ b, m'.size b = m.size b
  length : m'.length = m.length
  /-- nothing outside the unused part of the buffer changed -/
  stable : ∀ w, Below buf.bid buf.off w → m'.read w = m.read w
  /-- every stored value lies outside what is still unused -/
  live : Live m' ⟨buf.bid, buf.off + used, buf.len - used⟩ o'

theorem Post.refl {m : Mem} {buf : Slice} {o : Options View} (hwf : WF o) (hs : Sorted o.toList) (hl : Live m buf o) :
    Post m buf m o 0 where
  wf := hwf
  sorted := hs
  size := fun _ => rfl
  length := rfl
  stable := fun _ _ => rfl
  live := by simpa using hl

theorem Post.trans {m m1 m2 : Mem} {buf : Slice} {o1 o2 : Options View} {u1 u2 : Nat}
    (h1 : Post m buf m1 o1 u1) (h2 : Post m1 (adv buf u1) m2 o2 u2) :
    Post m buf m2 o2 (u1 + u2) where
  wf := h2.wf
  sorted := h2.sorted
  size := fun b => by rw [h2.size, h1.size]
  length := by rw [h2.length, h1.length]
  stable := fun w hw => by
    rw [h2.stable w (below_mono hw (Nat.le_add_right _ u1)), h1.stable w hw]
  live := by
    have h : Live m2 (adv (adv buf u1) u2) o2 := h2.live
    rwa [adv_adv] at h

/-- Common core of `SetBytes`/`AddBytes`/`SetUint32`/`AddUint32`: copy the value into the buffer, store the view. -/
theorem put_spec (isSet : Bool) (g : Nat → Nat) {m : Mem} {o : Options View} {buf : Slice}
    (hwf : WF o) (hs : Sorted o.toList) (hbuf : SliceIn m buf) (hlive : Live m buf o)
    (id : Nat) (data : List UInt8) (hfit : data.length ≤ buf.len) :
    let v : View := ⟨buf.bid, buf.off, data.length⟩
    ∃ o', buf.head (m.copyTo buf data) data.length = .ok v ∧
      (if isSet then o.set g (id, v) else o.add g (id, v)) = .ok o' ∧
      Post m buf (m.copyTo buf data) o' data.length ∧
      items (m.copyTo buf data) o'
        = (if isSet then Spec.SortedMultiset.set (id, data) (items m o) else ins (id, data) (items m o)) ∧
      ∀ z ∈ o'.toList, z = (id, v) ∨ z ∈ o.toList := by
  intro v
  have hin : buf.off + data.length ≤ m.size buf.bid := by
    have : buf.off + buf.len ≤ m.size buf.bid := hbuf
    omega
  have hm : m.copyTo buf data = m.write buf.bid buf.off data := by
    unfold Mem.copyTo; rw [List.take_of_length_le hfit]
  rw [hm]
  have hsize : ∀ b, (m.write buf.bid buf.off data).size b = m.size b := size_write hin
  have hstable : ∀ w, Below buf.bid buf.off w → (m.write buf.bid buf.off data).read w = m.read w :=
    fun _ => read_stable_of_write hin
  have hold : mapVal (m.write buf.bid buf.off data).read o.toList = mapVal m.read o.toList :=
    mapVal_congr (fun x hx => hstable x.2 (hlive x hx).2)
  have hhead : buf.head (m.write buf.bid buf.off data) data.length = .ok ⟨buf.bid, buf.off, data.length⟩ := by
    unfold Slice.head; rw [hsize, if_pos hin]
  -- a header whose options are the new one or old ones meets the postcondition
  have post : ∀ (o' : Options View), WF o' → Sorted o'.toList →
      (∀ z ∈ o'.toList, z = (id, (⟨buf.bid, buf.off, data.length⟩ : View)) ∨ z ∈ o.toList) →
      Post m buf (m.write buf.bid buf.off data) o' data.length := by
    intro o' hwf' hs' hmem
    refine ⟨hwf', hs', hsize, length_write _ _ _ _, hstable, fun z hz => ?_⟩
    rcases hmem z hz with h | h
    · subst h
      exact ⟨Or.inr (by show buf.off + data.length ≤ _; rw [hsize]; exact hin), Or.inr (Or.inr (Nat.le_refl _))⟩
    · obtain ⟨h1, h2⟩ := hlive z h
      exact ⟨inB_of_size hsize h1, below_mono h2 (by simp)⟩
  cases isSet with
  | true =>
    obtain ⟨o', h1, h2, h5⟩ := set_spec g hwf hs (id, (⟨buf.bid, buf.off, data.length⟩ : View))
    have hmem : ∀ z ∈ o'.toList, z = (id, v) ∨ z ∈ o.toList := fun z hz => mem_set (h5 ▸ hz)
    refine ⟨o', hhead, h1, post o' h2 (h5 ▸ set_sorted _ hs) hmem, ?_, hmem⟩
    unfold items; rw [h5, mapVal_set, hold, read_write_self hin]; rfl
  | false =>
    obtain ⟨o', h1, h2, _, h5, _⟩ := add_spec g hwf hs (id, (⟨buf.bid, buf.off, data.length⟩ : View))
    have hmem : ∀ z ∈ o'.toList, z = (id, v) ∨ z ∈ o.toList := fun z hz => mem_ins (h5 ▸ hz)
    refine ⟨o', hhead, h1, post o' h2 (h5 ▸ ins_sorted _ hs) hmem, ?_, hmem⟩
    unfold items; rw [h5, mapVal_ins, hold, read_write_self hin]; rfl

theorem putBytes_spec (isSet : Bool) (g : Nat → Nat) {m : Mem} {o : Options View} {buf : Slice}
    (hwf : WF o) (hs : Sorted o.toList) (hbuf : SliceIn m buf) (hlive : Live m buf o)
    (id : Nat) (data : List UInt8) (hfit : data.length ≤ buf.len)
    (hok : ¬ (id = CoapVerif.Generated.OptionList.uriPath ∧ data.length > CoapVerif.Generated.OptionList.maxPathValue)) :
    ∃ m' o', (if isSet then Options.setBytes g m o buf id data else Options.addBytes g m o buf id data)
        = .ok ⟨m', o', data.length, none⟩ ∧
      Post m buf m' o' data.length ∧
      items m' o' = (if isSet then Spec.SortedMultiset.set (id, data) (items m o) else ins (id, data) (items m o)) := by
  obtain ⟨o', h1, h2, hp, hi, _⟩ := put_spec isSet g hwf hs hbuf hlive id data hfit
  refine ⟨m.copyTo buf data, o', ?_, hp, hi⟩
  have c1 : ¬ (buf.len < data.length) := by omega
  cases isSet with
  | true =>
    simp only [if_true] at h2 ⊢
    unfold Options.setBytes
    simp only [c1, hok, if_false, bind, Except.bind, h1, h2, pure, Except.pure]
  | false =>
    simp only [Bool.false_eq_true, if_false] at h2 ⊢
    unfold Options.addBytes
    simp only [c1, hok, if_false, bind, Except.bind, h1, h2, pure, Except.pure]

theorem slash_eq : Options.slash = Spec.SortedMultiset.slash := rfl

theorem setPathLoop_spec (g : Nat → Nat) (id : Nat) (buf : Slice) :
    ∀ (fuel : Nat) (rest : Bytes) (m : Mem) (o : Options View) (encoded : Nat), rest.length < fuel →
      WF o → Sorted o.toList → SliceIn m buf → Live m (adv buf encoded) o →
      encoded + totalSeg (segments rest) ≤ buf.len → (∀ s ∈ segments rest, s.length ≤ maxSegment) →
      ∃ m' o', Options.setPathLoop g id buf fuel m o encoded rest
          = .ok ⟨m', o', ((encoded + totalSeg (segments rest) : Nat) : Int), none⟩ ∧
        Post m (adv buf encoded) m' o' (totalSeg (segments rest)) ∧
        items m' o' = (segments rest).foldl (fun acc s => ins (id, s) acc) (items m o) := by
  intro fuel
  induction fuel with
  | zero => intro rest m o encoded h; omega
  | succ fuel ih =>
    intro rest m o encoded hf hwf hs hbuf hlive htot hmax
    unfold Options.setPathLoop
    by_cases hr : rest = []
    · subst hr
      simp only [if_true, pure, Except.pure, segments_nil, totalSeg, List.map_nil, List.sum_nil, Nat.add_zero,
        List.foldl_nil]
      exact ⟨m, o, rfl, Post.refl hwf hs hlive, rfl⟩
    · rw [if_neg hr]
      split
      · next h0 =>
        rw [segments_of_index_zero h0] at htot hmax ⊢
        exact ih rest.tail m o encoded (by have := indexSlash_lt h0; simp; omega) hwf hs hbuf hlive htot hmax
      · next h0 =>
        -- store the first segment, go on behind it
        obtain ⟨stop, hstop, hpos, hle, hseg⟩ := segments_step hr (fun h => h0 h)
        simp only [hstop]
        rw [hseg] at htot hmax ⊢
        have hlen' : (rest.drop (stop + 1)).length < fuel := by simp; omega
        generalize rest.take stop = seg at htot hmax ⊢
        generalize rest.drop (stop + 1) = rest' at htot hmax hlen' ⊢
        have htot' : encoded + (seg.length + totalSeg (segments rest')) ≤ buf.len := by
          simpa [totalSeg] using htot
        have hin : SliceIn m (adv buf encoded) := sliceIn_adv hbuf (by omega)
        obtain ⟨m1, o1, h1, hp1, hi1⟩ := putBytes_spec false g hwf hs hin hlive id seg (by unfold adv; simp only; omega)
          (by rw [maxPathValue_eq]; have := hmax seg (by simp); omega)
        simp only [Bool.false_eq_true, if_false] at h1 hi1
        have hl1 : Live m1 (adv buf (encoded + seg.length)) o1 := by rw [← adv_adv]; exact hp1.live
        obtain ⟨m2, o2, h2, hp2, hi2⟩ := ih rest' m1 o1 (encoded + seg.length) hlen' hp1.wf hp1.sorted
          (by unfold SliceIn; rw [hp1.size]; exact hbuf) hl1 (by omega) (fun s hs' => hmax s (by simp [hs']))
        refine ⟨m2, o2, ?_, ?_, ?_⟩
        · simp only [tail_ok (by omega : encoded ≤ buf.len), bind, Except.bind]
          rw [show Options.addString g m o (adv buf encoded) id seg = Options.addBytes g m o (adv buf encoded) id seg
            from rfl, h1]
          simp only [Int.toNat_natCast]
          rw [h2]
          simp only [totalSeg, List.map_cons, List.sum_cons]
          congr 3; omega
        · have := Post.trans hp1 (by rw [← adv_adv] at hp2; exact hp2)
          simpa [totalSeg] using this
        · rw [hi2, hi1]; simp

theorem items_remove {m : Mem} {o o1 : Options View} {id : Nat} (h : o1.toList = remove id o.toList) :
    items m o1 = remove id (items m o) := by
  unfold items
  rw [h, mapVal_remove]

theorem values_items (m : Mem) (o : Options View) (id : Nat) :
    values id (items m o) = (values id o.toList).map m.read := by
  unfold items; rw [values_mapVal]

theorem setPath_spec (g : Nat → Nat) {m : Mem} {o : Options View} {buf : Slice}
    (hwf : WF o) (hs : Sorted o.toList) (hbuf : SliceIn m buf) (hlive : Live m buf o) (id : Nat) (p : Bytes) :
    ∃ res, Options.setPath g m o id buf p = .ok res ∧
      match Spec.SortedMultiset.setPath id p (items m o) with
      | none => res.err = some Err.invalidLen ∧ res.mem = m ∧ res.opts = o
      | some l' =>
        if p ≠ [] ∧ totalSeg (segments p) > buf.len then res.err = some Err.tooSmall ∧ res.mem = m ∧ res.opts = o
        else
          let used := if p = [] then 0 else totalSeg (segments p)
          res.err = none ∧ res.used = (used : Int) ∧ Post m buf res.mem res.opts used ∧ items res.mem res.opts = l' := by
  unfold Options.setPath
  simp only [CoapVerif.Generated.OptionListShape.setPathValidatesBeforeRemove, if_true]
  unfold Options.setPathChecked Spec.SortedMultiset.setPath
  by_cases hp : p = []
  · subst hp
    simp only [if_true, pure, Except.pure]
    refine ⟨_, rfl, ?_⟩
    simp only [ne_eq, not_true_eq_false, false_and, if_false]
    exact ⟨trivial, rfl, Post.refl hwf hs hlive, trivial⟩
  · simp only [hp, if_false, bind, Except.bind]
    -- stripping one leading slash does not change the segments
    have hseg : segments (if p.head? = some Options.slash then p.tail else p) = segments p := by
      by_cases hh : p.head? = some Options.slash
      · simp only [hh, if_true]
        cases p with
        | nil => exact absurd rfl hp
        | cons c r =>
          simp only [List.head?_cons, Option.some.injEq] at hh
          subst hh
          have : Options.indexSlash (Options.slash :: r) = some 0 := by simp [Options.indexSlash]
          rw [segments_of_index_zero this]
      · simp only [hh, if_false]
    generalize hq : (if p.head? = some Options.slash then p.tail else p) = q at hseg
    rw [getPathBufferSize_eq, hseg]
    by_cases hany : (segments p).any (fun s => decide (s.length > maxSegment)) = true
    · simp only [hany, if_true, pure, Except.pure]
      exact ⟨_, rfl, rfl, rfl, rfl⟩
    · simp only [hany, if_false, Bool.false_eq_true]
      by_cases hfit : totalSeg (segments p) > buf.len
      · simp only [hfit, if_true, pure, Except.pure]
        refine ⟨_, rfl, ?_⟩
        simp only [ne_eq, hp, not_false_eq_true, and_self, if_true]
      · simp only [hfit, if_false]
        obtain ⟨o1, hr1, hwf1, _, ht1⟩ := remove_spec hwf hs id
        rw [hr1]
        simp only []
        have hs1 : Sorted o1.toList := by rw [ht1]; exact remove_sorted id hs
        have hl1 : Live m (adv buf 0) o1 := by
          rw [adv_zero]
          intro x hx
          rw [ht1] at hx
          exact hlive x (mem_remove hx)
        have hmax : ∀ s ∈ segments p, s.length ≤ maxSegment := fun s hs' =>
          Nat.le_of_not_lt fun c => hany (List.any_eq_true.mpr ⟨s, hs', decide_eq_true c⟩)
        obtain ⟨m', o', h2, hp2, hi2⟩ := setPathLoop_spec g id buf (q.length + 1) q m o1 0 (by omega) hwf1 hs1 hbuf hl1
          (by rw [hseg]; omega) (by rw [hseg]; exact hmax)
        rw [hseg] at h2 hp2 hi2
        rw [h2]
        refine ⟨_, rfl, ?_⟩
        simp only [and_false, if_false]
        rw [adv_zero] at hp2
        exact ⟨trivial, by simp, hp2, by rw [hi2, items_remove ht1]⟩

theorem totalLen_foldl (inp : List (Opt View)) (a : Nat) :
    inp.foldl (fun acc x => acc + x.2.len) a = a + Options.totalLen inp := by
  unfold Options.totalLen
  induction inp generalizing a with
  | nil => simp
  | cons x xs ih => simp only [List.foldl_cons]; rw [ih, ih (0 + x.2.len)]; omega

theorem totalLen_cons (x : Opt View) (xs : List (Opt View)) :
    Options.totalLen (x :: xs) = x.2.len + Options.totalLen xs := by
  show (x :: xs).foldl (fun acc x => acc + x.2.len) 0 = _
  simp only [List.foldl_cons]; rw [totalLen_foldl]; omega

theorem resetLoop_spec (g : Nat → Nat) :
    ∀ (inp : List (Opt View)) (m : Mem) (opts : Options View) (buf : Slice) (used : Nat),
      WF opts → Sorted opts.toList → SliceIn m buf → Live m buf opts →
      (∀ x ∈ inp, InB m x.2 ∧ Below buf.bid buf.off x.2) → Options.totalLen inp ≤ buf.len →
      ∃ m' o', Options.resetLoop g inp m opts buf used = .ok ⟨m', o', ((used + Options.totalLen inp : Nat) : Int), none⟩ ∧
        Post m buf m' o' (Options.totalLen inp) ∧
        items m' o' = (inp.map (fun x => (x.1, m.read x.2))).foldl (fun acc x => ins x acc) (items m opts) ∧
        ∀ z ∈ o'.toList, z ∈ opts.toList ∨ z.2.bid = buf.bid := by
  intro inp
  induction inp with
  | nil =>
    intro m opts buf used hwf hs hin hl _ _
    exact ⟨m, opts, by simp [Options.resetLoop, Options.totalLen, pure, Except.pure],
      by simpa [Options.totalLen] using Post.refl hwf hs hl, rfl, fun z hz => Or.inl hz⟩
  | cons x rest ih =>
    intro m opts buf used hwf hs hin hl hext htot
    rw [totalLen_cons] at htot ⊢
    obtain ⟨hxi, hxb⟩ := hext x (by simp)
    have hrl := read_length_of_inB hxi
    obtain ⟨o1, h1, h2, hp1, h5, hmem⟩ := put_spec false g hwf hs hin hl x.1 (m.read x.2) (by omega)
    simp only [Bool.false_eq_true, if_false] at h2 h5
    rw [hrl] at h1 h2 hp1 hmem
    have hin1 : SliceIn (m.copyTo buf (m.read x.2)) (adv buf x.2.len) := by
      unfold SliceIn; rw [hp1.size]; exact sliceIn_adv hin (by omega)
    have hext1 : ∀ y ∈ rest, InB (m.copyTo buf (m.read x.2)) y.2 ∧ Below (adv buf x.2.len).bid (adv buf x.2.len).off y.2 := by
      intro y hy
      obtain ⟨a, b⟩ := hext y (by simp [hy])
      exact ⟨inB_of_size hp1.size a, below_mono b (by simp [adv])⟩
    obtain ⟨m2, o2, hr2, hp2, hi2, hv2⟩ := ih (m.copyTo buf (m.read x.2)) o1 (adv buf x.2.len) (used + x.2.len) hp1.wf
      hp1.sorted hin1 hp1.live hext1 (by simp only [adv]; omega)
    refine ⟨m2, o2, ?_, Post.trans hp1 hp2, ?_, fun z hz => ?_⟩
    · unfold Options.resetLoop
      simp only [bind, Except.bind, h1, h2, tail_ok (by omega : x.2.len ≤ buf.len)]
      rw [hr2]
      congr 3; omega
    · rw [hi2, h5]
      simp only [List.map_cons, List.foldl_cons]
      congr 1
      apply List.map_congr_left
      intro y hy
      obtain ⟨a, b⟩ := hext y (by simp [hy])
      rw [hp1.stable y.2 b]
    · rcases hv2 z hz with h | h
      · rcases hmem z h with h | h
        · exact Or.inr (by rw [h])
        · exact Or.inl h
      · exact Or.inr h

/-- `ResetOptionsTo` in the shape `resetChecksSizeBeforeOverwrite`, which /repo has since the repair of finding
C15-resetto: the size check comes before anything is touched. -/
theorem resetOptionsTo_eq (g : Nat → Nat) (m : Mem) (o : Options View) (buf : Slice) (inp : List (Opt View)) :
    Options.resetOptionsTo g m o buf inp =
      if buf.len < Options.totalLen inp then .ok ⟨m, o, Options.totalLen inp, some .tooSmall⟩
      else Options.resetLoop g inp m ⟨o.arr, 0⟩ buf 0 := by
  unfold Options.resetOptionsTo
  simp only [CoapVerif.Generated.OptionListShape.resetChecksSizeBeforeOverwrite, if_true]
  unfold Options.resetOptionsToChecked
  by_cases h : buf.len < Options.totalLen inp
  · simp only [h, if_true]; rfl
  · simp only [h, if_false, Options.reslice, Nat.zero_le, if_true, bind, Except.bind]

theorem resetLoop_from_empty (g : Nat → Nat) {inp : List (Opt View)} {m : Mem} (arr : List (Opt View)) {buf : Slice}
    (hin : SliceIn m buf) (hext : ∀ x ∈ inp, InB m x.2 ∧ Below buf.bid buf.off x.2)
    (hfit : ¬ buf.len < Options.totalLen inp) :
    ∃ m' o', Options.resetLoop g inp m ⟨arr, 0⟩ buf 0 = .ok ⟨m', o', Options.totalLen inp, none⟩ ∧
      Post m buf m' o' (Options.totalLen inp) ∧ items m' o' = resetTo (inp.map (fun x => (x.1, m.read x.2))) ∧
      ∀ z ∈ o'.toList, z.2.bid = buf.bid := by
  obtain ⟨m', o', h1, h2, h3, h4⟩ := resetLoop_spec g inp m ⟨arr, 0⟩ buf 0 (Nat.zero_le _)
    (by simp [Options.toList, Sorted]) hin (by intro x hx; simp [Options.toList] at hx) hext (by omega)
  refine ⟨m', o', by rw [h1, Nat.zero_add], h2, by rw [h3]; rfl, fun z hz => (h4 z hz).resolve_left ?_⟩
  simp [Options.toList]

/-- The aliased loop (reads `in[idx]` from the array the earlier `Add`s have been writing into) equals the plain loop
on a snapshot `orig` of the array taken before the call: the `Add`s so far have left what lies behind `opts.len` as it
was (`add_spec`), and the loop reads at `rd ≥ opts.len`; both grow by one per iteration. -/
theorem resetLoopAliased_eq (g : Nat → Nat) (orig : List (Opt View)) :
    ∀ (cnt rd : Nat) (m : Mem) (opts : Options View) (buf : Slice) (used : Nat),
      WF opts → Sorted opts.toList → opts.len ≤ rd → opts.arr.length = orig.length →
      opts.arr.drop opts.len = orig.drop opts.len → rd + cnt ≤ orig.length →
      Options.resetLoopAliased g cnt rd m opts opts.arr buf used
        = Options.resetLoop g ((orig.drop rd).take cnt) m opts buf used := by
  intro cnt
  induction cnt with
  | zero => intro rd m opts buf used _ _ _ _ _ _; simp [Options.resetLoopAliased, Options.resetLoop]
  | succ cnt ih =>
    intro rd m opts buf used hwf hs hrd hlen hfr hle
    have hlt : rd < orig.length := by omega
    have hsrc : opts.arr[rd]? = some orig[rd] := by
      rw [← List.getElem?_eq_getElem hlt, show rd = opts.len + (rd - opts.len) by omega, ← List.getElem?_drop, hfr,
        List.getElem?_drop]
    rw [List.drop_eq_getElem_cons hlt, List.take_succ_cons]
    unfold Options.resetLoopAliased Options.resetLoop
    simp only [hsrc, pure_bind]
    refine bind_congr fun v => ?_
    have hcap : opts.len < opts.arr.length := by omega
    obtain ⟨opts', a1, a2, a3, a4, a5⟩ := add_spec g hwf hs (orig[rd].1, v)
    obtain ⟨f1, f2⟩ := a5 hcap
    rw [a1, ok_bind, ok_bind, if_pos hcap]
    refine bind_congr fun buf' => ?_
    exact ih (rd + 1) _ opts' buf' _ a2 (a4 ▸ ins_sorted _ hs) (by omega) (by omega)
      (by rw [f2, a3, ← List.drop_drop, hfr, List.drop_drop]) (by omega)

/-- `options.ResetOptionsTo(buf, options[k:k+n])` — the input aliasing the receiver's own array, anywhere within its
capacity (Go slices up to `cap`; what lies behind `len` is stale) — behaves exactly like `ResetOptionsTo` on a private
copy of that slice. -/
theorem resetOptionsToAliased_cap (g : Nat → Nat) (m : Mem) (o : Options View) (buf : Slice) {k n : Nat}
    (h : k + n ≤ o.arr.length) :
    Options.resetOptionsToAliased g m o buf k n = Options.resetOptionsTo g m o buf ((o.arr.drop k).take n) := by
  rw [resetOptionsTo_eq]
  unfold Options.resetOptionsToAliased
  rw [if_neg (by omega)]
  simp only [CoapVerif.Generated.OptionListShape.resetChecksSizeBeforeOverwrite, if_true]
  by_cases hs : buf.len < Options.totalLen ((o.arr.drop k).take n)
  · simp only [hs, if_true]; rfl
  · simp only [hs, if_false, Options.reslice, Nat.zero_le, if_true, bind, Except.bind]
    rw [resetLoopAliased_eq g o.arr n k m ⟨o.arr, 0⟩ buf 0 (Nat.zero_le _) (by simp [Options.toList, Sorted])
      (Nat.zero_le _) rfl rfl (by omega)]

/-- `ResetOptionsTo(buf, o)` on an empty list, in a heap `mm` that extends `m` (every view inside `m` reads the same
and is inside `mm`, no buffer is shorter), with a buffer allocated after `m`: the result reads as `o`, stores its values
in buffers allocated after `m`, and leaves every view inside `m` as it was. -/
theorem reset_into_fresh (g : Nat → Nat) {m mm : Mem} {o : Options View} (hs : Sorted o.toList)
    (hin : ∀ x ∈ o.toList, InB m x.2) (hmm : ∀ v, InB m v → mm.read v = m.read v ∧ InB mm v)
    (hml : m.length ≤ mm.length) (hsz : ∀ b, m.size b ≤ mm.size b) {buf : Slice} (hb : m.length ≤ buf.bid)
    (hbuf : SliceIn mm buf) (hfit : ¬ buf.len < Options.totalLen o.toList) :
    ∃ m' c, Options.resetOptionsTo g mm (Options.make o.len) buf o.toList
        = .ok ⟨m', c, Options.totalLen o.toList, none⟩ ∧
      WF c ∧ Sorted c.toList ∧ items m' c = items m o ∧
      (∀ v, InB m v → m'.read v = m.read v ∧ InB m' v) ∧
      (∀ x ∈ c.toList, InB m' x.2 ∧ m.length ≤ x.2.bid) ∧ m.length ≤ m'.length ∧ ∀ b, m.size b ≤ m'.size b := by
  have below : ∀ v, InB m v → Below buf.bid buf.off v := fun v hv => below_of_inB hv hb _
  have hext : ∀ x ∈ o.toList, InB mm x.2 ∧ Below buf.bid buf.off x.2 := fun x hx =>
    ⟨(hmm x.2 (hin x hx)).2, below x.2 (hin x hx)⟩
  obtain ⟨m', c, hcall, hp, hi, hbid⟩ := resetLoop_from_empty g (Options.make o.len : Options View).arr hbuf hext hfit
  refine ⟨m', c, by rw [resetOptionsTo_eq, if_neg hfit, hcall], hp.wf, hp.sorted, ?_, ?_,
    fun x hx => ⟨(hp.live x hx).1, by rw [hbid x hx]; exact hb⟩, by rw [hp.length]; exact hml,
    fun b => by rw [hp.size]; exact hsz b⟩
  · -- re-inserting the sorted list `o` gives it back
    have : o.toList.map (fun x => (x.1, mm.read x.2)) = items m o :=
      List.map_congr_left (fun x hx => by rw [(hmm x.2 (hin x hx)).1])
    rw [hi, this]
    exact resetTo_of_sorted ((mapVal_sorted _).mpr hs)
  · intro v hv
    obtain ⟨a, b⟩ := hmm v hv
    exact ⟨by rw [hp.stable v (below v hv), a], inB_of_size hp.size b⟩

theorem copyTo_frame {m : Mem} {dst : Slice} (hd : SliceIn m dst) (data : List UInt8) :
    (∀ b, (m.copyTo dst data).size b = m.size b) ∧ (m.copyTo dst data).length = m.length ∧
      ∀ v : View, v.len = 0 ∨ v.bid ≠ dst.bid → (m.copyTo dst data).read v = m.read v := by
  have hin : dst.off + (data.take dst.len).length ≤ m.size dst.bid := by
    have : dst.off + dst.len ≤ m.size dst.bid := hd
    rw [List.length_take]; omega
  unfold Mem.copyTo
  exact ⟨size_write hin, length_write _ _ _ _, fun v hv =>
    read_stable_of_write hin (hv.imp_right Or.inl)⟩

/-- `Clone()` first tries a 64-byte scratch buffer and, when the values do not fit, takes a second one of exactly the
needed size. -/
theorem clone_spec (g : Nat → Nat) {m : Mem} {o : Options View} (hs : Sorted o.toList)
    (hin : ∀ x ∈ o.toList, InB m x.2) :
    ∃ m' c, Options.clone g m o = .ok (m', c, none) ∧ WF c ∧ Sorted c.toList ∧ items m' c = items m o ∧
      (∀ v, InB m v → m'.read v = m.read v ∧ InB m' v) ∧
      (∀ x ∈ c.toList, InB m' x.2 ∧ m.length ≤ x.2.bid) ∧ m.length ≤ m'.length ∧ ∀ b, m.size b ≤ m'.size b := by
  unfold Options.clone
  simp only [Mem.alloc]
  by_cases hsmall : 64 < Options.totalLen o.toList
  · -- the values do not fit 64 bytes: a buffer of exactly the needed size is taken and the scratch buffer copied
    rw [resetOptionsTo_eq, if_pos hsmall]
    simp only [bind, Except.bind, Int.toNat_natCast]
    generalize hd : (m ++ [List.replicate 64 (0 : UInt8)]).read ⟨m.length, 0, 64⟩ = data
    have e2 : m ++ [List.replicate 64 (0 : UInt8)] ++ [List.replicate (Options.totalLen o.toList) (0 : UInt8)]
        = m ++ [List.replicate 64 (0 : UInt8), List.replicate (Options.totalLen o.toList) (0 : UInt8)] := by simp
    have hbuf2 : SliceIn (m ++ [List.replicate 64 (0 : UInt8)] ++ [List.replicate (Options.totalLen o.toList) (0 : UInt8)])
        ⟨(m ++ [List.replicate 64 (0 : UInt8)]).length, 0, Options.totalLen o.toList⟩ := sliceIn_new _ (by simp)
    obtain ⟨fsize, flen, fread⟩ := copyTo_frame hbuf2 data
    obtain ⟨m', c, hcall, rest⟩ := reset_into_fresh g hs hin (buf := ⟨(m ++ [List.replicate 64 (0 : UInt8)]).length, 0, Options.totalLen o.toList⟩)
      (mm := Mem.copyTo _ _ data)
      (fun v hv => by
        obtain ⟨r1, r2⟩ := inB_append [List.replicate 64 (0 : UInt8), List.replicate (Options.totalLen o.toList) (0 : UInt8)] hv
        rw [← e2] at r1 r2
        have hne : v.len = 0 ∨ v.bid ≠ (m ++ [List.replicate 64 (0 : UInt8)]).length :=
          (inB_bid_lt hv).imp_right fun hlt => by simp; omega
        exact ⟨by rw [fread v hne, r1], inB_of_size fsize r2⟩)
      (by rw [flen]; simp) (fun b => by rw [fsize, e2]; exact size_le_append m _ b) (by simp)
      (by show _ + _ ≤ _; rw [fsize]; exact hbuf2) (Nat.lt_irrefl _)
    rw [hcall]
    exact ⟨m', c, rfl, rest⟩
  · obtain ⟨m', c, hcall, rest⟩ := reset_into_fresh g hs hin (fun _ => inB_append [List.replicate 64 (0 : UInt8)]) (by simp)
      (size_le_append m _) (buf := ⟨m.length, 0, 64⟩) (Nat.le_refl _) (sliceIn_new m (by simp)) hsmall
    rw [hcall]
    exact ⟨m', c, rfl, rest⟩

/-- bytes the `path` loops need for the options in `xs`: one slash plus the value length each -/
def neededOf (xs : List (Opt View)) : Nat := (xs.map (fun x => x.2.len + 1)).sum

theorem pathNeeded_spec {o : Options View} (hwf : WF o) :
    ∀ (k i needed : Nat), i + k ≤ o.len →
      Options.pathNeeded o k (i : Int) needed = .ok (needed + neededOf ((o.toList.drop i).take k)) := by
  intro k
  induction k with
  | zero => intro i needed _; simp [Options.pathNeeded, neededOf, pure, Except.pure]
  | succ k ih =>
    intro i needed h
    obtain ⟨x, hx, hg⟩ := get_eq hwf (i := i) (by omega)
    unfold Options.pathNeeded
    rw [getI_nat, hg]
    simp only [bind, Except.bind]
    rw [← Int.natCast_succ, ih (i + 1) _ (by omega), drop_cons_of_get hx]
    simp only [List.take_succ_cons, neededOf, List.map_cons, List.sum_cons]
    congr 1; omega

theorem pathWrite_spec (m : Mem) {o : Options View} (hwf : WF o) :
    ∀ (k i rem : Nat) (out : List UInt8), i + k ≤ o.len → neededOf ((o.toList.drop i).take k) ≤ rem →
      Options.pathWrite m o k (i : Int) rem out
        = .ok (out ++ ((o.toList.drop i).take k).flatMap (fun x => Options.slash :: m.read x.2)) := by
  intro k
  induction k with
  | zero => intro i rem out _ _; simp [Options.pathWrite, pure, Except.pure]
  | succ k ih =>
    intro i rem out h hrem
    obtain ⟨x, hx, hg⟩ := get_eq hwf (i := i) (by omega)
    rw [drop_cons_of_get hx] at hrem ⊢
    simp only [List.take_succ_cons, neededOf, List.map_cons, List.sum_cons] at hrem
    unfold Options.pathWrite
    have h0 : ¬ (rem = 0) := by omega
    simp only [h0, if_false]
    rw [getI_nat, hg]
    simp only [bind, Except.bind]
    have h1 : ¬ (x.2.len > rem - 1) := by omega
    simp only [h1, if_false]
    have hrl := read_length_le m x.2
    rw [← Int.natCast_succ, ih (i + 1) _ _ (by omega) (by unfold neededOf; omega)]
    rw [List.take_of_length_le (by omega)]
    simp [List.flatMap_cons]

theorem join_values (m : Mem) (xs : List (Opt View)) :
    join ((xs.map (·.2)).map m.read) = xs.flatMap (fun x => Options.slash :: m.read x.2) := by
  induction xs with
  | nil => rfl
  | cons x xs ih =>
    unfold join at ih ⊢
    simp only [List.map_cons, List.flatMap_cons, ih]
    rfl

theorem flatMap_length_le_neededOf (m : Mem) (xs : List (Opt View)) :
    (xs.flatMap (fun x => Options.slash :: m.read x.2)).length ≤ neededOf xs := by
  induction xs with
  | nil => simp [neededOf]
  | cons x xs ih =>
    have := read_length_le m x.2
    simp only [List.flatMap_cons, List.length_append, List.length_cons, neededOf, List.map_cons, List.sum_cons] at ih ⊢
    omega

theorem path_spec (m : Mem) {o : Options View} (hwf : WF o) (hs : Sorted o.toList) (id bufLen : Nat) :
    Options.path m o bufLen id = .ok (
      let xs := (o.toList.drop (lt id o.toList)).take (le id o.toList - lt id o.toList)
      if xs = [] then ((-1 : Int), some Err.notFound, [])
      else if bufLen < neededOf xs then ((neededOf xs : Int), some Err.tooSmall, [])
      else ((neededOf xs : Int), none, xs.flatMap (fun x => Options.slash :: m.read x.2))) := by
  have hlen := le_le_len hwf id
  have hll := lt_le_le id o.toList
  unfold Options.path
  rw [find_spec hwf hs]
  by_cases c : lt id o.toList = le id o.toList
  · simp [c, bind, Except.bind, pure, Except.pure]
  · have hne : (o.toList.drop (lt id o.toList)).take (le id o.toList - lt id o.toList) ≠ [] := by
      intro h
      have := congrArg List.length h
      rw [List.length_take, List.length_drop, toList_length hwf, List.length_nil] at this
      omega
    have e1 : ((le id o.toList : Int) - (lt id o.toList : Int)).toNat = le id o.toList - lt id o.toList := by omega
    simp only [c, if_false, bind, Except.bind, e1, CoapVerif.Generated.OptionListShape.pathLoopsStrict, if_true, Nat.add_zero]
    rw [pathNeeded_spec hwf _ _ 0 (by omega)]
    simp only [Nat.zero_add]
    rw [if_neg hne]
    by_cases c2 : bufLen < neededOf ((o.toList.drop (lt id o.toList)).take (le id o.toList - lt id o.toList))
    · simp only [c2, if_true, pure, Except.pure]
    · simp only [c2, if_false]
      rw [pathWrite_spec m hwf _ _ _ [] (by omega) (by omega)]
      simp only [List.nil_append, pure, Except.pure]

/-- `Path()` / `LocationPath()` try a buffer of 32 bytes and, told `ErrTooSmall`, once more with the size `path` asked
for. -/
theorem pathString_spec (m : Mem) {o : Options View} (hwf : WF o) (hs : Sorted o.toList) (id : Nat) :
    Options.pathString m o id = .ok (
      match Spec.SortedMultiset.path id (items m o) with
      | none => ([], some Err.notFound)
      | some p => (p, none)) := by
  have hvals : values id (items m o) = (((o.toList.drop (lt id o.toList)).take (le id o.toList - lt id o.toList)).map (·.2)).map m.read := by
    rw [values_items, values_eq id hs]
  unfold Options.pathString Spec.SortedMultiset.path
  rw [path_spec m hwf hs id 32, hvals]
  generalize hxs : (o.toList.drop (lt id o.toList)).take (le id o.toList - lt id o.toList) = xs
  by_cases c : xs = []
  · subst c; simp [bind, Except.bind, pure, Except.pure]
  · have hne : (xs.map (·.2)).map m.read ≠ [] := by simpa using c
    have hj := join_values m xs
    have hjl := flatMap_length_le_neededOf m xs
    simp only [c, if_false]
    by_cases c2 : 32 < neededOf xs
    · simp only [c2, if_true, bind, Except.bind]
      rw [path_spec m hwf hs id (32 + (neededOf xs : Int).toNat), hxs]
      have c3 : ¬ (32 + (neededOf xs : Int).toNat < neededOf xs) := by omega
      simp only [c, c3, if_false, pure, Except.pure]
      have c4 : ¬ ((neededOf xs : Int) < 0 ∨ neededOf xs > 32 + neededOf xs) := by omega
      simp only [Int.toNat_natCast]
      rw [List.take_of_length_le hjl, ← hj, if_neg c4]
    · simp only [c2, if_false, bind, Except.bind, pure, Except.pure]
      have c4 : ¬ ((neededOf xs : Int) < 0 ∨ neededOf xs > 32) := by omega
      simp only [Int.toNat_natCast]
      rw [List.take_of_length_le hjl, ← hj, if_neg c4]

theorem decodeUint32_eq (bs : List UInt8) : decodeUint32 bs = uintOf bs := rfl

theorem getBytes_spec (m : Mem) {o : Options View} (hwf : WF o) (hs : Sorted o.toList) (id : Nat) :
    Options.getBytes m o id = .ok ((values id (items m o)).head?) := by
  unfold Options.getBytes
  rw [getFirst_spec hwf hs, values_items]
  simp [bind, Except.bind, pure, Except.pure, List.head?_map]

theorem getUint32_spec (m : Mem) {o : Options View} (hwf : WF o) (hs : Sorted o.toList) (id : Nat) :
    Options.getUint32 m o id = .ok (((values id (items m o)).head?).map uintOf) := by
  unfold Options.getUint32
  rw [getFirst_spec hwf hs, values_items]
  simp [bind, Except.bind, pure, Except.pure, List.head?_map, decodeUint32_eq]
  rfl

theorem contentFormat_spec (m : Mem) {o : Options View} (hwf : WF o) (hs : Sorted o.toList) :
    Options.contentFormatOf m o
      = .ok (((values contentFormatId (items m o)).head?).map (fun v => mediaTypeOf (uintOf v))) := by
  unfold Options.contentFormatOf
  rw [contentFormat_eq, getUint32_spec m hwf hs]
  simp only [bind, Except.bind, pure, Except.pure, Option.map_map]
  congr 2

theorem getBytess_spec (m : Mem) {o : Options View} (hwf : WF o) (hs : Sorted o.toList) (id n : Nat) :
    Options.getBytess m o id n = .ok (
      let vs := values id (items m o)
      if vs = [] then ((0 : Int), some Err.notFound, [])
      else if n < vs.length then ((vs.length : Int), some Err.tooSmall, [])
      else ((vs.length : Int), none, vs)) := by
  unfold Options.getBytess
  rw [CoapVerif.Generated.OptionListShape.getBytessLoopStrict, values_items]
  exact getMulti_spec m.read hwf hs id n

theorem getStrings_spec (m : Mem) {o : Options View} (hwf : WF o) (hs : Sorted o.toList) (id n : Nat) :
    Options.getStrings m o id n = .ok (
      let vs := values id (items m o)
      if vs = [] then ((0 : Int), some Err.notFound, [])
      else if n < vs.length then ((vs.length : Int), some Err.tooSmall, [])
      else ((vs.length : Int), none, vs)) := by
  unfold Options.getStrings
  rw [CoapVerif.Generated.OptionListShape.getStringsLoopStrict, values_items]
  exact getMulti_spec m.read hwf hs id n

theorem getUint32s_spec (m : Mem) {o : Options View} (hwf : WF o) (hs : Sorted o.toList) (id n : Nat) :
    Options.getUint32s m o id n = .ok (
      let vs := (values id (items m o)).map uintOf
      if vs = [] then ((0 : Int), some Err.notFound, [])
      else if n < vs.length then ((vs.length : Int), some Err.tooSmall, [])
      else ((vs.length : Int), none, vs)) := by
  unfold Options.getUint32s
  rw [CoapVerif.Generated.OptionListShape.getUint32sLoopStrict, values_items, List.map_map]
  exact getMulti_spec (fun v => decodeUint32 (m.read v)) hwf hs id n

/-- `Queries()`: all Uri-Query values, or `ErrOptionNotFound`; the retry with a longer slice (the first has length 4)
never fails. -/
theorem queries_spec (m : Mem) {o : Options View} (hwf : WF o) (hs : Sorted o.toList) :
    Options.queries m o = .ok (
      let vs := values uriQueryId (items m o)
      if vs = [] then none else some vs) := by
  unfold Options.queries
  rw [uriQuery_eq, getStrings_spec m hwf hs]
  generalize hv : values uriQueryId (items m o) = vs
  by_cases c : vs = []
  · simp [c, bind, Except.bind, pure, Except.pure]
  · by_cases c2 : 4 < vs.length
    · have c3 : ¬ ((vs.length : Int) < 4) := by omega
      have c5 : ¬ ((vs.length : Int) < 0) := by omega
      simp only [c, c2, if_true, if_false, bind, Except.bind, c3, getStrings_spec m hwf hs, Int.toNat_natCast, hv]
      simp [pure, Except.pure, c5]
    · have c5 : ¬ ((vs.length : Int) < 0) := by omega
      simp only [c, c2, if_false, bind, Except.bind, pure, Except.pure, Int.toNat_natCast]
      simp [c5]

end CoapVerif.Lemmas.OptionValuesModel
