import CoapVerif.Model.DedupLockN
/-! Message IDs are independent in the n-goroutine model: the projection of a run to one message ID is a run of the system
in which only copies of that message ID exist (the other goroutines are slots that never move). -/
namespace CoapVerif.Lemmas.DedupLockN
open CoapVerif.Model.DedupLockN

/-- A per-key table restricted to key `k`: `f` there, the default `d` at every other key. -/
def rk {α : Type} (k : Nat) (f : Nat → α) (d : α) : Nat → α := fun k' => if k' = k then f k' else d

/-- Goroutines of other message IDs become slots that never move: `⟨0, .gone⟩`, which is what `Ev.pad` appends, so that an
    arrival of another message ID projects to `pad`.  The key is 0 whatever `k` is, also for `k = 0`: a `.gone` goroutine does
    not move and holds no reference and no mutex, so its key has no effect. -/
def hide (k : Nat) (g : G) : G := if g.key = k then g else ⟨0, .gone⟩

def restrict (k : Nat) (s : State) : State :=
  { gs := s.gs.map (hide k), ma := rk k s.ma none, heap := rk k s.heap (fun _ => ⟨0, none⟩), next := rk k s.next 0,
    cache := rk k s.cache none, runs := rk k s.runs [], exps := rk k s.exps 0 }

def projEv (k : Nat) : Ev → Ev
  | .arrive k' => if k' = k then .arrive k' else .pad
  | .expire k' => if k' = k then .expire k' else .nop
  | e => e

theorem rk_same {α : Type} (k : Nat) (f : Nat → α) (d : α) : rk k f d k = f k := by simp [rk]

theorem rk_upd_same {α : Type} (k : Nat) (f : Nat → α) (d v : α) : rk k (upd f k v) d = upd (rk k f d) k v := by
  funext x; unfold rk upd; by_cases h : x = k <;> simp [h]

theorem rk_upd_other {α : Type} {k k2 : Nat} (h : k2 ≠ k) (f : Nat → α) (d v : α) : rk k (upd f k2 v) d = rk k f d := by
  funext x; unfold rk upd; by_cases h1 : x = k
  · subst h1; simp [Ne.symm h]
  · simp [h1]

theorem hide_same (k : Nat) (p : PC) : hide k ⟨k, p⟩ = ⟨k, p⟩ := by simp [hide]
theorem hide_other (k k2 : Nat) (p : PC) (h : k2 ≠ k) : hide k ⟨k2, p⟩ = ⟨0, .gone⟩ := by simp [hide, h]

theorem restrict_ma (k : Nat) (s : State) : (restrict k s).ma k = s.ma k := rk_same ..
theorem restrict_heap (k : Nat) (s : State) : (restrict k s).heap k = s.heap k := rk_same ..
theorem restrict_next (k : Nat) (s : State) : (restrict k s).next k = s.next k := rk_same ..
theorem restrict_cache (k : Nat) (s : State) : (restrict k s).cache k = s.cache k := rk_same ..
theorem restrict_runs (k : Nat) (s : State) : (restrict k s).runs k = s.runs k := rk_same ..

theorem restrict_setPc (k : Nat) (s : State) (i : Nat) (p : PC) :
    restrict k (setPc s i k p) = setPc (restrict k s) i k p := by
  simp only [restrict, setPc, List.map_set, hide_same]

theorem restrict_setEntry (k : Nat) (s : State) (e : Nat) (en : Entry) :
    restrict k (setEntry s k e en) = setEntry (restrict k s) k e en := by
  simp only [restrict, setEntry, rk_upd_same, rk_same]

theorem restrict_newEntry (k : Nat) (s : State) (en : Entry) :
    restrict k (newEntry s k en) = newEntry (restrict k s) k en := by
  simp only [newEntry, restrict_next, ← restrict_setEntry]
  simp only [restrict, rk_upd_same]

theorem restrict_lockRef (k : Nat) (s : State) (i : Nat) :
    restrict k (lockRef s i k) = lockRef (restrict k s) i k := by
  unfold lockRef
  rw [restrict_ma, restrict_next, restrict_heap]
  cases s.ma k with
  | some e => exact (restrict_setPc ..).trans (by rw [restrict_setEntry])
  | none => exact (restrict_setPc ..).trans (by rw [restrict_newEntry])

theorem restrict_unlockRef (k : Nat) (s : State) (i v : Nat) :
    restrict k (unlockRef s i k v) = unlockRef (restrict k s) i k v := by
  unfold unlockRef
  rw [restrict_ma, restrict_heap]
  cases s.ma k with
  | none => exact restrict_setPc ..
  | some e =>
    simp only [restrict_setPc, ← restrict_setEntry]
    by_cases h : (s.heap k e).cnt - 1 < 1
    · simp only [if_pos h]; simp only [restrict, rk_upd_same]
    · simp only [if_neg h]

theorem restrict_stepG_same (c : Cfg) (k : Nat) (s : State) (i : Nat) (pc : PC) :
    restrict k (stepG c s i ⟨k, pc⟩) = stepG c (restrict k s) i ⟨k, pc⟩ := by
  cases pc with
  | start =>
    simp only [stepG, restrict_ma, ← restrict_lockRef, ← restrict_setPc, ← restrict_newEntry]
    cases c.useLock <;> cases c.tryFirst <;> cases s.ma k <;> rfl
  | retry => exact restrict_lockRef ..
  | waiting e =>
    simp only [stepG, restrict_heap, ← restrict_setPc, ← restrict_setEntry]
    cases (s.heap k e).held <;> rfl
  | locked =>
    simp only [stepG, restrict_cache, ← restrict_setPc]
    cases s.cache k <;> rfl
  | miss =>
    simp only [stepG, restrict_runs, restrict_setPc]
    simp only [restrict, rk_upd_same]
  | handled v =>
    simp only [stepG, restrict_cache]
    cases s.cache k with
    | some _ => exact restrict_setPc ..
    | none => exact (restrict_setPc ..).trans (by simp only [restrict, rk_upd_same])
  | replied v =>
    simp only [stepG, ← restrict_unlockRef, ← restrict_setPc]
    cases c.useLock <;> rfl
  | unlocking e v => simp only [stepG, restrict_heap, restrict_setPc, restrict_setEntry]
  | done _ | panicked | gone => rfl

theorem set_same_elem {l : List G} {i : Nat} {x : G} (h : l[i]? = some x) : l.set i x = l := by
  obtain ⟨hi, rfl⟩ := List.getElem?_eq_some_iff.mp h
  exact List.set_getElem_self hi

section other
variable {k k2 : Nat} (hk : k2 ≠ k)
include hk

theorem restrict_setEntry_other (s : State) (e : Nat) (en : Entry) : restrict k (setEntry s k2 e en) = restrict k s := by
  simp only [restrict, setEntry, rk_upd_other hk]

theorem restrict_newEntry_other (s : State) (en : Entry) : restrict k (newEntry s k2 en) = restrict k s := by
  simp only [restrict, newEntry, setEntry, rk_upd_other hk]

variable {s : State} {i : Nat} (hm : (restrict k s).gs[i]? = some ⟨0, .gone⟩)
include hm

/-- Moving a goroutine that `k` does not see, after a change that `k` does not see. -/
theorem restrict_setPc_other {s' : State} (h : restrict k s' = restrict k s) (p : PC) :
    restrict k (setPc s' i k2 p) = restrict k s := by
  have : restrict k (setPc s' i k2 p) = { restrict k s' with gs := (restrict k s').gs.set i ⟨0, .gone⟩ } := by
    simp only [restrict, setPc, List.map_set, hide_other k k2 p hk]
  rw [this, h, set_same_elem hm]

theorem restrict_lockRef_other : restrict k (lockRef s i k2) = restrict k s := by
  unfold lockRef
  cases s.ma k2 with
  | some e => exact restrict_setPc_other hk hm (restrict_setEntry_other hk ..) _
  | none => exact restrict_setPc_other hk hm (restrict_newEntry_other hk ..) _

theorem restrict_unlockRef_other (v : Nat) : restrict k (unlockRef s i k2 v) = restrict k s := by
  unfold unlockRef
  cases s.ma k2 with
  | none => exact restrict_setPc_other hk hm rfl _
  | some e =>
    refine restrict_setPc_other hk hm ?_ _
    rw [← restrict_setEntry_other hk s e { s.heap k2 e with cnt := (s.heap k2 e).cnt - 1 }]
    split
    · simp only [restrict, rk_upd_other hk]
    · rfl

end other

theorem restrict_stepG_other (c : Cfg) (k : Nat) (s : State) (i : Nat) (g : G) (hg : s.gs[i]? = some g) (hk : g.key ≠ k) :
    restrict k (stepG c s i g) = restrict k s := by
  obtain ⟨k2, pc⟩ := g
  have hm : (restrict k s).gs[i]? = some ⟨0, .gone⟩ := by
    simp only [restrict, List.getElem?_map, hg, Option.map_some, hide_other k k2 pc hk]
  have hpc {s'} := @restrict_setPc_other k k2 hk s i hm s'
  cases pc with
  | start =>
    simp only [stepG]
    cases c.useLock
    · exact hpc rfl _
    cases c.tryFirst
    · exact restrict_lockRef_other hk hm
    cases s.ma k2
    · exact hpc (restrict_newEntry_other hk ..) _
    · exact hpc rfl _
  | retry => exact restrict_lockRef_other hk hm
  | waiting e =>
    simp only [stepG]
    cases (s.heap k2 e).held with
    | none => exact hpc (restrict_setEntry_other hk ..) _
    | some _ => rfl
  | locked =>
    simp only [stepG]
    cases s.cache k2 <;> exact hpc rfl _
  | miss => exact hpc (by simp only [restrict, rk_upd_other hk]) _
  | handled v =>
    simp only [stepG]
    cases s.cache k2 with
    | some _ => exact hpc rfl _
    | none => exact hpc (by simp only [restrict, rk_upd_other hk]) _
  | replied v =>
    simp only [stepG]
    cases c.useLock
    · exact hpc rfl _
    · exact restrict_unlockRef_other hk hm v
  | unlocking e v => exact hpc (restrict_setEntry_other hk ..) _
  | done _ | panicked | gone => rfl

theorem restrict_step (c : Cfg) (k : Nat) (s : State) (ev : Ev) :
    restrict k (step c s ev) = step c (restrict k s) (projEv k ev) := by
  cases ev with
  | arrive k' =>
    by_cases h : k' = k
    · subst h; simp [step, projEv, restrict, hide]
    · simp [step, projEv, restrict, hide, h]
  | expire k' =>
    by_cases h : k' = k
    · subst h; simp [step, projEv, restrict, rk_upd_same, rk_same]
    · simp [step, projEv, restrict, h, rk_upd_other h]
  | pad => simp [step, projEv, restrict, hide]
  | nop => simp [step, projEv]
  | step i =>
    simp only [step, projEv]
    cases hg : s.gs[i]? with
    | none =>
      have : (restrict k s).gs[i]? = none := by simp [restrict, hg]
      simp [this]
    | some g =>
      by_cases hk : g.key = k
      · obtain ⟨k2, pc⟩ := g
        simp only at hk
        subst hk
        have : (restrict k2 s).gs[i]? = some ⟨k2, pc⟩ := by simp [restrict, hg, hide]
        simp only [this]
        exact restrict_stepG_same c k2 s i pc
      · have : (restrict k s).gs[i]? = some ⟨0, .gone⟩ := by simp [restrict, hg, hide, hk]
        simp only [this, stepG]
        exact restrict_stepG_other c k s i g hg hk

theorem restrict_exec (c : Cfg) (k : Nat) (sched : List Ev) :
    ∀ s, restrict k (exec c s sched) = exec c (restrict k s) (sched.map (projEv k)) := fun s => by
  rw [exec, exec, List.foldl_map]
  exact (List.foldl_hom (restrict k) fun s ev => (restrict_step c k s ev).symm).symm

theorem restrict_init (k : Nat) (c0 : Nat → Option Nat) : restrict k (init c0) = init (rk k c0 none) := by
  simp only [restrict, init, List.map_nil, State.mk.injEq, true_and]
  refine ⟨?_, ?_, ?_, ?_, ?_⟩ <;> (funext x; simp [rk])

end CoapVerif.Lemmas.DedupLockN
