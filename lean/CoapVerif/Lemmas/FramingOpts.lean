import CoapVerif.Model.FramingOpts
import CoapVerif.Spec.FramingOpts
import CoapVerif.Lemmas.FramingSpec
/-! Lemmas about `Model/FramingOpts.lean`.  The table: what `lookup` finds is an entry of it.  The walk: one step of `walkOptsO` in
terms of the specification's option header, and the whole walk as the specification's option list without what `Option.Unmarshal`
skips (`walkOptsO_eq`; `walkOptsO_due_of`: the due options survive for a table that keeps them).  The loop: the
accumulate-then-parse loop `procO` commutes with receiving bytes later (`procO_append`), hence reading on after a pass shows what
one pass over everything shows (`foldl_feedO_procO`); its projection onto `Framing.proc` / `feed` (`procO_erase`, `feedO_erase`). -/
namespace CoapVerif.Lemmas.FramingOpts
open CoapVerif.Model.Framing CoapVerif.Model.FramingOpts CoapVerif.Lemmas.Framing CoapVerif.Generated.TcpFraming
open CoapVerif.Spec.Framing (optHead)
open CoapVerif.Lemmas.FramingSpec (optHead_eq optHead_reserved optHead_length)

theorem lookup_mem {defs : Defs} {id lo hi fmt : Nat} (h : lookup defs id = some (lo, hi, fmt)) :
    (id, lo, hi, fmt) ∈ defs := by
  induction defs with
  | nil => simp [lookup] at h
  | cons e r ih =>
    obtain ⟨k, a, b, c⟩ := e
    unfold lookup at h
    by_cases hk : k = id
    · simp only [hk, ↓reduceIte, Option.some.injEq, Prod.mk.injEq] at h
      obtain ⟨rfl, rfl, rfl⟩ := h
      simp [hk]
    · simp only [hk, ↓reduceIte] at h
      exact List.mem_cons_of_mem _ (ih h)

theorem walkOptsO_cons (defs : Defs) (prev : Nat) (b : UInt8) (t : Bytes) :
    walkOptsO defs prev (b :: t) =
      if b = 0xff then [] else
      match optHead (b :: t) with
      | none => []
      | some (d, l, r) =>
        if r.length < l then []
        else if prev + d > 65535 then []
        else if keeps defs (prev + d) l then (prev + d, r.take l) :: walkOptsO defs (prev + d) (r.drop l)
        else walkOptsO defs (prev + d) (r.drop l) := by
  rw [walkOptsO.eq_def]
  dsimp only
  by_cases hff : b = 0xff
  · rw [if_pos hff, if_pos hff]
  rw [if_neg hff, if_neg hff]
  by_cases h15 : b.toNat / 16 = extError ∨ b.toNat % 16 = extError   -- `extError` unfolds to the 15 of `optHead`
  · rw [if_pos h15, optHead_reserved h15]
  rw [if_neg h15, optHead_eq b t h15]
  cases hd : parseExt (b.toNat / 16) t with
  | none => rfl
  | some r1 =>
    obtain ⟨d, t1⟩ := r1
    dsimp only
    cases hl : parseExt (b.toNat % 16) t1 with
    | none => rfl
    | some r2 => rfl

/-- `Options.Unmarshal` appends, in order, the options of the RFC 7252 §3.1 walk that `Option.Unmarshal` does not skip — for
    every table and every byte string (a rejected area included) -/
theorem walkOptsO_eq (defs : Defs) (prev : Nat) (bs : Bytes) : ∀ fuel, bs.length < fuel →
    walkOptsO defs prev bs = (Spec.FramingOpts.optsOf fuel prev bs).filter fun o => keeps defs o.1 o.2.length := by
  intro fuel
  induction fuel generalizing prev bs with
  | zero => intro hf; cases hf
  | succ f ih =>
    intro hf
    cases bs with
    | nil => rw [walkOptsO.eq_def]; rfl
    | cons b t =>
      rw [walkOptsO_cons, Spec.FramingOpts.optsOf]
      by_cases hff : b = 0xff
      · rw [if_pos hff, if_pos hff]; rfl
      rw [if_neg hff, if_neg hff]
      cases ho : optHead (b :: t) with
      | none => rfl
      | some x =>
        obtain ⟨d, l, r⟩ := x
        dsimp only
        by_cases hlen : r.length < l
        · rw [if_pos hlen, if_pos hlen]; rfl
        by_cases hov : prev + d > 65535
        · rw [if_neg hlen, if_neg hlen, if_pos hov, if_pos hov]; rfl
        have := optHead_length ho
        -- the value the model appends has the length the header announces
        rw [if_neg hlen, if_neg hlen, if_neg hov, if_neg hov, List.filter_cons, List.length_take,
          Nat.min_eq_left (Nat.le_of_not_lt hlen),
          ← ih (prev + d) (r.drop l) (by simp only [List.length_drop, List.length_cons] at hf ⊢; omega)]

theorem walkOptsO_due_of (defs : Defs) (hk : ∀ id (v : Bytes), Spec.FramingOpts.due (id, v) = true → keeps defs id v.length = true)
    (prev : Nat) (bs : Bytes) :
    ∀ fuel, bs.length < fuel →
      (walkOptsO defs prev bs).filter Spec.FramingOpts.due = (Spec.FramingOpts.optsOf fuel prev bs).filter Spec.FramingOpts.due := by
  intro fuel hf
  rw [walkOptsO_eq defs prev bs fuel hf, List.filter_filter]
  -- an option the table skips is not due
  exact List.filter_congr fun o _ => by
    cases h : Spec.FramingOpts.due o
    · rfl
    · rw [hk o.1 o.2 h]; rfl

theorem procO_eq (max : Nat) (buf : Bytes) (out : List MsgO) :
    procO max buf out =
      match decodeHeader buf with
      | .short => ⟨buf, out, false⟩
      | .invalid => ⟨buf, out, true⟩
      | .ok hd =>
        if hd.msgLen > max then ⟨buf, out, true⟩
        else if buf.length < hd.msgLen then ⟨buf, out, false⟩
        else match decodeFrameO (buf.take hd.msgLen) with
          | none => ⟨buf, out, true⟩
          | some m => procO max (buf.drop hd.msgLen) (out ++ [m]) := by
  rw [procO]
  split <;> rename_i h <;> rw [h] <;> rfl

theorem procO_ok_append {max : Nat} {buf : Bytes} {out : List MsgO} {hd : Hdr} (c : Bytes) (hh : decodeHeader buf = .ok hd)
    (hgt : ¬ hd.msgLen > max) (hlt : ¬ buf.length < hd.msgLen) :
    procO max (buf ++ c) out =
      match decodeFrameO (buf.take hd.msgLen) with
      | none => ⟨buf ++ c, out, true⟩
      | some m => procO max (buf.drop hd.msgLen ++ c) (out ++ [m]) := by
  have hle : hd.msgLen ≤ buf.length := by omega
  have n2 : ¬ (buf ++ c).length < hd.msgLen := by simp [List.length_append]; omega
  rw [procO_eq, decodeHeader_append c hh nofun]
  simp only [hgt, n2, ↓reduceIte]
  rw [List.take_append_of_le_length hle, List.drop_append_of_le_length hle]

theorem procO_append (max : Nat) (buf : Bytes) (out : List MsgO) (c : Bytes) :
    procO max (buf ++ c) out =
      if (procO max buf out).closed then ⟨(procO max buf out).buf ++ c, (procO max buf out).out, true⟩
      else procO max ((procO max buf out).buf ++ c) (procO max buf out).out := by
  fun_induction procO max buf out with
  -- a pass that waits (cases 1 and 4) leaves buffer and deliveries as they were: the right side is the left
  | case1 buf out hh => rfl
  | case2 buf out hh => rw [procO_eq, decodeHeader_append c hh nofun]; rfl
  | case3 buf out hd hh hgt => rw [procO_eq, decodeHeader_append c hh nofun]; exact if_pos hgt
  | case4 buf out hd hh hgt hlt => rfl
  | case5 buf out hd hh hgt hlt hdec => rw [procO_ok_append c hh hgt hlt, hdec]; rfl
  | case6 buf out hd hh hgt hlt m hdec ih => rw [procO_ok_append c hh hgt hlt, hdec]; exact ih

theorem foldl_feedO_closed (max : Nat) (s : StO) (cs : List Bytes) (h : s.closed = true) :
    cs.foldl (feedO max) s = s := by
  induction cs with
  | nil => rfl
  | cons c cs ih => simp [List.foldl_cons, feedO, h, ih]

theorem foldl_feedO_procO (max : Nat) (cs : List Bytes) (buf : Bytes) (out : List MsgO) :
    (cs.foldl (feedO max) (procO max buf out)).obs = (procO max (buf ++ cs.flatten) out).obs := by
  induction cs generalizing buf out with
  | nil => simp
  | cons c cs ih =>
    rw [List.foldl_cons, List.flatten_cons, feedO]
    cases hc : (procO max buf out).closed
    · have := procO_append max buf out c
      rw [hc, if_neg nofun] at this
      rw [if_neg nofun, ← this, ← List.append_assoc]
      exact ih (buf ++ c) out
    · rw [if_pos rfl, foldl_feedO_closed max _ cs hc, procO_append, hc, StO.obs, hc]
      rfl

theorem procO_erase (max : Nat) (buf : Bytes) (out : List MsgO) :
    (procO max buf out).erase = proc max buf (out.map MsgO.erase) := by
  fun_induction procO max buf out with
  | case1 buf out hh => rw [proc_eq, hh]; rfl
  | case2 buf out hh => rw [proc_eq, hh]; rfl
  | case3 buf out hd hh hgt => rw [proc_eq, hh]; simp [hgt, StO.erase]
  | case4 buf out hd hh hgt hlt => rw [proc_eq, hh]; simp [hgt, hlt, StO.erase]
  | case5 buf out hd hh hgt hlt hdec =>
    rw [proc_eq, hh]
    have := decodeFrameO_erase (buf.take hd.msgLen)
    rw [hdec] at this
    simp only [Option.map_none] at this
    simp [hgt, hlt, StO.erase, ← this]
  | case6 buf out hd hh hgt hlt m hdec ih =>
    rw [proc_eq, hh]
    have := decodeFrameO_erase (buf.take hd.msgLen)
    rw [hdec] at this
    simp only [Option.map_some] at this
    simp only [hgt, hlt, ↓reduceIte, ← this]
    rw [ih]
    simp

theorem feedO_erase (max : Nat) (s : StO) (c : Bytes) : (feedO max s c).erase = feed max s.erase c := by
  unfold feedO feed
  cases hc : s.closed
  · simp only [StO.erase, hc, Bool.false_eq_true, ↓reduceIte]
    exact procO_erase max (s.buf ++ c) s.out
  · simp [StO.erase, hc]

end CoapVerif.Lemmas.FramingOpts
