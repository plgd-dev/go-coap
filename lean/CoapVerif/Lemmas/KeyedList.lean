/-!
Lists used as tables: the elements carry a key (`key : α → κ`) and are looked up by
`l.find? (fun a => key a == k)`.  What the lookup returns after the table operations the models use — an in-place
update that keeps the keys, removal of a key, a new element at the end, a `filterMap` that keeps the keys — and how many
elements carry a given key (`countP`).

"Distinct keys" is `(l.map key).Nodup` throughout, which is what the tables of reachable states satisfy: no two positions
share a key.  It is handed on by `nodup_map` (an update in place leaves the list of keys as it is, `map_key_map`),
`nodup_append_one`, `map_key_filterMap_sublist`, and for a `filter` by core `List.Nodup.sublist`.  `eq_of_key_eq` reads
off it that the key is injective on the list (the form of `Props.C10.OneConnPerKey`, which two equal entries would also
meet), `find?_of_mem` that a member is what its key looks up; core `List.pairwise_map` turns it into
`l.Pairwise (key · ≠ key ·)` and back (the form of `Props.C10.UniqueTok`).  Of the lookups and counts only `find?_of_mem`,
`find?_filterMap` and `countP_key_of_mem` need it.

"`k` is absent" is `∀ a ∈ l, key a ≠ k`: by `find?_none` / `find?_absent` that is a lookup that finds nothing;
`find?_of_mem_keys` / `find?_of_not_mem_keys` decide the lookup by `k ∈ l.map key`.  An update is looked through by
`find?_map` whatever test it is written with; `find?_update` is for `if key a = k` (`Model.Retransmit.updCall`).
`nodup_snoc`, `forall_mem_append_one` (a new last element) and `any_congr_mem`, `find_congr_mem` (two tests that agree on
the members) mention no key.
-/
namespace CoapVerif.Lemmas.KeyedList

variable {α κ : Type} (key : α → κ)

theorem eq_of_key_eq {l : List α} (hn : (l.map key).Nodup) {a b : α} (ha : a ∈ l) (hb : b ∈ l) (h : key a = key b) :
    a = b :=
  have hp := List.pairwise_map.1 hn
  List.Pairwise.forall_of_forall_of_flip (R := fun a b => key a = key b → a = b) (fun _ _ _ => rfl)
    (hp.imp fun hne e => absurd e hne) (hp.imp fun hne e => absurd e.symm hne) ha hb h

theorem map_key_map {f : α → α} (hf : ∀ a, key (f a) = key a) (l : List α) : (l.map f).map key = l.map key :=
  List.map_map.trans (List.map_congr_left fun a _ => hf a)

theorem nodup_map {f : α → α} (hf : ∀ a, key (f a) = key a) {l : List α} (hn : (l.map key).Nodup) :
    ((l.map f).map key).Nodup :=
  (map_key_map key hf l).symm ▸ hn

theorem map_key_filterMap_sublist (f : α → Option α) (hf : ∀ a b, f a = some b → key b = key a) :
    ∀ l : List α, ((l.filterMap f).map key).Sublist (l.map key)
  | [] => List.Sublist.slnil
  | a :: t => by
    have ih := map_key_filterMap_sublist f hf t
    rw [List.filterMap_cons]
    cases h : f a with
    | none => exact List.Sublist.cons _ ih
    | some b =>
      rw [List.map_cons, List.map_cons, hf a b h]
      exact List.Sublist.cons_cons _ ih

theorem nodup_snoc {l : List α} {x : α} (h : l.Nodup) (hx : x ∉ l) : (l ++ [x]).Nodup :=
  List.nodup_append.mpr ⟨h, List.pairwise_singleton _ _, fun _ ha _ hb e => hx (List.mem_singleton.mp hb ▸ e ▸ ha)⟩

theorem nodup_append_one {l : List α} {b : α} (hn : (l.map key).Nodup) (hb : ∀ a ∈ l, key a ≠ key b) :
    ((l ++ [b]).map key).Nodup :=
  List.map_append ▸ nodup_snoc hn fun hm => (List.mem_map.mp hm).elim fun a ⟨ha, e⟩ => hb a ha e

theorem forall_mem_append_one {Q : α → Prop} {l : List α} {b : α} (h : ∀ a ∈ l, Q a) (hb : Q b) : ∀ a ∈ l ++ [b], Q a :=
  fun a ha => (List.mem_append.mp ha).elim (h a) (fun hs => List.mem_singleton.mp hs ▸ hb)

theorem find_congr_mem (l : List α) (p q : α → Bool) (h : ∀ x ∈ l, p x = q x) : l.find? p = l.find? q := by
  rw [← List.head?_filter, List.filter_congr h, List.head?_filter]

theorem any_congr_mem (l : List α) (p q : α → Bool) (h : ∀ x ∈ l, p x = q x) : l.any p = l.any q := by
  rw [← List.isSome_find?, find_congr_mem l p q h, List.isSome_find?]

variable [BEq κ]

theorem find?_map (l : List α) (g : α → α) (hg : ∀ a, key (g a) = key a) (k : κ) :
    (l.map g).find? (fun a => key a == k) = (l.find? (fun a => key a == k)).map g := by
  rw [List.find?_map]
  congr 2
  funext a
  simp [hg]

variable [LawfulBEq κ]

theorem find?_some {l : List α} {k : κ} {a : α} (h : l.find? (fun a => key a == k) = some a) : a ∈ l ∧ key a = k :=
  ⟨List.mem_of_find?_eq_some h, by simpa using List.find?_some h⟩

theorem filter_ne_of_find?_none {l : List α} {k : κ} (h : l.find? (fun a => key a == k) = none) :
    l.filter (fun a => key a != k) = l :=
  List.filter_eq_self.mpr fun a ha => by simpa using List.find?_eq_none.mp h a ha

theorem find?_none {l : List α} {k : κ} (h : l.find? (fun a => key a == k) = none) : ∀ a ∈ l, key a ≠ k := by
  simpa using h

theorem find?_absent {l : List α} {k : κ} (h : ∀ a ∈ l, key a ≠ k) : l.find? (fun a => key a == k) = none :=
  List.find?_eq_none.mpr fun a ha => by simpa using h a ha

theorem find?_of_not_mem_keys {l : List α} {k : κ} (h : k ∉ l.map key) : l.find? (fun a => key a == k) = none :=
  find?_absent key fun a ha e => h (List.mem_map.mpr ⟨a, ha, e⟩)

theorem find?_of_mem_keys {l : List α} {k : κ} (h : k ∈ l.map key) :
    ∃ a, l.find? (fun a => key a == k) = some a ∧ key a = k := by
  cases hf : l.find? (fun a => key a == k) with
  | some a => exact ⟨a, rfl, (find?_some key hf).2⟩
  | none =>
    obtain ⟨a, ha, hk⟩ := List.mem_map.mp h
    exact absurd hk (find?_none key hf a ha)

theorem find?_update [DecidableEq κ] (l : List α) (k : κ) (f : α → α) (hf : ∀ a, key a = k → key (f a) = k) (k' : κ) :
    (l.map (fun a => if key a = k then f a else a)).find? (fun a => key a == k') =
      if k' = k then (l.find? (fun a => key a == k')).map f else l.find? (fun a => key a == k') := by
  rw [find?_map key l _ (fun a => by by_cases h : key a = k <;> simp [h, hf a])]
  cases hl : l.find? (fun a => key a == k') with
  | none => simp
  | some a =>
    have hk := (find?_some key hl).2
    by_cases h : k' = k <;> simp [hk, h]

theorem find?_remove [DecidableEq κ] (l : List α) (k k' : κ) :
    (l.filter (fun a => key a != k)).find? (fun a => key a == k') =
      if k' = k then none else l.find? (fun a => key a == k') := by
  rw [List.find?_filter]
  by_cases h : k' = k
  · subst h
    simp
  · rw [if_neg h]
    congr 1
    funext a
    by_cases ha : key a = k' <;> simp [ha, h]

theorem find?_append_one [DecidableEq κ] (l : List α) (b : α) (k : κ) :
    (l ++ [b]).find? (fun a => key a == k) =
      (l.find? (fun a => key a == k)).or (if key b = k then some b else none) := by
  simp [List.find?_append, List.find?_singleton]

theorem find?_append_other [DecidableEq κ] (l : List α) {b : α} {k : κ} (h : key b ≠ k) :
    (l ++ [b]).find? (fun a => key a == k) = l.find? (fun a => key a == k) := by
  rw [find?_append_one, if_neg h, Option.or_none]

theorem find?_append_new [DecidableEq κ] {l : List α} {b : α} {k : κ} (hk : key b = k)
    (h : l.find? (fun a => key a == k) = none) : (l ++ [b]).find? (fun a => key a == k) = some b := by
  rw [find?_append_one, if_pos hk, h]; rfl

theorem find?_of_mem {l : List α} (hn : (l.map key).Nodup) {a : α} (ha : a ∈ l) :
    l.find? (fun x => key x == key a) = some a := by
  cases h : l.find? (fun x => key x == key a) with
  | none => exact (find?_none key h a ha rfl).elim
  | some b =>
    obtain ⟨hb, hk⟩ := find?_some key h
    rw [eq_of_key_eq key hn hb ha hk]

theorem find?_filterMap (f : α → Option α) (hf : ∀ a b, f a = some b → key b = key a) (k : κ) :
    ∀ {l : List α}, (l.map key).Nodup →
      (l.filterMap f).find? (fun a => key a == k) = (l.find? (fun a => key a == k)).bind f
  | [], _ => rfl
  | a :: t, hn => by
    simp only [List.map_cons, List.nodup_cons, List.mem_map, not_exists, not_and] at hn
    have ih := find?_filterMap f hf k hn.2
    rw [List.filterMap_cons, List.find?_cons]
    cases hk : key a == k with
    | true =>
      have hka : key a = k := by simpa using hk
      have ht : t.find? (fun a => key a == k) = none :=
        List.find?_eq_none.mpr (fun x hx hxk => hn.1 x hx (by rw [hka]; simpa using hxk))
      cases hfa : f a with
      | none => simp [ih, ht, hfa]
      | some b => simp [hfa, hf a b hfa, hk]
    | false =>
      cases hfa : f a with
      | none => simp [ih]
      | some b => simp [ih, hf a b hfa, hk]

theorem countP_key_absent {l : List α} {k : κ} (q : α → Bool) (h : ∀ a ∈ l, key a ≠ k) :
    l.countP (fun a => key a == k && q a) = 0 :=
  List.countP_eq_zero.mpr (fun a ha => by simp [h a ha])

theorem countP_key_of_mem (q : α → Bool) : ∀ {l : List α}, (l.map key).Nodup → ∀ {a : α}, a ∈ l →
    l.countP (fun x => key x == key a && q x) = if q a then 1 else 0
  | x :: r, hn, a, ha => by
    simp only [List.map_cons, List.nodup_cons, List.mem_map, not_exists, not_and] at hn
    rw [List.countP_cons]
    cases ha with
    | head =>
      rw [countP_key_absent key q (fun y hy => hn.1 y hy)]
      simp
    | tail _ ha =>
      have hne : key x ≠ key a := fun h => hn.1 a ha h.symm
      rw [countP_key_of_mem q hn.2 ha]
      simp [hne]

end CoapVerif.Lemmas.KeyedList
