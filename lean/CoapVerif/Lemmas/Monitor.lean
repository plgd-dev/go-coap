import CoapVerif.Model.Monitor
import CoapVerif.Lemmas.Run
/-!
`Model/Monitor.lean` one call at a time: what `CheckInactivity` and `OnInactive` return in each of their cases, and from
those what one event does to an open connection, in the words of `Spec/Monitor.lean` (the time of the latest message and
the run of idle firings since), and that the count of failures stays within the retry limit.

The generated flags `closeWhenGreater`, `fireStrict` and `notifyResetsFails` (all `true` in today's source) are read in
`onInactive_over`, `onInactive_within`, `check_quiet`, `check_fires_plain`, `check_fires_keepalive` and `notify_fails` and
nowhere else: these six proofs are the ones a changed comparison or a `Notify` that no longer resets the count breaks.
-/
namespace CoapVerif.Lemmas.Monitor
open CoapVerif.Model.Monitor CoapVerif.Generated.Monitor
open CoapVerif.Spec.Monitor (Ev Out lastMsg streak)

theorem isRun (cfg : Cfg) : Run.IsRun (step cfg) (run cfg) := ⟨fun _ => rfl, fun _ _ _ => rfl⟩

theorem lastMsg_cons (t0 : Int) (e : Ev) (r : List Ev) : lastMsg t0 (e :: r) = lastMsg (lastMsg t0 [e]) r := by
  cases e <;> rfl

theorem streak_cons (period t0 : Int) (k : Nat) (e : Ev) (r : List Ev) :
    streak period t0 k (e :: r) = streak period (lastMsg t0 [e]) (streak period t0 k [e]) r := by
  cases e <;> first | rfl | (simp only [streak, lastMsg]; split <;> rfl)

/-- the local `cancelOut` of `Model.Monitor.onInactive`, what `checkCancelPing` emits: the cancel of the ping whose cancel
    function is stored -/
def cancelOut (s : St) : List Out := match s.cancelSet with | some g => [.cancelPing g] | none => []

theorem mem_cancelOut_append {s : St} {o x : Out} (h : o ∈ cancelOut s ++ [x]) : (∃ g, o = .cancelPing g) ∨ o = x := by
  rcases List.mem_append.mp h with h | h
  · unfold cancelOut at h
    cases hc : s.cancelSet with
    | none => rw [hc] at h; exact absurd h List.not_mem_nil
    | some g => rw [hc] at h; exact .inl ⟨g, List.mem_singleton.mp h⟩
  · exact .inr (List.mem_singleton.mp h)

theorem onInactive_over (n : Nat) (s : St) (ok : Bool) (h : s.fails + 1 > n) :
    onInactive n s ok =
      ({ s with fails := s.fails + 1, cancelSet := none, pending := none, closed := true }, cancelOut s ++ [.close]) := by
  unfold onInactive
  simp only [closeWhenGreater, if_true]
  rw [if_pos h]; rfl

theorem onInactive_within (n : Nat) (s : St) (ok : Bool) (h : ¬ s.fails + 1 > n) :
    onInactive n s ok =
      if ok then ({ s with fails := s.fails + 1, gen := s.gen + 1, pending := some (s.gen + 1), cancelSet := some (s.gen + 1) },
                  cancelOut s ++ [.ping (s.gen + 1)])
      else ({ s with fails := s.fails + 1, gen := s.gen + 1, pending := none, cancelSet := none },
            cancelOut s ++ [.pingFailed (s.gen + 1)]) := by
  unfold onInactive
  simp only [closeWhenGreater, if_true]
  rw [if_neg h]; rfl

theorem close_of_onInactive {n : Nat} {s : St} {ok : Bool} (h : Out.close ∈ (onInactive n s ok).2) : s.fails + 1 > n := by
  refine Decidable.byContradiction fun hv => ?_
  rw [onInactive_within n s ok hv] at h
  cases ok <;> rcases mem_cancelOut_append h with ⟨g, e⟩ | e <;> exact Out.noConfusion e

theorem check_quiet (cfg : Cfg) (s : St) (t : Int) (ok : Bool) (h : ¬ (cfg.period ≠ 0 ∧ t > s.last + cfg.period)) :
    check cfg s t ok = (s, []) := by
  unfold check
  by_cases hp : cfg.period = 0
  · rw [if_pos hp]
  · simp only [fireStrict, if_true]
    rw [if_neg hp, if_neg fun hf => h ⟨hp, hf⟩]

theorem check_fires_plain (cfg : Cfg) (s : St) (t : Int) (ok : Bool) (hp : cfg.period ≠ 0) (h : t > s.last + cfg.period)
    (hm : cfg.maxRetries = none) : check cfg s t ok = ({ s with closed := true }, [.close]) := by
  unfold check
  simp only [fireStrict, if_true]
  rw [if_neg hp, if_pos h, hm]

theorem check_fires_keepalive (cfg : Cfg) (s : St) (t : Int) (ok : Bool) (hp : cfg.period ≠ 0) (h : t > s.last + cfg.period)
    {n : Nat} (hm : cfg.maxRetries = some n) : check cfg s t ok = onInactive n s ok := by
  unfold check
  simp only [fireStrict, if_true]
  rw [if_neg hp, if_pos h, hm]

theorem check_out_fired {cfg : Cfg} {s : St} {t : Int} {ok : Bool} {o : Out} (h : o ∈ (check cfg s t ok).2) :
    cfg.period ≠ 0 ∧ t > s.last + cfg.period :=
  Decidable.byContradiction fun hn => by rw [check_quiet cfg s t ok hn] at h; exact absurd h List.not_mem_nil

/-- the count goes up whenever the check fires, whether `OnInactive` then pings or closes -/
theorem check_track (cfg : Cfg) (hp : cfg.period ≠ 0) (s : St) (t : Int) (ok : Bool) :
    (check cfg s t ok).1.last = s.last ∧
    (cfg.maxRetries.isSome = true →
      (check cfg s t ok).1.fails = if t > s.last + cfg.period then s.fails + 1 else s.fails) := by
  by_cases hf : t > s.last + cfg.period
  · rw [if_pos hf]
    cases hm : cfg.maxRetries with
    | none => rw [check_fires_plain cfg s t ok hp hf hm]; exact ⟨rfl, fun h => Bool.noConfusion h⟩
    | some n =>
      rw [check_fires_keepalive cfg s t ok hp hf hm]
      by_cases hv : s.fails + 1 > n
      · rw [onInactive_over n s ok hv]; exact ⟨rfl, fun _ => rfl⟩
      · rw [onInactive_within n s ok hv]; cases ok <;> exact ⟨rfl, fun _ => rfl⟩
  · rw [if_neg hf, check_quiet cfg s t ok fun h => hf h.2]; exact ⟨rfl, fun _ => rfl⟩

theorem check_at_limit (cfg : Cfg) (n : Nat) (s : St) (t : Int) (ok : Bool)
    (hm : cfg.maxRetries = some n) (hp : cfg.period ≠ 0) (hidle : t > s.last + cfg.period) (hk : s.fails ≥ n) :
    (check cfg s t ok).1.closed = true ∧ Out.close ∈ (check cfg s t ok).2 ∧ (∀ g, Out.ping g ∉ (check cfg s t ok).2) := by
  rw [check_fires_keepalive cfg s t ok hp hidle hm, onInactive_over n s ok (Nat.lt_succ_of_le hk)]
  refine ⟨rfl, List.mem_append_right _ (List.mem_singleton_self _), fun g hg => ?_⟩
  rcases mem_cancelOut_append hg with ⟨g', e⟩ | e <;> exact Out.noConfusion e

theorem check_below_limit (cfg : Cfg) (n : Nat) (s : St) (t : Int) (ok : Bool)
    (hm : cfg.maxRetries = some n) (hp : cfg.period ≠ 0) (hs : s.closed = false)
    (hidle : t > s.last + cfg.period) (hk : s.fails < n) :
    (check cfg s t ok).1.closed = false ∧ (check cfg s t ok).1.fails = s.fails + 1 ∧
      (check cfg s t ok).1.last = s.last ∧ Out.close ∉ (check cfg s t ok).2 := by
  have hv : ¬ s.fails + 1 > n := Nat.not_lt.mpr hk
  obtain ⟨hl, hf⟩ := check_track cfg hp s t ok
  refine ⟨?_, (hf (hm ▸ rfl)).trans (if_pos hidle), hl, ?_⟩ <;> rw [check_fires_keepalive cfg s t ok hp hidle hm]
  · rw [onInactive_within n s ok hv]; cases ok <;> exact hs
  · exact fun h => hv (close_of_onInactive h)

theorem notify_fails (cfg : Cfg) (s : St) (t : Int) (hk : cfg.maxRetries.isSome = true) : (notify cfg s t).fails = 0 := by
  simp [notify, hk, notifyResetsFails]

theorem step_recv (cfg : Cfg) (s : St) (t : Int) (hs : s.closed = false) : step cfg s (.recv t) = (notify cfg s t, []) := by
  simp [step, hs]

/-- a pong is a message (`Notify`); its callback touches `pending` and can only zero the count, which with keep-alive
    `Notify` has zeroed already -/
theorem step_pong (cfg : Cfg) (s : St) (g : Nat) (t : Int) (hs : s.closed = false) :
    (step cfg s (.pong g t)).1.last = t ∧ (cfg.maxRetries.isSome = true → (step cfg s (.pong g t)).1.fails = 0) := by
  simp only [step, hs, Bool.false_eq_true, if_false]
  split
  · refine ⟨rfl, fun hk => ?_⟩
    show (if _ then 0 else (notify cfg s t).fails) = 0
    rw [notify_fails cfg s t hk]
    split <;> rfl
  · exact ⟨rfl, notify_fails cfg s t⟩

theorem step_tick (cfg : Cfg) (s : St) (t : Int) (hs : s.closed = false) : step cfg s (.tick t) = check cfg s t true := by
  simp [step, hs]

theorem step_tickFail (cfg : Cfg) (s : St) (t : Int) (hs : s.closed = false) :
    step cfg s (.tickFail t) = check cfg s t false := by
  simp [step, hs]

theorem step_datagram (cfg : Cfg) (s : St) (t : Int) (hs : s.closed = false) :
    step cfg s (.datagram t) =
      (if (check cfg s (t + serverLookaheadNs)).1.closed then (check cfg s (t + serverLookaheadNs)).1
       else notify cfg (check cfg s (t + serverLookaheadNs)).1 t, (check cfg s (t + serverLookaheadNs)).2) := by
  simp only [step, hs, Bool.false_eq_true, if_false]
  split <;> rfl

/-- One event in the specification's words.  `ho` matters for the datagram look-up only, whose look-ahead check may close
    the connection before `Notify` is reached; `hp` because with period 0 the check never fires while `streak` still counts
    the ticks. -/
theorem step_track (cfg : Cfg) (hp : cfg.period ≠ 0) (s : St) (e : Ev) (hs : s.closed = false)
    (ho : (step cfg s e).1.closed = false) :
    (step cfg s e).1.last = lastMsg s.last [e] ∧
    (cfg.maxRetries.isSome = true → (step cfg s e).1.fails = streak cfg.period s.last s.fails [e]) := by
  cases e with
  | recv t => rw [step_recv cfg s t hs]; exact ⟨rfl, notify_fails cfg s t⟩
  | pong g t => exact step_pong cfg s g t hs
  | tick t => rw [step_tick cfg s t hs]; exact check_track cfg hp s t true
  | tickFail t => rw [step_tickFail cfg s t hs]; exact check_track cfg hp s t false
  | datagram t =>
    rw [step_datagram cfg s t hs] at ho ⊢
    cases hcl : (check cfg s (t + serverLookaheadNs)).1.closed with
    | true => rw [hcl, if_pos rfl] at ho; rw [hcl] at ho; exact Bool.noConfusion ho
    | false => rw [if_neg (Bool.noConfusion)]; exact ⟨rfl, notify_fails cfg _ t⟩

structure FailsWithin (n : Nat) (s : St) : Prop where
  open_le : s.closed = false → s.fails ≤ n
  le_succ : s.fails ≤ n + 1

theorem FailsWithin.of_le {n : Nat} {s : St} (h : s.fails ≤ n) : FailsWithin n s :=
  ⟨fun _ => h, Nat.le_succ_of_le h⟩

theorem check_fails_bound (cfg : Cfg) (n : Nat) (hm : cfg.maxRetries = some n) (s : St) (hf : s.fails ≤ n) (t : Int) (ok : Bool) :
    FailsWithin n (check cfg s t ok).1 := by
  by_cases hq : cfg.period ≠ 0 ∧ t > s.last + cfg.period
  · rw [check_fires_keepalive cfg s t ok hq.1 hq.2 hm]
    by_cases hv : s.fails + 1 > n
    · rw [onInactive_over n s ok hv]; exact ⟨fun h => Bool.noConfusion h, Nat.succ_le_succ hf⟩
    · rw [onInactive_within n s ok hv]; cases ok <;> exact .of_le (Nat.not_lt.mp hv)
  · rw [check_quiet cfg s t ok hq]; exact .of_le hf

theorem step_fails_bound (cfg : Cfg) (n : Nat) (hm : cfg.maxRetries = some n) (s : St) (h : FailsWithin n s) (e : Ev) :
    FailsWithin n (step cfg s e).1 := by
  have hk : cfg.maxRetries.isSome = true := hm ▸ rfl
  have zero {s' : St} (h : s'.fails = 0) : FailsWithin n s' := .of_le (h ▸ Nat.zero_le n)
  cases hc : s.closed with
  | true => simpa [step, hc] using h
  | false =>
    have hf := h.open_le hc
    cases e with
    | recv t => rw [step_recv cfg s t hc]; exact zero (notify_fails cfg s t hk)
    | pong g t => exact zero ((step_pong cfg s g t hc).2 hk)
    | tick t => rw [step_tick cfg s t hc]; exact check_fails_bound cfg n hm s hf t true
    | tickFail t => rw [step_tickFail cfg s t hc]; exact check_fails_bound cfg n hm s hf t false
    | datagram t =>
      rw [step_datagram cfg s t hc]
      cases hcl : (check cfg s (t + serverLookaheadNs)).1.closed with
      | true =>
        rw [if_pos rfl]
        exact ⟨fun h => Bool.noConfusion (hcl.symm.trans h),
          (check_fails_bound cfg n hm s hf (t + serverLookaheadNs) true).le_succ⟩
      | false => rw [if_neg Bool.noConfusion]; exact zero (notify_fails cfg _ t hk)

end CoapVerif.Lemmas.Monitor
