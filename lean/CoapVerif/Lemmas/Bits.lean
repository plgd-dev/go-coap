/-!
Bit operations as arithmetic.  On `Nat`: a mask of one bit tests that bit (`and_two_pow_ne_zero`: the More bit of a
block option, the class bits of No-Response), the masks and shifts of the block option value (`Model/BlockOpt.lean`).  On
bytes: the fields of the first byte of an option, of a datagram and of a stream frame, as the checked decoders take them apart
(`toNat_*`, `shr6_ne_one`) and as the model encoders put them together (`or_nibbles`, `udp_first_byte`, `tcp_first_byte`:
finite facts, decided).  The same fields of a byte given as `UInt8.ofNat (hi * 16 + lo)` are in `LengthClasses.lean`.
-/
namespace CoapVerif.Lemmas

theorem and_7 (v : Nat) : v &&& 7 = v % 8 := Nat.and_two_pow_sub_one_eq_mod v 3

theorem and_two_pow_ne_zero (v k : Nat) : ((v &&& 2 ^ k) != 0) = v.testBit k := by
  cases h : v.testBit k
  · have : v &&& 2 ^ k = 0 := by
      apply Nat.eq_of_testBit_eq
      intro i
      simp only [Nat.testBit_and, Nat.testBit_two_pow, Nat.zero_testBit]
      by_cases hi : k = i
      · subst hi; simp [h]
      · simp [hi]
    simp [this]
  · have hb : (v &&& 2 ^ k).testBit k = true := by
      simp [Nat.testBit_and, h]
    have : v &&& 2 ^ k ≠ 0 := by
      intro h0; rw [h0] at hb; simp at hb
    simp [this]

theorem and_8_ne_zero (v : Nat) : ((v &&& 8) != 0) = (v / 8 % 2 == 1) :=
  ((and_two_pow_ne_zero v 3).trans Nat.testBit_eq_decide_div_mod_eq).trans (Bool.beq_eq_decide_eq _ _).symm

theorem shr_4 (v : Nat) : v >>> 4 = v / 16 := Nat.shiftRight_eq_div_pow v 4

/-- The three fields of `n·16 + M·8 + s` (RFC 7959 §2.2). -/
theorem blockValue_fields {s : Nat} (n : Nat) (m : Bool) (hs : s ≤ 7) :
    (n * 16 + (if m then 8 else 0) + s) % 8 = s ∧ (n * 16 + (if m then 8 else 0) + s) / 16 = n ∧
      ((n * 16 + (if m then 8 else 0) + s) / 8 % 2 == 1) = m := by
  have h : ∀ b, b ≤ 1 →
      (n * 16 + b * 8 + s) % 8 = s ∧ (n * 16 + b * 8 + s) / 16 = n ∧ (n * 16 + b * 8 + s) / 8 % 2 = b := by
    intro b hb; omega
  cases m
  · simpa using h 0 (by omega)
  · simpa using h 1 (by omega)

theorem blockValue_join (v : Nat) : v / 16 * 16 + (if v / 8 % 2 == 1 then 8 else 0) + v % 8 = v := by
  have h : v / 16 * 16 + v / 8 % 2 * 8 + v % 8 = v := by omega
  rcases Nat.mod_two_eq_zero_or_one (v / 8) with e | e <;> simpa [e] using h

theorem toNat_shr4 (b : UInt8) : (b >>> 4).toNat = b.toNat / 16 := by
  rw [UInt8.toNat_shiftRight]; exact Nat.shiftRight_eq_div_pow b.toNat 4

theorem toNat_and15 (b : UInt8) : (b &&& 0x0f).toNat = b.toNat % 16 := by
  rw [UInt8.toNat_and]; exact Nat.and_two_pow_sub_one_eq_mod b.toNat 4

theorem toNat_typBits (b : UInt8) : ((b >>> 4) &&& 0x3).toNat = b.toNat / 16 % 4 := by
  rw [UInt8.toNat_and, toNat_shr4]
  exact Nat.and_two_pow_sub_one_eq_mod _ 2

theorem toNat_hiNib (b : UInt8) : ((b &&& 0xf0) >>> 4).toNat = b.toNat / 16 := by
  have := b.toNat_lt
  rw [UInt8.toNat_shiftRight, UInt8.toNat_and]
  show (b.toNat &&& 240) >>> 4 = b.toNat / 16
  rw [Nat.shiftRight_and_distrib, Nat.shiftRight_eq_div_pow]
  show b.toNat / 16 &&& 15 = b.toNat / 16
  rw [Nat.and_two_pow_sub_one_eq_mod _ 4]
  omega

theorem shr6_ne_one (b : UInt8) : (b >>> 6 ≠ 1) = (b.toNat / 64 ≠ 1) := by
  have : (b >>> 6 = 1) ↔ (b.toNat / 64 = 1) := by
    rw [← UInt8.toNat_inj, UInt8.toNat_shiftRight]; simp [Nat.shiftRight_eq_div_pow]
  simp [this]

theorem nibbles_lt {x : Nat} (hx : x < 256) (h : ¬(x / 16 = 15 ∨ x % 16 = 15)) : x / 16 < 15 ∧ x % 16 < 15 := by
  omega

theorem or_nibbles : ∀ d l : Fin 15, UInt8.ofNat (d.val * 16) ||| UInt8.ofNat l.val = UInt8.ofNat (d.val * 16 + l.val) := by
  decide +kernel

theorem udp_first_byte : ∀ (t : Fin 4) (k : Fin 9),
    (((1 : UInt8) <<< 6) ||| (UInt8.ofNat t.val <<< 4) ||| UInt8.ofNat (0xf &&& k.val)) = UInt8.ofNat (64 + t.val * 16 + k.val) := by
  decide +kernel

theorem tcp_first_byte : ∀ (n : Fin 16) (k : Fin 9),
    (UInt8.ofNat k.val ||| (UInt8.ofNat n.val <<< 4)) = UInt8.ofNat (n.val * 16 + k.val) := by
  decide +kernel

end CoapVerif.Lemmas
