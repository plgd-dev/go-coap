import CoapVerif.Go.Basic
import CoapVerif.Model.Blockwise
import CoapVerif.Model.BlockwiseObserve
import CoapVerif.Lemmas.Blockwise
import CoapVerif.Lemmas.BlockwiseReceive
import CoapVerif.Lemmas.BlockwiseObserve
/-!
Two things about runs of the observe-aware model (`runO`) over arbitrary arrivals.

The FRAME of one `Handle` call.  `handleO_local`: one call for message `r` with scripted fresh token `f` is a function `handleL`
of the configuration, the two cache slots of `r.tok`, the two of `f` and the request `getSentRequest` finds for `r.tok` — and
what it does to the endpoint is ONE `Endpoint.put` at a key that is `r.tok` or `f`.  From it `handleO_frame`, `handleO_congr`,
and: the arrivals of a fetch under one fresh token among foreign ones do what they do alone (`runSel_filter`,
`notifications_do_not_mix`).

Body-exactness keyed by the cache key: only complete bodies are handed on (`runO_invB`; `runO_body_exact` and
`nothing_before_last_block` are instances).  Of the first part it uses `procL_cases`, the ways the receive path `procL`
(`processReceivedO_local` of `Lemmas/BlockwiseObserve.lean`) ends, not `handleO_local`: the receiving cache is written under
one key by `writeBack` alone, whatever the application answers.

The example data both parts (and `Props/C04ObserveRuns.lean`) use is at the end.
-/
namespace CoapVerif.Lemmas.BlockwiseFrame
open CoapVerif CoapVerif.Model.Blockwise CoapVerif.Model.BlockOpt CoapVerif.Generated.BlockwiseXfer
open CoapVerif.Model.BlockwiseObserve CoapVerif.Lemmas.Blockwise CoapVerif.Lemmas.BlockwiseObserve
open CoapVerif.Lemmas.BlockwiseReceive

/-- The ways `procL` ends: under the fresh key (the fresh token is taken, or `processReceived` on the slots of the fresh key),
    or `processReceived` on the slots of the message's token.  The third case also says that a message which reaches the
    reassembly there carries Block1 or is not an observe response, so `procL_invB` asks `GoodDataB` under `r.tok` of those only. -/
theorem procL_cases (cfg : Cfg) (sR sF : Slots) (sent : Option Msg) (fresh : Nat) (now : Int) (w : Option Msg) (r : Msg)
    (mx : Nat) (app : App) (bt : BT) :
    (isObserveResponse r = true ∧
      (procL cfg sR sF sent fresh now w r mx app bt = { key := fresh, sl := sF, w := w, failed := true, drew := true } ∨
       ∃ snd b s, procL cfg sR sF sent fresh now w r mx app bt =
         Loc.back fresh snd b (processReceived cfg ⟨some s, sF.rcv⟩ now w r mx app bt) true)) ∨
    ∃ b s, procL cfg sR sF sent fresh now w r mx app bt =
        Loc.back r.tok sR.snd b (processReceived cfg ⟨s, sR.rcv⟩ now w r mx app bt) false ∧
      (reachesSent r bt = true → ¬ (bt = .b2 ∧ s = none) → bt = .b1 ∨ isObserveResponse r = false) := by
  unfold procL
  cases sent with
  | none =>
    refine .inr ⟨_, none, rfl, fun _ h => .inl ?_⟩
    cases bt
    · rfl
    · exact absurd ⟨rfl, rfl⟩ h
  | some s =>
    simp only []
    by_cases hc : reachesSent r bt = true ∧ bt = .b2 ∧ isObserveResponse r = true
    · rw [if_pos hc]
      refine .inl ⟨hc.2.2, ?_⟩
      split
      · exact .inl rfl
      · exact .inr ⟨_, _, _, rfl⟩
    · rw [if_neg hc]
      refine .inr ⟨_, _, rfl, fun hreach _ => ?_⟩
      cases bt
      · exact .inl rfl
      · cases ho : isObserveResponse r
        · exact .inr rfl
        · exact absurd ⟨hreach, rfl, ho⟩ hc

/-- the application answers without a body (or not at all, as the application of the observing side does): then no answer
    is ever cut into blocks and `startSendingMessage` at the end of `handleReceivedMessage` stores nothing -/
def AppBodyless (app : App) : Prop := ∀ d x, app d = some x → x.body = []

theorem next_bodyless {app : App} (happ : AppBodyless app) {d m : Msg} (h : next app none d = some m) : m.body = [] := by
  obtain ⟨x, hx, rfl⟩ := next_some h
  exact happ d x hx

theorem procL_w_bodyless {app : App} (happ : AppBodyless app) (cfg : Cfg) (sR sF : Slots) (sent : Option Msg) (fresh : Nat)
    (now : Int) (r : Msg) (mx : Nat) {bt : BT} (hbt : dataBT r.code = some bt) :
    ∀ m, (procL cfg sR sF sent fresh now none r mx app bt).w = some m → m.body = [] := by
  have hpr : ∀ sl m, (processReceived cfg sl now none r mx app bt).w = some m → m.body = [] := by
    intro sl m hm
    rcases processReceived_sources cfg sl now r mx app hbt m hm with hl | ⟨d, _, x, hx, rfl⟩
    · exact hl.body
    · exact happ d x hx
  rcases procL_cases cfg sR sF sent fresh now none r mx app bt with ⟨_, h | ⟨_, _, _, h⟩⟩ | ⟨_, _, h, _⟩ <;> rw [h]
  · intro m hm; cases hm
  · exact hpr _
  · exact hpr _

/-- `handleO` on what it reads: (key written, slots written there, `Out`, drew).  The receive path is `handleReceivedO` without
    its closing `startSendingMessage`, which does nothing to an answer without a body. -/
def handleL (cfg : Cfg) (sR sF : Slots) (sent : Option Msg) (fresh : Nat) (now : Int) (r : Msg) (app : App) :
    Nat × Slots × Out × Bool :=
  if Continues sR now r then (r.tok, (handleS cfg sR now r app).1, (handleS cfg sR now r app).2, false)
  else
    let x : Loc :=
      match encodeBlock cfg.szx 0 true with
      | .error _ => { key := r.tok, sl := sR, failed := true }
      | .ok _ =>
        match dataBT r.code with
        | none => { key := r.tok, sl := sR, w := next app none r, delivered := [r] }
        | some bt => procL cfg sR sF sent fresh now none r (fitSZX r bt cfg.szx) app bt
    (x.key, x.sl, (handled r.tok x.toHR).2, x.drew)

theorem handleO_local (ep : Endpoint) (outside : Outside) (fresh : Nat) (now : Int) (r : Msg) (app : App)
    (hs7 : ep.szx ≤ 7) (happ : AppBodyless app) :
    handleO ep outside fresh now r app =
      (ep.put (handleL ep.toCfg (ep.slots r.tok) (ep.slots fresh) (getSentRequest ep outside r.tok) fresh now r app).1
              (handleL ep.toCfg (ep.slots r.tok) (ep.slots fresh) (getSentRequest ep outside r.tok) fresh now r app).2.1,
       (handleL ep.toCfg (ep.slots r.tok) (ep.slots fresh) (getSentRequest ep outside r.tok) fresh now r app).2.2) := by
  have hmx : ∀ bt, fitSZX r bt ep.szx ≤ 7 := fun bt => Nat.le_trans (fitSZX_le r bt ep.szx) hs7
  rw [handleO_cases]
  unfold handleL
  by_cases hc : Continues (ep.slots r.tok) now r
  · rw [if_pos hc, if_pos hc]; rfl
  · rw [if_neg hc, if_neg hc]
    cases he : encodeBlock ep.szx 0 true with
    | error e => rw [handleReceivedO_error he, Loc.unchanged ep r.tok, recvO_onto]
    | ok blk0 =>
      cases hbt : dataBT r.code with
      | none =>
        rcases handleReceivedO_nodata he outside fresh now app hbt (ep.slots r.tok) with ⟨h, _⟩ | ⟨blk, h, _⟩ <;> rw [h]
        · rw [Loc.unchanged ep r.tok, recvO_onto]
        · rw [finishReceivedO_id _ _ _ _ (hmx _) (fun m hm => next_bodyless happ (d := r) hm), Loc.unchanged ep r.tok,
            recvO_onto]
      | some bt =>
        rw [handleReceivedO_data he outside fresh now app hbt, processReceivedO_local,
          finishReceivedO_id _ _ _ _ (hmx bt) (procL_w_bodyless happ _ _ _ _ _ _ _ _ hbt), recvO_onto]

theorem handleL_key (cfg : Cfg) (sR sF : Slots) (sent : Option Msg) (fresh : Nat) (now : Int) (r : Msg) (app : App) :
    (handleL cfg sR sF sent fresh now r app).1 = r.tok ∨ (handleL cfg sR sF sent fresh now r app).1 = fresh := by
  unfold handleL
  split
  · exact .inl rfl
  · cases encodeBlock cfg.szx 0 true with
    | error e => exact .inl rfl
    | ok b =>
      cases dataBT r.code with
      | none => exact .inl rfl
      | some bt =>
        dsimp only
        rcases procL_cases cfg sR sF sent fresh now none r (fitSZX r bt cfg.szx) app bt with
          ⟨_, h | ⟨_, _, _, h⟩⟩ | ⟨_, _, h, _⟩ <;> rw [h]
        · exact .inr rfl
        · exact .inr rfl
        · exact .inl rfl

theorem handleO_fresh {r : Msg} (hno : isObserveResponse r = false) (ep : Endpoint) (outside : Outside) (fresh fresh' : Nat)
    (now : Int) (app : App) : handleO ep outside fresh now r app = handleO ep outside fresh' now r app := by
  have hp : ∀ w mx bt, processReceivedO ep outside fresh now w r mx app bt = processReceivedO ep outside fresh' now w r mx app bt := by
    intro w mx bt
    unfold processReceivedO
    simp only [hno, Bool.false_eq_true, and_false, if_false]
  unfold handleO handleReceivedO
  simp only [hp]

theorem handleO_frame (ep : Endpoint) (outside : Outside) (fresh : Nat) (now : Int) (r : Msg) (app : App)
    (hs7 : ep.szx ≤ 7) (happ : AppBodyless app) :
    (handleO ep outside fresh now r app).1.toCfg = ep.toCfg ∧
    (∀ k, k ≠ r.tok → k ≠ fresh → (handleO ep outside fresh now r app).1.slots k = ep.slots k) ∧
    (isObserveResponse r = false → ∀ k, k ≠ r.tok → (handleO ep outside fresh now r app).1.slots k = ep.slots k) := by
  have hkeys : ∀ fresh k, k ≠ r.tok → k ≠ fresh → (handleO ep outside fresh now r app).1.slots k = ep.slots k := by
    intro fresh k h1 h2
    rw [handleO_local ep outside fresh now r app hs7 happ]
    rcases handleL_key ep.toCfg (ep.slots r.tok) (ep.slots fresh) (getSentRequest ep outside r.tok) fresh now r app with h | h
    · exact ep_put_slots_other ep _ (by rw [h]; exact h1)
    · exact ep_put_slots_other ep _ (by rw [h]; exact h2)
  refine ⟨congrArg (·.1.toCfg) (handleO_local ep outside fresh now r app hs7 happ), hkeys fresh, fun hno k h1 => ?_⟩
  -- not an observe response: the call is the one with `r.tok` as fresh token
  rw [handleO_fresh hno ep outside fresh r.tok]
  exact hkeys r.tok k h1 h1

theorem handleO_congr (ep ep' : Endpoint) (outside : Outside) (fresh : Nat) (now : Int) (r : Msg) (app : App)
    (hs7 : ep.szx ≤ 7) (happ : AppBodyless app)
    (hc : ep.toCfg = ep'.toCfg) (hR : ep.slots r.tok = ep'.slots r.tok) (hF : ep.slots fresh = ep'.slots fresh) :
    (handleO ep outside fresh now r app).2 = (handleO ep' outside fresh now r app).2 ∧
    (∀ k, ep.slots k = ep'.slots k → (handleO ep outside fresh now r app).1.slots k = (handleO ep' outside fresh now r app).1.slots k) := by
  have hs7' : ep'.szx ≤ 7 := hc ▸ hs7
  rw [handleO_local ep outside fresh now r app hs7 happ, handleO_local ep' outside fresh now r app hs7' happ]
  rw [← hc, ← hR, ← hF, ← getSentRequest_congr outside hR]
  refine ⟨rfl, ?_⟩
  intro k hk
  simp only [ep_put_slots, hk]

/-- not an observe response: `handleO_congr` at `fresh := r.tok` -/
theorem handleO_congr_nobs (ep ep' : Endpoint) (outside : Outside) (fresh fresh' : Nat) (now : Int) (r : Msg) (app : App)
    (hs7 : ep.szx ≤ 7) (happ : AppBodyless app) (hno : isObserveResponse r = false)
    (hc : ep.toCfg = ep'.toCfg) (hR : ep.slots r.tok = ep'.slots r.tok) :
    (handleO ep outside fresh now r app).2 = (handleO ep' outside fresh' now r app).2 ∧
    (∀ k, ep.slots k = ep'.slots k → (handleO ep outside fresh now r app).1.slots k = (handleO ep' outside fresh' now r app).1.slots k) := by
  rw [handleO_fresh hno ep outside fresh r.tok, handleO_fresh hno ep' outside fresh' r.tok]
  exact handleO_congr ep ep' outside r.tok now r app hs7 happ hc hR hR

/-- A block of a block-wise notification that takes the observe branch: an observe response with a decodable Block2 option,
    a token, a response code that is neither a signal nor 2.31 (so `Handle` sends it down the receive path).  The block NUMBER is
    not looked at, as in the code: any such block starts a fetch under a fresh token. -/
def firstBlockB (r : Msg) : Bool :=
  isObserveResponse r && reachesSent r .b2 && !isPostPut r.code && !isSignal r.code && wantsToBeReceived r

theorem handleL_first (cfg : Cfg) (hs7 : cfg.szx ≤ 7) (sR sF : Slots) (s : Msg) (fresh : Nat) (now : Int) (r : Msg) (app : App)
    (hfb : firstBlockB r = true) : (handleL cfg sR sF (some s) fresh now r app).1 = fresh := by
  simp only [firstBlockB, Bool.and_eq_true, Bool.not_eq_true'] at hfb
  obtain ⟨⟨⟨⟨hobs, hreach⟩, hpp⟩, hsig⟩, hw⟩ := hfb
  have he : encodeBlock cfg.szx 0 true = .ok (blkVal cfg.szx 0 true) := encode_blkVal true hs7 (by decide)
  have hbt : dataBT r.code = some .b2 := dataBT_b2 hsig (reachesSent_not_getdelete hreach) hpp
  unfold handleL
  rw [if_neg (fun h => Bool.noConfusion (hw.symm.trans h.2.2))]
  simp only [he, hbt]
  unfold procL
  simp only [hreach, hobs, and_self, if_true]
  split <;> rfl

/-- the arrivals of the fetch under `F` of the observation with token `T`: a first block (observe response for `T`, scripted
    token `F`), any message with token `F` that is not an observe response — and every sweep (sweeps belong to everybody) -/
def mine (T F : Nat) : ArrivalO → Bool
  | .msg _ r fr => (firstBlockB r && decide (r.tok = T) && decide (fr = F)) || (!isObserveResponse r && decide (r.tok = F))
  | .sweep _ => true

/-- Arrivals that have nothing to do with `F` and do not write `T`: first blocks of a known observation fetched under another
    token than `F`, `T`; messages that are not observe responses with another token than `F`, `T`.  Observe responses that do
    not take the branch (`firstBlockB r = false`: no decodable Block2 option, a signal, code 2.31) are neither `mine` nor
    `Foreign`: they are handled under their own token and may write the slots of `T`, which the first blocks of `F`'s fetch
    read. -/
def Foreign (outside : Outside) (T F : Nat) : ArrivalO → Prop
  | .msg _ r fr => (firstBlockB r = true ∧ (outside r.tok).isSome = true ∧ fr ≠ F ∧ fr ≠ T) ∨
                   (isObserveResponse r = false ∧ r.tok ≠ F ∧ r.tok ≠ T)
  | .sweep _ => False

theorem firstBlockB_obs {r : Msg} (h : firstBlockB r = true) : isObserveResponse r = true := by
  simp only [firstBlockB, Bool.and_eq_true] at h
  exact h.1.1.1.1

theorem foreign_not_mine {outside : Outside} {T F : Nat} {a : ArrivalO} (h : Foreign outside T F a) : mine T F a = false := by
  cases a with
  | sweep now => cases h
  | msg now r fr =>
    rcases h with ⟨h1, _, h3, _⟩ | ⟨h1, h2, _⟩
    · simp [mine, firstBlockB_obs h1, h3]
    · have : firstBlockB r = false := by
        cases hb : firstBlockB r with
        | false => rfl
        | true => rw [firstBlockB_obs hb] at h1; cases h1
      simp [mine, this, h2]

def runSel (p : ArrivalO → Bool) (app : App) (outside : Outside) : Endpoint → List ArrivalO → List Msg
  | _, [] => []
  | ep, a :: as => (if p a then (stepO app outside ep a).2 else []) ++ runSel p app outside (stepO app outside ep a).1 as

theorem runSel_all (app : App) (outside : Outside) (as : List ArrivalO) :
    ∀ ep, runSel (fun _ => true) app outside ep as = (runO app outside ep as).2 := by
  induction as with
  | nil => intro ep; rfl
  | cons a as ih => intro ep; simp only [runSel, runO, if_true, ih]

structure Agree (T F : Nat) (a b : Endpoint) : Prop where
  cfg : a.toCfg = b.toCfg
  sT : a.slots T = b.slots T
  sF : a.slots F = b.slots F

theorem sweep_slots (ep : Endpoint) (now : Int) (k : Nat) : (sweep ep now).slots k = sweepSlots (ep.slots k) now := rfl

theorem stepO_cfg (app : App) (outside : Outside) (ep : Endpoint) (x : ArrivalO) (hs7 : ep.szx ≤ 7) (happ : AppBodyless app) :
    (stepO app outside ep x).1.toCfg = ep.toCfg := by
  cases x with
  | sweep now => rfl
  | msg now r fr => exact (handleO_frame ep outside fr now r app hs7 happ).1

theorem step_mine (app : App) (outside : Outside) (T F : Nat)
    (happ : AppBodyless app) (a b : Endpoint) (hs7 : a.szx ≤ 7) (hab : Agree T F a b) (x : ArrivalO) (hx : mine T F x = true) :
    (stepO app outside a x).2 = (stepO app outside b x).2 ∧ Agree T F (stepO app outside a x).1 (stepO app outside b x).1 := by
  have hs7b : b.szx ≤ 7 := hab.cfg ▸ hs7
  have hcfg : (stepO app outside a x).1.toCfg = (stepO app outside b x).1.toCfg :=
    (stepO_cfg app outside a x hs7 happ).trans (hab.cfg.trans (stepO_cfg app outside b x hs7b happ).symm)
  cases x with
  | sweep now =>
    refine ⟨rfl, ⟨hcfg, ?_, ?_⟩⟩
    · simp only [stepO, sweep_slots, hab.sT]
    · simp only [stepO, sweep_slots, hab.sF]
  | msg now r fr =>
    simp only [mine, Bool.or_eq_true, Bool.and_eq_true, decide_eq_true_eq, Bool.not_eq_true'] at hx
    have hcongr : (handleO a outside fr now r app).2 = (handleO b outside fr now r app).2 ∧
        ∀ k, a.slots k = b.slots k → (handleO a outside fr now r app).1.slots k = (handleO b outside fr now r app).1.slots k := by
      rcases hx with ⟨⟨_, hrT⟩, hfr⟩ | ⟨hno, hrF⟩
      · -- a first block: reads the slots of `T` and `F`, writes under `F`
        exact handleO_congr a b outside fr now r app hs7 happ hab.cfg (hrT ▸ hab.sT) (hfr ▸ hab.sF)
      · -- a later block: reads and writes the slots of `F` only
        exact handleO_congr_nobs a b outside fr fr now r app hs7 happ hno hab.cfg (hrF ▸ hab.sF)
    exact ⟨congrArg (fun x => x.1.delivered) hcongr.1, ⟨hcfg, hcongr.2 T hab.sT, hcongr.2 F hab.sF⟩⟩

theorem step_foreign (app : App) (outside : Outside) (T F : Nat) (happ : AppBodyless app) (a : Endpoint) (hs7 : a.szx ≤ 7)
    (x : ArrivalO) (hx : Foreign outside T F x) : Agree T F (stepO app outside a x).1 a := by
  cases x with
  | sweep now => cases hx
  | msg now r fr =>
    simp only [stepO]
    rcases hx with ⟨hfb, ho, hF, hT⟩ | ⟨hno, hF, hT⟩
    · obtain ⟨s, hs⟩ := getSentRequest_isSome a outside r.tok ho
      have hk := handleL_first a.toCfg hs7 (a.slots r.tok) (a.slots fr) s fr now r app hfb
      rw [handleO_local a outside fr now r app hs7 happ, hs]
      exact ⟨rfl, ep_put_slots_other a _ (by rw [hk]; exact fun h => hT h.symm),
        ep_put_slots_other a _ (by rw [hk]; exact fun h => hF h.symm)⟩
    · obtain ⟨hc, _, hfr⟩ := handleO_frame a outside fr now r app hs7 happ
      exact ⟨hc, hfr hno T (fun h => hT h.symm), hfr hno F (fun h => hF h.symm)⟩

theorem agree_trans {T F : Nat} {a b c : Endpoint} (h1 : Agree T F a b) (h2 : Agree T F b c) : Agree T F a c :=
  ⟨h1.cfg.trans h2.cfg, h1.sT.trans h2.sT, h1.sF.trans h2.sF⟩

theorem runSel_filter (app : App) (outside : Outside) (T F : Nat)
    (happ : AppBodyless app) (as : List ArrivalO) :
    ∀ (a b : Endpoint), a.szx ≤ 7 → Agree T F a b → (∀ x ∈ as, mine T F x = true ∨ Foreign outside T F x) →
      runSel (mine T F) app outside a as = (runO app outside b (as.filter (mine T F))).2 ∧
      Agree T F (runO app outside a as).1 (runO app outside b (as.filter (mine T F))).1 := by
  induction as with
  | nil => intro a b _ hab _; exact ⟨rfl, hab⟩
  | cons x as ih =>
    intro a b hs7 hab hall
    have hs7' : (stepO app outside a x).1.szx ≤ 7 := (stepO_cfg app outside a x hs7 happ).symm ▸ hs7
    have hrest : ∀ y ∈ as, mine T F y = true ∨ Foreign outside T F y := fun y hy => hall y (List.mem_cons_of_mem _ hy)
    rcases hall x List.mem_cons_self with hx | hx
    · obtain ⟨h1, h2⟩ := step_mine app outside T F happ a b hs7 hab x hx
      obtain ⟨i1, i2⟩ := ih _ _ hs7' h2 hrest
      simp only [runSel, List.filter, hx, if_true, runO]
      exact ⟨by rw [i1, h1], i2⟩
    · have hnm := foreign_not_mine hx
      have h2 := agree_trans (step_foreign app outside T F happ a hs7 x hx) hab
      obtain ⟨i1, i2⟩ := ih _ _ hs7' h2 hrest
      simp only [runSel, List.filter, hnm, Bool.false_eq_true, if_false, List.nil_append, runO]
      exact ⟨i1, i2⟩

theorem mine_other_foreign {outside : Outside} {T F G : Nat} (hGF : G ≠ F) (hGT : G ≠ T) (hout : (outside T).isSome = true)
    {x : ArrivalO} (hx : mine T G x = true) : mine T F x = true ∨ Foreign outside T F x := by
  cases x with
  | sweep now => exact Or.inl rfl
  | msg now r fr =>
    simp only [mine, Bool.or_eq_true, Bool.and_eq_true, decide_eq_true_eq, Bool.not_eq_true'] at hx
    rcases hx with ⟨⟨hfb, hrT⟩, hfr⟩ | ⟨hno, hrG⟩
    · exact Or.inr (Or.inl ⟨hfb, by rw [hrT]; exact hout, by rw [hfr]; exact hGF, by rw [hfr]; exact hGT⟩)
    · exact Or.inr (Or.inr ⟨hno, by rw [hrG]; exact hGF, by rw [hrG]; exact hGT⟩)

/-- each of the two fetches is `Foreign` to the other: `runSel_filter` twice -/
theorem notifications_do_not_mix (app : App) (outside : Outside) (T F G : Nat) (hFG : F ≠ G) (hFT : F ≠ T) (hGT : G ≠ T)
    (hout : (outside T).isSome = true) (happ : AppBodyless app) (ep : Endpoint) (hs7 : ep.szx ≤ 7) (as : List ArrivalO)
    (hall : ∀ x ∈ as, mine T F x = true ∨ mine T G x = true) :
    (runSel (mine T F) app outside ep as = (runO app outside ep (as.filter (mine T F))).2 ∧
     (runO app outside ep as).1.slots F = (runO app outside ep (as.filter (mine T F))).1.slots F) ∧
    (runSel (mine T G) app outside ep as = (runO app outside ep (as.filter (mine T G))).2 ∧
     (runO app outside ep as).1.slots G = (runO app outside ep (as.filter (mine T G))).1.slots G) := by
  have hrefl : ∀ X, Agree T X ep ep := fun X => ⟨rfl, rfl, rfl⟩
  constructor
  · obtain ⟨h1, h2⟩ := runSel_filter app outside T F happ as ep ep hs7 (hrefl F) (fun x hx => by
      rcases hall x hx with h | h
      · exact Or.inl h
      · exact mine_other_foreign (fun h => hFG h.symm) hGT hout h)
    exact ⟨h1, h2.sF⟩
  · obtain ⟨h1, h2⟩ := runSel_filter app outside T G happ as ep ep hs7 (hrefl G) (fun x hx => by
      rcases hall x hx with h | h
      · exact mine_other_foreign hFG hFT hout h
      · exact Or.inl h)
    exact ⟨h1, h2.sF⟩

/-! ### body-exactness for arbitrary arrivals, keyed by the CACHE KEY (not the token of the held message): suffix `B`

`HeldOK` / `Matches` / `GoodData` of `Lemmas/Blockwise.lean` without token, options and code: `processReceived` never looks at
the token or the other options of the held message; what it appends to is chosen by offset and ETag alone. -/

def HeldB (R : Reg) (k : Nat) (c : Msg) : Prop := ∃ s, R k c.etag = some s ∧ c.body <+: s.body

def GoodDataB (R : Reg) (k : Nat) (bt : BT) (r : Msg) : Prop :=
  ∀ blk szx num more, r.block bt = some blk → decodeBlock blk = .ok (szx, num, more) →
    ∃ s, R k r.etag = some s ∧ SliceAt s.body (num * sizeN szx) r.body ∧
      (more = false → num * sizeN szx + r.body.length = s.body.length)

def CompleteB (R : Reg) (k : Nat) (d : Msg) : Prop := ∃ s, R k d.etag = some s ∧ d.body = s.body

/-- the block option `handleReceivedMessage` reassembles by (`sendBT r.code`) -/
def btOf (r : Msg) : BT := if isPostPut r.code then .b1 else .b2

theorem dataBT_btOf {r : Msg} {bt : BT} (h : dataBT r.code = some bt) : bt = btOf r := (dataBT_sendBT h).symm

theorem isPostPut_of_btOf {r : Msg} (h : btOf r = .b1) : isPostPut r.code = true := by
  unfold btOf at h
  cases hpp : isPostPut r.code
  · rw [hpp] at h; cases h
  · rfl

/-- `NoData r` of `Lemmas/Blockwise.lean` with `dataBT` spelled out -/
def PassThrough (r : Msg) : Prop :=
  isSignal r.code = true ∨ r.tok = 0 ∨ r.code = codeGET ∨ r.code = codeDELETE ∨ r.block (btOf r) = none

/-- `processReceived` on the receiving slot of ANY key `k` — the token of the held message, its options and its code are not
    looked at: `Tracks.received` for the body registered under `k` and the ETag -/
theorem processReceived_invB {R : Reg} (hd : Discipline R) (k : Nat) (cfg : Cfg) (sl : Slots) (now : Int) (w : Option Msg) (r : Msg)
    (maxSzx : Nat) (app : App) (bt : BT)
    (hg : reachesSent r bt = true → ¬ (bt = .b2 ∧ sl.snd = none) → GoodDataB R k bt r)
    (hinv : ∀ e, sl.rcv = some e → HeldB R k e.msg) :
    (∀ e, (processReceived cfg sl now w r maxSzx app bt).sl.rcv = some e → HeldB R k e.msg) ∧
    (∀ d ∈ (processReceived cfg sl now w r maxSzx app bt).delivered,
      (d = r ∧ (r.tok = 0 ∨ r.code = codeGET ∨ r.code = codeDELETE ∨ r.block bt = none)) ∨ CompleteB R k d) :=
  (etag_tracks hd k).received cfg sl now w r maxSzx app bt
    (fun hb => hg (reachesSent_of hb.tok hb.code hb.opt hb.dec) hb.sent _ _ _ _ hb.opt hb.dec) hinv

theorem procL_invB {R : Reg} (hd : Discipline R) (cfg : Cfg) (sR sF : Slots) (sent : Option Msg) (fresh : Nat) (now : Int)
    (w : Option Msg) (r : Msg) (mx : Nat) (app : App) (bt : BT)
    (hgR : bt = .b1 ∨ isObserveResponse r = false → GoodDataB R r.tok bt r) (hgF : isObserveResponse r = true → GoodDataB R fresh bt r)
    (hR : ∀ e, sR.rcv = some e → HeldB R r.tok e.msg) (hF : ∀ e, sF.rcv = some e → HeldB R fresh e.msg) :
    (∀ e, (procL cfg sR sF sent fresh now w r mx app bt).sl.rcv = some e →
      HeldB R (procL cfg sR sF sent fresh now w r mx app bt).key e.msg) ∧
    (∀ d ∈ (procL cfg sR sF sent fresh now w r mx app bt).delivered,
      (d = r ∧ (r.tok = 0 ∨ r.code = codeGET ∨ r.code = codeDELETE ∨ r.block bt = none)) ∨
      CompleteB R r.tok d ∨ CompleteB R fresh d) := by
  rcases procL_cases cfg sR sF sent fresh now w r mx app bt with ⟨hobs, h | ⟨_, _, s, h⟩⟩ | ⟨_, s, h, hwhy⟩ <;> rw [h]
  · exact ⟨hF, fun d hdm => by cases hdm⟩
  · exact (processReceived_invB hd fresh cfg ⟨some s, sF.rcv⟩ now w r mx app bt (fun _ _ => hgF hobs) hF).imp_right
      fun p d hdm => (p d hdm).imp_right .inr
  · exact (processReceived_invB hd r.tok cfg ⟨s, sR.rcv⟩ now w r mx app bt (fun hr hs => hgR (hwhy hr hs)) hR).imp_right
      fun p d hdm => (p d hdm).imp_right .inl

def EpInvB (R : Reg) (ep : Endpoint) : Prop := ∀ k e, ep.receiving k = some e → HeldB R k e.msg

/-- what is asked of an arrival: its data block is an aligned slice of the body registered under the key it is filed under —
    the message's token, or for an observe response (which is reassembled under the scripted fresh token or not at all) that
    fresh token -/
def GoodArrB (R : Reg) : ArrivalO → Prop
  | .msg _ r fr => (isObserveResponse r = false → GoodDataB R r.tok (btOf r) r) ∧
                   (isObserveResponse r = true → GoodDataB R fr (btOf r) r)
  | .sweep _ => True

/-- The receiving cache is written by `writeBack` alone, under the message's token or the fresh token, and
    `startSendingMessage` touches the sending cache only: the invariant needs nothing of the application or the exponent (the
    local form `handleO_local` needs both). -/
theorem handleO_invB {R : Reg} (hd : Discipline R) (ep : Endpoint) (outside : Outside) (fresh : Nat) (now : Int) (r : Msg) (app : App)
    (hg : GoodArrB R (.msg now r fresh)) (hinv : EpInvB R ep) :
    EpInvB R (handleO ep outside fresh now r app).1 ∧
    (∀ d ∈ (handleO ep outside fresh now r app).2.1.delivered,
      (d = r ∧ PassThrough r) ∨ CompleteB R r.tok d ∨ CompleteB R fresh d) := by
  rw [handleO_cases]
  split
  · rename_i hc
    obtain ⟨ht, hl, hw⟩ := hc
    cases hl' : live (ep.slots r.tok).snd now with
    | none => rw [hl'] at hl; cases hl
    | some e =>
      obtain ⟨g1, g2⟩ := handleS_continue_rcv ht hl' hw ep.toCfg app
      refine ⟨put_forall hinv r.tok (fun e he => hinv r.tok e (g1.symm.trans he)), fun d hdm => ?_⟩
      rw [show (handle ep now r app).2.delivered = [] from g2] at hdm
      cases hdm
  · obtain ⟨f1, f2⟩ := recvO_fields (handleReceivedO ep outside fresh now r app) r
    rw [f1, f2]
    cases he : encodeBlock ep.szx 0 true with
    | error e => rw [handleReceivedO_error he]; exact ⟨hinv, fun d hdm => nomatch hdm⟩
    | ok blk0 =>
      cases hbt : dataBT r.code with
      | none =>
        have hpass : ∀ d ∈ [r], (d = r ∧ PassThrough r) ∨ CompleteB R r.tok d ∨ CompleteB R fresh d := fun d hdm =>
          .inl ⟨List.mem_singleton.mp hdm, (dataBT_none_iff.mp hbt).elim .inl fun h => .inr (.inr (h.elim .inl fun h => .inr (.inl h)))⟩
        rcases handleReceivedO_nodata he outside fresh now app hbt (ep.slots r.tok) with ⟨h, _⟩ | ⟨blk, h, _⟩ <;> rw [h]
        · exact ⟨hinv, hpass⟩
        · obtain ⟨q1, q2⟩ := finishReceivedO_rcv now { ep := ep, w := next app none r, delivered := [r] } (fitSZX r .b2 ep.szx) blk
          exact ⟨fun k e he => hinv k e (by rw [q1] at he; exact he), q2 ▸ hpass⟩
      | some bt =>
        cases dataBT_btOf hbt
        rw [handleReceivedO_data he outside fresh now app hbt, processReceivedO_local]
        obtain ⟨q1, q2⟩ := finishReceivedO_rcv now ((procL ep.toCfg (ep.slots r.tok) (ep.slots fresh) (getSentRequest ep outside r.tok)
          fresh now none r (fitSZX r (btOf r) ep.szx) app (btOf r)).onto ep) (fitSZX r (btOf r) ep.szx) blk0
        obtain ⟨p1, p2⟩ := procL_invB hd ep.toCfg (ep.slots r.tok) (ep.slots fresh) (getSentRequest ep outside r.tok) fresh now none r
          (fitSZX r (btOf r) ep.szx) app (btOf r)
          (fun h => hg.1 (h.elim (fun hb => isObserveResponse_postPut (isPostPut_of_btOf hb)) id)) hg.2 (hinv r.tok) (hinv fresh)
        refine ⟨fun k e he => put_forall hinv _ p1 k e (by rw [q1] at he; exact he), fun d hdm => ?_⟩
        rw [q2] at hdm
        exact (p2 d hdm).imp_left fun h => ⟨h.1, .inr h.2⟩

theorem sweep_invB {R : Reg} (ep : Endpoint) (now : Int) (hinv : EpInvB R ep) : EpInvB R (sweep ep now) :=
  sweep_receiving_forall now hinv

theorem runO_invB {R : Reg} (hd : Discipline R) (app : App) (outside : Outside) (as : List ArrivalO) :
    ∀ (ep : Endpoint), EpInvB R ep → (∀ a ∈ as, GoodArrB R a) →
      EpInvB R (runO app outside ep as).1 ∧
      ∀ d ∈ (runO app outside ep as).2,
        ∃ now r fr, ArrivalO.msg now r fr ∈ as ∧ ((d = r ∧ PassThrough r) ∨ CompleteB R r.tok d ∨ CompleteB R fr d) := by
  intro ep hinv hall
  refine (isRunO app outside).induct as (fun ep hinv a ha => ?_) ep hinv
  cases a with
  | sweep now => exact ⟨sweep_invB ep now hinv, fun d hdm => nomatch hdm⟩
  | msg now r fr =>
    obtain ⟨q1, q2⟩ := handleO_invB hd ep outside fr now r app (hall _ ha) hinv
    exact ⟨q1, fun d hdm => ⟨now, r, fr, ha, q2 d hdm⟩⟩

set_option linter.unusedVariables false in
theorem runO_body_exact {R : Reg} (hd : Discipline R) (app : App) (outside : Outside) (happ : AppBodyless app) (as : List ArrivalO) :
    ∀ (ep : Endpoint), ep.szx ≤ 7 → EpInvB R ep → (∀ a ∈ as, GoodArrB R a) →
      EpInvB R (runO app outside ep as).1 ∧
      ∀ d ∈ (runO app outside ep as).2,
        ∃ now r fr, ArrivalO.msg now r fr ∈ as ∧ ((d = r ∧ PassThrough r) ∨ CompleteB R r.tok d ∨ CompleteB R fr d) :=
  fun ep _ hinv hall => runO_invB hd app outside as ep hinv hall

def regOne (F : Nat) (N : Msg) : Reg := fun k e => if k = F ∧ e = N.etag then some ⟨N.body, N.other, N.code⟩ else none

theorem regOne_discipline (F : Nat) (N : Msg) : Discipline (regOne F N) := by
  intro tok e s s' h1 h2
  unfold regOne at h1 h2
  split at h1
  · rename_i c1
    split at h2
    · rename_i c2
      have : (none : Option Bytes) = some e := c1.2.trans c2.2.symm
      cases this
    · cases h2
  · cases h1

/-- `runO_body_exact` for `regOne F N`: nothing else is registered, so a complete body is `N`'s -/
theorem nothing_before_last_block (F : Nat) (N : Msg) (app : App) (outside : Outside) (happ : AppBodyless app) (as : List ArrivalO)
    (ep : Endpoint) (hs7 : ep.szx ≤ 7) (hinv : EpInvB (regOne F N) ep) (hall : ∀ a ∈ as, GoodArrB (regOne F N) a) :
    ∀ d ∈ (runO app outside ep as).2,
      (∃ now r fr, ArrivalO.msg now r fr ∈ as ∧ d = r ∧ PassThrough r) ∨ (d.etag = N.etag ∧ d.body = N.body) := by
  have hc : ∀ k d, CompleteB (regOne F N) k d → d.etag = N.etag ∧ d.body = N.body := by
    intro k d ⟨s, h1, h2⟩
    unfold regOne at h1
    split at h1
    · rename_i c
      injection h1 with h1
      rw [h2, ← h1]
      exact ⟨c.2, rfl⟩
    · cases h1
  intro d hdm
  obtain ⟨now, r, fr, hm, h⟩ := (runO_body_exact (regOne_discipline F N) app outside happ as ep hs7 hinv hall).2 d hdm
  rcases h with ⟨h1, h2⟩ | h | h
  · exact Or.inl ⟨now, r, fr, hm, h1, h2⟩
  · exact Or.inr (hc _ d h)
  · exact Or.inr (hc _ d h)

theorem epInvB_empty (R : Reg) (ep : Endpoint) (h : ∀ k, ep.receiving k = none) : EpInvB R ep := by
  intro k e he; rw [h k] at he; cases he

theorem goodDataB_downloadBlock (R : Reg) (k : Nat) (resp : Msg) (sup : Supplied) (s ms j : Nat) (hs : s ≤ 7) (hj : j < 2 ^ 20)
    (hoff : j * sizeN s ≤ resp.body.length) (hreg : R k resp.etag = some sup) (hb : sup.body = resp.body) :
    GoodDataB R k .b2 (downloadBlock resp s ms j) := by
  intro blk szx num more hblk hdec
  rw [downloadBlock_block] at hblk
  injection hblk with hblk
  rw [← hblk, decode_blkVal _ hs hj] at hdec
  injection hdec with hdec
  injection hdec with h1 h2
  injection h2 with h2 h3
  subst h1 h2
  refine ⟨sup, hreg, ?_, ?_⟩
  · rw [hb]; exact sliceAt_take_drop _ _ _ hoff
  · intro hm
    rw [hb]
    rw [hm] at h3
    have : ¬ (j * sizeN s + ((resp.body.drop (j * sizeN s)).take (bufLen s ms)).length ≠ resp.body.length) := by
      intro hne; rw [decide_eq_true hne] at h3; cases h3
    exact Classical.not_not.mp this

/-! ### the example data: two notifications of the observation of token 7, fetched under 900 and 901 -/

def xN : Msg := { code := 69, tok := 7, other := [(6, [5]), (12, [42])], body := exBody }
def xR : Msg := { code := 69, tok := 900, other := [(12, [42])], body := exBody }
def xN2 : Msg := { code := 69, tok := 7, other := [(6, [6]), (12, [42])], body := exRespBody }
def xR2 : Msg := { code := 69, tok := 901, other := [(12, [42])], body := exRespBody }
def xReq : Msg := { code := 1, tok := 7, other := [(6, []), (11, [99])] }
def xOutside : Outside := fun t => if t = 7 then some xReq else none
def xEp : Endpoint := { szx := 0, maxSize := 64, expiration := 1000 }
/-- two notifications of the observation of token 7 fetched under 900 and 901 in lock step, a sweep in between -/
def xAs : List ArrivalO :=
  [.msg 0 (downloadBlock xN 0 64 0) 900, .msg 1 (downloadBlock xN2 0 64 0) 901,
   .msg 2 (downloadBlock xR 0 64 1) 0, .msg 3 (downloadBlock xR2 0 64 1) 0, .sweep 4,
   .msg 4 (downloadBlock xR 0 64 2) 0, .msg 5 (downloadBlock xR2 0 64 2) 0]

/-- the in-order fetch of `xN` under 900: block 0, block 1 and a duplicate of it, a sweep, block 2 -/
def xAsF : List ArrivalO :=
  [.msg 0 (downloadBlock xN 0 64 0) 900, .msg 1 (downloadBlock xR 0 64 1) 0, .msg 1 (downloadBlock xR 0 64 1) 0, .sweep 2,
   .msg 3 (downloadBlock xR 0 64 2) 0]

theorem xAsF_run : (runO (fun _ => none) xOutside xEp xAsF).2.map (·.body) = [exBody] := by decide +kernel

/-- non-vacuity: `xAsF` satisfies the hypotheses of `nothing_before_last_block`, and something IS delivered -/
example : (∀ a ∈ xAsF, GoodArrB (regOne 900 xN) a) ∧ EpInvB (regOne 900 xN) xEp ∧
    (runO (fun _ => none) xOutside xEp xAsF).2.map (·.body) = [exBody] := by
  have hreg : regOne 900 xN 900 none = some ⟨exBody, xN.other, xN.code⟩ := rfl
  refine ⟨?_, epInvB_empty _ _ (fun _ => rfl), xAsF_run⟩
  intro a ha
  simp only [xAsF, List.mem_cons, List.not_mem_nil, or_false] at ha
  rcases ha with h | h | h | h | h <;> subst h
  · exact ⟨fun h => absurd h (by decide), fun _ => goodDataB_downloadBlock _ _ xN _ 0 64 0 (by decide) (by decide) (by decide) hreg rfl⟩
  · exact ⟨fun _ => goodDataB_downloadBlock _ _ xR _ 0 64 1 (by decide) (by decide) (by decide) hreg rfl, fun h => absurd h (by decide)⟩
  · exact ⟨fun _ => goodDataB_downloadBlock _ _ xR _ 0 64 1 (by decide) (by decide) (by decide) hreg rfl, fun h => absurd h (by decide)⟩
  · trivial
  · exact ⟨fun _ => goodDataB_downloadBlock _ _ xR _ 0 64 2 (by decide) (by decide) (by decide) hreg rfl, fun h => absurd h (by decide)⟩

theorem xAs_runs : (runSel (mine 7 900) (fun _ => none) xOutside xEp xAs).map (·.body) = [exBody] ∧
    (runSel (mine 7 901) (fun _ => none) xOutside xEp xAs).map (·.body) = [exRespBody] ∧
    (runO (fun _ => none) xOutside xEp (xAs.filter (mine 7 900))).2.map (·.body) = [exBody] := by decide +kernel

example : xAs.map (mine 7 900) = [true, false, true, false, true, true, false] ∧
    xAs.map (mine 7 901) = [false, true, false, true, true, false, true] ∧
    (runSel (mine 7 900) (fun _ => none) xOutside xEp xAs).map (·.body) = [exBody] ∧
    (runSel (mine 7 901) (fun _ => none) xOutside xEp xAs).map (·.body) = [exRespBody] ∧
    (runO (fun _ => none) xOutside xEp (xAs.filter (mine 7 900))).2.map (·.body) = [exBody] :=
  ⟨by decide +kernel, by decide +kernel, xAs_runs⟩

end CoapVerif.Lemmas.BlockwiseFrame
