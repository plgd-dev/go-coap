import CoapVerif.Model.Blockwise
/-!
The ways `processReceived` (`processReceivedMessage`) can end, stated once: the constructors of `Received` are its exits,
and what does not need the exact values is read off `processReceived_cases`; the exact values, for a block
that reaches the reassembly, are in `processReceived_held` (a live entry is held) and `processReceived_free` (nothing live is
held, the block is flagged `more`).  What it makes of the sending slot (`processReceived_snd_congr`, `processReceived_snd`)
compares two calls and so goes through the definition.
-/
namespace CoapVerif.Lemmas.BlockwiseReceive
open CoapVerif CoapVerif.Model.Blockwise CoapVerif.Model.BlockOpt CoapVerif.Generated.BlockwiseXfer

/-- `r` gets as far as the reassembly: a token, not GET / DELETE, a decodable block option `blk` of its direction and, for
    Block2, a request it answers -/
structure Block (sl : Slots) (r : Msg) (bt : BT) (blk szx num : Nat) (more : Bool) : Prop where
  tok : r.tok ≠ 0
  code : ¬ (r.code = codeGET ∨ r.code = codeDELETE)
  opt : r.block bt = some blk
  dec : decodeBlock blk = .ok (szx, num, more)
  sent : ¬ (bt = .b2 ∧ sl.snd = none)

/-- … in the form `processReceived` tests it -/
theorem Block.sentMsg {sl : Slots} {r : Msg} {bt : BT} {blk szx num : Nat} {more : Bool} (h : Block sl r bt blk szx num more) :
    ¬ (bt = .b2 ∧ (sl.snd.map (·.msg)).isNone = true) := fun hs =>
  h.sent ⟨hs.1, by cases hsnd : sl.snd <;> simp [hsnd] at hs ⊢⟩

inductive Received (cfg : Cfg) (sl : Slots) (now : Int) (w : Option Msg) (r : Msg) (mx : Nat) (app : App) (bt : BT) : HR → Prop
  | unassembled : (r.tok = 0 ∨ r.code = codeGET ∨ r.code = codeDELETE ∨ r.block bt = none) →
      Received cfg sl now w r mx app bt { sl := sl, w := next app w r, delivered := [r] }
  /-- the only block of its body while nothing live is held: handed on as it arrived -/
  | single {blk szx : Nat} : Block sl r bt blk szx 0 false → live sl.rcv now = none →
      Received cfg sl now w r mx app bt { sl := sl, w := next app w r, delivered := [r] }
  /-- the receiving slot is emptied (`rcv = none`) exactly where `blockReply` fails -/
  | refused (rcv : Option Entry) : (rcv = sl.rcv ∨ rcv = none) →
      Received cfg sl now w r mx app bt { sl := { sl with rcv := rcv }, w := w, failed := true }
  /-- the block is looked at against `c0` — the live held message, or an empty one made from the block — kept, and answered
      with `m`.  The two offsets are the code's: the negotiated exponent is used only where nothing is held.  The expiry `till`
      of the entry is left open: `processReceived_held` and `processReceived_free` have it. -/
  | kept {blk szx num : Nat} {more : Bool} {c0 : Msg} {off : Nat} (till : Int) {m : Msg} : Block sl r bt blk szx num more →
      ((live sl.rcv now = none ∧ more = true ∧ c0 = { r with body := [] } ∧ off = num * sizeN (getSzx szx mx)) ∨
       (∃ ent, live sl.rcv now = some ent ∧ c0 = ent.msg ∧ off = num * sizeN szx)) →
      blockReply bt (sl.snd.map (·.msg)) r.tok (getSzx szx mx) num (absorb r c0 off).1.body.length more = some m →
      Received cfg sl now w r mx app bt { sl := { sl with rcv := some ⟨(absorb r c0 off).1, till⟩ }, w := some m }
  | completed {blk szx num : Nat} {ent : Entry} : Block sl r bt blk szx num false → live sl.rcv now = some ent →
      (absorb r ent.msg (num * sizeN szx)).2 = true →
      Received cfg sl now w r mx app bt
        { sl := { sl with rcv := none }, w := next app w ((absorb r ent.msg (num * sizeN szx)).1.removeBlockSize bt),
          delivered := [(absorb r ent.msg (num * sizeN szx)).1.removeBlockSize bt] }

theorem processReceived_cases (cfg : Cfg) (sl : Slots) (now : Int) (w : Option Msg) (r : Msg) (mx : Nat) (app : App) (bt : BT) :
    Received cfg sl now w r mx app bt (processReceived cfg sl now w r mx app bt) := by
  unfold processReceived
  simp only []
  by_cases h0 : r.tok = 0
  · rw [if_pos h0]; exact .unassembled (.inl h0)
  rw [if_neg h0]
  by_cases hgd : r.code = codeGET ∨ r.code = codeDELETE
  · rw [if_pos hgd]; exact .unassembled (.inr (hgd.elim .inl (fun h => .inr (.inl h))))
  rw [if_neg hgd]
  cases hb : r.block bt with
  | none =>
    simp only []
    split
    · exact .refused _ (.inl rfl)
    · exact .unassembled (.inr (.inr (.inr hb)))
  | some blk =>
    simp only []
    cases hd : decodeBlock blk with
    | error e => exact .refused _ (.inl rfl)
    | ok v =>
      obtain ⟨szx, num, more⟩ := v
      simp only []
      by_cases hs : bt = .b2 ∧ (sl.snd.map (·.msg)).isNone = true
      · rw [if_pos hs]; exact .refused _ (.inl rfl)
      rw [if_neg hs]
      have hblk : Block sl r bt blk szx num more := ⟨h0, hgd, hb, hd, fun h => hs ⟨h.1, by rw [h.2]; rfl⟩⟩
      cases hl : live sl.rcv now with
      | none =>
        simp only []
        cases more with
        | false =>
          simp only [if_true]
          split
          · exact .refused _ (.inl rfl)
          · rename_i hn
            have : num = 0 := Nat.eq_zero_of_not_pos (fun h => hn ⟨rfl, h⟩)
            subst this
            exact .single hblk hl
        | true =>
          simp only [Bool.true_eq_false, if_false]
          split
          · exact .refused _ (.inr rfl)
          · rename_i m hm
            exact .kept _ hblk (.inl ⟨hl, rfl, rfl, rfl⟩) hm
      | some ent =>
        simp only []
        split
        · rename_i hdone
          rw [hdone.2] at hblk
          exact .completed hblk hl hdone.1
        · split
          · exact .refused _ (.inr rfl)
          · rename_i m hm
            exact .kept _ hblk (.inr ⟨ent, hl, rfl, rfl⟩) hm

theorem processReceived_held {cfg : Cfg} {sl : Slots} {now : Int} (w : Option Msg) {r : Msg} (mx : Nat) (app : App) {bt : BT}
    {blk szx num : Nat} {more : Bool} {ent : Entry} (hblk : Block sl r bt blk szx num more) (hl : live sl.rcv now = some ent) :
    processReceived cfg sl now w r mx app bt =
      if (absorb r ent.msg (num * sizeN szx)).2 = true ∧ more = false then
        { sl := { sl with rcv := none }, w := next app w ((absorb r ent.msg (num * sizeN szx)).1.removeBlockSize bt),
          delivered := [(absorb r ent.msg (num * sizeN szx)).1.removeBlockSize bt] }
      else
        match blockReply bt (sl.snd.map (·.msg)) r.tok (getSzx szx mx) num (absorb r ent.msg (num * sizeN szx)).1.body.length more with
        | none => { sl := { sl with rcv := none }, w := w, failed := true }
        | some m => { sl := { sl with rcv := some ⟨(absorb r ent.msg (num * sizeN szx)).1, ent.validUntil⟩ }, w := some m } := by
  unfold processReceived
  simp only [if_neg hblk.tok, if_neg hblk.code, hblk.opt, hblk.dec, if_neg hblk.sentMsg, hl]
  rfl

/-- the entry that is opened is valid until the deadline of the request the block answers, else for the transfer timeout -/
theorem processReceived_free {cfg : Cfg} {sl : Slots} {now : Int} (w : Option Msg) {r : Msg} (mx : Nat) (app : App) {bt : BT}
    {blk szx num : Nat} (hblk : Block sl r bt blk szx num true) (hl : live sl.rcv now = none) :
    processReceived cfg sl now w r mx app bt =
      match blockReply bt (sl.snd.map (·.msg)) r.tok (getSzx szx mx) num
          (absorb r { r with body := [] } (num * sizeN (getSzx szx mx))).1.body.length true with
      | none => { sl := { sl with rcv := none }, w := w, failed := true }
      | some m =>
        { sl := { sl with rcv := some ⟨(absorb r { r with body := [] } (num * sizeN (getSzx szx mx))).1,
                    match (sl.snd.map (·.msg)).bind (·.deadline) with | some d => d | none => now + cfg.expiration⟩ },
          w := some m } := by
  unfold processReceived
  simp only [if_neg hblk.tok, if_neg hblk.code, hblk.opt, hblk.dec, if_neg hblk.sentMsg, hl]
  rfl

/-- `processReceivedMessage` reads the sending slot only through the message stored there (`getSentRequest`: code, options,
    context) — never its expiry — and never writes it -/
theorem processReceived_snd_congr (cfg : Cfg) (s1 s2 rcv : Option Entry) (now : Int) (w : Option Msg) (r : Msg) (mx : Nat)
    (app : App) (bt : BT) (h : s1.map (·.msg) = s2.map (·.msg)) :
    processReceived cfg ⟨s1, rcv⟩ now w r mx app bt =
      { processReceived cfg ⟨s2, rcv⟩ now w r mx app bt with
        sl := ⟨s1, (processReceived cfg ⟨s2, rcv⟩ now w r mx app bt).sl.rcv⟩ } := by
  unfold processReceived
  dsimp only
  rw [h]
  by_cases h0 : r.tok = 0
  · rw [if_pos h0, if_pos h0]
  rw [if_neg h0, if_neg h0]
  by_cases hgd : r.code = codeGET ∨ r.code = codeDELETE
  · rw [if_pos hgd, if_pos hgd]
  rw [if_neg hgd, if_neg hgd]
  cases r.block bt with
  | none => dsimp only; split <;> rfl
  | some blk =>
    dsimp only
    cases decodeBlock blk with
    | error e => rfl
    | ok v =>
      obtain ⟨szx, num, more⟩ := v
      dsimp only
      by_cases hs : bt = BT.b2 ∧ (Option.map (fun x => x.msg) s2).isNone = true
      · rw [if_pos hs, if_pos hs]
      rw [if_neg hs, if_neg hs]
      cases live rcv now with
      | none =>
        dsimp only
        cases more with
        | false => simp only [if_true]; split <;> rfl
        | true =>
          simp only [Bool.true_eq_false, if_false]
          cases blockReply bt (Option.map (fun x => x.msg) s2) r.tok (getSzx szx mx) num
            (absorb r { r with body := [] } (num * sizeN (getSzx szx mx))).1.body.length true <;> rfl
      | some ent =>
        dsimp only
        split
        · rfl
        · cases blockReply bt (Option.map (fun x => x.msg) s2) r.tok (getSzx szx mx) num
            (absorb r ent.msg (num * sizeN szx)).1.body.length more <;> rfl

theorem processReceived_snd (cfg : Cfg) (sl : Slots) (now : Int) (w : Option Msg) (r : Msg) (mx : Nat) (app : App) (bt : BT) :
    (processReceived cfg sl now w r mx app bt).sl.snd = sl.snd :=
  congrArg (·.sl.snd) (processReceived_snd_congr cfg sl.snd sl.snd sl.rcv now w r mx app bt rfl)

end CoapVerif.Lemmas.BlockwiseReceive
