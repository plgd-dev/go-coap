import CoapVerif.Model.Options
import CoapVerif.Lemmas.SortedMultiset
/-!
Lemmas about `Model/Options.lean` (C15): the binary search of `findPosition` (loop invariant, termination
measure), the two linear scans, the in-place shift loops, and the refinement of `Set`/`Add`/`Remove` to the
index forms of the sorted-multiset specification.

Both shift loops are one block move, `moved arr dst src k`, a closed form over `take`/`drop` in the index language of
the specification's `ins_eq`/`remove_eq`/`set_eq`; `take_moved` (the gap closed) and `take_set_moved` (the range
replaced by one stored option) say how the moved array reads.
Last, the getters built on `Find` (`has_spec`, `getFirst_spec`, `getMulti_spec`) return the specification's `values`.
-/
namespace CoapVerif.Lemmas.OptionsModel
open CoapVerif.Model.Options CoapVerif.Spec.SortedMultiset CoapVerif.Lemmas.SortedMultiset

variable {α : Type}

def WF (o : Options α) : Prop := o.len ≤ o.arr.length

theorem toList_length {o : Options α} (h : WF o) : o.toList.length = o.len := by
  unfold Options.toList WF at *
  rw [List.length_take]; omega

theorem toList_getElem? (o : Options α) (j : Nat) : o.toList[j]? = if j < o.len then o.arr[j]? else none := by
  unfold Options.toList; rw [List.getElem?_take]

theorem get_eq {o : Options α} (h : WF o) {i : Nat} (hi : i < o.len) :
    ∃ x, o.toList[i]? = some x ∧ o.get i = .ok x := by
  have hlt : i < o.arr.length := by unfold WF at h; omega
  refine ⟨o.arr[i], ?_, ?_⟩
  · rw [toList_getElem?, if_pos hi]; exact List.getElem?_eq_getElem hlt
  · unfold Options.get
    simp [hi, List.getElem?_eq_getElem hlt]

theorem drop_cons_of_get {o : Options α} {i : Nat} {x : Opt α} (hx : o.toList[i]? = some x) :
    o.toList.drop i = x :: o.toList.drop (i + 1) := by
  obtain ⟨hi, h⟩ := List.getElem?_eq_some_iff.mp hx
  rw [List.drop_eq_getElem_cons hi, h]

theorem le_le_len {o : Options α} (hwf : WF o) (id : Nat) : le id o.toList ≤ o.len := by
  have := le_le_length id o.toList
  rwa [toList_length hwf] at this

/-- The fuel exceeds the termination measure `2·(max − min) + [pivot ∈ {min, max}]` of the search loop. -/
def Covers (fuel mn mx pv : Nat) : Prop :=
  ((pv = mn ∨ pv = mx) → 2 * (mx - mn) + 1 < fuel) ∧ 2 * (mx - mn) < fuel

theorem pivot_left {mn mx pv fuel : Nat} (h1 : mn ≤ pv) (h2 : pv ≤ mx) (hw : 2 ≤ mx - mn)
    (hf : Covers (fuel + 1) mn mx pv) :
    mn ≤ pv - (pv - mn) / 2 ∧ Covers fuel mn pv (pv - (pv - mn) / 2) := by
  unfold Covers at *
  omega

theorem pivot_right {mn mx pv fuel : Nat} (h1 : mn ≤ pv) (h2 : pv ≤ mx) (hw : 2 ≤ mx - mn)
    (hf : Covers (fuel + 1) mn mx pv) :
    pv + (mx - pv) / 2 ≤ mx ∧ (pv < mx → pv + (mx - pv) / 2 < mx) ∧ Covers fuel pv mx (pv + (mx - pv) / 2) := by
  unfold Covers at *
  omega

/-- The search loop from a state within bounds ends without panic before the fuel runs out, on *every* (even
unsorted) list.  On a sorted list it keeps the invariant `mn < lt ∨ (pv = 0 ∧ mn = 0)` (the option at `mn` is smaller,
or the search has just begun) and `le ≤ mx` (every option from `mx` on is larger), so the pivot it returns lies in
`[lt − 1, le]`, from where the two linear scans start. -/
theorem findPivot_spec {o : Options α} (hwf : WF o) (id : Nat) :
    ∀ (fuel mn mx pv : Nat), mn ≤ pv → pv ≤ mx → mx ≤ o.len → pv < o.len → Covers fuel mn mx pv →
      ∃ p, Options.findPivot o id fuel mn mx pv = .ok p ∧ p < o.len ∧
        (Sorted o.toList → ((pv = 0 ∧ mn = 0) ∨ mn < lt id o.toList) → le id o.toList ≤ mx →
          p ≤ le id o.toList ∧ lt id o.toList ≤ p + 1) := by
  intro fuel
  induction fuel with
  | zero => intro mn mx pv _ _ _ _ h; exact absurd h.2 (Nat.not_lt_zero _)
  | succ fuel ih =>
    intro mn mx pv h1 h2 h3 h4 hf
    obtain ⟨x, hx, hg⟩ := get_eq hwf h4
    unfold Options.findPivot
    simp only [hg, bind, Except.bind]
    by_cases c1 : id = x.1 ∨ (mx - mn) / 2 = 0
    · rw [if_pos c1]
      refine ⟨pv, rfl, h4, fun hs hA hB => ?_⟩
      have hlt := lt_iff' hs id hx
      have hle := le_iff' hs id hx
      have hll := lt_le_le id o.toList
      omega
    · rw [if_neg c1]
      have hw : id ≠ x.1 ∧ 2 ≤ mx - mn := by omega
      by_cases c2 : id < x.1
      · -- the pivot's number is larger: `le` lies at or below the pivot
        rw [if_pos c2]
        obtain ⟨b1, b2⟩ := pivot_left h1 h2 hw.2 hf
        obtain ⟨p, hp, hpl, hI⟩ := ih mn pv (pv - (pv - mn) / 2) b1 (Nat.sub_le _ _) (Nat.le_trans h2 h3)
          (Nat.lt_of_le_of_lt (Nat.sub_le _ _) h4) b2
        refine ⟨p, hp, hpl, fun hs hA hB => hI hs ?_ ?_⟩
        · omega
        · exact Nat.le_of_not_lt (mt (le_iff' hs id hx).mpr (Nat.not_le.mpr c2))
      · -- it is smaller: `lt` lies above the pivot
        rw [if_neg c2]
        obtain ⟨b1, b2, b3⟩ := pivot_right h1 h2 hw.2 hf
        obtain ⟨p, hp, hpl, hI⟩ := ih pv mx (pv + (mx - pv) / 2) (Nat.le_add_right _ _) b1 h3 (by omega) b3
        exact ⟨p, hp, hpl, fun hs _ hB => hI hs (Or.inr ((lt_iff' hs id hx).mp (by omega))) hB⟩

theorem scanRight_spec {o : Options α} (hwf : WF o) (id : Nat) :
    ∀ (k i : Nat), ∃ r, Options.scanRight o id k i = .ok r ∧
      (Sorted o.toList → i ≤ le id o.toList → o.len ≤ i + k → r = le id o.toList) := by
  have hlen := le_le_len hwf id
  intro k
  induction k with
  | zero => intro i; exact ⟨i, rfl, fun _ h1 h2 => by omega⟩
  | succ k ih =>
    intro i
    unfold Options.scanRight
    by_cases c : i < o.len
    · obtain ⟨x, hx, hg⟩ := get_eq hwf c
      simp only [c, if_true, hg, bind, Except.bind]
      by_cases c2 : x.1 ≤ id
      · rw [if_pos c2]
        obtain ⟨r, hr, hI⟩ := ih (i + 1)
        exact ⟨r, hr, fun hs h1 h2 => hI hs (by have := le_iff' hs id hx; omega) (by omega)⟩
      · rw [if_neg c2]
        exact ⟨i, rfl, fun hs h1 h2 => by have := le_iff' hs id hx; omega⟩
    · rw [if_neg c]
      exact ⟨i, rfl, fun _ h1 h2 => by omega⟩

theorem scanLeft_spec {o : Options α} (hwf : WF o) (id : Nat) :
    ∀ (i : Nat), i < o.len → ∃ r, Options.scanLeft o id i = .ok r ∧
      (Sorted o.toList → lt id o.toList ≤ i + 1 → r = (lt id o.toList : Int) - 1) := by
  intro i
  induction i with
  | zero =>
    intro h
    obtain ⟨x, hx, hg⟩ := get_eq hwf h
    unfold Options.scanLeft
    simp only [hg, bind, Except.bind]
    by_cases c : x.1 ≥ id
    · rw [if_pos c]
      exact ⟨-1, rfl, fun hs h2 => by have := lt_iff' hs id hx; omega⟩
    · rw [if_neg c]
      exact ⟨0, rfl, fun hs h2 => by have := lt_iff' hs id hx; omega⟩
  | succ i ih =>
    intro h
    obtain ⟨x, hx, hg⟩ := get_eq hwf h
    unfold Options.scanLeft
    simp only [hg, bind, Except.bind]
    by_cases c : x.1 ≥ id
    · rw [if_pos c]
      obtain ⟨r, hr, hI⟩ := ih (by omega)
      exact ⟨r, hr, fun hs h2 => hI hs (by have := lt_iff' hs id hx; omega)⟩
    · rw [if_neg c]
      exact ⟨_, rfl, fun hs h2 => by have := lt_iff' hs id hx; omega⟩

/-- Go's three encodings of the second index `b = le` on a list of length `n`: `0` on the empty list, `-1` when no
option is larger, else the index of the first larger one. -/
def postOf (n b : Nat) : Int := if n = 0 then 0 else if b = n then -1 else (b : Int)
/-- What `findPosition` returns on a sorted list of length `n`, for `a = lt`, `b = le`. -/
abbrev posOf (n a b : Nat) : Int × Int := ((a : Int) - 1, postOf n b)

theorem postOf_cases {n b : Nat} (h : b ≤ n) :
    n = 0 ∧ postOf n b = 0 ∨ n ≠ 0 ∧ b = n ∧ postOf n b = -1 ∨ b < n ∧ postOf n b = b := by
  unfold postOf
  by_cases h0 : n = 0
  · exact Or.inl ⟨h0, if_pos h0⟩
  · by_cases hb : b = n
    · exact Or.inr (Or.inl ⟨h0, hb, by rw [if_neg h0, if_pos hb]⟩)
    · exact Or.inr (Or.inr ⟨by omega, by rw [if_neg h0, if_neg hb]⟩)

/-- `Add`'s `if idxPost == -1 { idxPost = len(options) }` undoes the encoding. -/
theorem postOf_add {n b : Nat} (h : b ≤ n) : (if postOf n b = -1 then (n : Int) else postOf n b) = (b : Int) := by
  rcases postOf_cases h with ⟨h0, hp⟩ | ⟨_, hb, hp⟩ | ⟨_, hp⟩ <;> rw [hp]
  · rw [if_neg (by omega)]; omega
  · rw [if_pos rfl, hb]
  · rw [if_neg (by omega)]

theorem findPosition_run {o : Options α} (hwf : WF o) (id : Nat) :
    ∃ r, o.findPosition id = .ok r ∧ (Sorted o.toList → r = posOf o.len (lt id o.toList) (le id o.toList)) := by
  unfold Options.findPosition posOf postOf
  have hlen := le_le_len hwf id
  have hll := lt_le_le id o.toList
  by_cases c : o.len = 0
  · rw [if_pos c, if_pos c, show lt id o.toList = 0 by omega]
    exact ⟨_, rfl, fun _ => rfl⟩
  · rw [if_neg c, if_neg c]
    obtain ⟨p, hp, hpl, hI⟩ := findPivot_spec hwf id (2 * o.len + 2) 0 o.len 0 (Nat.le_refl _) (Nat.zero_le _)
      (Nat.le_refl _) (by omega) (by unfold Covers; omega)
    obtain ⟨r, hr, hR⟩ := scanRight_spec hwf id (o.len - p) p
    obtain ⟨l, hl, hL⟩ := scanLeft_spec hwf id p hpl
    simp only [hp, hr, hl, bind, Except.bind, pure, Except.pure]
    refine ⟨_, rfl, fun hs => ?_⟩
    obtain ⟨hp1, hp2⟩ := hI hs (Or.inl ⟨rfl, rfl⟩) hlen
    rw [hR hs hp1 (by omega), hL hs hp2]

theorem findPosition_total {o : Options α} (hwf : WF o) (id : Nat) : ∃ r, o.findPosition id = .ok r :=
  (findPosition_run hwf id).imp fun _ h => h.1

theorem findPosition_spec {o : Options α} (hwf : WF o) (hs : Sorted o.toList) (id : Nat) :
    o.findPosition id = .ok (posOf o.len (lt id o.toList) (le id o.toList)) := by
  obtain ⟨r, hr, h⟩ := findPosition_run hwf id
  rw [hr, h hs]

/-- The decoding `Find` applies to the two indices: its three "not found" tests hold exactly when the range is empty. -/
theorem find_of_findPosition {o : Options α} {id a b : Nat} (h : o.findPosition id = .ok (posOf o.len a b))
    (hab : a ≤ b) (hb : b ≤ o.len) : o.find id = .ok (if a = b then none else some ((a : Int), (b : Int))) := by
  unfold Options.find
  rw [h]
  simp only [bind, Except.bind, pure, Except.pure]
  rcases postOf_cases hb with ⟨h0, hp⟩ | ⟨h0, hbn, hp⟩ | ⟨hbn, hp⟩ <;> rw [hp]
  · rw [if_pos ⟨by omega, rfl⟩, if_pos (by omega)]
  · rw [if_neg (by omega)]
    by_cases c : a = b
    · rw [if_pos ⟨by omega, rfl⟩, if_pos c]
    · rw [if_neg (by omega), if_neg (by omega), if_neg c, if_pos (by omega), Int.sub_add_cancel, hbn]
  · by_cases c : a = b
    · rw [if_pos c]
      by_cases c0 : a = 0
      · rw [if_pos (by omega)]
      · rw [if_neg (by omega), if_neg (by omega), if_pos (by omega)]
    · rw [if_neg (by omega), if_neg (by omega), if_neg (by omega), if_neg c, if_neg (by omega), Int.sub_add_cancel]

theorem find_spec {o : Options α} (hwf : WF o) (hs : Sorted o.toList) (id : Nat) :
    o.find id = .ok (if lt id o.toList = le id o.toList then none
                     else some ((lt id o.toList : Int), (le id o.toList : Int))) :=
  find_of_findPosition (findPosition_spec hwf hs id) (lt_le_le id o.toList) (le_le_len hwf id)

theorem ok_bind {β γ : Type} (a : β) (f : β → M γ) : (Except.ok a >>= f) = f a := rfl

theorem getI_nat (o : Options α) (i : Nat) : o.getI (i : Int) = o.get i := by
  unfold Options.getI
  have : ¬ ((i : Int) < 0) := by omega
  simp [this]

theorem setAtI_nat (o : Options α) (i : Nat) (x : Opt α) : o.setAtI (i : Int) x = o.setAt i x := by
  unfold Options.setAtI
  have : ¬ ((i : Int) < 0) := by omega
  simp [this]

theorem resliceI_nat (o : Options α) (n : Nat) : o.resliceI (n : Int) = o.reslice n := by
  unfold Options.resliceI
  have : ¬ ((n : Int) < 0) := by omega
  simp [this]

/-- `arr` with the `k` elements from index `src` on copied to index `dst` on: what `copy(arr[dst:dst+k], arr[src:src+k])`
leaves.  Both shift loops do this, element by element in the direction in which no element is overwritten before it is read. -/
def moved (arr : List (Opt α)) (dst src k : Nat) : List (Opt α) :=
  arr.take dst ++ ((arr.drop src).take k ++ arr.drop (dst + k))

theorem moved_zero (arr : List (Opt α)) (dst src : Nat) : moved arr dst src 0 = arr := by
  unfold moved; rw [List.take_zero, List.nil_append, Nat.add_zero, List.take_append_drop]

theorem length_moved {arr : List (Opt α)} {dst src k : Nat} (h : src + k ≤ arr.length) (hd : dst + k ≤ arr.length) :
    (moved arr dst src k).length = arr.length := by
  unfold moved
  simp only [List.length_append, List.length_take, List.length_drop]; omega

/-- One iteration of either loop: `options[dst] = options[src]`. -/
theorem copy1 {arr : List (Opt α)} {n src dst : Nat} (hs : src < n) (hd : dst < n) (hn : n ≤ arr.length) :
    ∃ x, arr[src]? = some x ∧ (⟨arr, n⟩ : Options α).getI (src : Int) = .ok x ∧
      (⟨arr, n⟩ : Options α).setAtI (dst : Int) x = .ok ⟨arr.set dst x, n⟩ := by
  have h1 : src < arr.length := by omega
  refine ⟨arr[src], List.getElem?_eq_getElem h1, ?_, ?_⟩
  · rw [getI_nat]; unfold Options.get; rw [if_pos hs, List.getElem?_eq_getElem h1]
  · rw [setAtI_nat]; unfold Options.setAt; rw [if_pos ⟨hd, Nat.lt_of_lt_of_le hd hn⟩]

theorem shiftLeft_moved (n : Nat) : ∀ (k i u : Nat) (arr : List (Opt α)), u ≤ i → i + k ≤ n → n ≤ arr.length →
    Options.shiftLeft ⟨arr, n⟩ k (i : Int) (u : Int) = .ok (⟨moved arr u i k, n⟩, ((u + k : Nat) : Int))
  | 0, i, u, arr, _, _, _ => by rw [moved_zero]; rfl
  | k + 1, i, u, arr, h1, h2, h3 => by
    obtain ⟨x, hx, hg, hset⟩ := copy1 (arr := arr) (n := n) (src := i) (dst := u) (by omega) (by omega) h3
    have ih := shiftLeft_moved n k (i + 1) (u + 1) (arr.set u x) (by omega) (by omega) (by rw [List.length_set]; exact h3)
    unfold Options.shiftLeft
    rw [hg, ok_bind, hset, ok_bind, ← Int.natCast_succ, ← Int.natCast_succ, ih]
    -- the first element of the block is in place; the rest was moved in an array that differs from `arr` only there
    have hi : i < arr.length := by omega
    obtain rfl : x = arr[i] := by rw [List.getElem?_eq_getElem hi] at hx; exact (Option.some.inj hx).symm
    unfold moved
    rw [List.take_add_one, List.take_set_of_le (Nat.le_refl u), List.getElem?_set_self (by omega),
      List.drop_set_of_lt (by omega : u < i + 1), List.drop_set_of_lt (by omega : u < u + 1 + k),
      List.drop_eq_getElem_cons hi, List.take_succ_cons, Option.toList, List.append_assoc, List.singleton_append,
      List.cons_append, show u + 1 + k = u + (k + 1) by omega]

/-- The loop runs from `hi` down to `lo + 1`; `u` is `Set`'s `updateIdx`, which the loop only increments. -/
theorem shiftRight_moved (n : Nat) : ∀ (k lo hi : Nat) (arr : List (Opt α)) (u : Int), lo + k = hi → hi < n →
    n ≤ arr.length → Options.shiftRight ⟨arr, n⟩ k (hi : Int) u = .ok (⟨moved arr (lo + 1) lo k, n⟩, u + (k : Nat))
  | 0, lo, _, arr, u, _, _, _ => by rw [moved_zero]; simp [Options.shiftRight, pure, Except.pure]
  | k + 1, lo, _, arr, u, rfl, h1, h2 => by
    obtain ⟨x, hx, hg, hset⟩ := copy1 (arr := arr) (n := n) (src := lo + k) (dst := lo + k + 1) (by omega) (by omega) h2
    have ih := shiftRight_moved n k lo _ (arr.set (lo + k + 1) x) (u + 1) rfl (by omega) (by rw [List.length_set]; exact h2)
    unfold Options.shiftRight
    rw [show ((lo + (k + 1) : Nat) : Int) - 1 = ((lo + k : Nat) : Int) by omega, hg, ok_bind,
      show ((lo + (k + 1) : Nat) : Int) = ((lo + k + 1 : Nat) : Int) by omega, hset, ok_bind, ih]
    -- the last element of the block is in place; the rest was moved in an array that differs from `arr` only there
    have hi : lo + k < arr.length := by omega
    obtain rfl : x = arr[lo + k] := by rw [List.getElem?_eq_getElem hi] at hx; exact (Option.some.inj hx).symm
    have hd : List.drop (lo + 1 + k) (arr.set (lo + k + 1) arr[lo + k]) = arr[lo + k] :: arr.drop (lo + 1 + (k + 1)) := by
      rw [show lo + 1 + k = lo + k + 1 by omega, List.drop_eq_getElem_cons (by rw [List.length_set]; omega),
        List.getElem_set_self, List.drop_set_of_lt (by omega), show lo + k + 1 + 1 = lo + 1 + (k + 1) by omega]
    have ht : List.take k (List.drop lo (arr.set (lo + k + 1) arr[lo + k])) = List.take k (List.drop lo arr) := by
      rw [List.drop_set, if_neg (by omega), List.take_set_of_le (by omega)]
    have hk : (arr.drop lo).take (k + 1) = (arr.drop lo).take k ++ [arr[lo + k]] := by
      rw [List.take_add_one, List.getElem?_drop, List.getElem?_eq_getElem hi]; rfl
    unfold moved
    rw [List.take_set_of_le (by omega), hd, ht, hk, List.append_assoc, List.singleton_append]
    congr 2; omega

theorem take_moved {arr : List (Opt α)} {a b k : Nat} (ha : a ≤ arr.length) (hk : b + k ≤ arr.length) :
    (moved arr a b k).take (a + k) = arr.take a ++ (arr.drop b).take k := by
  unfold moved
  rw [← List.append_assoc]
  exact List.take_left' (by simp only [List.length_append, List.length_take, List.length_drop]; omega)

theorem take_set_moved {arr : List (Opt α)} {a b k : Nat} (x : Opt α) (ha : a < arr.length) (hk : b + k ≤ arr.length) :
    ((moved arr (a + 1) b k).set a x).take (a + 1 + k) = arr.take a ++ x :: (arr.drop b).take k := by
  unfold moved
  rw [List.take_add_one, List.getElem?_eq_getElem ha, Option.toList, List.append_assoc, List.singleton_append,
    List.set_append_right _ _ (by rw [List.length_take]; omega), List.length_take, Nat.min_eq_left (Nat.le_of_lt ha),
    Nat.sub_self, List.set_cons_zero, ← List.cons_append, ← List.append_assoc]
  exact List.take_left' (by simp only [List.length_append, List.length_cons, List.length_take, List.length_drop]; omega)

theorem take_of_toList {o : Options α} {arr : List (Opt α)} (h : arr.take o.len = o.toList) {a : Nat} (ha : a ≤ o.len) :
    arr.take a = o.toList.take a := by
  rw [← h, List.take_take, Nat.min_eq_left ha]

theorem drop_of_toList {o : Options α} {arr : List (Opt α)} (h : arr.take o.len = o.toList) (b : Nat) :
    (arr.drop b).take (o.len - b) = o.toList.drop b := by
  rw [← h, List.drop_take]

theorem take_drop_toList {o : Options α} {k n : Nat} (h : k + n ≤ o.len) :
    (o.arr.drop k).take n = (o.toList.drop k).take n := by
  unfold Options.toList
  rw [List.drop_take, List.take_take]
  congr 1; omega

theorem growOne_spec [Inhabited α] (g : Nat → Nat) {o : Options α} (hwf : WF o) :
    ∃ arr1, o.growOne g = .ok ⟨arr1, o.len + 1⟩ ∧ o.len + 1 ≤ arr1.length ∧ arr1.take o.len = o.toList ∧
      (o.len < o.arr.length → arr1 = o.arr) := by
  unfold Options.growOne
  unfold WF at hwf
  by_cases c : o.len = o.arr.length
  · rw [if_pos c]
    unfold Options.append
    rw [if_neg (by omega)]
    exact ⟨_, rfl, by simp only [List.length_append, List.length_take, List.length_cons, List.length_replicate]; omega,
      List.take_left' (by rw [List.length_take]; omega), fun h => absurd c (Nat.ne_of_lt h)⟩
  · rw [if_neg c]
    unfold Options.reslice
    rw [if_pos (by omega)]
    exact ⟨o.arr, rfl, by omega, rfl, fun _ => rfl⟩

/-- `Add` inserts at index `le`; on a slice with spare capacity it works in place: the backing array keeps its length
and what lies behind the new length (what makes `ResetOptionsTo` safe when its input is a slice of the receiver's own
array). -/
theorem add_spec [Inhabited α] (g : Nat → Nat) {o : Options α} (hwf : WF o) (hs : Sorted o.toList) (x : Opt α) :
    ∃ o', o.add g x = .ok o' ∧ WF o' ∧ o'.len = o.len + 1 ∧
      o'.toList = ins x o.toList ∧
      (o.len < o.arr.length → o'.arr.length = o.arr.length ∧ o'.arr.drop o'.len = o.arr.drop (o.len + 1)) := by
  have hb := le_le_len hwf x.1
  rw [ins_eq x hs]
  unfold Options.add
  rw [findPosition_spec hwf hs]
  generalize le x.1 o.toList = b at hb ⊢
  obtain ⟨arr1, hg, hcap, htk, hsame⟩ := growOne_spec g hwf
  generalize hk : o.len - b = k
  have hsh := shiftRight_moved (o.len + 1) k b o.len arr1 0 (by omega) (Nat.lt_succ_self _) hcap
  have hlen : (moved arr1 (b + 1) b k).length = arr1.length := length_moved (by omega) (by omega)
  refine ⟨⟨(moved arr1 (b + 1) b k).set b x, o.len + 1⟩, ?_, by show _ ≤ _; rw [List.length_set, hlen]; exact hcap, rfl, ?_, ?_⟩
  · simp only [bind, Except.bind, hg]
    rw [postOf_add hb, Int.natCast_succ, Int.add_sub_cancel, Int.toNat_sub, hk, hsh]
    simp only []
    rw [setAtI_nat]
    unfold Options.setAt
    rw [if_pos ⟨by show b < o.len + 1; omega, by rw [hlen]; omega⟩]
  · show List.take _ _ = _
    rw [show o.len + 1 = b + 1 + k by omega, take_set_moved x (by omega) (by omega), take_of_toList htk hb,
      ← drop_of_toList htk b, hk]
  · intro hc
    obtain rfl := hsame hc
    refine ⟨by rw [List.length_set, hlen], ?_⟩
    show List.drop (o.len + 1) _ = _
    unfold moved
    rw [List.drop_set_of_lt (by omega), ← List.append_assoc, show o.len + 1 = b + 1 + k by omega]
    exact List.drop_left' (by simp only [List.length_append, List.length_take, List.length_drop]; omega)

theorem remove_spec {o : Options α} (hwf : WF o) (hs : Sorted o.toList) (id : Nat) :
    ∃ o', o.remove id = .ok o' ∧ WF o' ∧ o'.arr.length = o.arr.length ∧ o'.toList = remove id o.toList := by
  have hlen := le_le_len hwf id
  have hll := lt_le_le id o.toList
  have hwf' : o.len ≤ o.arr.length := hwf
  rw [remove_eq id hs]
  unfold Options.remove
  rw [find_spec hwf hs]
  generalize le id o.toList = b at hlen hll ⊢
  generalize lt id o.toList = a at hll ⊢
  by_cases c : a = b
  · subst c
    rw [if_pos rfl]
    exact ⟨o, rfl, hwf, rfl, by rw [List.take_append_drop]⟩
  · rw [if_neg c]
    simp only [bind, Except.bind]
    have hl' : (moved o.arr a b (o.len - b)).length = o.arr.length := length_moved (by omega) (by omega)
    rw [Int.toNat_sub, shiftLeft_moved o.len (o.len - b) b a o.arr hll (by omega) hwf']
    simp only []
    rw [show (o.len : Int) - ((b : Int) - (a : Int)) = ((a + (o.len - b) : Nat) : Int) by omega, resliceI_nat]
    unfold Options.reslice
    rw [if_pos (by show _ ≤ (moved _ _ _ _).length; omega)]
    refine ⟨_, rfl, by show a + (o.len - b) ≤ (moved _ _ _ _).length; omega, hl', ?_⟩
    show List.take _ _ = _
    rw [take_moved (by omega) (by omega), take_of_toList rfl (by omega), drop_of_toList rfl]

/-- "replace + move" of `Set`, for the insertion index `a` and the old range `[a, b)`: whichever loop runs, the tail
`[b, len)` ends up behind index `a`. -/
theorem setMove_spec [Inhabited α] (g : Nat → Nat) {o : Options α} (hwf : WF o) (x : Opt α) (a b : Nat)
    (hab : a ≤ b) (hb : b ≤ o.len) :
    ∃ o', Options.setMove g o x (a : Int) ((a : Int) + 1) (b : Int) = .ok o' ∧ WF o' ∧
      o'.toList = o.toList.take a ++ x :: o.toList.drop b := by
  obtain ⟨arr1, hg, hcap, htk, _⟩ := growOne_spec g hwf
  generalize hk : o.len - b = k
  have hlen : (moved arr1 (a + 1) b k).length = arr1.length := length_moved (by omega) (by omega)
  -- after either loop: store, cut
  have fin : (do let o3 ← (⟨moved arr1 (a + 1) b k, o.len + 1⟩ : Options α).setAtI (a : Int) x
                 o3.resliceI ((a + 1 + k : Nat) : Int))
      = .ok ⟨(moved arr1 (a + 1) b k).set a x, a + 1 + k⟩ := by
    rw [setAtI_nat]
    unfold Options.setAt
    rw [if_pos ⟨by show a < o.len + 1; omega, by rw [hlen]; omega⟩, ok_bind, resliceI_nat]
    unfold Options.reslice
    rw [if_pos (by rw [List.length_set, hlen]; omega)]
  refine ⟨⟨(moved arr1 (a + 1) b k).set a x, a + 1 + k⟩, ?_, by show a + 1 + k ≤ _; rw [List.length_set, hlen]; omega, ?_⟩
  · unfold Options.setMove
    rw [hg, ok_bind, Int.toNat_sub, hk]
    by_cases c : b = a
    · subst c
      rw [if_pos (by omega), shiftRight_moved (o.len + 1) k b o.len arr1 _ (by omega) (Nat.lt_succ_self _) hcap, ok_bind,
        ← Int.natCast_succ, ← Int.natCast_add]
      exact fin
    · rw [if_neg (by omega), ← Int.natCast_succ, shiftLeft_moved (o.len + 1) k b (a + 1) arr1 (by omega) (by omega) hcap,
        ok_bind]
      exact fin
  · show List.take _ _ = _
    rw [take_set_moved x (by omega) (by omega), take_of_toList htk (by omega), ← drop_of_toList htk b, hk]

/-- The `switch` of `Set` on what `findPosition` returns for the range `[a, b)`: insert at `a`, the old range ends at
`b`; a range of exactly one option that is not the first is replaced in place.  (The all-equal list is handled before
the `switch`.) -/
theorem setSwitch_posOf {n a b : Nat} (hab : a ≤ b) (hb : b ≤ n)
    (hne : ¬ ((a : Int) - 1 = -1 ∧ postOf n b = -1)) :
    Options.setSwitch (n : Int) ((a : Int) - 1) (postOf n b)
      = ((a : Int), (a : Int) + 1, (b : Int), decide (1 ≤ a ∧ a + 1 = b)) := by
  unfold Options.setSwitch
  rcases postOf_cases hb with ⟨h0, hp⟩ | ⟨h0, hbn, hp⟩ | ⟨hbn, hp⟩ <;> rw [hp] at hne ⊢
  · obtain rfl : a = 0 := by omega
    obtain rfl : b = 0 := by omega
    rfl
  · rw [if_neg (by omega), if_neg (by omega), if_pos (by omega), if_pos (by omega)]
    simp only [Prod.mk.injEq, decide_eq_decide]; omega
  · by_cases c0 : a = 0
    · subst c0; rw [if_pos ⟨rfl, by omega⟩]; rfl
    · rw [if_neg (by omega), if_neg (by omega), if_pos (by omega), if_neg (by omega)]
      simp only [Prod.mk.injEq, decide_eq_decide, true_and]; omega

theorem set_spec [Inhabited α] (g : Nat → Nat) {o : Options α} (hwf : WF o) (hs : Sorted o.toList) (x : Opt α) :
    ∃ o', o.set g x = .ok o' ∧ WF o' ∧ o'.toList = Spec.SortedMultiset.set x o.toList := by
  have hlen := le_le_len hwf x.1
  have hll := lt_le_le x.1 o.toList
  have hwf' : o.len ≤ o.arr.length := hwf
  rw [set_eq x hs]
  unfold Options.set
  rw [findPosition_spec hwf hs]
  generalize le x.1 o.toList = b at hlen hll ⊢
  generalize lt x.1 o.toList = a at hll ⊢
  simp only [bind, Except.bind]
  by_cases c : (a : Int) - 1 = -1 ∧ postOf o.len b = -1
  · -- every option has this number: `append(options[:0], opt)`
    obtain ⟨rfl, rfl, hn⟩ : a = 0 ∧ b = o.len ∧ o.len ≠ 0 := by
      rcases postOf_cases hlen with ⟨_, hp⟩ | ⟨h0, hbn, _⟩ | ⟨_, hp⟩
      · omega
      · exact ⟨by omega, hbn, h0⟩
      · omega
    rw [if_pos c]
    simp only [Options.reslice, Nat.zero_le, if_true, pure, Except.pure, Options.append]
    rw [if_pos (by omega : 0 < o.arr.length)]
    refine ⟨_, rfl, by show 0 + 1 ≤ (o.arr.set 0 x).length; rw [List.length_set]; omega, ?_⟩
    show List.take (0 + 1) (o.arr.set 0 x) = _
    rw [List.drop_eq_nil_of_le (Nat.le_of_eq (toList_length hwf)), List.take_zero, List.take_set, List.take_add_one,
      List.take_zero, List.getElem?_eq_getElem (by omega)]
    rfl
  · rw [if_neg c, setSwitch_posOf hll hlen c]
    simp only []
    by_cases ce : 1 ≤ a ∧ a + 1 = b
    · -- exactly one option with this number, not the first: replaced in place
      obtain ⟨h1, rfl⟩ := ce
      rw [decide_eq_true ⟨h1, rfl⟩, if_pos rfl, setAtI_nat]
      unfold Options.setAt
      rw [if_pos ⟨by omega, by omega⟩]
      refine ⟨_, rfl, by show o.len ≤ (o.arr.set a x).length; rw [List.length_set]; exact hwf', ?_⟩
      show List.take o.len (o.arr.set a x) = _
      rw [List.take_set, List.set_eq_take_append_cons_drop, if_pos (by rw [List.length_take]; omega)]
      rfl
    · rw [decide_eq_false ce, if_neg Bool.false_ne_true]
      exact setMove_spec g hwf x a b hll hlen

theorem has_spec {o : Options α} (hwf : WF o) (hs : Sorted o.toList) (id : Nat) :
    o.has id = .ok (!(values id o.toList).isEmpty) := by
  unfold Options.has
  rw [find_spec hwf hs]
  by_cases c : lt id o.toList = le id o.toList
  · rw [if_pos c, (values_eq_nil_iff id hs).mpr c]; rfl
  · obtain ⟨v, vs, h⟩ := List.exists_cons_of_ne_nil (mt (values_eq_nil_iff id hs).mp c)
    rw [if_neg c, h]; rfl

theorem getFirst_spec {o : Options α} (hwf : WF o) (hs : Sorted o.toList) (id : Nat) :
    o.getFirst id = .ok ((values id o.toList).head?) := by
  have hlen := le_le_len hwf id
  have hll := lt_le_le id o.toList
  unfold Options.getFirst
  rw [find_spec hwf hs, values_eq id hs]
  by_cases c : lt id o.toList = le id o.toList
  · rw [if_pos c, c, Nat.sub_self]; rfl
  · obtain ⟨x, hx, hg⟩ := get_eq hwf (i := lt id o.toList) (by omega)
    obtain ⟨d, hd⟩ : ∃ d, le id o.toList - lt id o.toList = d + 1 := ⟨le id o.toList - lt id o.toList - 1, by omega⟩
    rw [if_neg c, drop_cons_of_get hx, hd]
    simp only [bind, Except.bind, getI_nat, hg]
    rfl

theorem collect_spec {o : Options α} (hwf : WF o) (n : Nat) :
    ∀ (k i : Nat) (acc : List α), i + k ≤ o.len → acc.length + k ≤ n →
      Options.collect o n k (i : Int) acc = .ok (acc.reverse ++ ((o.toList.drop i).take k).map (·.2)) := by
  intro k
  induction k with
  | zero => intro i acc _ _; simp [Options.collect, pure, Except.pure]
  | succ k ih =>
    intro i acc h1 h2
    obtain ⟨x, hx, hg⟩ := get_eq hwf (i := i) (by omega)
    unfold Options.collect
    rw [getI_nat, hg]
    simp only [bind, Except.bind]
    rw [if_pos (by omega), ← Int.natCast_succ, ih (i + 1) (x.2 :: acc) (by omega) (by simp; omega), drop_cons_of_get hx]
    simp

/-- The multi-value getters on a sorted list, for a result slice of *any* length `n` (0, too small, exact, larger);
`rd` is how the particular getter reads a stored value.  `getMulti true` is the loop `i < lastIdx`, the shape
`Generated/OptionListShape.lean` reports for all three getters. -/
theorem getMulti_spec {γ : Type} (rd : α → γ) {o : Options α} (hwf : WF o) (hs : Sorted o.toList) (id n : Nat) :
    (do let (c, e, vs) ← o.getMulti true id n; pure (c, e, vs.map rd) : M (Int × Option Err × List γ)) = .ok (
      let vs := (values id o.toList).map rd
      if vs = [] then ((0 : Int), some Err.notFound, [])
      else if n < vs.length then ((vs.length : Int), some Err.tooSmall, [])
      else ((vs.length : Int), none, vs)) := by
  have hlen := le_le_len hwf id
  have hll := lt_le_le id o.toList
  have hvl := values_length id hs
  unfold Options.getMulti
  simp only [if_true, Nat.add_zero, List.length_map, List.map_eq_nil_iff]
  rw [find_spec hwf hs]
  by_cases c : lt id o.toList = le id o.toList
  · rw [if_pos c, if_pos ((values_eq_nil_iff id hs).mpr c)]; rfl
  · rw [if_neg c, if_neg (mt (values_eq_nil_iff id hs).mp c)]
    simp only [bind, Except.bind]
    by_cases c2 : n < (values id o.toList).length
    · rw [if_pos c2, if_pos (by omega), show (le id o.toList : Int) - (lt id o.toList : Int)
        = (((values id o.toList).length : Nat) : Int) by omega]
      rfl
    · rw [if_neg c2, if_neg (by omega), Int.toNat_sub, collect_spec hwf n _ _ [] (by omega) (by simp; omega), ← values_eq id hs]
      simp [pure, Except.pure]

end CoapVerif.Lemmas.OptionsModel
