import CoapVerif.Model.Observe
import CoapVerif.Lemmas.KeyedList
import CoapVerif.Lemmas.Run
/-!
The observation table model: what the lookup finds after the table operations, the shapes a step can have
(`step_cases`), the table invariant, the outputs the judges of `Spec/Observe` pass over, and silence: once an identity has
left the table its callback is not invoked.
-/
namespace CoapVerif.Lemmas.Observe
open CoapVerif.Model.Observe
open CoapVerif.Generated.Observe (okCodes)
open CoapVerif.Spec.Observe (Obs judgeFresh judgeOwnToken judgeSilent judgeSilentF)

theorem lookup_some {t : List Entry} {tok : Nat} {e : Entry} (h : lookup t tok = some e) : e ∈ t ∧ e.tok = tok :=
  KeyedList.find?_some Entry.tok h

theorem lookup_none {t : List Entry} {tok : Nat} (h : lookup t tok = none) : ∀ e ∈ t, e.tok ≠ tok :=
  KeyedList.find?_none Entry.tok h

theorem mem_remove {t : List Entry} {tok : Nat} {e : Entry} : e ∈ remove t tok ↔ e ∈ t ∧ e.tok ≠ tok := by
  unfold remove; simp [List.mem_filter]

theorem remove_of_lookup_none {t : List Entry} {tok : Nat} (h : lookup t tok = none) : remove t tok = t :=
  KeyedList.filter_ne_of_find?_none Entry.tok h

theorem upd_tok (e : Entry) (tok : Nat) (st : ObsState) :
    (if e.tok == tok then { e with st := st } else e).tok = e.tok := by split <;> rfl

theorem upd_id (e : Entry) (tok : Nat) (st : ObsState) :
    (if e.tok == tok then { e with st := st } else e).id = e.id := by split <;> rfl

theorem forall_update {P : Nat → Nat → Prop} {t : List Entry} (h : ∀ e ∈ t, P e.id e.tok) (tok : Nat) (st : ObsState) :
    ∀ e ∈ update t tok st, P e.id e.tok := by
  intro e' he'
  obtain ⟨a, ha, rfl⟩ := List.mem_map.mp he'
  rw [upd_id, upd_tok]
  exact h a ha

theorem mem_update_of_nodup {t : List Entry} (hn : (t.map Entry.tok).Nodup) {e e' : Entry} (hmem : e ∈ t) {st : ObsState}
    (h : e' ∈ update t e.tok st) : e' = { e with st := st } ∨ (e' ∈ t ∧ e' ≠ e) := by
  obtain ⟨a, ha, rfl⟩ := List.mem_map.mp h
  by_cases c : a.tok = e.tok
  · rw [if_pos (beq_iff_eq.mpr c), KeyedList.eq_of_key_eq Entry.tok hn ha hmem c]
    exact .inl rfl
  · rw [if_neg (mt beq_iff_eq.mp c)]
    exact .inr ⟨ha, fun h => c (h ▸ rfl)⟩

theorem lookup_remove (t : List Entry) (tok tok' : Nat) :
    lookup (remove t tok) tok' = if tok' = tok then none else lookup t tok' :=
  KeyedList.find?_remove Entry.tok t tok tok'

theorem lookup_update (t : List Entry) (tok : Nat) (st : ObsState) (tok' : Nat) :
    lookup (update t tok st) tok' = (lookup t tok').map fun e => if e.tok == tok then { e with st := st } else e :=
  KeyedList.find?_map Entry.tok t _ (fun e => upd_tok e tok st) tok'

theorem lookup_append_other (t : List Entry) {e : Entry} {tok' : Nat} (h : e.tok ≠ tok') :
    lookup (t ++ [e]) tok' = lookup t tok' :=
  KeyedList.find?_append_other Entry.tok t h

theorem lookup_append_new {t : List Entry} {e : Entry} (h : lookup t e.tok = none) : lookup (t ++ [e]) e.tok = some e :=
  KeyedList.find?_append_new Entry.tok rfl h

theorem isRun : Run.IsRun step run := ⟨fun _ => rfl, fun _ _ _ => rfl⟩

/-- The outputs that neither `judgeFresh` nor `judgeOwnToken` reacts to (`not_isCb_of_quiet`, `judgeOwnToken_skip`):
    all but a callback invocation and, for `judgeOwnToken`, the entry of a registration. -/
def quiet : Obs → Bool
  | .cb .. | .registered .. => false
  | _ => true

structure Refused (s : State) (ev : Ev) (tok : Nat) : Prop where
  ev_eq : ev = .reg tok
  taken : lookup s.table tok ≠ none
  step_eq : step s ev = (⟨s.table, s.sigs, s.nextId + 1⟩, [.regErr s.nextId])

structure Entered (s : State) (ev : Ev) (tok : Nat) : Prop where
  ev_eq : ev = .reg tok
  free : lookup s.table tok = none
  step_eq : step s ev = (⟨s.table ++ [⟨tok, s.nextId, {}⟩], s.sigs, s.nextId + 1⟩, [.registered s.nextId tok])

structure Handled (s : State) (ev : Ev) (e : Entry) (code : Nat) (seq : Option Nat) (now : Int) (tag : Nat)
    (sg : List Sig) : Prop where
  ev_eq : ev = .arrive e.tok code seq now tag
  mem : e ∈ s.table
  step_eq : step s ev = (⟨update s.table e.tok (wantBeNotified { e.st with waiting := false } seq now).2, sg, s.nextId⟩,
    if (wantBeNotified { e.st with waiting := false } seq now).1 then [.cb e.id e.tok seq now tag] else [])

/-- Whether or not something was stored under the token (`remove` then leaves the table as it is); a `regDone` only if it
    fails or reports not-supported. -/
structure Removed (s : State) (ev : Ev) (tok id : Nat) (sg : List Sig) (out : List Obs) : Prop where
  ev_eq : ev = .regDone tok id ∨ ev = .regAbort tok id ∨ ev = .cancel tok id
  step_eq : step s ev = (⟨remove s.table tok, sg, s.nextId⟩, out)
  out_quiet : out.all quiet = true
  of_cancelled : ∀ i, .cancelled i ∈ out → ∃ e, lookup s.table tok = some e ∧ e.id = i
  of_regErr : ∀ i, .regErr i ∈ out → i = id

/-- An `arrive` without entry, a `regDone` without signal or a `regDone` that succeeds. -/
structure Idle (s : State) (ev : Ev) (sg : List Sig) (out : List Obs) : Prop where
  ev_eq : (∃ tok code seq now tag, ev = .arrive tok code seq now tag) ∨ ∃ tok id, ev = .regDone tok id
  step_eq : step s ev = (⟨s.table, sg, s.nextId⟩, out)
  out_quiet : out.all quiet = true
  no_cancelled : ∀ i, .cancelled i ∉ out
  no_regErr : ∀ i, .regErr i ∉ out

/-- The shapes of a step.  Explicit is the token or entry a shape turns on; the rest of its data is implicit, all facts are
    fields of `c`. -/
inductive StepCase (s : State) (ev : Ev) : Prop
  | refused (tok : Nat) (c : Refused s ev tok)
  | entered (tok : Nat) (c : Entered s ev tok)
  | handled (e : Entry) {code : Nat} {seq : Option Nat} {now : Int} {tag : Nat} {sg : List Sig}
      (c : Handled s ev e code seq now tag sg)
  | removed (tok : Nat) {id : Nat} {sg : List Sig} {out : List Obs} (c : Removed s ev tok id sg out)
  | idle {sg : List Sig} {out : List Obs} (c : Idle s ev sg out)

/-- The outputs of a clean-up: the reports `pre` about the call of `id`, then `cancelled` for what was `found` under the
    token. -/
theorem cleanup_out {pre : List Obs} {id : Nat} (hq : pre.all quiet = true) (hn : ∀ i, .cancelled i ∉ pre)
    (hr : ∀ i, .regErr i ∈ pre → i = id) (found : Option Entry) :
    let out := pre ++ match found with | some e => [Obs.cancelled e.id] | none => []
    out.all quiet = true ∧ (∀ i, .cancelled i ∈ out → ∃ e, found = some e ∧ e.id = i) ∧ ∀ i, .regErr i ∈ out → i = id := by
  cases found with
  | none => rw [List.append_nil]; exact ⟨hq, fun i h => absurd h (hn i), hr⟩
  | some e =>
    refine ⟨by rw [List.all_append, hq]; rfl, fun i h => ⟨e, rfl, ?_⟩, fun i h => ?_⟩
    · rcases List.mem_append.mp h with h | h
      · exact absurd h (hn i)
      · exact (Obs.cancelled.inj (List.mem_singleton.mp h)).symm
    · rcases List.mem_append.mp h with h | h
      · exact hr i h
      · exact Obs.noConfusion (List.mem_singleton.mp h)

theorem step_regAbort (s : State) (tok id : Nat) : step s (.regAbort tok id) = (⟨remove s.table tok, s.sigs, s.nextId⟩,
    .regErr id :: match lookup s.table tok with | some e => [.cancelled e.id] | none => []) := by
  cases hl : lookup s.table tok with
  | none => simp only [step, hl, remove_of_lookup_none hl]
  | some e => simp only [step, hl]

theorem step_cancel (s : State) (tok id : Nat) : step s (.cancel tok id) = (⟨remove s.table tok, s.sigs, s.nextId⟩,
    match lookup s.table tok with | some e => [.cancelled e.id] | none => []) := by
  cases hl : lookup s.table tok with
  | none => simp only [step, hl, remove_of_lookup_none hl]
  | some e => simp only [step, hl]

theorem step_cases (s : State) (ev : Ev) : StepCase s ev := by
  have one : ∀ {a o : Obs}, o ∈ [a] → o = a := List.mem_singleton.mp
  have err := fun id => cleanup_out (pre := [.regErr id]) (id := id) rfl (fun _ h => Obs.noConfusion (one h))
    (fun _ h => Obs.regErr.inj (one h))
  have ok := fun id => cleanup_out (pre := [.regOk id]) (id := id) rfl (fun _ h => Obs.noConfusion (one h))
    (fun _ h => Obs.noConfusion (one h))
  cases ev with
  | reg tok =>
    cases hl : lookup s.table tok with
    | some e => exact .refused tok ⟨rfl, by rw [hl]; nofun, by simp only [step, hl]⟩
    | none => exact .entered tok ⟨rfl, hl, by simp only [step, hl]⟩
  | arrive tok code seq now tag =>
    cases hl : lookup s.table tok with
    | none =>
      exact .idle (sg := s.sigs) (out := [.toDefault tok tag]) ⟨.inl ⟨_, _, _, _, _, rfl⟩, by simp only [step, hl], rfl,
        fun _ h => Obs.noConfusion (one h), fun _ h => Obs.noConfusion (one h)⟩
    | some e =>
      obtain ⟨hm, rfl⟩ := lookup_some hl
      exact .handled e ⟨rfl, hm, by simp only [step, hl]; rfl⟩
  | regDone tok id =>
    cases hf : s.sigs.find? (fun g => g.id == id) with
    | none =>
      exact .idle (sg := s.sigs) (out := []) ⟨.inr ⟨_, _, rfl⟩, by simp only [step, hf], rfl, fun _ => List.not_mem_nil,
        fun _ => List.not_mem_nil⟩
    | some g =>
      by_cases hc : (!okCodes.contains g.code) = true
      · obtain ⟨hq, hc', hr⟩ := err id (lookup s.table tok)
        exact .removed tok ⟨.inl rfl, by simp only [step, hf, if_pos hc]; rfl, hq, hc', hr⟩
      · by_cases hn : g.notSupported = true
        · obtain ⟨hq, hc', hr⟩ := ok id (lookup s.table tok)
          exact .removed tok ⟨.inl rfl, by simp only [step, hf, if_neg hc, if_pos hn]; rfl, hq, hc', hr⟩
        · exact .idle (out := [.regOk id]) ⟨.inr ⟨_, _, rfl⟩, by simp only [step, hf, if_neg hc, if_neg hn]; rfl, rfl,
            fun _ h => Obs.noConfusion (one h), fun _ h => Obs.noConfusion (one h)⟩
  | regAbort tok id =>
    obtain ⟨hq, hc, hr⟩ := err id (lookup s.table tok)
    exact .removed tok ⟨.inr (.inl rfl), step_regAbort s tok id, hq, hc, hr⟩
  | cancel tok id =>
    obtain ⟨hq, hc, hr⟩ := cleanup_out (pre := []) (id := id) rfl (fun _ => List.not_mem_nil)
      (fun _ h => absurd h List.not_mem_nil) (lookup s.table tok)
    exact .removed tok ⟨.inr (.inr rfl), step_cancel s tok id, hq, hc, hr⟩

structure Inv (s : State) : Prop where
  toks : (s.table.map Entry.tok).Nodup
  ids : (s.table.map Entry.id).Nodup
  idLt : ∀ e ∈ s.table, e.id < s.nextId

theorem inv_init : Inv {} := ⟨.nil, .nil, nofun⟩

theorem inv_remove {s : State} (h : Inv s) (tok : Nat) (sigs : List Sig) :
    Inv { s with table := remove s.table tok, sigs := sigs } :=
  ⟨h.toks.sublist (List.filter_sublist.map _), h.ids.sublist (List.filter_sublist.map _),
    fun e he => h.idLt e (mem_remove.mp he).1⟩

theorem inv_update {s : State} (h : Inv s) (tok : Nat) (st : ObsState) (sigs : List Sig) :
    Inv { s with table := update s.table tok st, sigs := sigs } :=
  ⟨KeyedList.nodup_map Entry.tok (upd_tok · tok st) h.toks,
    KeyedList.nodup_map Entry.id (upd_id · tok st) h.ids,
    forall_update (P := fun i _ => i < s.nextId) h.idLt tok st⟩

theorem step_inv (s : State) (ev : Ev) (h : Inv s) : Inv (step s ev).1 := by
  rcases step_cases s ev with ⟨_, c⟩ | ⟨_, c⟩ | ⟨_, c⟩ | ⟨_, c⟩ | ⟨c⟩
  · rw [c.step_eq]; exact ⟨h.toks, h.ids, fun e he => Nat.lt_succ_of_lt (h.idLt e he)⟩
  · rw [c.step_eq]
    -- the new entry is alone under its token, and its identity was never issued
    exact ⟨KeyedList.nodup_append_one Entry.tok h.toks (lookup_none c.free),
      KeyedList.nodup_append_one Entry.id h.ids fun e he => Nat.ne_of_lt (h.idLt e he),
      KeyedList.forall_mem_append_one (fun e he => Nat.lt_succ_of_lt (h.idLt e he)) (Nat.lt_succ_self _)⟩
  · rw [c.step_eq]; exact inv_update h _ _ _
  · rw [c.step_eq]; exact inv_remove h _ _
  · rw [c.step_eq]; exact ⟨h.toks, h.ids, h.idLt⟩

/-- `id` has left the table for good: no entry carries it, and it was issued (identities are never reused). -/
structure Gone (s : State) (id : Nat) : Prop where
  absent : ∀ e ∈ s.table, e.id ≠ id
  issued : id < s.nextId

theorem gone_remove {s : State} {id : Nat} (h : Gone s id) (tok : Nat) (sg : List Sig) :
    Gone { s with table := remove s.table tok, sigs := sg } id :=
  ⟨fun e he => h.absent e (mem_remove.mp he).1, h.issued⟩

theorem gone_of_removed {s : State} {e : Entry} (hinv : Inv s) (hmem : e ∈ s.table) (sg : List Sig) :
    Gone { s with table := remove s.table e.tok, sigs := sg } e.id := by
  refine ⟨fun e' he' hid' => ?_, hinv.idLt e hmem⟩
  obtain ⟨hm, hne⟩ := mem_remove.mp he'
  exact hne (congrArg Entry.tok (KeyedList.eq_of_key_eq Entry.id hinv.ids hm hmem hid'))

def isCb (id : Nat) : Obs → Bool
  | .cb i _ _ _ _ => i == id
  | _ => false

theorem not_isCb_of_quiet {l : List Obs} (h : l.all quiet = true) (id : Nat) : l.all (fun o => !isCb id o) = true :=
  List.all_eq_true.mpr fun o ho => by
    have := List.all_eq_true.mp h o ho
    cases o <;> first | rfl | exact absurd this Bool.false_ne_true

/-- The output of a `Handled` step (`Handled.step_eq`) for an entry that is not `id`'s. -/
theorem not_isCb_other {i id : Nat} (h : i ≠ id) (w : Bool) (tok : Nat) (seq : Option Nat) (now : Int) (tag : Nat) :
    (if w = true then [Obs.cb i tok seq now tag] else []).all (fun o => !isCb id o) = true := by
  cases w
  · rfl
  · show (!(i == id) && true) = true
    rw [beq_false_of_ne h]
    rfl

theorem judgeFresh_skip (id : Nat) (prev : Option (Nat × Int)) (a b : List Obs)
    (h : a.all (fun o => !isCb id o) = true) : judgeFresh id prev (a ++ b) = judgeFresh id prev b := by
  induction a with
  | nil => rfl
  | cons o a ih =>
    obtain ⟨ho, ha⟩ := (Bool.and_eq_true _ _).mp (List.all_cons ▸ h)
    cases o with
    | cb i tok s t tag =>
      have : i ≠ id := by simpa [isCb] using ho
      simp only [List.cons_append, judgeFresh, if_neg this]
      exact ih ha
    | _ => exact ih ha

theorem judgeOwnToken_skip (regs : List (Nat × Nat)) {a : List Obs} (b : List Obs) (h : a.all quiet = true) :
    judgeOwnToken regs (a ++ b) = judgeOwnToken regs b := by
  induction a with
  | nil => rfl
  | cons o a ih =>
    obtain ⟨ho, ha⟩ := (Bool.and_eq_true _ _).mp (List.all_cons ▸ h)
    cases o <;> first | exact ih ha | exact absurd ho Bool.false_ne_true

/-- The common form of the silence judges `judgeSilent` and `judgeSilentF` (`judgeSilent_eq`, `judgeSilentF_eq`), which
    differ in the outputs `mark` that report the end of registration `id`: none of them is followed by an invocation of
    `id`'s callback. -/
def silentBy (mark : Obs → Bool) (id : Nat) : Bool → List Obs → Bool
  | _, [] => true
  | gone, o :: r => !(gone && isCb id o) && silentBy mark id (gone || mark o) r

theorem silentBy_of_no_cb {mark : Obs → Bool} {id : Nat} {a : List Obs} (h : a.all (fun o => !isCb id o) = true) :
    ∀ gone, silentBy mark id gone a = true := by
  induction a with
  | nil => intro _; rfl
  | cons o a ih =>
    intro gone
    obtain ⟨ho, ha⟩ := (Bool.and_eq_true _ _).mp (List.all_cons ▸ h)
    rw [silentBy, (Bool.not_eq_true' _).mp ho, Bool.and_false]
    exact ih ha _

theorem silentBy_append (mark : Obs → Bool) (id : Nat) (a b : List Obs) : ∀ gone,
    silentBy mark id gone (a ++ b) = (silentBy mark id gone a && silentBy mark id (gone || a.any mark) b) := by
  induction a with
  | nil => intro gone; simp [silentBy]
  | cons o a ih => intro gone; simp only [List.cons_append, silentBy, ih, List.any_cons, Bool.and_assoc, Bool.or_assoc]

/-- The `mark` of the two judges: the clean-up of `id` and, with `withErr` (`judgeSilentF`), the failure of its call. -/
def ends (withErr : Bool) (id : Nat) : Obs → Bool
  | .cancelled i => i == id
  | .regErr i => withErr && i == id
  | _ => false

theorem ends_true {withErr : Bool} {id : Nat} {o : Obs} (h : ends withErr id o = true) :
    o = .cancelled id ∨ (withErr = true ∧ o = .regErr id) := by
  cases o <;> simp_all [ends]

theorem judgeSilent_eq (id : Nat) (l : List Obs) : ∀ gone, judgeSilent id gone l = silentBy (ends false id) id gone l := by
  induction l with
  | nil => intro _; rfl
  | cons o l ih => intro gone; cases o <;> simp [judgeSilent, silentBy, isCb, ends, ih]

theorem judgeSilentF_eq (id : Nat) (l : List Obs) : ∀ gone, judgeSilentF id gone l = silentBy (ends true id) id gone l := by
  induction l with
  | nil => intro _; rfl
  | cons o l ih => intro gone; cases o <;> simp [judgeSilentF, silentBy, isCb, ends, ih]

/-- What `run_silentBy` needs of one step.  The last part holds because `id`'s callback is invoked only by a `Handled` step
    on `id`'s own entry: `id` is then not `Gone`, and the output is that one invocation. -/
theorem step_silent {s : State} (hinv : Inv s) (id : Nat) (ev : Ev) :
    (Gone s id → Gone (step s ev).1 id) ∧
    (Obs.cancelled id ∈ (step s ev).2 → Gone (step s ev).1 id) ∧
    ∀ mark gone, (gone = true → Gone s id) → silentBy mark id gone (step s ev).2 = true := by
  -- the third part for an output without `id`'s callback; it does not need the hypothesis on `gone`
  have silent {l : List Obs} (h : l.all (fun o => !isCb id o) = true) (mark gone) (_ : gone = true → Gone s id) :
      silentBy mark id gone l = true := silentBy_of_no_cb h gone
  rcases step_cases s ev with ⟨_, c⟩ | ⟨_, c⟩ | ⟨e, c⟩ | ⟨_, c⟩ | ⟨c⟩
  · rw [c.step_eq]
    exact ⟨fun h => ⟨h.absent, Nat.lt_succ_of_lt h.issued⟩, fun h => Obs.noConfusion (List.mem_singleton.mp h), silent rfl⟩
  · rw [c.step_eq]
    exact ⟨fun h => ⟨KeyedList.forall_mem_append_one h.absent (Nat.ne_of_gt h.issued), Nat.lt_succ_of_lt h.issued⟩,
      fun h => Obs.noConfusion (List.mem_singleton.mp h), silent rfl⟩
  · rw [c.step_eq]
    refine ⟨fun h => ⟨forall_update (P := fun i _ => i ≠ id) h.absent _ _, h.issued⟩, fun h => ?_, ?_⟩
    · split at h
      · exact Obs.noConfusion (List.mem_singleton.mp h)
      · exact absurd h List.not_mem_nil
    · by_cases hid : e.id = id
      · intro mark gone hg
        -- `id` is in the table, so not gone, and `silentBy` then accepts any single output
        have : gone = false := Bool.eq_false_iff.mpr fun hgt => (hg hgt).absent e c.mem hid
        rw [this]
        split <;> rfl
      · exact silent (not_isCb_other hid ..)
  · rw [c.step_eq]
    refine ⟨fun h => gone_remove h _ _, fun h => ?_, silent (not_isCb_of_quiet c.out_quiet id)⟩
    obtain ⟨e, hl, rfl⟩ := c.of_cancelled id h
    obtain ⟨hmem, rfl⟩ := lookup_some hl
    exact gone_of_removed hinv hmem _
  · rw [c.step_eq]
    exact ⟨fun h => ⟨h.absent, h.issued⟩, fun h => absurd h (c.no_cancelled id), silent (not_isCb_of_quiet c.out_quiet id)⟩

/-- Silence of every history, from an invariant `I` of the steps under which every marked output is one of a step that
    leaves `id` `Gone`; for `cancelled id` that is `step_silent`, so `hI` need not show it.  `I` also sees the events still
    to come: `Props/C08.consistent`, under which `regErr id` ends `id`, is a condition on them. -/
theorem run_silentBy {mark : Obs → Bool} {id : Nat} {I : State → List Ev → Prop}
    (hI : ∀ s ev evs, I s (ev :: evs) → I (step s ev).1 evs ∧ Inv s ∧
      ∀ o ∈ (step s ev).2, mark o = true → o ≠ .cancelled id → Gone (step s ev).1 id) :
    ∀ (evs : List Ev) (s : State) (gone : Bool), I s evs → (gone = true → Gone s id) →
      silentBy mark id gone (run s evs).2 = true := by
  intro evs
  induction evs with
  | nil => intro s gone _ _; rfl
  | cons ev evs ih =>
    intro s gone h hg
    obtain ⟨h', hinv, hm⟩ := hI s ev evs h
    obtain ⟨hgone, hcanc, hsil⟩ := step_silent hinv id ev
    rw [isRun.cons, silentBy_append, Bool.and_eq_true]
    refine ⟨hsil mark gone hg, ih _ _ h' fun hgt => ?_⟩
    rcases (Bool.or_eq_true _ _).mp hgt with hgt | hgt
    · exact hgone (hg hgt)
    · obtain ⟨o, ho, hmo⟩ := List.any_eq_true.mp hgt
      by_cases hc : o = .cancelled id
      · exact hcanc (hc ▸ ho)
      · exact hm o ho hmo hc

end CoapVerif.Lemmas.Observe
