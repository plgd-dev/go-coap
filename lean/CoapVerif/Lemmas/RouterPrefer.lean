import CoapVerif.Model.Router
import CoapVerif.Lemmas.RouterPreferSpec
/-!
# C17 lemmas — the backtracking search returns its results in ORDER OF PREFERENCE

`msT` is the model's matcher `ms` (on translated patterns) with every result labelled by the parse tree of the choices
that led to it.  Forgetting the labels gives `ms` back (`msT_snd`); the labelled list is

* sound and complete for `Spec.Router.IsParse` (`msT_sound`, `msT_complete`), and
* strictly decreasing for `Spec.Router.Better` (`msT_sorted`): an earlier result is preferred to every later one.

Forgetting the trees as well: `ms` on a translated pattern consumes exactly the words of `Lang` (`mem_ms_toRe`).
-/
namespace CoapVerif.Lemmas.Router
open CoapVerif.Model.Router
open CoapVerif.Spec.Router hiding byteLen

def starAuxT (f : St → List (PTree × St)) (greedy : Bool) : Nat → St → List (PTree × St)
  | 0, σ => [(.nil, σ)]
  | n + 1, σ =>
    let iter := ((f σ).filter (fun tσ => tσ.2.rem.length < σ.rem.length)).flatMap
      (fun tσ => (starAuxT f greedy n tσ.2).map (fun r => (PTree.cons tσ.1 r.1, r.2)))
    if greedy then iter ++ [(.nil, σ)] else (.nil, σ) :: iter

def msT : Pat → St → List (PTree × St)
  | .eps, σ => [(.leaf, σ)]
  | .chr c, σ =>
    match σ.rem with
    | [] => []
    | d :: t => if d = c then [(.leaf, ⟨σ.pos + 1, t, σ.caps⟩)] else []
  | .cls n items, σ =>
    match σ.rem with
    | [] => []
    | d :: t => if clsHas n items d then [(.leaf, ⟨σ.pos + 1, t, σ.caps⟩)] else []
  | .cat a b, σ => (msT a σ).flatMap (fun tσ => (msT b tσ.2).map (fun r => (PTree.pair tσ.1 r.1, r.2)))
  | .alt a b, σ => (msT a σ).map (fun r => (PTree.inl r.1, r.2)) ++ (msT b σ).map (fun r => (PTree.inr r.1, r.2))
  | .star a g, σ => starAuxT (msT a) g σ.rem.length σ

theorem starAuxT_snd (f : St → List St) (fT : St → List (PTree × St)) (g : Bool)
    (h : ∀ σ, (fT σ).map (·.2) = f σ) : ∀ n σ, (starAuxT fT g n σ).map (·.2) = starAux f g n σ := by
  intro n
  induction n with
  | zero => intro σ; rfl
  | succ n ih =>
    intro σ
    have hiter : (((fT σ).filter (fun tσ => tσ.2.rem.length < σ.rem.length)).flatMap
        (fun tσ => (starAuxT fT g n tσ.2).map (fun r => (PTree.cons tσ.1 r.1, r.2)))).map (·.2) =
        ((f σ).filter (fun σ' => σ'.rem.length < σ.rem.length)).flatMap (starAux f g n) := by
      rw [← h σ, List.filter_map, List.flatMap_map, List.map_flatMap]
      congr 1
      funext tσ
      rw [List.map_map]
      exact ih tσ.2
    cases g with
    | true => simp only [starAuxT, starAux, if_true, List.map_append, hiter, List.map_cons, List.map_nil]
    | false => simp only [starAuxT, starAux, Bool.false_eq_true, if_false, List.map_cons, hiter]

theorem msT_snd (p : Pat) : ∀ σ, (msT p σ).map (·.2) = ms p.toRe σ := by
  induction p with
  | eps => intro σ; rfl
  | chr c =>
    intro σ
    simp only [msT, Pat.toRe, ms]
    cases σ.rem with
    | nil => rfl
    | cons d t => by_cases hd : d = c <;> simp [hd]
  | cls n it =>
    intro σ
    simp only [msT, Pat.toRe, ms]
    cases σ.rem with
    | nil => rfl
    | cons d t => by_cases hd : clsHas n it d = true <;> simp [hd]
  | cat a b iha ihb =>
    intro σ
    simp only [msT, Pat.toRe, ms]
    rw [← iha σ, List.flatMap_map, List.map_flatMap]
    congr 1
    funext tσ
    rw [List.map_map]
    exact ihb tσ.2
  | alt a b iha ihb =>
    intro σ
    simp only [msT, Pat.toRe, ms, List.map_append, List.map_map]
    rw [← iha σ, ← ihb σ]
    rfl
  | star a g iha =>
    intro σ
    simp only [msT, Pat.toRe, ms]
    exact starAuxT_snd (ms a.toRe) (msT a) g iha _ σ

/-- `σ` after it has read `w`, with `rest` left: the function form of `St.Reads`, in which completeness names the result it finds -/
def St.adv (σ : St) (w rest : Str) : St := ⟨σ.pos + w.length, rest, σ.caps⟩

theorem St.adv_adv (σ : St) (u v r rest : Str) : St.adv (St.adv σ u r) v rest = St.adv σ (u ++ v) rest := by
  simp only [St.adv, List.length_append, Nat.add_assoc]

/-- `σ'` is `σ` after reading `w` (position advanced, captures untouched): the relation form of `St.adv`, which soundness yields
    field by field -/
structure St.Reads (σ : St) (w : Str) (σ' : St) : Prop where
  rem : σ.rem = w ++ σ'.rem
  pos : σ'.pos = σ.pos + w.length
  caps : σ'.caps = σ.caps

theorem St.Reads.append {σ σ1 σ2 : St} {u v : Str} (h1 : St.Reads σ u σ1) (h2 : St.Reads σ1 v σ2) : St.Reads σ (u ++ v) σ2 :=
  ⟨by rw [h1.rem, h2.rem, List.append_assoc], by rw [h2.pos, h1.pos, List.length_append, Nat.add_assoc],
    by rw [h2.caps, h1.caps]⟩

def ConsumesT (p : Pat) (σ : St) (r : PTree × St) : Prop := ∃ w, IsParse p r.1 w ∧ St.Reads σ w r.2

theorem mem_starAuxT_succ (f : St → List (PTree × St)) (g : Bool) (n : Nat) (σ : St) (r : PTree × St) :
    r ∈ starAuxT f g (n + 1) σ ↔ r = (.nil, σ) ∨
      ∃ tσ ∈ f σ, tσ.2.rem.length < σ.rem.length ∧ ∃ r' ∈ starAuxT f g n tσ.2, (.cons tσ.1 r'.1, r'.2) = r := by
  cases g
  · simp only [starAuxT, Bool.false_eq_true, if_false, List.mem_cons, List.mem_flatMap, List.mem_filter, List.mem_map,
      decide_eq_true_eq, and_assoc]
  · simp only [starAuxT, if_true, List.mem_append, List.mem_singleton, List.mem_flatMap, List.mem_filter, List.mem_map,
      decide_eq_true_eq, and_assoc, or_comm]

theorem starAuxT_sound (f : St → List (PTree × St)) (a : Pat) (g : Bool)
    (hf : ∀ σ r, r ∈ f σ → ConsumesT a σ r) :
    ∀ n σ r, r ∈ starAuxT f g n σ → ConsumesT (.star a g) σ r := by
  intro n
  induction n with
  | zero =>
    intro σ r h
    cases List.mem_singleton.1 h
    exact ⟨[], .starNil, rfl, rfl, rfl⟩
  | succ n ih =>
    intro σ r h
    rcases (mem_starAuxT_succ f g n σ r).1 h with rfl | ⟨r1, h1, hlt, r2, h2, rfl⟩
    · exact ⟨[], .starNil, rfl, rfl, rfl⟩
    · obtain ⟨u, hu, hr⟩ := hf σ r1 h1
      obtain ⟨v, hv, hr2⟩ := ih r1.2 r2 h2
      -- a round that leaves less to read has read something
      have hne : u ≠ [] := by
        rintro rfl
        rw [hr.rem] at hlt
        exact Nat.lt_irrefl _ hlt
      exact ⟨u ++ v, .starCons hu hne hv, hr.append hr2⟩

theorem msT_sound (p : Pat) : ∀ σ r, r ∈ msT p σ → ConsumesT p σ r := by
  induction p with
  | eps =>
    intro σ r h
    simp only [msT, List.mem_singleton] at h
    subst h
    exact ⟨[], .eps, rfl, rfl, rfl⟩
  | chr c =>
    intro σ r h
    simp only [msT] at h
    cases hr : σ.rem with
    | nil => rw [hr] at h; simp at h
    | cons d t =>
      rw [hr] at h
      by_cases hd : d = c
      · simp only [hd, if_true, List.mem_singleton] at h
        subst h
        exact ⟨[c], .chr c, by rw [hr, hd]; rfl, rfl, rfl⟩
      · simp [hd] at h
  | cls n it =>
    intro σ r h
    simp only [msT] at h
    cases hr : σ.rem with
    | nil => rw [hr] at h; simp at h
    | cons d t =>
      rw [hr] at h
      by_cases hd : clsHas n it d = true
      · simp only [hd, if_true, List.mem_singleton] at h
        subst h
        exact ⟨[d], .cls n it d hd, by rw [hr]; rfl, rfl, rfl⟩
      · simp [hd] at h
  | cat a b iha ihb =>
    intro σ r h
    simp only [msT, List.mem_flatMap, List.mem_map] at h
    obtain ⟨r1, h1, r2, h2, rfl⟩ := h
    obtain ⟨u, hu, hr⟩ := iha σ r1 h1
    obtain ⟨v, hv, hr2⟩ := ihb r1.2 r2 h2
    exact ⟨u ++ v, .cat hu hv, hr.append hr2⟩
  | alt a b iha ihb =>
    intro σ r h
    simp only [msT, List.mem_append, List.mem_map] at h
    rcases h with ⟨r1, h1, rfl⟩ | ⟨r1, h1, rfl⟩
    · obtain ⟨w, hw, rest⟩ := iha σ r1 h1
      exact ⟨w, .altL hw, rest⟩
    · obtain ⟨w, hw, rest⟩ := ihb σ r1 h1
      exact ⟨w, .altR hw, rest⟩
  | star a g iha =>
    intro σ r h
    simp only [msT] at h
    exact starAuxT_sound (msT a) a g iha _ σ r h

theorem starAuxT_complete (f : St → List (PTree × St)) (a : Pat) (g : Bool)
    (hf : ∀ t w, IsParse a t w → ∀ σ rest, σ.rem = w ++ rest → (t, St.adv σ w rest) ∈ f σ) :
    ∀ n t w, IsParse (.star a g) t w → ∀ σ rest, σ.rem = w ++ rest → σ.rem.length ≤ n →
      (t, St.adv σ w rest) ∈ starAuxT f g n σ := by
  intro n
  induction n with
  | zero =>
    intro t w hw σ rest hrem hn
    cases hw with
    | starNil => cases σ; cases hrem; exact List.mem_singleton.2 rfl
    | starCons _ hne _ =>
      rw [hrem] at hn
      simp only [List.length_append, Nat.le_zero, Nat.add_eq_zero_iff, List.length_eq_zero_iff] at hn
      exact (hne hn.1.1).elim
  | succ n ih =>
    intro t w hw σ rest hrem hn
    rw [mem_starAuxT_succ]
    cases hw with
    | starNil => cases σ; cases hrem; exact .inl rfl
    | @starCons _ _ x xs u v hu hne hv =>
      have hpos := List.length_pos_iff.2 hne
      rw [List.append_assoc] at hrem
      rw [hrem] at hn
      simp only [List.length_append] at hn
      refine .inr ⟨_, hf x u hu σ (v ++ rest) hrem, ?_, _, ih xs v hv _ rest rfl ?_, ?_⟩
      · simp only [St.adv, hrem, List.length_append]
        omega
      · simp only [St.adv, List.length_append]; omega
      · rw [St.adv_adv]

theorem msT_complete {p : Pat} {t : PTree} {w rest : Str} (h : IsParse p t w) {σ : St} (hrem : σ.rem = w ++ rest) :
    (t, St.adv σ w rest) ∈ msT p σ := by
  induction p generalizing t w rest σ with
  | eps =>
    cases h; cases σ; cases hrem
    simp [msT, St.adv]
  | chr c =>
    cases h
    simp [msT, St.adv, hrem]
  | cls n it =>
    cases h with
    | cls _ _ c hc => simp [msT, St.adv, hrem, hc]
  | cat a b iha ihb =>
    cases h with
    | @cat _ _ x y u v hu hv =>
      rw [List.append_assoc] at hrem
      simp only [msT, List.mem_flatMap, List.mem_map]
      exact ⟨_, iha hu hrem, _, ihb hv rfl, by rw [St.adv_adv]⟩
  | alt a b iha ihb =>
    simp only [msT, List.mem_append, List.mem_map]
    cases h with
    | altL h => exact .inl ⟨_, iha h hrem, rfl⟩
    | altR h => exact .inr ⟨_, ihb h hrem, rfl⟩
  | star a g iha =>
    exact starAuxT_complete (msT a) a g (fun _ _ h _ _ hrem => iha h hrem) _ t w h σ rest hrem (Nat.le_refl _)

theorem starAuxT_sorted (f : St → List (PTree × St)) (a : Pat) (g : Bool)
    (hs : ∀ σ, (f σ).Pairwise (fun x y => Better a x.1 y.1)) :
    ∀ n σ, (starAuxT f g n σ).Pairwise (fun x y => Better (.star a g) x.1 y.1) := by
  intro n
  induction n with
  | zero => intro σ; simp [starAuxT]
  | succ n ih =>
    intro σ
    have hiter : (((f σ).filter (fun tσ => tσ.2.rem.length < σ.rem.length)).flatMap
        (fun tσ => (starAuxT f g n tσ.2).map (fun r => (PTree.cons tσ.1 r.1, r.2)))).Pairwise
        (fun x y => Better (.star a g) x.1 y.1) := by
      rw [List.pairwise_flatMap]
      refine ⟨?_, ?_⟩
      · intro tσ _
        rw [List.pairwise_map]
        exact (ih tσ.2).imp (fun h => Better.starT h)
      · refine ((hs σ).filter _).imp ?_
        intro r1 r2 hb x hx y hy
        rw [List.mem_map] at hx hy
        obtain ⟨_, _, rfl⟩ := hx
        obtain ⟨_, _, rfl⟩ := hy
        exact Better.starH hb
    have hcons : ∀ x ∈ ((f σ).filter (fun tσ => tσ.2.rem.length < σ.rem.length)).flatMap
        (fun tσ => (starAuxT f g n tσ.2).map (fun r => (PTree.cons tσ.1 r.1, r.2))), ∃ u us, x.1 = PTree.cons u us := by
      intro x hx
      rw [List.mem_flatMap] at hx
      obtain ⟨r1, _, h2⟩ := hx
      rw [List.mem_map] at h2
      obtain ⟨r2, _, rfl⟩ := h2
      exact ⟨_, _, rfl⟩
    cases g with
    | true =>
      simp only [starAuxT, if_true]
      rw [List.pairwise_append]
      refine ⟨hiter, by simp, ?_⟩
      intro x hx y hy
      rw [List.mem_singleton] at hy
      subst hy
      obtain ⟨u, us, hu⟩ := hcons x hx
      rw [hu]
      exact Better.greedy
    | false =>
      simp only [starAuxT, Bool.false_eq_true, if_false]
      rw [List.pairwise_cons]
      refine ⟨?_, hiter⟩
      intro y hy
      obtain ⟨u, us, hu⟩ := hcons y hy
      rw [hu]
      exact Better.lazy

theorem msT_sorted (p : Pat) : ∀ σ, (msT p σ).Pairwise (fun x y => Better p x.1 y.1) := by
  induction p with
  | eps => intro σ; simp [msT]
  | chr c =>
    intro σ
    simp only [msT]
    cases σ.rem with
    | nil => simp
    | cons d t => by_cases hd : d = c <;> simp [hd]
  | cls n it =>
    intro σ
    simp only [msT]
    cases σ.rem with
    | nil => simp
    | cons d t => by_cases hd : clsHas n it d = true <;> simp [hd]
  | cat a b iha ihb =>
    intro σ
    simp only [msT]
    rw [List.pairwise_flatMap]
    refine ⟨?_, ?_⟩
    · intro tσ _
      rw [List.pairwise_map]
      exact (ihb tσ.2).imp (fun h => Better.catR h)
    · refine (iha σ).imp ?_
      intro r1 r2 hb x hx y hy
      rw [List.mem_map] at hx hy
      obtain ⟨_, _, rfl⟩ := hx
      obtain ⟨_, _, rfl⟩ := hy
      exact Better.catL hb
  | alt a b iha ihb =>
    intro σ
    simp only [msT]
    rw [List.pairwise_append]
    refine ⟨?_, ?_, ?_⟩
    · rw [List.pairwise_map]
      exact (iha σ).imp (fun h => Better.altL h)
    · rw [List.pairwise_map]
      exact (ihb σ).imp (fun h => Better.altR h)
    · intro x hx y hy
      rw [List.mem_map] at hx hy
      obtain ⟨_, _, rfl⟩ := hx
      obtain ⟨_, _, rfl⟩ := hy
      exact Better.altLR
  | star a g iha =>
    intro σ
    simp only [msT]
    exact starAuxT_sorted (msT a) a g iha _ σ

theorem mem_ms_toRe (p : Pat) (σ σ' : St) : σ' ∈ ms p.toRe σ ↔ ∃ w, Lang p w ∧ St.Reads σ w σ' := by
  rw [← msT_snd, List.mem_map]
  constructor
  · rintro ⟨r, hr, rfl⟩
    obtain ⟨w, hw, rest⟩ := msT_sound p σ r hr
    exact ⟨w, isParse_lang hw, rest⟩
  · rintro ⟨w, hw, h⟩
    obtain ⟨t, ht⟩ := lang_isParse hw
    refine ⟨(t, σ'), ?_, rfl⟩
    have := msT_complete ht h.rem
    rwa [St.adv, ← h.pos, ← h.caps] at this

end CoapVerif.Lemmas.Router
