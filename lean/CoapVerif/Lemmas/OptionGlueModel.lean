import CoapVerif.Model.OptionGlue
import CoapVerif.Lemmas.PoolOptionsModel
/-!
Lemmas about `Model/OptionGlue.lean` (C15): `ResponseWriter.SetResponse` refines "reset to the given options, then
Content-Format when there is a body" (`setResponse_spec`); the options an observation keeps of its registration request
are a clone whose values no history on the request message — `Reset` and reuse included — can change
(`observation_keeps`); the request builders of the generic client produce the specification's `requestOptions`
(`buildRequest_spec`).  `observationRequestItems` and `cancelRequestItems` have no lemma: they are compared with the
real code by the differential run only (`Driver/C15.lean`).
-/
namespace CoapVerif.Lemmas.OptionGlueModel
open CoapVerif.Model.Options CoapVerif.Spec.SortedMultiset CoapVerif.Lemmas.SortedMultiset
open CoapVerif.Lemmas.OptionsModel CoapVerif.Lemmas.OptionValuesModel CoapVerif.Lemmas.PoolOptionsModel
open CoapVerif.Generated.OptionList CoapVerif.Generated.OptionListShape

/-- `cf < 65536`, here and in `buildRequest_spec`: a `message.MediaType` is a `uint16`. -/
theorem setResponse_spec (g : Nat → Nat) (gb : Nat → Nat → Nat) {r : Msg} (hinv : MsgInv r) (cf : Nat) (hcf : cf < 65536)
    (hasBody : Bool) (inp : List (Opt View))
    (hext : ∀ v ∈ inp.map (·.2), InB r.mem v ∧ Below r.vb.bid r.vb.off v) :
    ∃ r', r.setResponse g gb cf hasBody inp = .ok (r', none) ∧ MsgInv r' ∧
      items r'.mem r'.opts = responseOptions cf hasBody (inp.map (fun x => (x.1, r.mem.read x.2))) := by
  obtain ⟨r1, h1, h2, _, hi1, _⟩ := msg_resetOptionsTo_spec g gb hinv inp (List.forall_mem_map.mp hext)
  unfold Msg.setResponse
  simp only [setResponseAlwaysResets, true_or, if_true, bind, Except.bind]
  rw [h1]
  simp only []
  cases hasBody with
  | false =>
    simp only [Bool.false_eq_true, if_false, pure, Except.pure]
    exact ⟨r1, rfl, h2, by rw [hi1]; simp [responseOptions]⟩
  | true =>
    simp only [if_true]
    obtain ⟨r2, e2, k1, k2, _, ⟨he2, hi2⟩, _⟩ := retry_spec gb h2 (contract_u32 true g contentFormat cf)
      (f' := fun m o b => Options.setUint32 g m o b contentFormat cf) (fun _ _ => rfl) (List.forall_mem_nil _)
    subst he2
    rw [show r1.setOptionUint32 g gb contentFormat cf = .ok (r2, none) from k1]
    refine ⟨r2, rfl, k2, ?_⟩
    rw [hi2, hi1]
    simp [responseOptions, contentFormat_eq, Nat.mod_eq_of_lt hcf]

theorem observation_keeps (g : Nat → Nat) (gb : Nat → Nat → Nat) {r : Msg} (hinv : MsgInv r) :
    ∃ res, observeRequest g r.mem r.opts = .ok res ∧
      (res.2.isSome ↔ registers (items r.mem r.opts) = true) ∧
      ∀ kept, res.2 = some kept →
        items res.1 kept = items r.mem r.opts ∧
        MsgInv ({ r with mem := res.1 } : Msg) ∧
        ∀ (ops : List Msg.Op) (r' : Msg), Msg.run g gb { r with mem := res.1 } ops = .ok r' →
          items r'.mem kept = items r.mem r.opts := by
  have hu := getUint32_spec r.mem hinv.wf hinv.sorted observe
  unfold observeRequest
  rw [hu, observe_eq]
  simp only [bind, Except.bind]
  unfold registers
  cases hv : values observeId (items r.mem r.opts) with
  | nil =>
    simp only [List.head?_nil, Option.map_none, pure, Except.pure]
    exact ⟨_, rfl, by simp, by intro kept h; cases h⟩
  | cons v vs =>
    simp only [List.head?_cons, Option.map_some]
    by_cases hz : uintOf v = 0
    · simp only [hz, observationClonesOptions, if_true]
      have hin : ∀ x ∈ r.opts.toList, InB r.mem x.2 := fun x hx => (hinv.live x hx).1
      obtain ⟨m', c, c1, c2, c3, c4, c5, c6, c7, c8⟩ := clone_spec g hinv.sorted hin
      rw [c1]
      simp only [pure, Except.pure]
      refine ⟨_, rfl, by simp, ?_⟩
      intro kept hk
      simp only [Option.some.injEq] at hk
      subst hk
      -- the request message in the heap that now also holds the clone
      have hinv' : MsgInv ({ r with mem := m' } : Msg) :=
        hinv.of_keeps ⟨fun v hi hb => ⟨(c5 v hi).1, (c5 v hi).2, hb⟩, c8, c7, fun h => Nat.lt_of_lt_of_le h c7, Or.inl rfl⟩
          (Nat.le_trans hinv.vbIn (c8 _))
      refine ⟨c4, hinv', ?_⟩
      intro ops r' hrun
      rw [← c4]
      unfold items
      apply mapVal_congr
      intro x hx
      obtain ⟨a, b⟩ := c6 x hx
      have hf : Foreign ({ r with mem := m' } : Msg) x.2 := by
        rcases a with a | a
        · exact Or.inl a
        · refine Or.inr ⟨a, ?_, ?_⟩
          · have := hinv.vbBid; show x.2.bid ≠ r.vb.bid; omega
          · have := hinv.origBid; show x.2.bid ≠ r.orig.bid; omega
      exact (foreign_run g gb ops hinv' hrun hf).1
    · cases hu' : uintOf v with
      | zero => exact absurd hu' hz
      | succ n =>
        simp only [pure, Except.pure]
        exact ⟨(r.mem, none), rfl, by simp, by intro kept h; cases h⟩

/-- The request kind as `Spec.SortedMultiset.requestOptions` takes it: the judge's `String`. -/
def kindName : ReqKind → String
  | .get => "get" | .post => "post" | .put => "put" | .delete => "delete" | .observe => "observe"

theorem buildRequest_spec (g : Nat → Nat) (gb : Nat → Nat → Nat) (m : Mem) (k : ReqKind) (p : Bytes) (cf : Nat)
    (hcf : cf < 65536) (hasBody : Bool) (inp : List Item) :
    ∃ m', buildRequest g gb m k p cf hasBody inp = .ok (m', requestOptions (kindName k) p cf hasBody inp) := by
  have hinv0 := msgInv_new m newMessageOptionsCap
  have hi0 : items (Msg.new m newMessageOptionsCap).mem (Msg.new m newMessageOptionsCap).opts = [] := by
    simp [items, Msg.new, Mem.alloc, Options.make, Options.toList, mapVal]
  unfold buildRequest
  simp only [newObserveRequestSetsObserve, not_true_eq_false, and_false, if_false, and_true]
  obtain ⟨r1, s1, inv1, it1, _⟩ := step_spec g gb hinv0 (.resetTo inp)
  rw [hi0] at it1
  simp only [bind, Except.bind, s1]
  obtain ⟨r2, e, s2, inv2, _, h4, _⟩ := msg_setPath_spec g gb inv1 p
  rw [s2]
  simp only []
  unfold requestOptions
  have it1' : items r1.mem r1.opts = resetTo inp := it1
  rw [it1'] at h4
  cases hsp : Spec.SortedMultiset.setPath uriPathId p (resetTo inp) with
  | none =>
    rw [hsp] at h4; simp only [] at h4
    rw [h4.1]
    exact ⟨r2.mem, rfl⟩
  | some l' =>
    rw [hsp] at h4; simp only [] at h4
    obtain ⟨he, hi2⟩ := h4
    subst he
    simp only [Option.map_some]
    obtain ⟨r3, s3, inv3, it3⟩ : ∃ r3, (if hasBody = true ∧ (k = .post ∨ k = .put) then r2.step g gb (.setUint32 contentFormat cf)
        else pure r2 : M Msg) = .ok r3 ∧ MsgInv r3 ∧
        items r3.mem r3.opts = (if hasBody = true ∧ (kindName k = "post" ∨ kindName k = "put")
          then Spec.SortedMultiset.set (contentFormatId, uintBytes (cf % 65536)) l' else l') := by
      by_cases c : hasBody = true ∧ (k = .post ∨ k = .put)
      · obtain ⟨r3, a1, a2, a3, _⟩ := step_spec g gb inv2 (.setUint32 contentFormat cf)
        have c' : hasBody = true ∧ (kindName k = "post" ∨ kindName k = "put") := by
          refine ⟨c.1, ?_⟩
          rcases c.2 with h | h <;> subst h <;> simp [kindName]
        refine ⟨r3, by simp only [c, and_self, if_true]; exact a1, a2, ?_⟩
        rw [a3, hi2]
        simp only [specStep, c', and_self, if_true, contentFormat_eq, Nat.mod_eq_of_lt hcf]
      · have c' : ¬ (hasBody = true ∧ (kindName k = "post" ∨ kindName k = "put")) := by
          intro h
          apply c
          refine ⟨h.1, ?_⟩
          cases k <;> simp [kindName] at h ⊢
        exact ⟨r2, by simp only [c, if_false]; rfl, inv2, by simp only [c', if_false]; exact hi2⟩
    rw [s3]
    simp only []
    by_cases ck : k = .observe
    · subst ck
      obtain ⟨r4, a1, _, a3, _⟩ := step_spec g gb inv3 (.setUint32 observe 0)
      simp only [if_true, a1, pure, Except.pure]
      refine ⟨r4.mem, ?_⟩
      have hu : uintBytes 0 = [] := by decide
      rw [msg_items, a3, it3]
      simp [specStep, kindName, observe_eq, hu]
    · simp only [ck, if_false, pure, Except.pure]
      refine ⟨r3.mem, ?_⟩
      have : ¬ (kindName k = "observe") := by cases k <;> simp [kindName] at ck ⊢
      rw [msg_items, it3]
      simp [this]

end CoapVerif.Lemmas.OptionGlueModel
