import CoapVerif.Lemmas.OptionRoundTrip
import CoapVerif.Model.PoolMessage
/-!
Both decoders are one function, `framed`, of a header parser: the header (`udpFrame`, `tcpFrame` over `tcpHdr`) yields
the fixed fields, the option table in force, the option area and the bytes the message occupies (`Frame`); the option
loop `decLoop` does the rest.  The checked-slicing models are proved equal to it (`decode_eq`), and what the decoders
share is proved once, for `c : Coder`, from what an accepted header guarantees (`Frame.Ok`, `decode_ok`,
`decode_error`): no panic and the capacity bound used by the pooled retry loop follow; for that bound a model file,
`Model/PoolRetry.lean`, imports this one.  `tcpHdr` and `tcpExt` spell the regenerated constants (`maxTokenSize`; the three
length bases) as literals; `tcp_decodeHeader_eq` unfolds them.

`framingOf`, the one bridge from the model's `Coder` to the specification's `Framing`, stands here in the namespace of
`Props/C01.lean`, because `Frame.Ok` below needs it.
-/
namespace CoapVerif.Props.C01
open CoapVerif.Model.PoolMessage CoapVerif.Spec.Wire

def framingOf : Coder → Framing
  | .udp => .udp
  | .tcp => .tcp

end CoapVerif.Props.C01

namespace CoapVerif.Lemmas.CoderDecode
open CoapVerif.Generated.Codec CoapVerif.Generated.OptionDefs
open CoapVerif.Spec.Wire
open CoapVerif.Model.OptionCodec CoapVerif.Lemmas.OptionCodec CoapVerif.Lemmas.OptionRoundTrip CoapVerif.Lemmas.Slices
open CoapVerif.Model CoapVerif.Model.PoolMessage
open CoapVerif.Props.C01 (framingOf)

structure Frame where
  typ : Int
  mid : Int
  code : Nat
  token : Bytes
  defs : Defs
  /-- the option area with the payload behind it -/
  body : Bytes
  /-- bytes the message occupies -/
  used : Nat

/-- List-level reading of a `Decode`: the header, then the option loop on the option area. -/
def framed (hdr : Bytes → Except Err Frame) (cap : Nat) (data : Bytes) : Except Err (Msg × Nat) :=
  match hdr data with
  | .error e => .error e
  | .ok f =>
    match decLoop f.defs cap 0 0 f.body with
    | .error e => .error e
    | .ok (os, pay) => .ok (⟨f.typ, f.mid, f.code, f.token, os, pay⟩, f.used)

/-- The four header bytes and the token of `udp/coder.Decode`. -/
def udpFrame (data : Bytes) : Except Err Frame :=
  match data with
  | b0 :: b1 :: b2 :: b3 :: rest =>
    if b0.toNat / 64 ≠ 1 then .error .badVersion
    else if b0.toNat % 16 > 8 then .error .badToken
    else if rest.length < b0.toNat % 16 then .error .truncated
    else .ok ⟨((b0.toNat / 16 % 4 : Nat) : Int), ((b2.toNat * 256 + b3.toNat : Nat) : Int), b1.toNat,
      rest.take (b0.toNat % 16), coapOptionDefs, rest.drop (b0.toNat % 16), data.length⟩
  | _ => .error .truncated

theorem udp_decode_eq (cap : Nat) (data : Bytes) : UdpCoder.decode cap data = framed udpFrame cap data := by
  unfold UdpCoder.decode framed udpFrame
  match data with
  | [] => simp
  | [_] => simp
  | [_, _] => simp
  | [_, _, _] => simp
  | b0 :: b1 :: b2 :: b3 :: rest =>
    have h4 : ¬ ((b0 :: b1 :: b2 :: b3 :: rest).length < 4) := by simp
    simp only [h4, ↓reduceIte, idx_cons_zero, bind, Except.bind, shr6_ne_one, toNat_typBits, toNat_and15]
    by_cases hv : b0.toNat / 64 ≠ 1
    · simp [hv]
    · simp only [hv, ↓reduceIte]
      by_cases ht : b0.toNat % 16 > 8
      · simp [ht]
      · simp only [ht, ↓reduceIte, idx_cons_one]
        have e1 : sliceTo (b0 :: b1 :: b2 :: b3 :: rest) 4 = .ok [b0, b1, b2, b3] := by simp [sliceTo]
        have e2 : sliceFrom [b0, b1, b2, b3] 2 = .ok [b2, b3] := by simp [sliceFrom]
        have e3 : getU16 [b2, b3] = .ok (b2.toNat * 256 + b3.toNat) := by simp [getU16]
        have e4 : sliceFrom (b0 :: b1 :: b2 :: b3 :: rest) 4 = .ok rest := by simp [sliceFrom]
        simp only [e1, e2, e3, e4]
        by_cases hl : rest.length < b0.toNat % 16
        · simp [hl]
        · simp only [hl, ↓reduceIte]
          rw [sliceTo_ok (by omega), sliceFrom_ok (by omega)]
          simp only [optionsUnmarshal_eq]
          cases hd : decLoop coapOptionDefs cap 0 0 (List.drop (b0.toNat % 16) rest) with
          | error e => rfl
          | ok r => obtain ⟨os, pay⟩ := r; simp only [sliceFrom_rest hd]

/-- Extended length of a stream frame: (options+payload length, rest, header offset after it).  The last `else` (a nibble
above 15, which no byte has) is the fall-through of the `switch` in `DecodeHeader`. -/
def tcpExt (nib : Nat) (t : Bytes) : Except Err (Nat × Bytes × Nat) :=
  if nib < 13 then .ok (nib, t, 1)
  else if nib = 13 then
    match t with
    | e :: r => .ok (13 + e.toNat, r, 2)
    | _ => .error .shortRead
  else if nib = 14 then
    match t with
    | e0 :: e1 :: r => .ok (269 + (e0.toNat * 256 + e1.toNat), r, 3)
    | _ => .error .shortRead
  else if nib = 15 then
    match t with
    | e0 :: e1 :: e2 :: e3 :: r =>
      .ok (65805 + (e0.toNat * 16777216 + e1.toNat * 65536 + e2.toNat * 256 + e3.toNat), r, 5)
    | _ => .error .shortRead
  else .ok (0, t, 1)

/-- List-level `decodeHeaderRest`: declared length, code, token. -/
def tcpHdrRest (tkl opLen off : Nat) (t' : Bytes) : Except Err TcpCoder.Header :=
  if off + 1 + tkl + opLen > 4294967295 then .error .invalidLen
  else
    match t' with
    | [] => .error .shortRead
    | code :: r =>
      if r.length < tkl then .error .shortRead
      else .ok ⟨r.take tkl, off + 1 + tkl, off + 1 + tkl + opLen, code.toNat⟩

/-- List-level reading of `tcp/coder.DecodeHeader`. -/
def tcpHdr (data : Bytes) : Except Err TcpCoder.Header :=
  match data with
  | [] => .error .shortRead
  | b :: t =>
    if b.toNat % 16 > 8 then .error .badToken
    else
      match tcpExt (b.toNat / 16) t with
      | .error e => .error e
      | .ok (opLen, t', off) => tcpHdrRest (b.toNat % 16) opLen off t'

theorem decodeHeaderRest_eq (tkl opLen : Nat) (t' : Bytes) (off : Nat) :
    TcpCoder.decodeHeaderRest tkl opLen t' off = tcpHdrRest tkl opLen off t' := by
  unfold TcpCoder.decodeHeaderRest tcpHdrRest
  simp only []
  split
  · rfl
  · cases t' with
    | nil => simp
    | cons code r =>
      have : ¬ ((code :: r).length < 1) := by simp
      have e2 : sliceFrom (code :: r) 1 = .ok r := by simp [sliceFrom]
      simp only [this, ↓reduceIte, idx_cons_zero, e2, bind, Except.bind]
      by_cases hr : r.length < tkl
      · simp [hr]
      · simp only [hr, ↓reduceIte]
        by_cases h0 : tkl > 0
        · simp only [h0, ↓reduceIte]; rw [sliceTo_ok (by omega)]
        · have : tkl = 0 := by omega
          simp [this, pure, Except.pure]

theorem tcp_decodeHeader_eq (data : Bytes) : TcpCoder.decodeHeader data = tcpHdr data := by
  unfold TcpCoder.decodeHeader tcpHdr
  cases data with
  | nil => simp
  | cons b t =>
    have hne : ¬ ((b :: t).length = 0) := by simp
    have e1 : sliceFrom (b :: t) 1 = .ok t := by simp [sliceFrom]
    simp only [hne, ↓reduceIte, idx_cons_zero, bind, Except.bind, e1, toNat_hiNib, toNat_and15, maxTokenSize,
      msgLen13Base, msgLen14Base, msgLen15Base, decodeHeaderRest_eq]
    by_cases htk : b.toNat % 16 > 8
    · simp [htk]
    · simp only [htk, ↓reduceIte]
      unfold tcpExt
      by_cases h13 : b.toNat / 16 < 13
      · simp only [h13, ↓reduceIte]
      · simp only [h13, ↓reduceIte]
        by_cases e13 : b.toNat / 16 = 13
        · simp only [e13, ↓reduceIte]
          cases t with
          | nil => simp
          | cons e r =>
            have : ¬ ((e :: r).length < 1) := by simp
            have e2 : sliceFrom (e :: r) 1 = .ok r := by simp [sliceFrom]
            simp only [this, ↓reduceIte, idx_cons_zero, e2]
        · simp only [e13, ↓reduceIte]
          by_cases e14 : b.toNat / 16 = 14
          · simp only [e14, ↓reduceIte]
            match t with
            | [] => simp
            | [_] => simp
            | e0 :: e1 :: r =>
              have : ¬ ((e0 :: e1 :: r).length < 2) := by simp
              have e2 : sliceFrom (e0 :: e1 :: r) 2 = .ok r := by simp [sliceFrom]
              have e3 : getU16 (e0 :: e1 :: r) = .ok (e0.toNat * 256 + e1.toNat) := by simp [getU16]
              simp only [this, ↓reduceIte, e2, e3]
          · simp only [e14, ↓reduceIte]
            by_cases e15 : b.toNat / 16 = 15
            · simp only [e15, ↓reduceIte]
              match t with
              | [] => simp
              | [_] => simp
              | [_, _] => simp
              | [_, _, _] => simp
              | e0 :: e1 :: e2 :: e3 :: r =>
                have : ¬ ((e0 :: e1 :: e2 :: e3 :: r).length < 4) := by simp
                have e2' : sliceFrom (e0 :: e1 :: e2 :: e3 :: r) 4 = .ok r := by simp [sliceFrom]
                have e3' : getU32 (e0 :: e1 :: e2 :: e3 :: r) =
                    .ok (e0.toNat * 16777216 + e1.toNat * 65536 + e2.toNat * 256 + e3.toNat) := by simp [getU32]
                simp only [this, ↓reduceIte, e2', e3']
            · simp only [e15, ↓reduceIte]

theorem tcpExt_cases {nib : Nat} {t : Bytes} {x : Except Err (Nat × Bytes × Nat)} (h : tcpExt nib t = x) :
    x = .error .shortRead ∨ ∃ opLen pre t', t = pre ++ t' ∧ x = .ok (opLen, t', 1 + pre.length) := by
  unfold tcpExt at h
  split at h
  · exact .inr ⟨_, [], _, rfl, h.symm⟩
  split at h
  · split at h
    · exact .inr ⟨_, [_], _, rfl, h.symm⟩
    · exact .inl h.symm
  split at h
  · split at h
    · exact .inr ⟨_, [_, _], _, rfl, h.symm⟩
    · exact .inl h.symm
  split at h
  · split at h
    · exact .inr ⟨_, [_, _, _, _], _, rfl, h.symm⟩
    · exact .inl h.symm
  · exact .inr ⟨_, [], _, rfl, h.symm⟩

theorem tcpHdr_cases {data : Bytes} {x : Except Err TcpCoder.Header} (h : tcpHdr data = x) :
    (∃ e, x = .error e ∧ (e = .shortRead ∨ e = .badToken ∨ e = .invalidLen)) ∨
    ∃ b pre code r opLen, data = b :: (pre ++ code :: r) ∧ b.toNat % 16 ≤ 8 ∧ b.toNat % 16 ≤ r.length ∧
      1 + pre.length + 1 + b.toNat % 16 + opLen ≤ 4294967295 ∧
      x = .ok ⟨r.take (b.toNat % 16), 1 + pre.length + 1 + b.toNat % 16,
        1 + pre.length + 1 + b.toNat % 16 + opLen, code.toNat⟩ := by
  unfold tcpHdr at h
  split at h
  · exact .inl ⟨_, h.symm, .inl rfl⟩
  rename_i b t
  split at h
  · exact .inl ⟨_, h.symm, .inr (.inl rfl)⟩
  rename_i htk
  rcases tcpExt_cases (nib := b.toNat / 16) (t := t) rfl with he | ⟨opLen, pre, t', rfl, he⟩
  · rw [he] at h; exact .inl ⟨_, h.symm, .inl rfl⟩
  rw [he] at h
  simp only [] at h
  unfold tcpHdrRest at h
  split at h
  · exact .inl ⟨_, h.symm, .inr (.inr rfl)⟩
  rename_i hml
  split at h
  · exact .inl ⟨_, h.symm, .inl rfl⟩
  rename_i code r
  split at h
  · exact .inl ⟨_, h.symm, .inl rfl⟩
  rename_i hr
  exact .inr ⟨b, pre, code, r, opLen, rfl, by omega, by omega, by omega, h.symm⟩

/-- What an accepted stream header guarantees (the stream half of `Frame.Ok`, and the bounds `tcp_decode_eq` slices by). -/
theorem tcpHdr_ok {data : Bytes} {h : TcpCoder.Header} (hh : tcpHdr data = .ok h) :
    h.length ≤ h.messageLength ∧ h.length ≤ data.length ∧ h.messageLength ≤ 4294967295 ∧ h.token.length ≤ 8 ∧
      h.code < 256 ∧ h.token <:+: data := by
  rcases tcpHdr_cases hh with ⟨_, he, _⟩ | ⟨b, pre, code, r, opLen, rfl, h8, hr, hml, hok⟩
  · cases he
  cases hok
  refine ⟨Nat.le_add_right _ _, ?_, hml, ?_, code.toNat_lt, ?_⟩
  · simp only [List.length_cons, List.length_append]; omega
  · rw [List.length_take]; omega
  · exact (List.take_prefix _ r).isInfix.trans ⟨b :: (pre ++ [code]), [], by simp⟩

theorem tcpHdr_error {data : Bytes} {e : Err} (h : tcpHdr data = .error e) :
    e = .shortRead ∨ e = .badToken ∨ e = .invalidLen := by
  rcases tcpHdr_cases h with ⟨_, he, h3⟩ | ⟨_, _, _, _, _, _, _, _, _, hok⟩
  · cases he; exact h3
  · cases hok

theorem tcpHdr_no_panic (data : Bytes) : tcpHdr data ≠ .error .panic := by
  intro h
  rcases tcpHdr_error h with h | h | h <;> cases h

/-- The header of `tcp/coder.Decode` and the frame it declares; `data.length % 4294967296` is its
`math.CastTo[uint32](len(data))`. -/
def tcpFrame (data : Bytes) : Except Err Frame :=
  match tcpHdr data with
  | .error e => .error e
  | .ok h =>
    if data.length % 4294967296 < h.messageLength then .error .shortRead
    else .ok ⟨0, 0, h.code, h.token, TcpCoder.defsFor h.code, (data.take h.messageLength).drop h.length, h.messageLength⟩

theorem tcp_decode_eq (cap : Nat) (data : Bytes) : TcpCoder.decode cap data = framed tcpFrame cap data := by
  unfold TcpCoder.decode framed tcpFrame
  simp only [bind, Except.bind, tcp_decodeHeader_eq, TcpCoder.u32]
  cases hh : tcpHdr data with
  | error e => rfl
  | ok h =>
    obtain ⟨i1, i2, i3, _⟩ := tcpHdr_ok hh
    simp only []
    by_cases hs : data.length % 4294967296 < h.messageLength
    · simp [hs]
    · simp only [hs, ↓reduceIte]
      have hle : h.messageLength ≤ data.length := by
        have := Nat.mod_le data.length 4294967296; omega
      rw [sliceTo_ok hle]
      simp only []
      rw [sliceFrom_ok (by simp; omega)]
      simp only [TcpCoder.decodeWithHeader, bind, Except.bind, optionsUnmarshal_eq]
      cases hd : decLoop (TcpCoder.defsFor h.code) cap 0 0 (List.drop h.length (List.take h.messageLength data)) with
      | error e => rfl
      | ok r =>
        obtain ⟨os, pay⟩ := r
        have hpl := (decLoop_suffix hd).length_le
        have hlen : (List.drop h.length (List.take h.messageLength data)).length = h.messageLength - h.length := by
          simp; omega
        rw [hlen] at hpl
        simp only [sliceFrom_rest hd]
        simp only [TcpCoder.u32, hlen]
        -- every offset is at most `h.messageLength ≤ 2^32 - 1`, so the `uint32` conversions do not wrap
        have : ((h.length + (h.messageLength - h.length - pay.length) % 4294967296) % 4294967296 +
            pay.length % 4294967296) % 4294967296 = h.messageLength := by omega
        rw [this]

def frameOf : Coder → Bytes → Except Err Frame
  | .udp => udpFrame
  | .tcp => tcpFrame

theorem decode_eq (c : Coder) (cap : Nat) (data : Bytes) : c.decode cap data = framed (frameOf c) cap data := by
  cases c
  · exact udp_decode_eq cap data
  · exact tcp_decode_eq cap data

theorem defsFor_noUnknown (code : Nat) : noUnknown (TcpCoder.defsFor code) = true := by
  unfold TcpCoder.defsFor
  split; exact csm_noUnknown
  split; exact pingpong_noUnknown
  split; exact release_noUnknown
  split; exact abort_noUnknown
  exact coap_noUnknown

theorem defsFor_regOf (code : Nat) : regOf (TcpCoder.defsFor code) = registryFor .tcp code := by
  unfold TcpCoder.defsFor registryFor
  simp only [codeCSM, codePing, codePong, codeRelease, codeAbort]
  by_cases h1 : code = 225
  · simp [h1, csm_regOf]
  · by_cases h2 : code = 226 ∨ code = 227
    · simp only [h1, h2, ↓reduceIte, pingpong_regOf]
    · by_cases h3 : code = 228
      · subst h3; simp [release_regOf]
      · by_cases h4 : code = 229
        · subst h4; simp [abort_regOf]
        · simp only [h1, h2, h3, h4, ↓reduceIte, coap_regOf]

structure Frame.Ok (c : Coder) (data : Bytes) (f : Frame) : Prop where
  token_le : f.token.length ≤ 8
  code_lt : f.code < 256
  typ_range : 0 ≤ f.typ ∧ f.typ ≤ 3
  mid_range : 0 ≤ f.mid ∧ f.mid < 65536
  token_in : f.token <:+: data
  body_in : f.body <:+: data
  noUnknown : noUnknown f.defs = true
  reg : regOf f.defs = registryFor (framingOf c) f.code
  /-- the stream framing carries no type and no message ID -/
  stream : c = .tcp → f.typ = 0 ∧ f.mid = 0

theorem frameOf_cases (c : Coder) (data : Bytes) :
    (∃ e, frameOf c data = .error e ∧ e ≠ .panic ∧ e ≠ .optCap) ∨ ∃ f, frameOf c data = .ok f ∧ f.Ok c data := by
  cases c with
  | udp =>
    show (∃ e, udpFrame data = .error e ∧ _) ∨ ∃ f, udpFrame data = .ok f ∧ _
    unfold udpFrame
    split
    · rename_i b0 b1 b2 b3 rest
      split
      · exact .inl ⟨_, rfl, Err.noConfusion, Err.noConfusion⟩
      split
      · exact .inl ⟨_, rfl, Err.noConfusion, Err.noConfusion⟩
      split
      · exact .inl ⟨_, rfl, Err.noConfusion, Err.noConfusion⟩
      · rename_i ht hr
        have hrest : rest <:+ (b0 :: b1 :: b2 :: b3 :: rest) := ⟨[b0, b1, b2, b3], rfl⟩
        have := b2.toNat_lt
        have := b3.toNat_lt
        exact .inr ⟨_, rfl, by rw [List.length_take]; omega, b1.toNat_lt, by dsimp only; omega, by dsimp only; omega,
          (List.take_prefix _ rest).isInfix.trans hrest.isInfix, ((List.drop_suffix _ rest).trans hrest).isInfix,
          coap_noUnknown, coap_regOf, nofun⟩
    · exact .inl ⟨_, rfl, Err.noConfusion, Err.noConfusion⟩
  | tcp =>
    show (∃ e, tcpFrame data = .error e ∧ _) ∨ ∃ f, tcpFrame data = .ok f ∧ _
    unfold tcpFrame
    split
    · rename_i e he
      refine .inl ⟨e, rfl, ?_⟩
      rcases tcpHdr_error he with rfl | rfl | rfl <;> exact ⟨Err.noConfusion, Err.noConfusion⟩
    · rename_i h hh
      split
      · exact .inl ⟨_, rfl, Err.noConfusion, Err.noConfusion⟩
      · obtain ⟨_, _, _, htk, hcode, htok⟩ := tcpHdr_ok hh
        exact .inr ⟨_, rfl, htk, hcode, ⟨Int.le_refl 0, (by decide : (0 : Int) ≤ 3)⟩,
          ⟨Int.le_refl 0, (by decide : (0 : Int) < 65536)⟩, htok,
          ((List.drop_suffix _ _).isInfix).trans (List.take_prefix _ data).isInfix,
          defsFor_noUnknown h.code, defsFor_regOf h.code, fun _ => ⟨rfl, rfl⟩⟩

theorem decode_ok {c : Coder} {cap : Nat} {bs : Bytes} {m : Msg} {k : Nat} (h : c.decode cap bs = .ok (m, k)) :
    ∃ (f : Frame) (os : List Opt) (pay : Bytes), frameOf c bs = .ok f ∧ f.Ok c bs ∧
      decLoop f.defs cap 0 0 f.body = .ok (os, pay) ∧ m = ⟨f.typ, f.mid, f.code, f.token, os, pay⟩ ∧ k = f.used := by
  rw [decode_eq, framed] at h
  rcases frameOf_cases c bs with ⟨e, he, _⟩ | ⟨f, hf, hok⟩
  · rw [he] at h; cases h
  rw [hf] at h
  dsimp only at h
  split at h
  · cases h
  · cases h; exact ⟨f, _, _, hf, hok, ‹_›, rfl, rfl⟩

theorem decode_error {c : Coder} {cap : Nat} {bs : Bytes} {e : Err} (h : c.decode cap bs = .error e) :
    (e ≠ .panic ∧ e ≠ .optCap) ∨ ∃ f : Frame, f.Ok c bs ∧ decLoop f.defs cap 0 0 f.body = .error e := by
  rw [decode_eq, framed] at h
  rcases frameOf_cases c bs with ⟨e', he, hne⟩ | ⟨f, hf, hok⟩
  · rw [he] at h; cases h; exact .inl hne
  rw [hf] at h
  dsimp only at h
  split at h
  · cases h; exact .inr ⟨f, hok, ‹_›⟩
  · cases h

theorem decode_no_panic (c : Coder) (cap : Nat) (bs : Bytes) : c.decode cap bs ≠ .error .panic := by
  intro h
  rcases decode_error h with ⟨h, _⟩ | ⟨f, _, he⟩
  · exact h rfl
  · exact decLoop_no_panic he

/-- The capacity error only below the input length (termination of the pooled retry). -/
theorem decode_optCap {c : Coder} {cap : Nat} {data : Bytes} (h : c.decode cap data = .error .optCap) :
    cap < data.length := by
  rcases decode_error h with ⟨_, h⟩ | ⟨f, hok, he⟩
  · exact absurd rfl h
  · have := decLoop_optCap he (Nat.zero_le _)
    have := hok.body_in.length_le
    omega

end CoapVerif.Lemmas.CoderDecode
