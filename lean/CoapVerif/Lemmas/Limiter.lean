import CoapVerif.Model.Limiter
import CoapVerif.Lemmas.KeyedList
/-!
Helper lemmas for C16: the invariant of the limiter event system (`Model/Limiter.lean`) and its preservation by every
event (`Inv_step`, by cases on `Does`: the effect of every `step`, written out rule by rule).  The limiter has two sides, the
endpoint table with the list of arrived requests and the semaphore, which meet in the program counters only: `Moves` says
how a step rewrites these, each part of the invariant is preserved on its own (`InvBase_step`, `InvEp_step`, `InvSem_step`),
and the rules say which of them rewrite the endpoint side, so that what is about that side (also the order of admission,
`Lemmas/LimiterOrder.lean`) looks at those alone.  The property theorems themselves are in `Props/C16.lean`.

The invariant `Inv`, for every reachable state: the arrived requests are those whose program counter is not `idle`
(`InvBase`); the entry of every path (`EntryOk`: `processedCounter` and `orderedRequest` of the Go code) counts the requests
that own a slot of the path and lists those parked for it **in arrival order** (`InvEp`); the semaphore's `cur` counts the
requests that own a unit and its waiters are those parked in `Acquire` (`InvSem`).  Waiters exist only while all slots, or all
units, are taken.
-/
namespace CoapVerif.Lemmas.Limiter
open CoapVerif.Model.Limiter
open CoapVerif.Lemmas.KeyedList (nodup_snoc)

theorem filter_update_remove {l : List Nat} (hnd : l.Nodup) {g g' : Nat → Bool} {i : Nat}
    (hag : ∀ j, j ≠ i → g' j = g j) (h' : g' i = false) : l.filter g' = (l.filter g).erase i := by
  rw [List.Nodup.erase_eq_filter (hnd.filter g), List.filter_filter]
  apply List.filter_congr
  intro x _
  by_cases hx : x = i
  · rw [hx, h', bne_self_eq_false]; rfl
  · rw [hag x hx, bne_iff_ne.mpr hx]; rfl

theorem countP_update_same {l : List Nat} {g g' : Nat → Bool} {i : Nat}
    (hag : ∀ j, j ≠ i → g' j = g j) (h : g i = g' i) : l.countP g' = l.countP g := by
  apply List.countP_congr
  intro x _
  by_cases hx : x = i
  · subst hx; rw [h]
  · rw [hag x hx]

theorem countP_cons_int (p : Nat → Bool) (a : Nat) (t : List Nat) : ((a :: t).countP p : Int) = t.countP p + (p a).toInt := by
  rw [List.countP_cons, Int.natCast_add]
  cases p a <;> rfl

theorem countP_update_int {l : List Nat} (hnd : l.Nodup) {g g' : Nat → Bool} {i : Nat} (hi : i ∈ l)
    (hag : ∀ j, j ≠ i → g' j = g j) : (l.countP g' : Int) = l.countP g - (g i).toInt + (g' i).toInt := by
  induction l with
  | nil => cases hi
  | cons a t ih =>
    obtain ⟨hat, hnd'⟩ := List.nodup_cons.mp hnd
    rw [countP_cons_int, countP_cons_int]
    by_cases hai : a = i
    · -- `i` is the head and not in the tail, where `g'` counts what `g` counts
      subst hai
      have e : t.countP g' = t.countP g := List.countP_congr fun x hx => by rw [hag x fun h => hat (h ▸ hx)]
      omega
    · have := ih hnd' ((List.mem_cons.mp hi).resolve_left (Ne.symm hai))
      rw [hag a hai]
      omega

theorem countP_lt_of_witness {l : List Nat} {p q : Nat → Bool} (hpq : ∀ x ∈ l, p x = true → q x = true)
    {a : Nat} (ha : a ∈ l) (hq : q a = true) (hp : p a = false) : l.countP p < l.countP q := by
  induction l with
  | nil => cases ha
  | cons x t ih =>
    simp only [List.countP_cons]
    have hmono : t.countP p ≤ t.countP q := List.countP_mono_left (fun y hy h => hpq y (List.mem_cons_of_mem _ hy) h)
    rcases List.mem_cons.mp ha with rfl | hat
    · simp [hq, hp]; omega
    · have := ih (fun y hy h => hpq y (List.mem_cons_of_mem _ hy) h) hat
      cases hpx : p x
      · simp; omega
      · have := hpq x (by simp) hpx
        simp [this]; omega

/-! The counts and the waiter lists depend on `ids`, `key` and `pc` only; the lemmas are about any two states related through
these fields, so that they apply to the result of every operation as it stands. -/

section Move
variable {s s' : State} {i : Id} {v : Pc}

theorem holders_move (hnd : s.ids.Nodup) (hi : i ∈ s.ids) (hpc : s'.pc = upd s.pc i v) (k : Key)
    (hids : s'.ids = s.ids := by rfl) (hkey : s'.key = s.key := by rfl) :
    (holders s' k : Int) = holders s k - (epHolder (s.pc i) && s.key i == k).toInt + (epHolder v && s.key i == k).toInt := by
  have h := countP_update_int hnd (g := fun j => epHolder (s.pc j) && s.key j == k)
    (g' := fun j => epHolder (upd s.pc i v j) && s.key j == k) hi (fun j hj => by simp only [upd_other _ _ _ _ hj])
  simp only [upd_same] at h
  simp only [holders, hids, hkey, hpc]
  exact h

theorem semHolders_move (hnd : s.ids.Nodup) (hi : i ∈ s.ids) (hpc : s'.pc = upd s.pc i v)
    (hids : s'.ids = s.ids := by rfl) :
    (semHolders s' : Int) = semHolders s - (semHolder (s.pc i)).toInt + (semHolder v).toInt := by
  have h := countP_update_int hnd (g := fun j => semHolder (s.pc j)) (g' := fun j => semHolder (upd s.pc i v j)) hi
    (fun j hj => by simp only [upd_other _ _ _ _ hj])
  simp only [upd_same] at h
  simp only [semHolders, hids, hpc]
  exact h

theorem waitingFor_move (hnd : s.ids.Nodup) (hpc : s'.pc = upd s.pc i v) (hv : v ≠ .epQueued) (k : Key)
    (hids : s'.ids = s.ids := by rfl) (hkey : s'.key = s.key := by rfl) :
    waitingFor s' k = (waitingFor s k).erase i := by
  simp only [waitingFor, hids, hkey, hpc]
  apply filter_update_remove hnd (i := i)
  · intro j hj; simp only [upd_other _ _ _ _ hj]
  · simp [hv]

end Move

theorem mem_waitingFor {s : State} {i : Id} {k : Key} : i ∈ waitingFor s k ↔ i ∈ s.ids ∧ s.pc i = .epQueued ∧ s.key i = k := by
  simp [waitingFor, List.mem_filter]

theorem running_holds {p : Pc} (h : isRunning p = true) : epHolder p = true ∧ semHolder p = true := by
  cases p <;> first | exact ⟨rfl, rfl⟩ | cases h

theorem done_holds {p : Pc} (h : isDone p = true) : epHolder p = false ∧ semHolder p = false := by
  cases p <;> first | exact ⟨rfl, rfl⟩ | cases h

theorem running_key_holds {s : State} {k : Key} {x : Id} (hx : (isRunning (s.pc x) && s.key x == k) = true) :
    (epHolder (s.pc x) && s.key x == k) = true := by
  simp only [Bool.and_eq_true] at hx ⊢
  exact ⟨(running_holds hx.1).1, hx.2⟩

theorem inFlight_le_holders (s : State) (k : Key) : inFlight s k ≤ holders s k :=
  List.countP_mono_left fun _ _ => running_key_holds

theorem inFlight_lt_holders {s : State} {a : Id} (ha : a ∈ s.ids) (hh : epHolder (s.pc a) = true)
    (hr : isRunning (s.pc a) = false) : inFlight s (s.key a) < holders s (s.key a) :=
  countP_lt_of_witness (fun _ _ => running_key_holds) ha (by simp [hh]) (by simp [hr])

theorem inFlightTotal_le_semHolders (s : State) : inFlightTotal s ≤ semHolders s :=
  List.countP_mono_left fun _ _ hx => (running_holds hx).2

structure InvBase (s : State) : Prop where
  limit_pos : 1 ≤ s.limit
  epLimit_pos : 1 ≤ s.epLimit
  nodup : s.ids.Nodup
  arrived : ∀ id, id ∈ s.ids ↔ s.pc id ≠ .idle

/-- an entry of the table (or none) is right for a path with `n` owners of a slot and the waiters `q` -/
def EntryOk (n : Int) (q : List Id) (lim : Int) : Option Ep → Prop
  | none => n = 0 ∧ q = []
  | some ep => ep.counter = n ∧ 1 ≤ ep.counter ∧ ep.counter ≤ lim ∧ ep.queue = q ∧ (ep.queue ≠ [] → ep.counter = lim)

theorem entryOk_some {n lim c : Int} {q qu : List Id} (hc : c = n) (h1 : 1 ≤ c) (hl : c ≤ lim) (hq : qu = q)
    (hf : qu ≠ [] → c = lim) : EntryOk n q lim (some ⟨c, qu⟩) := ⟨hc, h1, hl, hq, hf⟩

def InvEp (s : State) : Prop := ∀ k, EntryOk (holders s k) (waitingFor s k) s.epLimit (s.eps k)

theorem InvEp.of_none {s : State} (h : InvEp s) (k : Key) (he : s.eps k = none) : holders s k = 0 ∧ waitingFor s k = [] := by
  have := h k; rw [he] at this; exact ⟨by have := this.1; omega, this.2⟩

theorem InvEp.of_some {s : State} (h : InvEp s) (k : Key) (ep : Ep) (he : s.eps k = some ep) :
    ep.counter = holders s k ∧ 1 ≤ ep.counter ∧ ep.counter ≤ s.epLimit ∧ ep.queue = waitingFor s k ∧
      (ep.queue ≠ [] → ep.counter = s.epLimit) := by
  have := h k; rwa [he] at this

structure InvSem (s : State) : Prop where
  cur : s.semCur = semHolders s
  le : s.semCur ≤ s.limit
  nodup : s.semWaiters.Nodup
  mem : ∀ id, id ∈ s.semWaiters ↔ s.pc id = .semQueued
  full : s.semWaiters ≠ [] → s.semCur = s.limit

structure Inv (s : State) : Prop where
  base : InvBase s
  ep : InvEp s
  sem : InvSem s

theorem mem_ids_of_pc {s : State} (hb : InvBase s) {i : Id} {p : Pc} (h : s.pc i = p) (hp : p ≠ .idle) : i ∈ s.ids :=
  (hb.arrived i).mpr (by rw [h]; exact hp)

theorem Inv.parked {s : State} (h : Inv s) {w : Id} (hw : s.pc w = .epQueued) :
    ∃ ep, s.eps (s.key w) = some ep ∧ w ∈ ep.queue ∧ ep.counter = s.epLimit := by
  have hm : w ∈ waitingFor s (s.key w) := mem_waitingFor.mpr ⟨mem_ids_of_pc h.base hw (by simp), hw, rfl⟩
  cases he : s.eps (s.key w) with
  | none => rw [(h.ep.of_none _ he).2] at hm; cases hm
  | some ep =>
    obtain ⟨_, _, _, hq, hf⟩ := h.ep.of_some _ ep he
    exact ⟨ep, rfl, hq ▸ hm, hf (hq ▸ List.ne_nil_of_mem hm)⟩

theorem Inv.refused {s : State} (h : Inv s) {i : Id} (hp : s.pc i = .epQueued ∨ s.pc i = .epGranted)
    (hnq : ∀ ep, s.eps (s.key i) = some ep → i ∉ ep.queue) : s.pc i = .epGranted :=
  hp.resolve_left fun hq => by obtain ⟨ep, he, hm, _⟩ := h.parked hq; exact hnq ep he hm

theorem InvSem.parked {s : State} (h : InvSem s) {w : Id} (hw : s.pc w = .semQueued) :
    w ∈ s.semWaiters ∧ s.semCur = s.limit :=
  ⟨(h.mem w).mpr hw, h.full (List.ne_nil_of_mem ((h.mem w).mpr hw))⟩

theorem Inv.holders_le {s : State} (h : Inv s) (k : Key) : (holders s k : Int) ≤ s.epLimit := by
  cases he : s.eps k with
  | none =>
    have := (h.ep.of_none k he).1
    have := h.base.epLimit_pos
    omega
  | some ep =>
    obtain ⟨a, _, c, _⟩ := h.ep.of_some k ep he
    omega

theorem notifyLoop_full (limit cur : Int) (ws : List Id) (pc : Id → Pc) (h : limit - cur < 1) :
    notifyLoop limit cur ws pc = (cur, ws, pc) := by
  cases ws with
  | nil => rfl
  | cons w t => simp [notifyLoop, h]

theorem notifyLoop_one (limit cur : Int) (w : Id) (t : List Id) (pc : Id → Pc) (h : limit - cur = 1) :
    notifyLoop limit cur (w :: t) pc = (cur + 1, t, if pc w = .semQueued then upd pc w .semGranted else pc) := by
  have h1 : ¬ (limit - cur < 1) := by omega
  simp only [notifyLoop, h1, if_false]
  exact notifyLoop_full _ _ _ _ (by omega)

theorem notifyLoop_pc (limit cur : Int) (ws : List Id) (pc : Id → Pc) (j : Id) :
    (notifyLoop limit cur ws pc).2.2 j = pc j ∨ (pc j = .semQueued ∧ (notifyLoop limit cur ws pc).2.2 j = .semGranted) := by
  induction ws generalizing cur pc with
  | nil => exact Or.inl rfl
  | cons w t ih =>
    simp only [notifyLoop]
    split
    · exact Or.inl rfl
    · split
      · rename_i hw
        rcases ih (cur + 1) (upd pc w .semGranted) with h | h
        · by_cases hj : j = w
          · subst hj; right; rw [h]; simp [hw]
          · left; rw [h, upd_other _ _ _ _ hj]
        · by_cases hj : j = w
          · subst hj; rw [upd_same] at h; exact absurd h.1 (by simp)
          · right; rw [upd_other _ _ _ _ hj] at h; exact h
      · exact ih (cur + 1) pc

theorem semNotify_eps (s : State) : (semNotify s).eps = s.eps ∧ (semNotify s).epLimit = s.epLimit := ⟨rfl, rfl⟩

theorem semRelease_eps (s : State) : (semRelease s).eps = s.eps ∧ (semRelease s).key = s.key ∧ (semRelease s).ids = s.ids :=
  ⟨rfl, rfl, rfl⟩

/-! ### program counters: what a step's rewriting of them looks like

`Moves R f g`: every request is where it was or has moved along `R`.  The three ways in which a step rewrites the program
counters (its own request, the head of a path's queue, the waiters `notifyWaiters` grants to) each satisfy it for every `R`
that holds of the move made.  It is read in two ways: `Same o` — what `o` observes of a program counter is what it was (each
part of the invariant observes its own: arrived or not, `epView`, `semView`); `Le P` — whoever is `P` now was `P` before. -/

def Moves (R : Pc → Pc → Prop) (f g : Id → Pc) : Prop := ∀ j, g j = f j ∨ R (f j) (g j)

abbrev Same {γ : Type} (o : Pc → γ) : (Id → Pc) → (Id → Pc) → Prop := Moves fun p p' => o p' = o p

abbrev Le (P : Pc → Prop) : (Id → Pc) → (Id → Pc) → Prop := Moves fun p p' => P p' → P p

section Moves
variable {R : Pc → Pc → Prop} {f g : Id → Pc}

theorem Moves.rfl : Moves R f f := fun _ => .inl (Eq.refl _)

theorem Moves.upd (a : Moves R f g) {i : Id} {v : Pc} (hv : R (f i) v) : Moves R f (upd g i v) := by
  intro j
  by_cases hj : j = i
  · rw [hj, upd_same]; exact .inr hv
  · rw [upd_other _ _ _ _ hj]; exact a j

theorem wakeEp_other {w j : Id} (h : j ≠ w) : wakeEp f w j = f j := by
  unfold wakeEp; split
  · exact upd_other _ _ _ _ h
  · rfl

theorem Moves.wakeEp (f : Id → Pc) (w : Id) (h : R .epQueued .epGranted) : Moves R f (wakeEp f w) := by
  unfold Model.Limiter.wakeEp
  split
  · exact Moves.rfl.upd (by rw [‹f w = _›]; exact h)
  · exact Moves.rfl

theorem Moves.notify {s : State} (hf : s.pc = f) (h : R .semQueued .semGranted) : Moves R f (semNotify s).pc := by
  subst hf
  intro j
  rcases notifyLoop_pc s.limit s.semCur s.semWaiters s.pc j with e | ⟨e, e'⟩
  · exact .inl e
  · exact .inr (by show R (s.pc j) ((notifyLoop s.limit s.semCur s.semWaiters s.pc).2.2 j); rw [e, e']; exact h)

/-- `notifyWaiters`, then the move of the acting request.  The rules adjust `semCur` / `semWaiters` before `semNotify` and leave the
    program counters alone: `S` is `s` so adjusted. -/
theorem Moves.notified {s S : State} {i : Id} {v : Pc} (h : R .semQueued .semGranted) (hv : R (s.pc i) v)
    (hS : S.pc = s.pc := by rfl) : Moves R s.pc (Model.Limiter.setPc (semNotify S) i v).pc :=
  Moves.upd (Moves.notify hS h) hv

theorem Moves.mono {R' : Pc → Pc → Prop} (h : Moves R f g) (hR : ∀ p p', R p p' → R' p p') : Moves R' f g :=
  fun j => (h j).imp_right (hR _ _)

theorem Moves.same {γ : Type} {o : Pc → γ} (h : Same o f g) (j : Id) : o (g j) = o (f j) := (h j).elim (congrArg o) id

theorem Moves.le {P : Pc → Prop} (h : Le P f g) (j : Id) (hp : P (g j)) : P (f j) := (h j).elim (fun e => e ▸ hp) (· hp)

end Moves

/-- what the endpoint side of the invariant, and the order of admission, observe of a program counter -/
abbrev epView (p : Pc) : Bool × Bool × Bool := (p == .idle, epHolder p, p == .epQueued)

theorem Moves.ep {f g : Id → Pc} (h : Same epView f g) (j : Id) :
    (g j == Pc.idle) = (f j == Pc.idle) ∧ epHolder (g j) = epHolder (f j) ∧ (g j == Pc.epQueued) = (f j == Pc.epQueued) :=
  (Prod.mk.inj (h.same j)).imp_right Prod.mk.inj

abbrev semView (p : Pc) : Bool × Bool := (semHolder p, p == .semQueued)

theorem InvBase_frame {s s' : State} (h : InvBase s) (hpc : Same (· == Pc.idle) s.pc s'.pc)
    (hids : s'.ids = s.ids := by rfl) (hl : s'.limit = s.limit := by rfl) (he : s'.epLimit = s.epLimit := by rfl) :
    InvBase s' := by
  refine ⟨hl ▸ h.limit_pos, he ▸ h.epLimit_pos, hids ▸ h.nodup, fun id => ?_⟩
  rw [hids, h.arrived id, ← bne_iff_ne, ← bne_iff_ne, bne, bne, hpc.same id]

theorem InvEp_frame {s s' : State} (h : InvEp s) (hpc : Same epView s.pc s'.pc)
    (heps : s'.eps = s.eps := by rfl) (hids : s'.ids = s.ids := by rfl) (hkey : s'.key = s.key := by rfl)
    (hlim : s'.epLimit = s.epLimit := by rfl) : InvEp s' := by
  intro k
  have hh : holders s' k = holders s k := by
    simp only [holders, hids, hkey]
    exact List.countP_congr fun x _ => by rw [(hpc.ep x).2.1]
  have hw : waitingFor s' k = waitingFor s k := by
    simp only [waitingFor, hids, hkey]
    exact List.filter_congr fun x _ => by rw [(hpc.ep x).2.2]
  rw [heps, hh, hw, hlim]; exact h k

theorem InvEp_upd {s s' : State} (h : InvEp s) {k0 : Key} {e' : Option Ep} {n : Int} {q : List Id}
    (heps : s'.eps = upd s.eps k0 e') (hn : (holders s' k0 : Int) = n) (hq : waitingFor s' k0 = q)
    (hk0 : EntryOk n q s.epLimit e')
    (hother : ∀ k, k ≠ k0 → holders s' k = holders s k ∧ waitingFor s' k = waitingFor s k)
    (hlim : s'.epLimit = s.epLimit := by rfl) : InvEp s' := by
  intro k
  rw [heps, hlim]
  by_cases hk : k = k0
  · rw [hk, upd_same, hn, hq]; exact hk0
  · rw [upd_other _ _ _ _ hk, (hother k hk).1, (hother k hk).2]; exact h k

theorem InvEp_move_upd {s s' : State} {i : Id} {v : Pc} {e' : Option Ep} (hb : InvBase s) (h : InvEp s) (hi : i ∈ s.ids)
    (hpc : s'.pc = upd s.pc i v) (hv : v ≠ .epQueued) (heps : s'.eps = upd s.eps (s.key i) e')
    (hk0 : EntryOk (holders s (s.key i) - (epHolder (s.pc i)).toInt + (epHolder v).toInt) ((waitingFor s (s.key i)).erase i)
      s.epLimit e')
    (hids : s'.ids = s.ids := by rfl) (hkey : s'.key = s.key := by rfl) (hlim : s'.epLimit = s.epLimit := by rfl) :
    InvEp s' := by
  refine InvEp_upd h heps ?_ (waitingFor_move hb.nodup hpc hv _ hids hkey) hk0 ?_ hlim
  · rw [holders_move hb.nodup hi hpc _ hids hkey]; simp
  · intro k hk
    have e := holders_move hb.nodup hi hpc k hids hkey
    rw [show (s.key i == k) = false by simpa using Ne.symm hk] at e
    simp only [Bool.and_false, Bool.toInt_false] at e
    refine ⟨by omega, ?_⟩
    rw [waitingFor_move hb.nodup hpc hv k hids hkey, List.erase_of_not_mem]
    intro hm; exact hk (mem_waitingFor.mp hm).2.2.symm

theorem InvSem_congr {s s' : State} (h : InvSem s) (hcount : semHolders s' = semHolders s)
    (hpc : ∀ j, (s'.pc j = .semQueued ↔ s.pc j = .semQueued))
    (hcur : s'.semCur = s.semCur := by rfl) (hws : s'.semWaiters = s.semWaiters := by rfl)
    (hl : s'.limit = s.limit := by rfl) : InvSem s' := by
  constructor
  · rw [hcur, hcount]; exact h.cur
  · rw [hcur, hl]; exact h.le
  · rw [hws]; exact h.nodup
  · intro id; rw [hws, hpc id]; exact h.mem id
  · rw [hws, hcur, hl]; exact h.full

theorem InvSem_frame {s s' : State} (h : InvSem s) (hpc : Same semView s.pc s'.pc) (hids : s'.ids = s.ids := by rfl)
    (hcur : s'.semCur = s.semCur := by rfl) (hws : s'.semWaiters = s.semWaiters := by rfl)
    (hl : s'.limit = s.limit := by rfl) : InvSem s' :=
  InvSem_congr h
    (by simp only [semHolders, hids]
        exact List.countP_congr fun j _ => by rw [(Prod.mk.inj (hpc.same j)).1])
    (fun j => by rw [← beq_iff_eq, (Prod.mk.inj (hpc.same j)).2, beq_iff_eq])
    hcur hws hl

theorem InvSem_move {s s' : State} {i : Id} {v : Pc} (hb : InvBase s) (h : InvSem s) (hi : i ∈ s.ids)
    (hpc : s'.pc = upd s.pc i v)
    (hcur : s'.semCur = s.semCur - (semHolder (s.pc i)).toInt + (semHolder v).toInt) (hle : s'.semCur ≤ s.limit)
    (hnd : s'.semWaiters.Nodup) (hmem : ∀ j, j ∈ s'.semWaiters ↔ if j = i then v = .semQueued else j ∈ s.semWaiters)
    (hfull : s'.semWaiters ≠ [] → s'.semCur = s.limit)
    (hids : s'.ids = s.ids := by rfl) (hl : s'.limit = s.limit := by rfl) : InvSem s' := by
  refine ⟨?_, hl ▸ hle, hnd, ?_, hl ▸ hfull⟩
  · rw [hcur, semHolders_move hb.nodup hi hpc hids, h.cur]
  · intro j
    rw [hmem j, hpc]
    by_cases hj : j = i
    · rw [if_pos hj, hj, upd_same]
    · rw [if_neg hj, upd_other _ _ _ _ hj]; exact h.mem j

section Arrive
variable (s : State) (id : Id) (k : Key) (v : Pc) (eps' : Key → Option Ep)

/-- the state after the registering section, whatever it did to the table -/
def registered : State := { s with key := upd s.key id k, ids := s.ids ++ [id], pc := upd s.pc id v, eps := eps' }

theorem holders_registered (hn : id ∉ s.ids) (k' : Key) :
    holders (registered s id k v eps') k' = holders s k' + (if (epHolder v && k == k') = true then 1 else 0) := by
  simp only [holders, registered, List.countP_append, List.countP_cons, List.countP_nil, upd_same, Nat.zero_add]
  congr 1
  apply List.countP_congr
  intro x hx
  have : x ≠ id := fun hh => hn (hh ▸ hx)
  simp [upd_other _ _ _ _ this]

theorem waitingFor_registered (hn : id ∉ s.ids) (k' : Key) :
    waitingFor (registered s id k v eps') k' = waitingFor s k' ++ (if (v == .epQueued && k == k') = true then [id] else []) := by
  simp only [waitingFor, registered, List.filter_append]
  congr 1
  · apply List.filter_congr
    intro x hx
    have : x ≠ id := fun hh => hn (hh ▸ hx)
    simp [upd_other _ _ _ _ this]
  · simp [List.filter_cons]

theorem semHolders_registered (hn : id ∉ s.ids) (hv : semHolder v = false) :
    semHolders (registered s id k v eps') = semHolders s := by
  simp only [semHolders, registered, List.countP_append, List.countP_cons, List.countP_nil, upd_same, hv]
  simp only [Bool.false_eq_true, if_false, Nat.add_zero]
  apply List.countP_congr
  intro x hx
  have : x ≠ id := fun hh => hn (hh ▸ hx)
  simp [upd_other _ _ _ _ this]

end Arrive

/-- what the registering section does with the entry of path `k`: the newcomer's program counter and the new entry -/
inductive Registers (s : State) (i : Id) (k : Key) : Pc → Ep → Prop
  | new : s.eps k = none → Registers s i k .epGranted ⟨1, []⟩
  | slot ep : s.eps k = some ep → ep.counter < s.epLimit → Registers s i k .epGranted { ep with counter := ep.counter + 1 }
  | park ep : s.eps k = some ep → ¬ ep.counter < s.epLimit → Registers s i k .epQueued { ep with queue := ep.queue ++ [i] }

theorem Registers.pc {s : State} {i : Id} {k : Key} {v : Pc} {e' : Ep} (h : Registers s i k v e') :
    v = .epGranted ∨ v = .epQueued := by
  cases h <;> simp

/-- What an event can do.  Every `step s ev` is an instance of one of these rules (`step_does`); their target states are written
    out, only `semNotify` and `wakeEp` stay as they are, and everything about `step s ev` is proved by cases on them.  The
    Boolean says on which side of the limiter the rule works: `true` for the five rules of the endpoint side (four rewrite the
    endpoint table, an arrival also the list of requests; `epGone` takes its request out of the owners of a slot); the others
    leave that side as it is, also in what it observes of the program counters (`Does.ep_untouched`), so that what is about the
    endpoint side looks at five rules.  Nothing is assumed of `s`, so the branches that the invariant excludes are rules too
    (`epGone`, `semLeaveNotify`, `epRefuse` of a parked request).  The rules bound a step from above and do not characterise it
    (`skip`, which is there for the events that are not enabled, has no premise, and `semRelease` leaves the branch and the
    result free): an equation for one particular step is to be had from `step` itself. -/
inductive Does (s : State) : Bool → Event → State → Prop
  | skip ev : Does s false ev s
  | flag i : Does s false (.cancel i) { s with cancelled := upd s.cancelled i true }
  | arrive i k v e' : s.pc i = .idle → i ∉ s.ids → Registers s i k v e' →
      Does s true (.arrive i k) (registered s i k v (upd s.eps k (some e')))
  | finish i : s.pc i = .running → Does s false (.finish i) (setPc s i .relSem)
  | start i : s.pc i = .semGranted → s.cancelled i = false → Does s false (.step i .grant) (setPc s i .running)
  | epRefuse i : s.pc i = .epQueued ∨ s.pc i = .epGranted → s.cancelled i = true →
      (∀ ep, s.eps (s.key i) = some ep → i ∉ ep.queue) → Does s false (.step i .cancel) (setPc s i (.relEp .ctx))
  | epLeave i ep : s.pc i = .epQueued ∨ s.pc i = .epGranted → s.cancelled i = true → s.eps (s.key i) = some ep → i ∈ ep.queue →
      Does s true (.step i .cancel)
        (setPc { s with eps := upd s.eps (s.key i) (some { ep with queue := ep.queue.erase i }) } i (.done .ctx))
  | semRefuse i : s.pc i = .epGranted → s.cancelled i = true → Does s false (.step i .grant) (setPc s i (.relEp .ctx))
  | semTake i : s.pc i = .epGranted → s.cancelled i = false → s.limit - s.semCur ≥ 1 → s.semWaiters = [] →
      Does s false (.step i .grant) (setPc { s with semCur := s.semCur + 1 } i .running)
  | semPark i : s.pc i = .epGranted → s.cancelled i = false → ¬ (s.limit - s.semCur ≥ 1 ∧ s.semWaiters = []) →
      Does s false (.step i .grant) (setPc { s with semWaiters := s.semWaiters ++ [i] } i .semQueued)
  | semLeave i : s.pc i = .semQueued → s.cancelled i = true → ¬ (s.semWaiters.head? = some i ∧ s.limit > s.semCur) →
      Does s false (.step i .cancel) (setPc { s with semWaiters := s.semWaiters.erase i } i (.relEp .ctx))
  | semLeaveNotify i : s.pc i = .semQueued → s.cancelled i = true → s.limit > s.semCur →
      Does s false (.step i .cancel) (setPc (semNotify { s with semWaiters := s.semWaiters.erase i }) i (.relEp .ctx))
  | semRelease i br r : s.pc i = .semGranted ∧ s.cancelled i = true ∨ s.pc i = .relSem →
      Does s false (.step i br) (setPc (semNotify { s with semCur := s.semCur - 1 }) i (.relEp r))
  | epGone i br r : s.pc i = .relEp r → s.eps (s.key i) = none → Does s true (.step i br) (setPc s i (.done r))
  | epGive i br r ep : s.pc i = .relEp r → s.eps (s.key i) = some ep → ep.queue = [] →
      Does s true (.step i br) (setPc { s with eps := upd s.eps (s.key i) (if ep.counter - 1 = 0 then none else some { ep with counter := ep.counter - 1 }) } i (.done r))
  | epHand i br r ep w t : s.pc i = .relEp r → s.eps (s.key i) = some ep → ep.queue = w :: t →
      Does s true (.step i br)
        (setPc { s with eps := upd s.eps (s.key i) (some { ep with queue := t }), pc := wakeEp s.pc w } i (.done r))

theorem epRegister_does (s : State) (i : Id) (k : Key) :
    ∃ v e', Registers s i k v e' ∧
      epRegister { s with key := upd s.key i k, ids := s.ids ++ [i] } i k = registered s i k v (upd s.eps k (some e')) := by
  unfold epRegister
  cases he : s.eps k with
  | none => exact ⟨_, _, .new he, rfl⟩
  | some ep =>
    by_cases hlt : ep.counter < s.epLimit
    · exact ⟨_, _, .slot ep he hlt, if_pos hlt⟩
    · exact ⟨_, _, .park ep he hlt, if_neg hlt⟩

theorem epCancel_does (s : State) (i : Id) (hi : s.pc i = .epQueued ∨ s.pc i = .epGranted) (hc : s.cancelled i = true) :
    ∃ side, Does s side (.step i .cancel) (epCancel s i) := by
  cases he : s.eps (s.key i) with
  | none =>
    simp only [epCancel, he]
    exact ⟨_, .epRefuse i hi hc (fun ep h => by rw [he] at h; cases h)⟩
  | some ep =>
    simp only [epCancel, he]
    split
    · exact ⟨_, .epLeave i ep hi hc he ‹_›⟩
    · exact ⟨_, .epRefuse i hi hc (fun ep' h => by rw [he] at h; cases h; assumption)⟩

theorem semAcquire_does (s : State) (i : Id) (hi : s.pc i = .epGranted) : Does s false (.step i .grant) (semAcquire s i) := by
  unfold semAcquire
  split
  · exact .semRefuse i hi ‹_›
  · split
    · exact .semTake i hi (eq_false_of_ne_true ‹_›) (‹_ ∧ _›).1 (‹_ ∧ _›).2
    · exact .semPark i hi (eq_false_of_ne_true ‹_›) ‹_›

theorem semCancel_does (s : State) (i : Id) (hi : s.pc i = .semQueued ∨ s.pc i = .semGranted) (hc : s.cancelled i = true) :
    Does s false (.step i .cancel) (semCancel s i) := by
  unfold semCancel
  split
  · exact .semRelease i _ _ (Or.inl ⟨‹_›, hc⟩)
  · simp only
    split
    · exact .semLeaveNotify i (hi.resolve_right ‹_›) hc (‹_ ∧ _›).2
    · exact .semLeave i (hi.resolve_right ‹_›) hc ‹_›

theorem epRelease_does (s : State) (i : Id) (br : Br) (r : Res) (hi : s.pc i = .relEp r) :
    Does s true (.step i br) (setPc (epRelease s (s.key i)) i (.done r)) := by
  cases he : s.eps (s.key i) with
  | none => simp only [epRelease, he]; exact .epGone i br r hi he
  | some ep =>
    cases hq : ep.queue with
    | cons w t => simp only [epRelease, he, hq]; exact .epHand i br r ep w t hi he hq
    | nil =>
      have := Does.epGive i br r ep hi he hq
      simp only [epRelease, he, hq]
      split
      · rwa [if_pos ‹_›] at this
      · rw [if_neg ‹_›] at this; simpa only [hq] using this

theorem step_does (s : State) (ev : Event) : ∃ side, Does s side ev (step s ev) := by
  cases ev with
  | arrive i k =>
    simp only [step]
    split
    · obtain ⟨v, e', hr, e⟩ := epRegister_does s i k
      exact ⟨true, e ▸ Does.arrive i k v e' (‹_ ∧ _›).1 (‹_ ∧ _›).2 hr⟩
    · exact ⟨_, .skip _⟩
  | cancel i => exact ⟨_, .flag i⟩
  | finish i =>
    simp only [step]
    split
    · exact ⟨_, .finish i ‹_›⟩
    · exact ⟨_, .skip _⟩
  | step i br =>
    cases hp : s.pc i <;> cases br <;> simp only [step, hp]
    case epGranted.grant => exact ⟨_, semAcquire_does s i hp⟩
    case semGranted.grant =>
      split
      · exact ⟨_, .semRelease i _ _ (Or.inl ⟨hp, ‹_›⟩)⟩
      · exact ⟨_, .start i hp (eq_false_of_ne_true ‹_›)⟩
    case relSem.grant | relSem.cancel => exact ⟨_, .semRelease i _ _ (Or.inr hp)⟩
    case relEp.grant | relEp.cancel => exact ⟨_, epRelease_does s i _ _ hp⟩
    case epQueued.cancel | epGranted.cancel =>
      split
      · exact epCancel_does s i (by simp [hp]) ‹_›
      · exact ⟨_, .skip _⟩
    case semQueued.cancel | semGranted.cancel =>
      split
      · exact ⟨_, semCancel_does s i (by simp [hp]) ‹_›⟩
      · exact ⟨_, .skip _⟩
    all_goals exact ⟨_, .skip _⟩

theorem Does.ep_untouched {s s' : State} {ev : Event} (h : Inv s) (hd : Does s false ev s') :
    Same epView s.pc s'.pc ∧ s'.eps = s.eps ∧ s'.ids = s.ids ∧ s'.key = s.key ∧ s'.epLimit = s.epLimit ∧ s'.limit = s.limit := by
  cases hd <;> refine ⟨?_, rfl, rfl, rfl, rfl, rfl⟩
  case skip | flag => exact .rfl
  case finish hp | start hp _ | semRefuse hp _ | semTake hp _ _ _ | semPark hp _ _ | semLeave hp _ _ =>
    exact Moves.rfl.upd (by rw [hp]; rfl)
  case epRefuse hp _ hnq => exact Moves.rfl.upd (by rw [h.refused hp hnq]; rfl)
  case semLeaveNotify hp _ _ => exact Moves.notified rfl (by rw [hp]; rfl)
  case semRelease hp => exact Moves.notified rfl (by rcases hp with ⟨hp, _⟩ | hp <;> rw [hp] <;> rfl)

/-- only an arrival changes who has arrived -/
theorem InvBase_step {s s' : State} {side : Bool} {ev : Event} (h : Inv s) (hd : Does s side ev s') : InvBase s' := by
  cases side with
  | false =>
    obtain ⟨hpc, _, hids, _, hlim, hl⟩ := hd.ep_untouched h
    exact InvBase_frame h.base (hpc.mono fun _ _ => congrArg Prod.fst) hids hl hlim
  | true =>
    cases hd with
    | arrive i k v e' hi hn hreg =>
      refine ⟨h.base.limit_pos, h.base.epLimit_pos, nodup_snoc h.base.nodup hn, fun j => ?_⟩
      show j ∈ s.ids ++ [i] ↔ upd s.pc i v j ≠ .idle
      by_cases hj : j = i
      · subst hj; rcases hreg.pc with hv | hv <;> simp [hv]
      · rw [upd_other _ _ _ _ hj, List.mem_append]; simp [hj, h.base.arrived j]
    | epGone i _ _ hp | epGive i _ _ _ hp => exact InvBase_frame h.base (Moves.rfl.upd (by rw [hp]; rfl))
    | epLeave i _ hp => exact InvBase_frame h.base (Moves.rfl.upd (by rcases hp with hp | hp <;> rw [hp] <;> rfl))
    | epHand i _ _ _ w _ hp => exact InvBase_frame h.base ((Moves.wakeEp _ w rfl).upd (by rw [hp]; rfl))

theorem InvEp_arrive {s : State} (h : Inv s) {i : Id} {k : Key} {v : Pc} {e' : Ep} (hn : i ∉ s.ids)
    (hreg : Registers s i k v e') : InvEp (registered s i k v (upd s.eps k (some e'))) := by
  refine InvEp_upd h.ep (n := holders s k + (epHolder v).toInt) (q := waitingFor s k ++ if v = .epQueued then [i] else [])
    rfl ?_ ?_ ?_ ?_
  · rw [holders_registered _ _ _ _ _ hn]; cases epHolder v <;> simp
  · rw [waitingFor_registered _ _ _ _ _ hn]; simp
  · cases hreg with
    | new he =>
      obtain ⟨a, b⟩ := h.ep.of_none k he
      rw [a, b]
      exact entryOk_some (by simp [epHolder]) (by decide) h.base.epLimit_pos (by simp) (fun hne => absurd rfl hne)
    | slot ep he hlt =>
      obtain ⟨a, b, c, d, f⟩ := h.ep.of_some k ep he
      exact entryOk_some (by rw [a]; simp [epHolder]) (by omega) (by omega) (by rw [d]; simp)
        (fun hne => by have := f hne; omega)
    | park ep he hlt =>
      obtain ⟨a, b, c, d, f⟩ := h.ep.of_some k ep he
      exact entryOk_some (by rw [a]; simp [epHolder]) b c (by rw [d]; simp) (fun _ => by omega)
  · intro k' hk'
    have hne : (k == k') = false := by simpa using Ne.symm hk'
    exact ⟨by rw [holders_registered _ _ _ _ _ hn, hne]; simp, by rw [waitingFor_registered _ _ _ _ _ hn, hne]; simp⟩

/-- `releaseEndpoint` hands the slot to the first waiter `w`: every path has as many owners as before, and `w` waits no longer -/
theorem InvEp_epHand {s : State} (h : Inv s) {i w : Id} {r : Res} {ep : Ep} {t : List Id} (hi : s.pc i = .relEp r)
    (he : s.eps (s.key i) = some ep) (hqq : ep.queue = w :: t) :
    InvEp (setPc { s with eps := upd s.eps (s.key i) (some { ep with queue := t }), pc := wakeEp s.pc w } i (.done r)) := by
  have himem : i ∈ s.ids := mem_ids_of_pc h.base hi (by simp)
  have hiq : s.pc i ≠ .epQueued := by simp [hi]
  obtain ⟨hc, hc1, hcl, hq, hf⟩ := h.ep.of_some _ ep he
  obtain ⟨hwids, hwq, hwk⟩ := mem_waitingFor.mp (show w ∈ waitingFor s (s.key i) by rw [← hq, hqq]; simp)
  have hwi : w ≠ i := by intro hh; rw [hh, hi] at hwq; cases hwq
  rw [show wakeEp s.pc w = upd s.pc w .epGranted by simp [wakeEp, hwq]]
  have hpi : (setPc s w .epGranted).pc i = s.pc i := upd_other _ _ _ _ (Ne.symm hwi)
  have hcount : ∀ k, (holders (setPc (setPc s w .epGranted) i (.done r)) k : Int) = holders s k ∧
      waitingFor (setPc (setPc s w .epGranted) i (.done r)) k = (waitingFor s k).erase w := by
    intro k
    have e1 := holders_move h.base.nodup hwids (s' := setPc s w .epGranted) rfl k
    have e2 := holders_move (s := setPc s w .epGranted) h.base.nodup himem (s' := setPc (setPc s w .epGranted) i (.done r)) rfl k
    rw [hpi, hi, show (setPc s w .epGranted).key i = s.key i from rfl] at e2
    rw [hwq, hwk] at e1
    simp only [epHolder, Bool.false_and, Bool.true_and, Bool.toInt_false] at e1 e2
    refine ⟨by omega, ?_⟩
    rw [waitingFor_move (s := setPc s w .epGranted) h.base.nodup rfl (by simp) k,
      List.erase_of_not_mem (fun hm => hiq (hpi ▸ (mem_waitingFor.mp hm).2.1))]
    exact waitingFor_move h.base.nodup rfl (by simp) k
  -- the table is not read by the counts, so they are those of the two moves alone
  refine InvEp_upd h.ep rfl ((hcount _).1.trans hc.symm) (hcount _).2
    (entryOk_some rfl hc1 hcl (by rw [← hq, hqq]; simp) fun _ => hf (by rw [hqq]; simp)) ?_
  intro k hk
  refine ⟨Int.ofNat_inj.mp (hcount k).1, (hcount k).2.trans (List.erase_of_not_mem ?_)⟩
  intro hm; exact hk ((mem_waitingFor.mp hm).2.2.symm.trans hwk)

theorem InvEp_step {s s' : State} {side : Bool} {ev : Event} (h : Inv s) (hd : Does s side ev s') : InvEp s' := by
  cases side with
  | false =>
    obtain ⟨hpc, heps, hids, hkey, hlim, _⟩ := hd.ep_untouched h
    exact InvEp_frame h.ep hpc heps hids hkey hlim
  | true =>
    cases hd with
    | arrive _ _ _ _ _ hn hreg => exact InvEp_arrive h hn hreg
    | epLeave i ep hp _ he hmem =>
      obtain ⟨hc, hc1, hcl, hq, hf⟩ := h.ep.of_some _ ep he
      have hiq : s.pc i = .epQueued := by rw [hq] at hmem; exact (mem_waitingFor.mp hmem).2.1
      refine InvEp_move_upd h.base h.ep (mem_ids_of_pc h.base hiq (by simp)) rfl (by simp) rfl ?_
      rw [hiq, ← hc, ← hq]
      exact entryOk_some (by simp [epHolder]) hc1 hcl rfl fun hne => hf fun h0 => hne (by rw [h0]; rfl)
    | epGone i _ r hi he =>
      -- `i` itself is counted among the owners of a slot of its path
      have := List.countP_eq_zero.mp (h.ep.of_none _ he).1 i (mem_ids_of_pc h.base hi (by simp))
      simp [hi, epHolder] at this
    | epGive i _ r ep hi he hqq =>
      -- nobody waits: the path of `i` has one owner less, and its entry goes when that was the last
      obtain ⟨hc, hc1, hcl, hq, hf⟩ := h.ep.of_some _ ep he
      refine InvEp_move_upd h.base h.ep (mem_ids_of_pc h.base hi (by simp)) rfl (by simp) rfl ?_
      rw [hi, ← hc, ← hq, hqq]
      show EntryOk (ep.counter - true.toInt + false.toInt) _ _ _
      split
      · exact ⟨by simp; omega, rfl⟩
      · exact entryOk_some (by simp) (by omega) (by omega) rfl (fun hne => absurd rfl hne)
    | epHand _ _ _ _ _ _ hi he hqq => exact InvEp_epHand h hi he hqq

theorem InvSem_release {s : State} (h : Inv s) (i : Id) (r : Res) (hi : semHolder (s.pc i) = true) :
    InvSem (setPc (semRelease s) i (.relEp r)) := by
  have his : s.pc i ≠ .semQueued := by intro hh; rw [hh] at hi; cases hi
  have himem : i ∈ s.ids := (h.base.arrived i).mpr (by intro hh; rw [hh] at hi; cases hi)
  cases hws : s.semWaiters with
  | nil =>
    have e : semRelease s = { s with semCur := s.semCur - 1 } := by simp [semRelease, semNotify, hws, notifyLoop]
    rw [e]
    refine InvSem_move h.base h.sem himem rfl ?_ ?_ h.sem.nodup ?_ (fun hne => absurd hws hne)
    · show s.semCur - 1 = _
      rw [hi]; simp [semHolder]
    · show s.semCur - 1 ≤ s.limit
      have := h.sem.le; omega
    · intro j; show j ∈ s.semWaiters ↔ _
      rw [hws]; split <;> simp
  | cons w t =>
    -- the semaphore is full, so the one unit goes to the first waiter `w` and to nobody else
    have hfull : s.semCur = s.limit := h.sem.full (by rw [hws]; simp)
    have hwq : s.pc w = .semQueued := (h.sem.mem w).mp (by rw [hws]; simp)
    have hwi : w ≠ i := by intro hh; rw [hh] at hwq; exact his hwq
    have hnd : (w :: t).Nodup := hws ▸ h.sem.nodup
    have e : semRelease s = { s with semCur := s.semCur - 1 + 1, semWaiters := t, pc := upd s.pc w .semGranted } := by
      simp only [semRelease, semNotify, hws]
      rw [notifyLoop_one _ _ _ _ _ (by omega)]
      simp [hwq]
    rw [e]
    have hwmem : w ∈ s.ids := mem_ids_of_pc h.base hwq (by simp)
    have hpi : (setPc s w .semGranted).pc i = s.pc i := upd_other _ _ _ _ (Ne.symm hwi)
    refine ⟨?_, ?_, (List.nodup_cons.mp hnd).2, ?_, fun _ => ?_⟩
    · have e1 := semHolders_move h.base.nodup hwmem (s' := setPc s w .semGranted) rfl
      have e2 := semHolders_move (s := setPc s w .semGranted) h.base.nodup himem
        (s' := setPc { s with semCur := s.semCur - 1 + 1, semWaiters := t, pc := upd s.pc w .semGranted } i (.relEp r)) rfl
      rw [hpi, hi] at e2
      rw [hwq] at e1
      show s.semCur - 1 + 1 = _
      rw [e2, e1, h.sem.cur]
      show _ = (semHolders s : Int) - 0 + 1 - 1 + 0
      omega
    · show s.semCur - 1 + 1 ≤ s.limit
      omega
    · intro j
      show j ∈ t ↔ upd (upd s.pc w .semGranted) i (.relEp r) j = .semQueued
      by_cases hj : j = i
      · rw [hj, upd_same]
        have : i ∉ t := fun hm => his ((h.sem.mem i).mp (by rw [hws]; exact List.mem_cons_of_mem _ hm))
        simp [this]
      · rw [upd_other _ _ _ _ hj]
        by_cases hjw : j = w
        · rw [hjw, upd_same]
          simp [(List.nodup_cons.mp hnd).1]
        · rw [upd_other _ _ _ _ hjw, ← h.sem.mem j, hws]
          simp [hjw]
    · show s.semCur - 1 + 1 = s.limit
      omega

theorem InvSem_step {s s' : State} {side : Bool} {ev : Event} (h : Inv s) (hd : Does s side ev s') : InvSem s' := by
  cases hd with
  | skip => exact h.sem
  | flag => exact InvSem_frame h.sem .rfl
  | arrive i k v e' hi hn hreg =>
    refine InvSem_congr h.sem (semHolders_registered s i k v _ hn (by rcases hreg.pc with hv | hv <;> rw [hv] <;> rfl)) fun j => ?_
    show upd s.pc i v j = .semQueued ↔ _
    by_cases hj : j = i
    · subst hj; rcases hreg.pc with hv | hv <;> simp [hv, hi]
    · rw [upd_other _ _ _ _ hj]
  -- the rules that leave the semaphore alone, also in what it observes of the program counters
  | finish i hp | start i hp | semRefuse i hp | epGone i _ _ hp | epGive i _ _ _ hp =>
    exact InvSem_frame h.sem (Moves.rfl.upd (by rw [hp]; rfl))
  | epRefuse i hp | epLeave i _ hp => exact InvSem_frame h.sem (Moves.rfl.upd (by rcases hp with hp | hp <;> rw [hp] <;> rfl))
  | epHand i _ _ _ w _ hp => exact InvSem_frame h.sem ((Moves.wakeEp _ w rfl).upd (by rw [hp]; rfl))
  | semTake i hi _ hroom hws =>
    refine InvSem_move h.base h.sem (mem_ids_of_pc h.base hi (by simp)) rfl ?_ ?_ h.sem.nodup ?_ (fun hne => absurd hws hne)
    · show s.semCur + 1 = _
      rw [hi]; simp [semHolder]
    · show s.semCur + 1 ≤ s.limit
      omega
    · intro j; show j ∈ s.semWaiters ↔ _
      rw [hws]; split <;> simp
  | semPark i hi _ hfree =>
    have hni : i ∉ s.semWaiters := by
      intro hm; have := (h.sem.mem i).mp hm; rw [hi] at this; cases this
    refine InvSem_move h.base h.sem (mem_ids_of_pc h.base hi (by simp)) rfl ?_ h.sem.le (nodup_snoc h.sem.nodup hni) ?_ (fun _ => ?_)
    · show s.semCur = _
      rw [hi]; simp [semHolder]
    · intro j; show j ∈ s.semWaiters ++ [i] ↔ _
      by_cases hj : j = i <;> simp [hj]
    · show s.semCur = s.limit
      by_cases hw : s.semWaiters = []
      · have : ¬ (s.limit - s.semCur ≥ 1) := fun hh => hfree ⟨hh, hw⟩
        have := h.sem.le; omega
      · exact h.sem.full hw
  | semLeave i hq =>
    refine InvSem_move h.base h.sem (mem_ids_of_pc h.base hq (by simp)) rfl ?_ h.sem.le (h.sem.nodup.erase i) ?_
      (fun _ => (h.sem.parked hq).2)
    · show s.semCur = _
      rw [hq]; simp [semHolder]
    · intro j; show j ∈ s.semWaiters.erase i ↔ _
      rw [h.sem.nodup.mem_erase_iff]
      by_cases hj : j = i <;> simp [hj]
  | semLeaveNotify i hq _ hroom =>
    -- a waiter exists, so the semaphore is full
    have := (h.sem.parked hq).2
    omega
  | semRelease i br r hi =>
    exact InvSem_release h i r (by rcases hi with ⟨hi, _⟩ | hi <;> rw [hi] <;> rfl)

theorem Inv_step {s : State} (h : Inv s) (ev : Event) : Inv (step s ev) := by
  obtain ⟨side, hd⟩ := step_does s ev
  exact ⟨InvBase_step h hd, InvEp_step h hd, InvSem_step h hd⟩

theorem effective_pos (l : Int) : 1 ≤ effective l := by
  unfold effective maxInt64; split <;> omega

theorem effective_one_le (l : Int) : effective 1 ≤ effective l := by
  have := effective_pos l
  have e : effective 1 = 1 := by decide +kernel
  omega

theorem Inv_init (limit epLimit : Int) : Inv (init limit epLimit) := by
  refine ⟨⟨effective_pos _, effective_pos _, List.nodup_nil, ?_⟩, fun k => ⟨rfl, rfl⟩, ⟨rfl, ?_, List.nodup_nil, ?_, ?_⟩⟩
  · intro id; simp [init]
  · show (0 : Int) ≤ effective limit
    have := effective_pos limit; omega
  · intro id; simp [init]
  · intro hne; exact absurd rfl hne

theorem Inv_reachable (limit epLimit : Int) (evs : List Event) : Inv (run (init limit epLimit) evs) :=
  List.foldlRecOn evs step (Inv_init limit epLimit) fun _ h ev _ => Inv_step h ev

theorem run_limits (evs : List Event) (s : State) : (run s evs).limit = s.limit ∧ (run s evs).epLimit = s.epLimit := by
  refine List.foldlRecOn (motive := fun s' => s'.limit = s.limit ∧ s'.epLimit = s.epLimit) evs step ⟨rfl, rfl⟩ fun s' h e _ => ?_
  obtain ⟨side, hd⟩ := step_does s' e
  generalize step s' e = s'' at hd
  cases hd <;> exact h

end CoapVerif.Lemmas.Limiter
