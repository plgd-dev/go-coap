import CoapVerif.Lemmas.RouterParse
import CoapVerif.Lemmas.RouterPreferSpec
/-!
# C17 lemmas — the model's index-and-slice parse of a template equals the specification's structural cut

`braceIndices` + the slicing loop of `newRouteRegexp` (model of the source) and `Spec.Router.cut` + `mkSegs` (the
specification's one-pass reading of a template text) yield the same pieces, the same errors, and — up to the spelling of
the default pattern — the same segments: `parseTemplate_segments`, whose statement is `ParseAgrees` (refusal against refusal;
on success `SegsEq`, segment by segment `SegEq`).  At the end: matching and the preferred decomposition do not depend on
whose cut of an accepted template is used (`tplMatches_segsEq`, `chosen_segsEq`, over the `SegsEq` that `segments_of_accepted`
gives).
-/
namespace CoapVerif.Lemmas.Router
open CoapVerif.Model.Router
open CoapVerif.Spec.Router hiding byteLen

/-- the pieces an index list cuts out of `s`, the first literal starting at `e` -/
def piecesOf (s : Str) : List Nat → Nat → List (Bool × Str)
  | o :: c :: r, e => (false, slice s e o) :: (true, slice s (o + 1) (c - 1)) :: piecesOf s r c
  | [], e => [(false, slice s e s.length)]
  | [_], e => [(false, slice s e s.length)]

theorem slice_prefix (pre rest : Str) (e : Nat) (he : e ≤ pre.length) : slice (pre ++ rest) e pre.length = pre.drop e := by
  simp only [slice]
  rw [List.drop_append_of_le_length he, List.take_append_of_le_length (by simp [List.length_drop])]
  exact List.take_of_length_le (by simp [List.length_drop])

/-- How a run of the model's scan from some position relates to the specification's cut from the same position: the scan fails
    or ends inside braces exactly when the cut fails; when it ends at level 0 it has extended its accumulator `acc` by `new`, the cut
    yields `ps`, and `good new ps`.  `acc` and `good` are parameters because the induction has two cases that call each other,
    outside braces (`Outside`) and inside (`Inside`), and both advance by the one lemma `Sim.step`. -/
def Sim (acc : List Nat) (good : List Nat → List (Bool × Str) → Prop) (res : Except Fail (Int × List Nat))
    (c : Option (List (Bool × Str))) : Prop :=
  match res with
  | .error f => f = .err .unbalanced ∧ c = none
  | .ok (lvl, out) => if lvl = 0 then ∃ new ps, out = acc ++ new ∧ c = some ps ∧ good new ps else c = none

/-- one step of both scans: the cut puts `f` around what it yields from the next position on, the scan's accumulator may have grown -/
theorem Sim.step {acc acc' : List Nat} {good good' : List Nat → List (Bool × Str) → Prop} {res : Except Fail (Int × List Nat)}
    {c c' : Option (List (Bool × Str))} (f : List (Bool × Str) → List (Bool × Str)) (h : Sim acc' good' res c) (hc : c.map f = c')
    (hg : ∀ new ps, good' new ps → ∃ new', acc' ++ new = acc ++ new' ∧ good new' (f ps)) : Sim acc good res c' := by
  subst hc
  unfold Sim at h ⊢
  split at h
  · exact ⟨h.1, by rw [h.2]; rfl⟩
  · split at h
    · obtain ⟨new, ps, rfl, rfl, hgood⟩ := h
      obtain ⟨new', hn, hgood'⟩ := hg new ps hgood
      rw [if_pos ‹_›]
      exact ⟨new', f ps, hn, rfl, hgood'⟩
    · rw [if_neg ‹_›, h]; rfl

/-- outside braces, the literal piece having started at `e`: the new indices are well-nested from `n` on and cut out the pieces -/
def Outside (s : Str) (n e : Nat) (new : List Nat) (ps : List (Bool × Str)) : Prop :=
  Good n new s.length ∧ ps = piecesOf s new e

/-- inside the braces opened at `idx`: the new indices start with `idx` and the position behind the matching closing brace -/
def Inside (s : Str) (n idx : Nat) (new : List Nat) (ps : List (Bool × Str)) : Prop :=
  ∃ c r, new = idx :: c :: r ∧ n + 1 ≤ c ∧ Good c r s.length ∧ ps = (true, slice s (idx + 1) (c - 1)) :: piecesOf s r c

theorem Sim.inside_of_succ {s : Str} {n idx : Nat} {acc : List Nat} {res : Except Fail (Int × List Nat)} {c : Option (List (Bool × Str))}
    (h : Sim acc (Inside s (n + 1) idx) res c) : Sim acc (Inside s n idx) res c := by
  refine h.step id (by simp only [Option.map_id_fun, id]) ?_
  rintro _ _ ⟨c1, r, rfl, hc1, hg, rfl⟩
  exact ⟨_, rfl, c1, r, rfl, by omega, hg, rfl⟩

/-- The scan at position `pre.length` against the cut of the same rest.  The cut carries the text since the current piece began,
    and that is a suffix of what was read: `pre.drop e` outside braces (the literal began at `e`), `pre.drop (idx + 1)` inside
    (the brace opened at `idx`). -/
theorem braceLoop_cut (s : Str) : ∀ (rest pre : Str), s = pre ++ rest → ∀ (idx : Nat) (acc : List Nat),
    (∀ e, e ≤ pre.length →
      Sim acc (Outside s pre.length e) (braceLoop rest pre.length ((0 : Nat) : Int) idx acc) (cut rest 0 (pre.drop e))) ∧
    (∀ d : Nat, idx < pre.length →
      Sim acc (Inside s pre.length idx) (braceLoop rest pre.length ((d + 1 : Nat) : Int) idx acc)
        (cut rest (d + 1) (pre.drop (idx + 1)))) := by
  intro rest
  induction rest with
  | nil =>
    intro pre hs idx acc
    rw [List.append_nil] at hs
    subst hs
    refine ⟨fun e he => ?_, fun d _ => ?_⟩
    · have := slice_prefix s [] e he
      rw [List.append_nil] at this
      exact ⟨[], _, (List.append_nil _).symm, rfl, Nat.le_refl _, by simp only [piecesOf, this]⟩
    · simp only [braceLoop, Sim]
      rw [if_neg (by omega)]
      rfl
  | cons c t ih =>
    intro pre hs idx acc
    have IH := ih (pre ++ [c]) (by rw [hs, List.append_assoc]; rfl)
    simp only [List.length_append, List.length_cons, List.length_nil, Nat.zero_add] at IH
    have hdropall : (pre ++ [c]).drop (pre.length + 1) = [] := List.drop_eq_nil_of_le (by simp)
    have hsl : ∀ e, e ≤ pre.length → slice s e pre.length = pre.drop e := fun e he => by rw [hs]; exact slice_prefix pre _ e he
    refine ⟨fun e he => ?_, fun d hidx => ?_⟩
    · by_cases h1 : c = '{'
      · subst h1
        have := (IH pre.length acc).2 0 (Nat.lt_succ_self _)
        rw [hdropall] at this
        rw [braceLoop_open, if_pos rfl]
        refine this.step ((false, pre.drop e) :: ·) (by simp only [cut, if_true]) ?_
        rintro _ _ ⟨c1, r, rfl, hc1, hg, rfl⟩
        exact ⟨_, rfl, ⟨Nat.le_refl _, by omega, hg⟩, by simp only [piecesOf, hsl e he]⟩
      · by_cases h2 : c = '}'
        · subst h2
          exact ⟨rfl, rfl⟩
        · have := (IH idx acc).1 e (by omega)
          rw [List.drop_append_of_le_length he] at this
          rw [braceLoop_other h1 h2]
          exact this.step id (by simp only [cut, h1, h2, if_false, Option.map_id_fun, id])
            fun new ps ⟨hg, hp⟩ => ⟨new, rfl, hg.mono (Nat.le_succ _), hp⟩
    · have IH2 := fun d' => ((IH idx acc).2 d' (by omega)).inside_of_succ
      rw [List.drop_append_of_le_length hidx] at IH2
      by_cases h2 : c = '}'
      · subst h2
        rw [braceLoop_close]
        simp only [cut, if_true]
        cases d with
        | zero =>
          have := (IH idx (acc ++ [idx, pre.length + 1])).1 (pre.length + 1) (Nat.le_refl _)
          rw [hdropall] at this
          rw [if_pos rfl, if_pos rfl]
          refine this.step ((true, pre.drop (idx + 1)) :: ·) rfl ?_
          rintro new _ ⟨hg, rfl⟩
          exact ⟨_, by rw [List.append_assoc]; rfl, ⟨pre.length + 1, new, rfl, Nat.le_refl _, hg,
            by simp only [Nat.add_sub_cancel, hsl (idx + 1) hidx]⟩⟩
        | succ d =>
          rw [if_neg (Nat.succ_ne_zero d), if_neg (Nat.succ_ne_zero d)]
          exact IH2 d
      · by_cases h1 : c = '{'
        · subst h1
          rw [braceLoop_open, if_neg (Nat.succ_ne_zero d)]
          simp only [cut, h2, if_false, if_true]
          exact IH2 (d + 1)
        · rw [braceLoop_other h1 h2]
          simp only [cut, h1, h2, if_false]
          exact IH2 d

theorem braceIndices_cut (s : Str) :
    match braceIndices s with
    | .ok idxs => Good 0 idxs s.length ∧ cut s 0 [] = some (piecesOf s idxs 0)
    | .error e => e = .err .unbalanced ∧ cut s 0 [] = none := by
  have h := (braceLoop_cut s s [] rfl 0 []).1 0 (Nat.le_refl _)
  simp only [List.length_nil, List.drop_nil, Int.natCast_zero] at h
  unfold braceIndices
  cases hb : braceLoop s 0 0 0 [] with
  | error f => rw [hb] at h; exact h
  | ok r =>
    obtain ⟨lvl, out⟩ := r
    rw [hb] at h
    simp only [Sim] at h
    by_cases hl : lvl = 0
    · rw [if_pos hl] at h
      obtain ⟨new, ps, rfl, hc, hg, rfl⟩ := h
      simpa [hl] using ⟨hg, hc⟩
    · rw [if_neg hl] at h
      simpa [hl] using h

/-- two spellings of the same pattern: identical, or the bare-variable pattern `X` against `X·ε` (what `parsePat` makes of the
    text of the default pattern) -/
def PatSame (p q : Pat) : Prop :=
  p = q ∨ (p = segmentPat ∧ q = .cat segmentPat .eps) ∨ (q = segmentPat ∧ p = .cat segmentPat .eps)

/-- the same segment: equal literals; variables of the same name with the same language and — for the preference order, which
    the language does not fix — patterns that are `PatSame` (which gives the equal languages too, by `lang_cat_eps`) -/
def SegEq : Seg → Seg → Prop
  | .lit a, .lit b => a = b
  | .var n p, .var m q => n = m ∧ (∀ w, Lang p w ↔ Lang q w) ∧ PatSame p q
  | _, _ => False

def SegsEq : List Seg → List Seg → Prop
  | [], [] => True
  | a :: as, b :: bs => SegEq a b ∧ SegsEq as bs
  | _, _ => False

/-- the model's parse against the specification's reading: both succeed, without capture groups and with the same segments; or
    the model's parts hold a capture group and the specification says so; or both refuse for the same defect.  Never a panic. -/
def ParseAgrees (res : Except Fail (List CPart × Str)) (spec : Except TplErr (List Seg)) : Prop :=
  match res with
  | .ok (parts, trailing) =>
      (match spec with
       | .ok segs => (parts.any (·.hasCap)) = false ∧ SegsEq segs (toSegs parts trailing)
       | .error .capture => (parts.any (·.hasCap)) = true
       | .error _ => False)
  | .error (.err .unbalanced) => spec = .error .unbalanced
  | .error (.err .missing) => spec = .error .missing
  | .error (.err .regex) => spec = .error .regex
  | .error .unsupported => spec = .error .unsupported
  | .error _ => False

/-- the refusal rows of `ParseAgrees` as a function (`parseAgrees_error`): in this form a refusal of the loop is carried through what
    the specification does with the pieces in front of it -/
def specErr : Fail → Option TplErr
  | .err .unbalanced => some .unbalanced
  | .err .missing => some .missing
  | .err .regex => some .regex
  | .unsupported => some .unsupported
  | _ => none

theorem parseAgrees_error (f : Fail) (spec : Except TplErr (List Seg)) :
    ParseAgrees (.error f) spec ↔ ∃ te, specErr f = some te ∧ spec = .error te := by
  cases f with
  | err k => cases k <;> simp [ParseAgrees, specErr]
  | _ => simp [ParseAgrees, specErr]

theorem parseAgrees_ok_error (parts : List CPart) (trailing : Str) (te : TplErr) :
    ParseAgrees (.ok (parts, trailing)) (.error te) ↔ te = .capture ∧ (parts.any (·.hasCap)) = true := by
  cases te <;> simp [ParseAgrees]

theorem splitColon_eq : ∀ s : Str, splitFirstColon s = splitColon s
  | [] => rfl
  | c :: t => by
    simp only [splitFirstColon, splitColon, splitColon_eq t]

theorem parse_default : parsePat defaultPattern = .ok (.cat segmentPat .eps, false) := by decide

theorem default_nonempty : defaultPattern ≠ [] := by decide

theorem mkSegs_lit (x : Str) (r : List (Bool × Str)) :
    mkSegs ((false, x) :: r) = (mkSegs r).map (fun l => Seg.lit x :: l) := rfl

theorem partsLoop_cons (path : Str) (o c : Nat) (r : List Nat) (e : Nat) (acc : List CPart)
    (h1 : e ≤ o) (h2 : o + 2 ≤ c) (hc : c ≤ path.length) :
    partsLoop path (o :: c :: r) e acc =
      (match splitColon (slice path (o + 1) (c - 1)) with
       | (name, p2) =>
         if name = [] ∨ p2.getD defaultPattern = [] then .error (.err .missing)
         else
           match parsePat (p2.getD defaultPattern) with
           | .error .syntax => .error (.err .regex)
           | .error .unsupported => .error .unsupported
           | .ok (p, hcap) => partsLoop path r c (acc ++ [⟨slice path e o, name, p2.getD defaultPattern, p, hcap⟩])) := by
  have e1 : (o : Int) + 1 = ((o + 1 : Nat) : Int) := rfl
  have e2 : (c : Int) - 1 = ((c - 1 : Nat) : Int) := (Int.ofNat_sub (Nat.le_trans (Nat.le_add_left 1 (o + 1)) h2)).symm
  rw [partsLoop]
  simp only [bind, Except.bind]
  rw [goSlice_ok path e o h1 (by omega), e1, e2, goSlice_ok path (o + 1) (c - 1) (by omega) (by omega)]
  rfl

/-- one iteration of the model against the specification's treatment of the same variable body: the same refusal, or the
    loop goes on with a part that is the same variable up to the spelling of the default pattern — the specification
    looks at capture groups only after the rest of the template -/
theorem partsLoop_step (path : Str) (o c : Nat) (r : List Nat) (e : Nat) (acc : List CPart)
    (h1 : e ≤ o) (h2 : o + 2 ≤ c) (hc : c ≤ path.length) (pieces : List (Bool × Str)) :
    (∃ f te, partsLoop path (o :: c :: r) e acc = .error f ∧ specErr f = some te ∧
        mkSegs ((true, slice path (o + 1) (c - 1)) :: pieces) = .error te) ∨
    (∃ part q, partsLoop path (o :: c :: r) e acc = partsLoop path r c (acc ++ [part]) ∧ part.raw = slice path e o ∧
        (∀ w, Lang q w ↔ Lang part.pat w) ∧ PatSame q part.pat ∧
        mkSegs ((true, slice path (o + 1) (c - 1)) :: pieces) =
          (match mkSegs pieces with
           | .error e => .error e
           | .ok l => if part.hasCap then .error .capture else .ok (Seg.var part.name q :: l))) := by
  rw [partsLoop_cons path o c r e acc h1 h2 hc, mkSegs, splitColon_eq]
  cases splitColon (slice path (o + 1) (c - 1)) with
  | mk name p2 =>
    cases p2 with
    | none =>
      simp only [Option.getD_none, default_nonempty, or_false]
      by_cases hn : name = []
      · simp only [hn, if_true]
        exact .inl ⟨_, _, rfl, rfl, rfl⟩
      · simp only [hn, if_false, parse_default]
        refine .inr ⟨_, segmentPat, rfl, rfl, fun w => (lang_cat_eps _ w).symm, .inr (.inl ⟨rfl, rfl⟩), ?_⟩
        cases mkSegs pieces <;> simp [Except.map]
    | some pt =>
      simp only [Option.getD_some]
      by_cases hn : name = [] ∨ pt = []
      · simp only [hn, if_true]
        exact .inl ⟨_, _, rfl, rfl, rfl⟩
      · simp only [hn, if_false]
        cases parsePat pt with
        | error x => cases x <;> exact .inl ⟨_, _, rfl, rfl, rfl⟩
        | ok x => exact .inr ⟨_, x.1, rfl, rfl, fun _ => Iff.rfl, .inl rfl, rfl⟩

/-- what the slicing loop makes of the indices, against what the specification makes of the pieces: the loop ends inside the
    string, only extends its accumulator, and what it adds relates to the segments as `ParseAgrees` says -/
def LoopAgrees (s : Str) (acc : List CPart) (res : Except Fail (List CPart × Nat)) (spec : Except TplErr (List Seg)) : Prop :=
  match res with
  | .ok (all, e') => e' ≤ s.length ∧ ∃ parts, all = acc ++ parts ∧ ParseAgrees (.ok (parts, slice s e' s.length)) spec
  | .error f => ParseAgrees (.error f) spec

theorem partsLoop_mkSegs (s : Str) : ∀ (idxs : List Nat) (e : Nat) (acc : List CPart), Good e idxs s.length →
    LoopAgrees s acc (partsLoop s idxs e acc) (mkSegs (piecesOf s idxs e))
  | [], e, acc, h => by
    simp only [partsLoop, piecesOf, mkSegs, LoopAgrees]
    exact ⟨h, [], by simp, by simp [ParseAgrees, toSegs, Except.map, SegsEq, SegEq]⟩
  | [_], e, acc, h => by simp [Good] at h
  | o :: c :: r, e, acc, h => by
    simp only [Good] at h
    obtain ⟨h1, h2, h3⟩ := h
    rw [show piecesOf s (o :: c :: r) e = (false, slice s e o) :: (true, slice s (o + 1) (c - 1)) :: piecesOf s r c from rfl,
      mkSegs_lit]
    rcases partsLoop_step s o c r e acc h1 h2 (Good.le r h3) (piecesOf s r c) with
      ⟨f, te, hres, hte, hspec⟩ | ⟨part, q, hres, hraw, hq, hps, hvs⟩
    · rw [hres, hspec]
      exact (parseAgrees_error f _).2 ⟨te, hte, rfl⟩
    · have ih := partsLoop_mkSegs s r c (acc ++ [part]) h3
      rw [hres, hvs]
      cases hres : partsLoop s r c (acc ++ [part]) with
      | error f =>
        rw [hres] at ih
        simp only [LoopAgrees] at ih ⊢
        obtain ⟨te, hte, hspec⟩ := (parseAgrees_error f _).1 ih
        exact (parseAgrees_error f _).2 ⟨te, hte, by rw [hspec]; rfl⟩
      | ok res =>
        obtain ⟨all, e'⟩ := res
        rw [hres] at ih
        simp only [LoopAgrees] at ih ⊢
        obtain ⟨he', parts, hall, hspec⟩ := ih
        refine ⟨he', part :: parts, by simp [hall], ?_⟩
        cases hm : mkSegs (piecesOf s r c) with
        | error te =>
          rw [hm] at hspec
          obtain ⟨rfl, hany⟩ := (parseAgrees_ok_error _ _ _).1 hspec
          exact (parseAgrees_ok_error _ _ _).2 ⟨rfl, by simp [hany]⟩
        | ok segs =>
          rw [hm] at hspec
          obtain ⟨hnc, hse⟩ := hspec
          by_cases hcap : part.hasCap = true
          · simp [ParseAgrees, hcap, Except.map]
          · have hcap' : part.hasCap = false := by simpa using hcap
            simp only [ParseAgrees, hcap', Bool.false_eq_true, if_false, Except.map, List.any_cons, Bool.false_or, hnc,
              true_and]
            simp only [toSegs, SegsEq, SegEq, hraw, true_and]
            exact ⟨⟨hq, hps⟩, hse⟩

/-- the index-and-slice parse and the structural reading of the same text agree; in particular no slice or index expression
    of the parse is ever out of range -/
theorem parseTemplate_segments (tpl : Str) : ParseAgrees (parseTemplate tpl) (segments tpl) := by
  have hc := braceIndices_cut tpl
  simp only [parseTemplate, segments, bind, Except.bind]
  cases hb : braceIndices tpl with
  | error e =>
    rw [hb] at hc
    rw [hc.1, hc.2]
    rfl
  | ok idxs =>
    rw [hb] at hc
    rw [hc.2]
    have hl := partsLoop_mkSegs tpl idxs 0 [] hc.1
    simp only
    cases hp : partsLoop tpl idxs 0 [] with
    | error f =>
      rw [hp] at hl
      exact hl
    | ok res =>
      obtain ⟨all, e'⟩ := res
      rw [hp] at hl
      simp only [LoopAgrees] at hl
      obtain ⟨he, parts, hall, hspec⟩ := hl
      rw [List.nil_append] at hall
      subst hall
      simp only
      rw [goSlice_ok tpl e' tpl.length he (Nat.le_refl _)]
      exact hspec

/-! What the two cuts of an accepted template agree on.  The model parses a bare `{name}` as `parsePat "[^/]+"` = `X·ε`, the
specification writes `X` (`segmentPat`); every other variable pattern is the same expression on both sides (`PatSame`).  The
languages are equal, and appending `ε` does not change the preference order, so `TplMatches` and `Chosen` over the model's parts
and over the specification's segments are the same. -/

theorem SegEq.refl : ∀ a : Seg, SegEq a a
  | .lit _ => rfl
  | .var _ _ => ⟨rfl, fun _ => Iff.rfl, .inl rfl⟩

theorem SegsEq.refl : ∀ l : List Seg, SegsEq l l
  | [] => trivial
  | a :: as => ⟨SegEq.refl a, SegsEq.refl as⟩

theorem tplMatches_segsEq : ∀ {a b : List Seg}, SegsEq a b → ∀ (w : Str) (bs : List (Str × Str)),
    TplMatches a w bs ↔ TplMatches b w bs
  | [], [], _, _, _ => Iff.rfl
  | [], _ :: _, h, _, _ => h.elim
  | _ :: _, [], h, _, _ => h.elim
  | .lit _ :: _, .var _ _ :: _, h, _, _ => h.1.elim
  | .var _ _ :: _, .lit _ :: _, h, _, _ => h.1.elim
  | .lit sx :: xs, .lit sy :: ys, h, w, bs => by
    cases (h.1 : sx = sy)
    simp only [tpl_lit_iff, tplMatches_segsEq h.2]
  | .var n p :: xs, .var m q :: ys, h, w, bs => by
    obtain ⟨⟨rfl, hl, _⟩, hrest⟩ := h
    simp only [tpl_var_iff, hl, tplMatches_segsEq hrest]

theorem wordPref_patSame {p q : Pat} (h : PatSame p q) (u u' : Str) : WordPref p u u' ↔ WordPref q u u' := by
  rcases h with rfl | ⟨rfl, rfl⟩ | ⟨rfl, rfl⟩
  · exact Iff.rfl
  · exact (wordPref_cat_eps _ u u').symm
  · exact wordPref_cat_eps _ u u'

theorem lexPref_segsEq : ∀ (a b : List Seg), SegsEq a b → ∀ x y, LexPref a x y ↔ LexPref b x y
  | [], [], _, x, y => by simp [LexPref]
  | [], _ :: _, h, _, _ => h.elim
  | _ :: _, [], h, _, _ => h.elim
  | s :: as, t :: bs, h, x, y => by
    obtain ⟨hst, hrest⟩ := h
    cases s with
    | lit ls =>
      cases t with
      | lit lt => simp only [LexPref]; exact lexPref_segsEq as bs hrest x y
      | var _ _ => exact hst.elim
    | var n p =>
      cases t with
      | lit _ => exact hst.elim
      | var m q =>
        simp only [SegEq] at hst
        obtain ⟨_, _, hps⟩ := hst
        cases x with
        | nil => simp [LexPref]
        | cons e x' =>
          cases y with
          | nil => simp [LexPref]
          | cons e' y' =>
            obtain ⟨n1, v⟩ := e
            obtain ⟨n2, v'⟩ := e'
            simp only [LexPref]
            rw [lexPref_segsEq as bs hrest x' y', wordPref_patSame hps v v']

theorem chosen_segsEq {a b : List Seg} (h : SegsEq a b) (w : Str) (x : List (Str × Str)) :
    Chosen a w x ↔ Chosen b w x := by
  simp only [Chosen, tplMatches_segsEq h, lexPref_segsEq a b h]

theorem segments_of_accepted {tpl : Str} {rx : RouteRegexp} (h : newRouteRegexp tpl = .ok rx)
    {parts : List CPart} {trailing : Str} (hp : parseTemplate tpl = .ok (parts, trailing)) :
    ∃ segs, segments tpl = .ok segs ∧ SegsEq segs (toSegs parts trailing) := by
  have hagree := parseTemplate_segments tpl
  rw [hp] at hagree
  cases hs : segments tpl with
  | ok segs => rw [hs] at hagree; exact ⟨segs, rfl, hagree.2⟩
  | error te =>
    -- the specification can only object to a capture group, and then `newRouteRegexp` panics
    rw [hs] at hagree
    simp [newRouteRegexp, hp, ((parseAgrees_ok_error _ _ _).1 hagree).2, bind, Except.bind] at h

end CoapVerif.Lemmas.Router
