import CoapVerif.Props.C07
import CoapVerif.Lemmas.CoderRoundTrip
/-!
Link between the stream-framing model of C07 (`Model/Framing.lean`: `decodeHeader`, `walkOpts`, `decodeFrame`,
predicate `Props.C07.WellFramed`) and the codec models/specification of C01/C02 (`tcpHdr`, `decLoop`, `encTcp`): whatever
the C01/C02 list-level decoder accepts, the framing model accepts with the same header fields and the same payload
position.  Hence C07's "exactly the sent messages" (`run_delivers_sent`) applies to real encoded messages, not only to
frames assumed well-framed.  Code, token and payload are all that is linked: the option list the codec decodes (and its
`TcpCoder.defsFor`) is not related to `walkOptsO` and the `defsFor` of `Model/FramingOpts.lean`.
-/
namespace CoapVerif.Lemmas.FramingCodecLink
open CoapVerif.Spec.Wire
open CoapVerif.Model CoapVerif.Model.OptionCodec
open CoapVerif.Lemmas.OptionCodec CoapVerif.Lemmas.OptionRoundTrip CoapVerif.Lemmas.CoderDecode
open CoapVerif.Lemmas.CoderRoundTrip
open CoapVerif.Generated.TcpFraming

/-- the `switch` on the Len nibble, as the framing model and as the codec model read it -/
theorem lenField_eq_tcpExt (nib : Nat) (t : Bytes) :
    Framing.lenField nib t = match tcpExt nib t with | .ok (opLen, _, off) => some (off, opLen) | .error _ => none := by
  unfold Framing.lenField tcpExt
  by_cases h1 : nib < len13Base
  · rw [if_pos h1, if_pos (show nib < 13 from h1)]
  rw [if_neg h1, if_neg (show ¬ nib < 13 from h1)]
  by_cases h2 : nib = 13
  · rw [if_pos h2, if_pos h2]; cases t <;> rfl
  rw [if_neg h2, if_neg h2]
  by_cases h3 : nib = 14
  · rw [if_pos h3, if_pos h3]
    match t with
    | [] | [_] | _ :: _ :: _ => rfl
  rw [if_neg h3, if_neg h3]
  by_cases h4 : nib = 15
  · rw [if_pos h4, if_pos h4]
    match t with
    | [] | [_] | [_, _] | [_, _, _] => rfl
    | e0 :: e1 :: e2 :: e3 :: r =>
      -- the codec model writes the big-endian value with the powers of 256 multiplied out
      rw [Option.some.injEq, Prod.mk.injEq]
      exact ⟨rfl, by unfold len15Base; omega⟩
  rw [if_neg h4, if_neg h4]

theorem lenField_of_tcpExt {nib : Nat} {t t' : Bytes} {opLen off : Nat} (h : tcpExt nib t = .ok (opLen, t', off)) :
    Framing.lenField nib t = some (off, opLen) ∧ ∃ pre, t = pre ++ t' ∧ pre.length + 1 = off := by
  refine ⟨by rw [lenField_eq_tcpExt, h], ?_⟩
  rcases tcpExt_cases h with e | ⟨_, pre, _, ht, e⟩
  · cases e
  · cases e; exact ⟨pre, ht, Nat.add_comm _ _⟩

theorem decodeHeader_of_tcpHdr {bs : Bytes} {h : TcpCoder.Header} (hh : tcpHdr bs = .ok h) :
    Framing.decodeHeader bs = .ok ⟨h.length, h.messageLength, h.code, h.token.length⟩ ∧
    (bs.drop (h.length - h.token.length)).take h.token.length = h.token := by
  cases bs with
  | nil => cases hh
  | cons b t =>
    unfold tcpHdr at hh
    dsimp only at hh
    by_cases htk : b.toNat % 16 > 8
    · rw [if_pos htk] at hh; cases hh
    rw [if_neg htk] at hh
    cases hext : tcpExt (b.toNat / 16) t with
    | error e => rw [hext] at hh; cases hh
    | ok x =>
      obtain ⟨opLen, t', off⟩ := x
      rw [hext] at hh
      obtain ⟨hlf, pre, rfl, rfl⟩ := lenField_of_tcpExt hext
      unfold tcpHdrRest at hh
      dsimp only at hh
      by_cases hml : pre.length + 1 + 1 + b.toNat % 16 + opLen > 4294967295
      · rw [if_pos hml] at hh; cases hh
      rw [if_neg hml] at hh
      match t', hh with
      | code :: r, hh =>
        dsimp only at hh
        by_cases hr : r.length < b.toNat % 16
        · rw [if_pos hr] at hh; cases hh
        rw [if_neg hr] at hh; cases hh
        have hl : (r.take (b.toNat % 16)).length = b.toNat % 16 := by rw [List.length_take]; omega
        refine ⟨?_, by
          dsimp only
          rw [hl, Nat.add_sub_cancel, List.drop_succ_cons, List.append_cons, List.drop_left' (show (pre ++ [code]).length = pre.length + 1 from List.length_append)]⟩
        unfold Framing.decodeHeader
        dsimp only
        rw [if_neg (by simpa [headerChecksTkl, maxTokenSize] using htk), hlf]
        dsimp only
        unfold Framing.mkHdr
        have hlen : (b :: (pre ++ code :: r)).length = pre.length + 1 + 1 + r.length := by
          simp only [List.length_cons, List.length_append]; omega
        have hg : (b :: (pre ++ code :: r)).getD (pre.length + 1) 0 = code := by simp [List.getD_eq_getElem?_getD]
        rw [if_neg hml, hlen, if_neg (by omega), if_neg (by omega), hg, hl]

theorem parseExt_eq_decExt (opt : Nat) (bs : Bytes) :
    Framing.parseExt opt bs = match decExt opt bs with | .ok r => some r | .error _ => none := by
  unfold Framing.parseExt decExt
  simp only [extByteCode, extWordCode, extByteAddend, extWordAddend]
  by_cases h13 : opt = 13
  · subst h13; cases bs <;> simp
  · by_cases h14 : opt = 14
    · subst h14
      match bs with
      | [] => simp
      | [_] => simp
      | _ :: _ :: _ => simp
    · simp [h13, h14]

theorem walkOpts_of_decLoop (defs : Defs) (cap n prev : Nat) (bs : Bytes) (os : List Opt) (rest : Bytes)
    (h : decLoop defs cap n prev bs = .ok (os, rest)) : Framing.walkOpts prev bs = some rest := by
  refine decLoop_ok_induct (P := fun _ prev bs _ rest => Framing.walkOpts prev bs = some rest) ?_ ?_ ?_ h
  · intro _ _; rw [Framing.walkOpts.eq_def]
  · intro _ prev t; rw [FramingSpec.walkOpts_cons, if_pos rfl]
  · intro n prev o bs' os rest h1 h2 h3 _ _ ih
    have hd := LengthClasses.nib_lt (o.id - prev)
    have hl := LengthClasses.nib_lt o.val.length
    obtain ⟨e1, e2⟩ := LengthClasses.nibbles_toNat (Nat.lt_succ_of_lt hd) (Nat.lt_succ_of_lt hl)
    rw [show encOpt prev o ++ bs' = UInt8.ofNat (nib (o.id - prev) * 16 + nib o.val.length) ::
        (ext (o.id - prev) ++ (ext o.val.length ++ (o.val ++ bs'))) by simp only [encOpt, List.cons_append, List.append_assoc],
      FramingSpec.walkOpts_cons, if_neg (hdr_ne_ff _ _ hd hl), FramingSpec.optHead_eq _ _ (by omega), e1, e2,
      parseExt_eq_decExt, (decExt_iff hd).mpr ⟨by omega, rfl, rfl⟩]
    dsimp only
    rw [parseExt_eq_decExt, (decExt_iff hl).mpr ⟨h3, rfl, rfl⟩]
    dsimp only
    rw [if_neg (by simp), if_neg (by omega), List.drop_left' rfl, Nat.add_sub_cancel' h1]
    exact ih

theorem decodeFrame_of_tcpDec {cap : Nat} {bs : Bytes} {m : Msg} (h : framed tcpFrame cap bs = .ok (m, bs.length)) :
    (∃ hd, Framing.decodeHeader bs = .ok hd ∧ hd.msgLen = bs.length) ∧
    Framing.decodeFrame bs = some ⟨m.code, m.token, m.payload⟩ := by
  unfold framed tcpFrame at h
  cases hh : tcpHdr bs with
  | error e => rw [hh] at h; cases h
  | ok hd =>
    rw [hh] at h
    dsimp only at h
    by_cases hs : bs.length % 4294967296 < hd.messageLength
    · rw [if_pos hs] at h; cases h
    rw [if_neg hs] at h
    dsimp only at h
    cases hd' : decLoop (TcpCoder.defsFor hd.code) cap 0 0 ((bs.take hd.messageLength).drop hd.length) with
    | error e => rw [hd'] at h; cases h
    | ok r =>
      obtain ⟨os, pay⟩ := r
      rw [hd'] at h
      obtain ⟨rfl, hk⟩ := Prod.mk.inj (Except.ok.inj h)
      obtain ⟨hdh, htok⟩ := decodeHeader_of_tcpHdr hh
      rw [hk, List.take_length] at hd'
      refine ⟨⟨_, hdh, hk⟩, ?_⟩
      unfold Framing.decodeFrame
      simp only [hdh, hk, Nat.lt_irrefl, ↓reduceIte, walkOpts_of_decLoop _ _ _ _ _ _ _ hd', htok]

/-- The RFC 8323 encoding of every well-formed message is a well-framed frame of C07, and the framing model decodes it
to exactly the message's code, token and payload. -/
theorem encTcp_wellFramed (m : Msg) (hwf : WF .tcp m = true) (max : Nat) (hmax : (encTcp m).length ≤ max) :
    Props.C07.WellFramed max (encTcp m) ∧
    Framing.decodeFrame (encTcp m) = some ⟨m.code, m.token, m.payload⟩ := by
  -- the decoder inverts the encoder (C01), and what the decoder accepts the framing model accepts
  obtain ⟨⟨hd, h1, h2⟩, h3⟩ := decodeFrame_of_tcpDec (framed_encTcp m hwf m.options.length (Nat.le_refl _))
  exact ⟨⟨hd, _, h1, h2, hmax, h3⟩, h3⟩

/-- A stream that is the concatenation of encodings of well-formed messages, cut
into chunks in any way, delivers exactly those messages (code, token, payload), in order, and stays open. -/
theorem run_delivers_encoded (max : Nat) (ms : List Msg) (cs : List Bytes)
    (hwf : ∀ m ∈ ms, WF .tcp m = true ∧ (encTcp m).length ≤ max)
    (hc : cs.flatten = (ms.map encTcp).flatten) :
    (Framing.run max cs).obs = (ms.map fun m => (⟨m.code, m.token, m.payload⟩ : Framing.Msg), false) := by
  have hf : ∀ f ∈ ms.map encTcp, Props.C07.WellFramed max f := by
    intro f hfm
    obtain ⟨m, hm, rfl⟩ := List.mem_map.mp hfm
    exact (encTcp_wellFramed m (hwf m hm).1 max (hwf m hm).2).1
  have := (Props.C07.run_delivers_sent max (ms.map encTcp) cs hf hc).1
  rw [this]
  congr 1
  clear this hf hc
  induction ms with
  | nil => rfl
  | cons m ms ih =>
    have h1 := (encTcp_wellFramed m (hwf m (by simp)).1 max (hwf m (by simp)).2).2
    simp only [List.map_cons, List.filterMap_cons, h1]
    rw [ih (fun x hx => hwf x (by simp [hx]))]

end CoapVerif.Lemmas.FramingCodecLink

section Audit
open CoapVerif.Lemmas.FramingCodecLink
#print axioms lenField_eq_tcpExt
#print axioms lenField_of_tcpExt
#print axioms decodeHeader_of_tcpHdr
#print axioms parseExt_eq_decExt
#print axioms walkOpts_of_decLoop
#print axioms decodeFrame_of_tcpDec
#print axioms encTcp_wellFramed
#print axioms run_delivers_encoded
end Audit
