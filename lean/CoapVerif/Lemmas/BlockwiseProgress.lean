import CoapVerif.Lemmas.BlockwiseRounds
/-!
Progress of `Do` through the two-endpoint system over all rounds of a fault-free transfer (`upload_progress`,
`download_progress`, `do_progress`).  `Leads w ops Q ds rs` says where a script takes a world and what is observed on the way;
scripts compose (`Leads.append`), and `Leads.rounds` is the induction over the rounds, each round being one `exchange`: two
deliveries, B's answer to the message in flight and A's answer to that, computed by the round lemmas of `Lemmas/BlockwiseRounds.lean`.
The states between two rounds are `Mid` (upload) and `Mid2` (download), the final ones `Done` and `Done2`; what the rounds ask
of the request and of an answer of more than one block is `UploadReq` and `LongAnswer`.  First in the file: how a transfer opens
at one endpoint (`doStartS_first` / `_direct`, `startSending_long`, `responder_first`), which no round of the other file covers.
-/
namespace CoapVerif.Lemmas.BlockwiseProgress
open CoapVerif CoapVerif.Model.Blockwise CoapVerif.Model.BlockOpt CoapVerif.Generated.BlockwiseXfer
open CoapVerif.Lemmas.Blockwise CoapVerif.Lemmas.BlockwiseObserve CoapVerif.Lemmas.BlockwiseRounds CoapVerif.Lemmas.BlockwiseWorld

/-- the expiry `Do` gives the entry of its request -/
def doExpire (r : Msg) : Int := match r.deadline with | some d => d | none => never

theorem startSending_direct (cfg : Cfg) (snd : Option Entry) (now : Int) (w : Option Msg) (mx blk : Nat)
    (h : ∀ m, w = some m → m.body.length < sizeN mx) : startSendingS cfg snd now w mx blk = .ok (snd, w) := by
  cases w with
  | none => rfl
  | some m =>
    have hle : startDirectIsLe = false := rfl
    unfold startSendingS
    simp [fits, hle, h m rfl]

theorem uploadBlock_zero (r : Msg) {s : Nat} (ms : Nat) (hs : s < 7) (hmore : sizeN s < r.body.length) :
    uploadBlock r s ms 0 =
      { r with size1 := some r.body.length, block1 := some (blkVal s 0 true), body := r.body.take (sizeN s) } := by
  unfold uploadBlock
  simp only [bufLen_small ms hs, Nat.zero_mul, List.drop_zero, Nat.zero_add, List.length_take, Nat.min_eq_left (Nat.le_of_lt hmore),
    decide_eq_true (Nat.ne_of_lt hmore)]

theorem doStartS_first (cfg : Cfg) {s : Nat} (now : Int) (r : Msg) (hcfg : cfg.szx = s) (hs : s < 7) (hpp : isPostPut r.code = true)
    (htok : r.tok ≠ 0) (hmore : sizeN s < r.body.length) (hlen : r.body.length < 4294967296) :
    doStartS cfg none now r = (some ⟨r, doExpire r⟩, some (uploadBlock r s cfg.maxSize 0)) := by
  subst hcfg
  have hnf : fits doDirectIsLe r.body.length (sizeN cfg.szx) = false := decide_eq_false (Nat.not_le.mpr hmore)
  have he : encodeBlock cfg.szx 0 true = .ok (blkVal cfg.szx 0 true) := encode_blkVal true (Nat.le_of_lt hs) (by decide)
  rw [doStartS_free (Nat.le_of_lt hs) htok rfl, uploadBlock_zero r _ hs hmore, bufLen_small _ hs]
  simp only [hnf, hpp, he, Bool.not_true, Bool.false_eq_true, if_false, if_neg (Nat.not_le.mpr hlen)]
  rfl

theorem doStartS_direct (cfg : Cfg) {s : Nat} (now : Int) (r : Msg) (hcfg : cfg.szx = s) (hs : s ≤ 7) (htok : r.tok ≠ 0)
    (hfit : r.body.length ≤ sizeN s) :
    doStartS cfg none now r = (some ⟨r, doExpire r⟩, some r) := by
  subst hcfg
  have hf : fits doDirectIsLe r.body.length (sizeN cfg.szx) = true := decide_eq_true hfit
  rw [doStartS_free hs htok rfl, if_pos hf]
  rfl

/-- what the rounds of an upload ask of the request; `len`: the body length is written into Size1, a `uint32` -/
structure UploadReq (r : Msg) : Prop where
  pp : isPostPut r.code = true
  tok : r.tok ≠ 0
  len : r.body.length < 4294967296
  b1 : r.block1 = none
  s1 : r.size1 = none

/-- what the rounds ask of an answer of the application that goes out in more than one block of exponent `s`; `dl`: it is
    compared with what the wire carries, and `onWire` drops the deadline; `len`: Size2 is a `uint32` -/
structure LongAnswer (x : Msg) (s : Nat) : Prop where
  rc : RespCode x.code
  b1 : x.block1 = none
  b2 : x.block2 = none
  s2 : x.size2 = none
  dl : x.deadline = none
  more : sizeN s < x.body.length
  len : x.body.length < 4294967296

/-- the response writer gives the answer the token of the request -/
theorem LongAnswer.retok {x : Msg} {s : Nat} (h : LongAnswer x s) (tok : Nat) : LongAnswer { x with tok := tok } s :=
  ⟨h.rc, h.b1, h.b2, h.s2, h.dl, h.more, h.len⟩

theorem respCode_gt {c : Nat} (h : RespCode c) : c > codeDELETE := by
  have h1 : ¬ (codeGET ≤ c ∧ c ≤ codeDELETE) := by simpa [isRequest] using h.nreq
  have h2 : c ≠ codeEmpty := fun h0 => by have := h.nsig; rw [h0] at this; cases this
  simp only [codeGET, codeDELETE, codeEmpty] at h1 h2 ⊢
  omega

theorem startSending_long (cfg : Cfg) {s : Nat} (m : Msg) (now : Int) (hcfg : cfg.szx = s) (hs : s < 7) (hm : LongAnswer m s) :
    startSendingS cfg none now (some m) s (blkVal s 0 true) =
      .ok (some ⟨m, now + cfg.expiration⟩, some (downloadBlock m s cfg.maxSize 0)) := by
  subst hcfg
  have hs7 : cfg.szx ≤ 7 := Nat.le_of_lt hs
  have hsend : sendBT m.code = .b2 := by unfold sendBT; rw [hm.rc.npp]; rfl
  have hoff : sendOffWith startSkipsSent .b2 cfg.szx 0 (bufLen cfg.szx cfg.maxSize) = 0 * sizeN cfg.szx := rfl
  have hcs : createSendingFirst m cfg.szx cfg.maxSize (blkVal cfg.szx 0 true) =
      some (downloadBlock m cfg.szx cfg.maxSize 0,
        decide (0 * sizeN cfg.szx + ((m.body.drop (0 * sizeN cfg.szx)).take (bufLen cfg.szx cfg.maxSize)).length ≠ m.body.length)) := by
    unfold createSendingFirst createSendingWith
    rw [decode_blkVal true hs7 (by decide : 0 < 2 ^ 20)]
    simp only [getSzx_eq_min, Nat.min_self, hsend, hoff]
    rw [createSendingAt_aligned m .b2 _ hs7 (by rw [Nat.zero_mul]; exact Nat.zero_le _) (Nat.zero_lt_of_lt hm.more) hm.len (by decide)]
    rfl
  have hfits : fits startDirectIsLe m.body.length (sizeN cfg.szx) = false := decide_eq_false (Nat.not_lt.mpr (Nat.le_of_lt hm.more))
  have hd : (downloadBlock m cfg.szx cfg.maxSize 0).deadline = none := hm.dl
  unfold startSendingS
  simp only [hfits, Bool.false_eq_true, if_false, hcs, hd, storeIfAbsent_free _ (rfl : live none now = none)]

theorem responder_first (cfg : Cfg) {s : Nat} (q x : Msg) (rcv : Option Entry) (now : Int) (app : App)
    (hcfg : cfg.szx = s) (hs : s < 7) (hq : q.code = codeGET ∨ q.code = codeDELETE) (hb2 : q.block2 = none)
    (happ : app q = some x) (hx : LongAnswer x s) :
    handleS cfg ⟨none, rcv⟩ now q app =
      (⟨some ⟨{ x with tok := q.tok }, now + cfg.expiration⟩, rcv⟩,
       { reply := some (downloadBlock { x with tok := q.tok } s cfg.maxSize 0), delivered := [q] }) := by
  subst hcfg
  have hsig : isSignal q.code = false := by rcases hq with h | h <;> rw [h] <;> decide
  have he : encodeBlock cfg.szx 0 true = .ok (blkVal cfg.szx 0 true) := encode_blkVal true (Nat.le_of_lt hs) (by decide)
  have hnext : next app none q = some { x with tok := q.tok } := by unfold next; rw [happ]
  rw [handleS_receive (.inr (.inl rfl))]
  unfold handleReceived
  simp only [he, hsig, Bool.false_eq_true, if_false, if_pos hq, hnext, hb2, fitSZX_none cfg.szx (show q.block .b2 = none from hb2)]
  unfold finishReceived handled
  simp only [Bool.false_eq_true, if_false, startSending_long cfg { x with tok := q.tok } now rfl hs (hx.retok _)]

def delivs (evs : List Event) : List (Side × Msg) :=
  evs.filterMap (fun e => match e with | .deliver s d => some (s, d) | _ => none)
def troubles (evs : List Event) : Nat :=
  (evs.filter (fun e => match e with | .errcb _ => true | .ret _ _ => true | _ => false)).length
def rets (evs : List Event) : List (Nat × Option Msg) :=
  evs.filterMap (fun e => match e with | .ret tok m => some (tok, m) | _ => none)
def errs (evs : List Event) : Nat :=
  (evs.filter (fun e => match e with | .errcb _ => true | _ => false)).length

theorem rets_append (a b : List Event) : rets (a ++ b) = rets a ++ rets b := by
  simp [rets, List.filterMap_append]
theorem errs_append (a b : List Event) : errs (a ++ b) = errs a + errs b := by
  simp [errs, List.filter_append]
theorem delivs_append (a b : List Event) : delivs (a ++ b) = delivs a ++ delivs b := by
  simp [delivs, List.filterMap_append]
theorem troubles_append (a b : List Event) : troubles (a ++ b) = troubles a + troubles b := by
  simp [troubles, List.filter_append]

theorem troubles_eq : ∀ evs : List Event, troubles evs = errs evs + (rets evs).length
  | [] => rfl
  | e :: es => by
    have h : troubles [e] = errs [e] + (rets [e]).length := by cases e <;> rfl
    rw [← List.singleton_append, troubles_append, errs_append, rets_append, List.length_append, troubles_eq es, h]
    omega

/-- from `w` the script `ops` leads to a world satisfying `Q`; on the way the applications are handed `ds`, `Do` returns
    `rs`, and no `errors` callback runs -/
structure Leads (w : World) (ops : List Op) (Q : World → Prop) (ds : List (Side × Msg)) (rs : List (Nat × Option Msg)) : Prop where
  post : Q (World.run w ops).1
  dlv : delivs (World.run w ops).2 = ds
  ret : rets (World.run w ops).2 = rs
  err : errs (World.run w ops).2 = 0

theorem Leads.of_eq {w w' : World} {ops : List Op} {evs : List Event} {Q : World → Prop} {ds : List (Side × Msg)}
    {rs : List (Nat × Option Msg)} (e : World.run w ops = (w', evs)) (hQ : Q w') (hd : delivs evs = ds) (hr : rets evs = rs)
    (he : errs evs = 0) : Leads w ops Q ds rs := by
  constructor <;> rw [e] <;> assumption

theorem Leads.cons {w w1 : World} {o : Op} {ops : List Op} {ev1 : List Event} {Q : World → Prop} {ds : List (Side × Msg)}
    {rs : List (Nat × Option Msg)} (e : w.op o = (w1, ev1)) (hd : delivs ev1 = []) (hr : rets ev1 = []) (he : errs ev1 = 0)
    (h : Leads w1 ops Q ds rs) : Leads w (o :: ops) Q ds rs := by
  constructor <;> rw [World.isRun.cons, e]
  · exact h.post
  · rw [delivs_append, hd, h.dlv]; rfl
  · rw [rets_append, hr, h.ret]; rfl
  · rw [errs_append, he, h.err]

theorem Leads.append {w : World} {l1 l2 : List Op} {Q R : World → Prop} {d1 d2 : List (Side × Msg)} {r1 r2 : List (Nat × Option Msg)}
    (h1 : Leads w l1 Q d1 r1) (h2 : ∀ w', Q w' → Leads w' l2 R d2 r2) : Leads w (l1 ++ l2) R (d1 ++ d2) (r1 ++ r2) := by
  have h := h2 _ h1.post
  constructor <;> rw [World.isRun.append]
  · exact h.post
  · rw [delivs_append, h1.dlv, h.dlv]
  · rw [rets_append, h1.ret, h.ret]
  · rw [errs_append, h1.err, h.err]

/-- `d` rounds of two deliveries each, the `j`-th taking `P j` to `P (j + 1)` without anything being observed -/
theorem Leads.rounds {P : Nat → World → Prop} :
    ∀ d, (∀ j w, j < d → P j w → Leads w (List.replicate 2 (Op.fault .deliver)) (P (j + 1)) [] []) →
      ∀ w, P 0 w → Leads w (List.replicate (2 * d) (Op.fault .deliver)) (P d) [] []
  | 0, _, _, h => ⟨h, rfl, rfl, rfl⟩
  | d + 1, step, w, h => by
    rw [Nat.mul_succ, ← List.replicate_append_replicate]
    exact (Leads.rounds d (fun j w hj => step j w (Nat.lt_succ_of_lt hj)) w h).append fun w' h' => step d w' (Nat.lt_succ_self d) h'

theorem Leads.troubles {w : World} {ops : List Op} {Q : World → Prop} {ds : List (Side × Msg)} (h : Leads w ops Q ds []) :
    troubles (World.run w ops).2 = 0 := by
  rw [troubles_eq, h.err, h.ret]; rfl

theorem fault_deliver_cons (w : World) (p : Packet) (q : List Packet) (hq : w.queue = p :: q) :
    w.fault .deliver = World.recv { w with queue := q, hist := w.hist ++ [p] } p := by
  simp only [World.fault, hq]

/-- the reply of a `Handle` call as the relay takes it -/
def flight (dst : Side) : Option Msg → List Packet
  | some x => [⟨dst, onWire x⟩]
  | none => []
/-- … and as it is observed -/
def wireEv (src : Side) : Option Msg → List Event
  | some x => [Event.wire src (onWire x)]
  | none => []

theorem delivs_wireEv (s : Side) (rep : Option Msg) : delivs (wireEv s rep) = [] := by
  cases rep <;> rfl
theorem rets_wireEv (s : Side) (rep : Option Msg) : rets (wireEv s rep) = [] := by
  cases rep <;> rfl
theorem errs_wireEv (s : Side) (rep : Option Msg) : errs (wireEv s rep) = 0 := by
  cases rep <;> rfl

/-- a fault-free delivery to B that raises no error: its slots change, what it hands to its application is observed, its
    reply goes in flight -/
theorem deliver_B (w : World) (m : Msg) (q : List Packet) (sl : Slots) (rep : Option Msg) (ds : List Msg)
    (hq : w.queue = ⟨.B, m⟩ :: q) {sb : Slots}
    (h : handleS w.b.toCfg sb w.now m w.appB = (sl, { reply := rep, delivered := ds })) (hsb : w.b.slots m.tok = sb) :
    w.op (.fault .deliver) =
      ({ w with b := w.b.put m.tok sl, queue := q ++ flight .A rep, hist := w.hist ++ [⟨.B, m⟩] },
       [Event.arrive .B m] ++ ds.map (Event.deliver .B) ++ wireEv .B rep) := by
  subst hsb
  rw [World.op, fault_deliver_cons w _ _ hq]
  unfold World.recv handle
  simp only [World.ep, World.appOf, h, World.setEp, World.afterDeliveries, Bool.false_eq_true, if_false, List.append_nil]
  cases rep with
  | none => simp [flight, wireEv]
  | some x => simp [World.enqueue, Side.other, flight, wireEv]

/-- a fault-free delivery to A of a message that it answers and does not hand to its application, without error -/
theorem deliver_A (w : World) (m : Msg) (q : List Packet) (sl : Slots) (x : Msg)
    (hq : w.queue = ⟨.A, m⟩ :: q)
    (h : handleS w.a.toCfg (w.a.slots m.tok) w.now m (fun _ => none) = (sl, { reply := some x })) :
    w.op (.fault .deliver) =
      ({ w with a := w.a.put m.tok sl, queue := q ++ [⟨.B, onWire x⟩], hist := w.hist ++ [⟨.A, m⟩] },
       [Event.arrive .A m, Event.wire .A (onWire x)]) := by
  rw [World.op, fault_deliver_cons w _ _ hq]
  unfold World.recv handle
  simp only [World.ep, World.appOf, h, World.setEp, World.afterDeliveries, completeAll, Bool.false_eq_true, if_false, List.append_nil]
  simp [World.enqueue, Side.other]

/-- a fault-free delivery to A of the message that completes its only pending call: nothing is replied, `Do` returns it
    and deletes the cached request -/
theorem deliver_A_done (w : World) (m d : Msg) (q : List Packet) (sl : Slots) (dl : Option Int)
    (hq : w.queue = ⟨.A, m⟩ :: q) (hp : w.pending = [⟨d.tok, dl⟩]) {sa : Slots}
    (h : handleS w.a.toCfg sa w.now m (fun _ => none) = (sl, { reply := none, delivered := [d] }))
    (hsa : w.a.slots m.tok = sa) :
    w.op (.fault .deliver) =
      ({ w with a := doFinish (w.a.put m.tok sl) d.tok, queue := q, hist := w.hist ++ [⟨.A, m⟩], pending := [] },
       [Event.arrive .A m, Event.deliver .A d, Event.ret d.tok (some d)]) := by
  subst hsa
  rw [World.op, fault_deliver_cons w _ _ hq]
  unfold World.recv handle
  simp only [World.ep, World.appOf, h, World.setEp, World.afterDeliveries, completeAll, completeDo, hp]
  simp

theorem onWire_eq_self {m : Msg} (h : m.deadline = none) : onWire m = m := by
  cases m
  simp only at h
  subst h
  rfl

/-- one exchange: the message in flight reaches B, which answers it with `x` (no deadline: it is what the wire carries);
    `x` reaches A, which answers it with `y` and hands nothing on; neither side raises an error -/
theorem exchange (w : World) (m x y : Msg) (slB slA : Slots) (ds : List Msg)
    (hq : w.queue = [⟨.B, m⟩]) {sb sa : Slots}
    (hB : handleS w.b.toCfg sb w.now m w.appB = (slB, { reply := some x, delivered := ds }))
    (hA : handleS w.a.toCfg sa w.now x (fun _ => none) = (slA, { reply := some y }))
    (hsb : w.b.slots m.tok = sb) (hsa : w.a.slots x.tok = sa) (hx : x.deadline = none) :
    World.run w (List.replicate 2 (Op.fault .deliver)) =
      ({ w with a := w.a.put x.tok slA, b := w.b.put m.tok slB, queue := [⟨.B, onWire y⟩],
                hist := w.hist ++ [⟨.B, m⟩] ++ [⟨.A, onWire x⟩] },
       [Event.arrive .B m] ++ ds.map (Event.deliver .B) ++ [Event.wire .B (onWire x)] ++
         [Event.arrive .A (onWire x), Event.wire .A (onWire y)]) := by
  subst hsa
  rw [← onWire_eq_self hx] at hA
  exact World.isRun.cons_of (deliver_B w m [] slB (some x) ds hq hB hsb) (World.isRun.cons_of (deliver_A
    { w with b := w.b.put m.tok slB, queue := [⟨.A, onWire x⟩], hist := w.hist ++ [⟨.B, m⟩] } (onWire x) [] slA y rfl hA) rfl)

theorem startDo_of (w : World) (r m : Msg) (snd : Option Entry)
    (h : doStartS w.a.toCfg (w.a.sending r.tok) w.now r = (snd, some m)) :
    w.op (.doReq r) =
      ({ w with a := { w.a with sending := w.a.sending.put r.tok snd }, queue := w.queue ++ [⟨.B, onWire m⟩],
                pending := w.pending ++ [⟨r.tok, r.deadline⟩] },
       [.wire .A (onWire m)]) := by
  show w.startDo r = _
  unfold World.startDo doStart
  rw [h]

theorem slots_eq {ep : Endpoint} {k : Nat} {a b : Option Entry} (ha : ep.sending k = a) (hb : ep.receiving k = b) :
    ep.slots k = ⟨a, b⟩ := by
  rw [← ha, ← hb]; rfl

/-- the state between two rounds of the upload of `r` (exponent `s`, virtual time `t`): block `j` is the only message
    in flight, A keeps the request for the duration of the call, B holds exactly the first `j` blocks under options from
    which the completed message is the request as the wire carries it.  The block in flight is written with maximum message
    size 0: for `s < 7` the buffer does not depend on it (`bufLen_small`, `onWire_uploadBlock`). -/
structure Mid (w : World) (app : App) (r : Msg) (s : Nat) (t : Int) (j : Nat) : Prop where
  happ : w.appB = app
  now : w.now = t
  sa : w.a.szx = s
  sb : w.b.szx = s
  ea : 0 ≤ w.a.expiration
  eb : 0 ≤ w.b.expiration
  queue : w.queue = [⟨.B, uploadBlock (onWire r) s 0 j⟩]
  pending : w.pending = [⟨r.tok, r.deadline⟩]
  asnd : w.a.sending r.tok = some ⟨r, doExpire r⟩
  arcv : w.a.receiving r.tok = none
  bsnd : w.b.sending r.tok = none
  brcv : ∃ ent, w.b.receiving r.tok = some ent ∧ t ≤ ent.validUntil ∧ ent.msg.body = r.body.take (j * sizeN s) ∧
    ent.msg.etag = r.etag ∧ { ent.msg with body := r.body, block1 := none, size1 := none } = onWire r

theorem onWire_uploadBlock (r : Msg) {s : Nat} (ms j : Nat) (hs : s < 7) :
    onWire (uploadBlock r s ms j) = uploadBlock (onWire r) s 0 j := by
  unfold uploadBlock
  rw [bufLen_small ms hs, bufLen_small 0 hs]
  rfl

theorem upload_mid_round (w : World) (app : App) (r : Msg) (s : Nat) (t : Int) (j : Nat)
    (hr : UploadReq r) (hs : s < 7) (hexp : t ≤ doExpire r) (hnum : j + 2 < 2 ^ 20)
    (hmore : (j + 2) * sizeN s < r.body.length) (h : Mid w app r s t (j + 1)) :
    Leads w (List.replicate 2 (Op.fault .deliver)) (Mid · app r s t (j + 2)) [] [] := by
  obtain ⟨ent, hrcv, hlive, hheld, hetag, hdone⟩ := h.brcv
  have hnow := h.now
  subst hnow
  have hb := postput_sendBT hr.pp
  have hjle : (j + 1) * sizeN s ≤ r.body.length :=
    Nat.le_of_lt (Nat.lt_of_le_of_lt (Nat.mul_le_mul_right _ (Nat.le_succ _)) hmore)
  have hB := (handleS_blockOf (sl := ⟨none, some ent⟩) (m := onWire r) w.appB 0 h.sb hs (postput_dataBT hr.pp) hr.tok (.inl rfl)
    (fun h => nomatch h.1) (live_fresh _ _ hlive) hheld hjle hetag (Nat.lt_of_succ_lt hnum) (Nat.succ_pos j)).1 _ hmore
    (blockReply_ack _ _ _ (Nat.le_of_lt hs) (Nat.lt_of_succ_lt hnum))
  have hA := handleS_serve (m := r) (q := uploadAck r.tok s (j + 1)) (exp := doExpire r)
    (rcv := w.a.receiving r.tok) (fun _ => none) h.sa hs hr.tok hexp rfl (by rw [hb]; rfl)
    (Nat.lt_of_succ_lt hnum) (.inl ⟨hb, rfl⟩) (Nat.le_of_lt hmore) (Nat.zero_lt_of_lt hmore) hr.len hnum
  rw [if_pos (.inr (postput_not_response hr.pp)), hb] at hA
  refine .of_eq (exchange w _ _ _ _ _ _ h.queue hB hA (slots_eq h.bsnd hrcv) (slots_eq h.asnd rfl) rfl)
    ⟨h.happ, rfl, h.sa, h.sb, h.ea, h.eb, congrArg (fun m => [(⟨.B, m⟩ : Packet)]) (onWire_uploadBlock r _ _ hs), h.pending,
      put_sending _ _ _, (put_receiving _ _ _).trans h.arcv, put_sending _ _ _, _, put_receiving _ _ _, hlive, rfl, hetag, hdone⟩
    rfl rfl rfl

theorem upload_first_round (w : World) (r : Msg) (s : Nat) (hsa : w.a.szx = s) (hsb : w.b.szx = s)
    (hr : UploadReq r) (hs : s < 7) (hexp : w.now ≤ doExpire r) (hmore : sizeN s < r.body.length)
    (hq : w.queue = []) (hpe : w.pending = [])
    (hfa : w.a.sending r.tok = none) (hra : w.a.receiving r.tok = none) (hfb : w.b.sending r.tok = none) (hrb : w.b.receiving r.tok = none)
    (hexpA : 0 ≤ w.a.expiration) (hexpB : 0 ≤ w.b.expiration) :
    Leads w (Op.doReq r :: List.replicate 2 (Op.fault .deliver)) (Mid · w.appB r s w.now 1) [] [] := by
  have hD := doStartS_first w.a.toCfg w.now r hsa hs hr.pp hr.tok hmore hr.len
  rw [← hfa] at hD
  have hb := postput_sendBT hr.pp
  have hB := handleS_blockOf_first (sl := ⟨none, none⟩) (now := w.now) (m := onWire r) w.appB 0 hsb hs (postput_dataBT hr.pp) hr.tok
    (.inl rfl) (fun h => nomatch h.1) rfl hmore (blockReply_ack _ _ _ (Nat.le_of_lt hs) (by decide))
  rw [← uploadBlock_eq] at hB
  have hA := handleS_serve (m := r) (q := uploadAck r.tok s 0) (exp := doExpire r)
    (rcv := w.a.receiving r.tok) (fun _ => none) hsa hs hr.tok hexp rfl (by rw [hb]; rfl) (by decide)
    (.inl ⟨hb, rfl⟩) (by omega) (Nat.zero_lt_of_lt hmore) hr.len (by decide)
  rw [if_pos (.inr (postput_not_response hr.pp)), hb] at hA
  have hdone : { uploadBlock (onWire r) s 0 0 with body := r.body, block1 := none, size1 := none } = onWire r := by
    have hb1 := hr.b1
    have hs1 := hr.s1
    cases r
    simp only at hb1 hs1
    subst hb1 hs1
    rfl
  refine .of_eq (World.isRun.cons_of (startDo_of w r _ _ hD) (exchange _ _ _ _ _ _ _
      (by show w.queue ++ _ = _; rw [hq, onWire_uploadBlock r _ _ hs]; rfl) hB hA
      (slots_eq hfb hrb) (slots_eq (put_same _ _ _) rfl) rfl))
    ⟨rfl, rfl, hsa, hsb, hexpA, hexpB, congrArg (fun m => [(⟨.B, m⟩ : Packet)]) (onWire_uploadBlock r _ _ hs), ?_,
      put_sending _ _ _, (put_receiving _ _ _).trans hra, put_sending _ _ _, _, put_receiving _ _ _, ?_, ?_, rfl, hdone⟩
    rfl rfl rfl
  · show w.pending ++ _ = _
    rw [hpe]; rfl
  · show w.now ≤ w.now + w.b.expiration
    omega
  · rw [uploadBlock_zero (onWire r) 0 hs hmore, Nat.one_mul]
    rfl

/-- what is in flight after the last block of the upload was handled by B -/
def respQueue (app : App) (r : Msg) : List Packet :=
  match app (onWire r) with
  | some x => [⟨.A, onWire { x with tok := r.tok }⟩]
  | none => []

theorem respQueue_eq (app : App) (r : Msg) : respQueue app r = flight .A (next app none (onWire r)) := by
  unfold respQueue next
  cases app (onWire r) <;> rfl

/-- the state after the upload: what B's application answered is the only message in flight (nothing if it did not
    answer), B holds nothing under the token any more, A still keeps the request (its call is waiting for the response) -/
structure Done (w : World) (app : App) (r : Msg) : Prop where
  queue : w.queue = respQueue app r
  pending : w.pending = [⟨r.tok, r.deadline⟩]
  asnd : w.a.sending r.tok = some ⟨r, doExpire r⟩
  bsnd : w.b.sending r.tok = none
  brcv : w.b.receiving r.tok = none

theorem upload_last_round (w : World) (app : App) (r : Msg) (s : Nat) (t : Int) (j : Nat)
    (hr : UploadReq r) (hs : s < 7) (hnum : j + 1 < 2 ^ 20)
    (hjle : (j + 1) * sizeN s ≤ r.body.length) (hlast : r.body.length ≤ (j + 2) * sizeN s)
    (happ : ∀ x, app (onWire r) = some x → x.body.length < sizeN s) (h : Mid w app r s t (j + 1)) :
    Leads w (List.replicate 1 (Op.fault .deliver)) (Done · app r) [(.B, onWire r)] [] := by
  obtain ⟨ent, hrcv, hlive, hheld, hetag, hdone⟩ := h.brcv
  have hnow := h.now
  have ha := h.happ
  subst hnow ha
  have hd : ({ ent.msg with body := (onWire r).body } : Msg).removeBlockSize .b1 = onWire r := hdone
  have hshort : ∀ m, next w.appB none (onWire r) = some m → m.body.length < sizeN s := by
    intro m hm
    unfold next at hm
    cases hx : w.appB (onWire r) with
    | none => rw [hx] at hm; cases hm
    | some x => rw [hx] at hm; cases hm; exact happ x hx
  have hB := ((handleS_blockOf (sl := ⟨none, some ent⟩) (m := onWire r) w.appB 0 h.sb hs (postput_dataBT hr.pp) hr.tok (.inl rfl)
    (fun h => nomatch h.1) (live_fresh _ _ hlive) hheld hjle hetag hnum (Nat.succ_pos j)).2 hlast).2 _ _
    (by rw [hd]; exact startSending_direct _ _ _ _ _ _ hshort)
  rw [hd] at hB
  refine .of_eq (World.isRun.cons_of (deliver_B w _ [] _ _ _ h.queue hB (slots_eq h.bsnd hrcv)) rfl)
    ⟨(respQueue_eq _ _).symm, h.pending, h.asnd, put_sending _ _ _, put_receiving _ _ _⟩ ?_ ?_ ?_
  · rw [delivs_append, delivs_append, delivs_wireEv]; rfl
  · rw [rets_append, rets_append, rets_wireEv]; rfl
  · rw [errs_append, errs_append, errs_wireEv]; rfl

theorem upload_mid (app : App) (r : Msg) (s : Nat) (t : Int)
    (hr : UploadReq r) (hs : s < 7) (hexp : t ≤ doExpire r) (d : Nat) (hnum : d + 1 < 2 ^ 20) (hlo : (d + 1) * sizeN s < r.body.length)
    (w : World) (h : Mid w app r s t 1) :
    Leads w (List.replicate (2 * d) (Op.fault .deliver)) (Mid · app r s t (d + 1)) [] [] :=
  Leads.rounds (P := fun j w => Mid w app r s t (j + 1)) d
    (fun j w' hj hm => upload_mid_round w' app r s t j hr hs hexp (Nat.lt_of_le_of_lt (Nat.succ_le_succ hj) hnum)
      (Nat.lt_of_le_of_lt (Nat.mul_le_mul_right _ (Nat.succ_le_succ hj)) hlo) hm) w h

theorem upload_progress (w : World) (r : Msg) (n : Nat)
    (hszx : w.a.szx = w.b.szx) (hs : w.b.szx < 7) (hpp : isPostPut r.code = true) (htok : r.tok ≠ 0)
    (hexp : w.now ≤ doExpire r) (hlen : r.body.length < 4294967296) (hb1 : r.block1 = none) (hs1 : r.size1 = none)
    (hn : 2 ≤ n) (hnum : n ≤ 2 ^ 20) (hlo : (n - 1) * sizeN w.b.szx < r.body.length) (hhi : r.body.length ≤ n * sizeN w.b.szx)
    (hq : w.queue = []) (hpe : w.pending = []) (hfa : w.a.sending r.tok = none) (hra : w.a.receiving r.tok = none)
    (hfb : w.b.sending r.tok = none) (hrb : w.b.receiving r.tok = none)
    (hexpA : 0 ≤ w.a.expiration) (hexpB : 0 ≤ w.b.expiration)
    (happ : ∀ x, w.appB (onWire r) = some x → x.body.length < sizeN w.b.szx) :
    Done (World.run w (Op.doReq r :: List.replicate (2 * n - 1) (Op.fault .deliver))).1 w.appB r ∧
    delivs (World.run w (Op.doReq r :: List.replicate (2 * n - 1) (Op.fault .deliver))).2 = [(.B, onWire r)] ∧
    troubles (World.run w (Op.doReq r :: List.replicate (2 * n - 1) (Op.fault .deliver))).2 = 0 := by
  -- block `d+1` is the last one
  obtain ⟨d, rfl⟩ := Nat.exists_eq_add_of_le' hn
  have hlo : (d + 1) * sizeN w.b.szx < r.body.length := hlo
  have hmore : sizeN w.b.szx < r.body.length :=
    Nat.lt_of_le_of_lt (Nat.le_mul_of_pos_left _ (Nat.succ_pos d)) hlo
  have hr : UploadReq r := ⟨hpp, htok, hlen, hb1, hs1⟩
  have L := (upload_first_round w r w.b.szx hszx rfl hr hs hexp hmore hq hpe hfa hra hfb hrb hexpA hexpB).append
    fun w1 h1 => (upload_mid w.appB r w.b.szx w.now hr hs hexp d hnum hlo w1 h1).append
    fun w2 h2 => upload_last_round w2 w.appB r w.b.szx w.now d hr hs hnum (Nat.le_of_lt hlo) hhi happ h2
  rw [show 2 * (d + 2) - 1 = 2 + (2 * d + 1) by omega, ← List.replicate_append_replicate,
    ← List.replicate_append_replicate (n := 2 * d)]
  exact ⟨L.post, L.dlv, L.troubles⟩

def exShortApp : App := fun d => if d.code = 2 ∧ d.tok = 7 then some { code := 68, tok := 9, other := [(12, [42])], body := [1, 2, 3] } else none
def exW : World := { exWorld with appB := exShortApp }

/-- non-vacuity: the hypotheses hold for a 40-byte POST in three 16-byte blocks answered with three bytes … -/
example : Done (World.run exW (Op.doReq exReq :: List.replicate (2 * 3 - 1) (Op.fault .deliver))).1 exShortApp exReq ∧
    delivs (World.run exW (Op.doReq exReq :: List.replicate (2 * 3 - 1) (Op.fault .deliver))).2 = [(.B, onWire exReq)] ∧
    troubles (World.run exW (Op.doReq exReq :: List.replicate (2 * 3 - 1) (Op.fault .deliver))).2 = 0 :=
  upload_progress exW exReq 3 (by decide) (by decide) (by decide) (by decide) (by decide) (by decide) (by decide) (by decide)
    (by decide) (by decide) (by decide) (by decide) rfl rfl rfl rfl rfl rfl (by decide) (by decide)
    (by
      intro x hx
      have h : exW.appB (onWire exReq) = some { code := 68, tok := 9, other := [(12, [42])], body := [1, 2, 3] } := by decide
      rw [h] at hx
      injection hx with hx
      subst hx
      decide)

/-- … and the same instance evaluated -/
example :
    delivs (World.run exW (Op.doReq exReq :: List.replicate (2 * 3 - 1) (Op.fault .deliver))).2 = [(.B, onWire exReq)] ∧
    troubles (World.run exW (Op.doReq exReq :: List.replicate (2 * 3 - 1) (Op.fault .deliver))).2 = 0 ∧
    (World.run exW (Op.doReq exReq :: List.replicate (2 * 3 - 1) (Op.fault .deliver))).1.queue = respQueue exShortApp exReq := by decide +kernel

/-- the state between two rounds of the download of `resp` (the answer to `req`; exponent `s`, virtual time `t`): the
    request for block `j` is the only message in flight, A's call is pending with `req` cached and exactly the first `j`
    blocks held, B has `resp` cached -/
structure Mid2 (w : World) (req resp : Msg) (s : Nat) (t : Int) (j : Nat) : Prop where
  now : w.now = t
  sa : w.a.szx = s
  sb : w.b.szx = s
  queue : w.queue = [⟨.B, downloadReq req s j⟩]
  pending : w.pending = [⟨req.tok, req.deadline⟩]
  asnd : w.a.sending req.tok = some ⟨req, doExpire req⟩
  arcv : ∃ ent, w.a.receiving req.tok = some ent ∧ t ≤ ent.validUntil ∧ ent.msg.body = resp.body.take (j * sizeN s) ∧
    ent.msg.etag = resp.etag ∧ { ent.msg with body := resp.body, block2 := none, size2 := none } = resp
  bsnd : ∃ e, w.b.sending req.tok = some ⟨resp, e⟩ ∧ t ≤ e

theorem download_mid_round (w : World) (req resp : Msg) (s : Nat) (t : Int) (j : Nat)
    (hx : LongAnswer resp s) (hs : s < 7) (hrq : isRequest req.code = true)
    (htok : req.tok ≠ 0) (hrt : resp.tok = req.tok) (hnum : j + 2 < 2 ^ 20)
    (hmore : (j + 2) * sizeN s < resp.body.length) (h : Mid2 w req resp s t (j + 1)) :
    Leads w (List.replicate 2 (Op.fault .deliver)) (Mid2 · req resp s t (j + 2)) [] [] := by
  obtain ⟨ent, hrcv, hlive, hheld, hetag, hdone⟩ := h.arcv
  obtain ⟨e, hbs, hblive⟩ := h.bsnd
  have hnow := h.now
  subst hnow
  have hs7 := Nat.le_of_lt hs
  have hjle : (j + 1) * sizeN s ≤ resp.body.length :=
    Nat.le_of_lt (Nat.lt_of_le_of_lt (Nat.mul_le_mul_right _ (Nat.le_succ _)) hmore)
  have hb : sendBT resp.code = .b2 := by unfold sendBT; rw [hx.rc.npp]; rfl
  have hB := handleS_serve (m := resp) (q := downloadReq req s (j + 1)) (exp := e)
    (rcv := w.b.receiving req.tok) w.appB h.sb hs htok hblive (downloadReq_continues _ _ hrq) (by rw [hb]; rfl) (Nat.lt_of_succ_lt hnum)
    (.inr ⟨hb, rfl⟩) hjle (Nat.zero_lt_of_lt hmore) hx.len (Nat.lt_of_succ_lt hnum)
  rw [if_pos (.inl hmore), hb] at hB
  have hA := (handleS_blockOf (sl := ⟨some ⟨req, doExpire req⟩, some ent⟩) (m := resp) (fun _ => none) w.b.maxSize
    h.sa hs hx.rc.dataBT (by rw [hrt]; exact htok) (.inr (wants_of_respCode (r := blockOf .b2 resp _ _ _) hx.rc))
    (fun h => nomatch h.2) (live_fresh _ _ hlive) hheld hjle hetag (Nat.lt_of_succ_lt hnum) (Nat.succ_pos j)).1 _ hmore
    (blockReply_next req _ (j + 1) hs7 hnum (Nat.mul_div_cancel _ (sizeN_pos hs7)))
  have hpa : ∀ sl : Slots, (w.a.put resp.tok sl).slots req.tok = sl := by
    intro sl; rw [hrt]; exact ep_put_slots_same _ _ _
  refine .of_eq (exchange w _ _ _ _ _ _ h.queue hB hA (slots_eq hbs rfl)
      (by rw [show (blockOf .b2 resp s w.b.maxSize (j + 1)).tok = req.tok from hrt]; exact slots_eq h.asnd hrcv) hx.dl)
    ⟨rfl, h.sa, h.sb, rfl, h.pending, congrArg Slots.snd (hpa _), ⟨_, congrArg Slots.rcv (hpa _), hlive, rfl, hetag, hdone⟩,
      e, put_sending _ _ _, hblive⟩ rfl rfl rfl

/-- the state after the download: nothing in flight, no call pending, nothing cached under the token in A's caches or in
    B's sending cache -/
structure Done2 (w : World) (tok : Nat) : Prop where
  queue : w.queue = []
  pending : w.pending = []
  asnd : w.a.sending tok = none
  arcv : w.a.receiving tok = none
  bsnd : w.b.sending tok = none

theorem download_last_round (w : World) (req resp : Msg) (s : Nat) (t : Int) (j : Nat)
    (hx : LongAnswer resp s) (hs : s < 7) (hrq : isRequest req.code = true)
    (htok : req.tok ≠ 0) (hrt : resp.tok = req.tok) (hnum : j + 1 < 2 ^ 20)
    (hjle : (j + 1) * sizeN s < resp.body.length) (hlast : resp.body.length ≤ (j + 2) * sizeN s)
    (h : Mid2 w req resp s t (j + 1)) :
    Leads w (List.replicate 2 (Op.fault .deliver)) (Done2 · req.tok) [(.A, resp)] [(req.tok, some resp)] := by
  obtain ⟨ent, hrcv, hlive, hheld, hetag, hdone⟩ := h.arcv
  obtain ⟨e, hbs, hblive⟩ := h.bsnd
  have hnow := h.now
  subst hnow
  have hb : sendBT resp.code = .b2 := by unfold sendBT; rw [hx.rc.npp]; rfl
  have hB := handleS_serve (m := resp) (q := downloadReq req s (j + 1)) (exp := e)
    (rcv := w.b.receiving req.tok) w.appB h.sb hs htok hblive (downloadReq_continues _ _ hrq) (by rw [hb]; rfl) hnum
    (.inr ⟨hb, rfl⟩) (Nat.le_of_lt hjle) (Nat.zero_lt_of_lt hjle) hx.len hnum
  rw [if_neg (fun h => h.elim (Nat.not_lt.mpr hlast) (fun h => h (respCode_gt hx.rc))), hb] at hB
  have hd : ({ ent.msg with body := resp.body } : Msg).removeBlockSize .b2 = resp := hdone
  have hA := ((handleS_blockOf (sl := ⟨some ⟨req, doExpire req⟩, some ent⟩) (m := resp) (fun _ => none) w.b.maxSize
    h.sa hs hx.rc.dataBT (by rw [hrt]; exact htok) (.inr (wants_of_respCode (r := blockOf .b2 resp _ _ _) hx.rc))
    (fun h => nomatch h.2) (live_fresh _ _ hlive) hheld (Nat.le_of_lt hjle) hetag hnum (Nat.succ_pos j)).2 hlast).2 _ _ rfl
  rw [hd, ← onWire_eq_self (m := blockOf .b2 resp s w.b.maxSize (j + 1)) hx.dl] at hA
  have hx : (onWire (blockOf .b2 resp s w.b.maxSize (j + 1))).tok = req.tok := hrt
  refine .of_eq (World.isRun.cons_of (deliver_B w _ [] _ _ _ h.queue hB (slots_eq hbs rfl)) (World.isRun.cons_of (deliver_A_done
      { w with b := w.b.put req.tok ⟨none, w.b.receiving req.tok⟩,
               queue := [⟨.A, onWire (blockOf .b2 resp s w.b.maxSize (j + 1))⟩],
               hist := w.hist ++ [⟨.B, downloadReq req s (j + 1)⟩] }
      _ resp [] _ req.deadline rfl (by rw [hrt]; exact h.pending) hA (by rw [hx]; exact slots_eq h.asnd hrcv)) rfl))
    ⟨rfl, rfl, ?_, ?_, put_sending _ _ _⟩ ?_ ?_ rfl
  · rw [hx, hrt]; exact put_same _ _ _
  · rw [hx]; exact put_receiving _ _ _
  · rw [hrt]; rfl
  · rw [hrt]; rfl

/-- the message in flight makes B hand `d` to its application, cache the answer `x`
    (under the request's token, for the transfer timeout) and reply with its block 0; A, whose call is pending with `req`
    cached and nothing held, opens an entry with that block and asks for block 1 -/
theorem download_opens (w : World) (req x m d : Msg) (s : Nat) (rcvB : Option Entry)
    (hsa : w.a.szx = s) (hsb : w.b.szx = s) (hx : LongAnswer x s) (hs : s < 7) (htok : req.tok ≠ 0) (hexp : w.now ≤ doExpire req)
    (hexpA : 0 ≤ w.a.expiration) (hexpB : 0 ≤ w.b.expiration)
    (hq : w.queue = [⟨.B, m⟩]) (hmt : m.tok = req.tok) (hp : w.pending = [⟨req.tok, req.deadline⟩])
    (hasnd : w.a.sending req.tok = some ⟨req, doExpire req⟩) (harcv : w.a.receiving req.tok = none)
    (hB : handleS w.b.toCfg (w.b.slots req.tok) w.now m w.appB =
      (⟨some ⟨{ x with tok := req.tok }, w.now + w.b.expiration⟩, rcvB⟩,
       { reply := some (downloadBlock { x with tok := req.tok } s w.b.maxSize 0), delivered := [d] })) :
    Leads w (List.replicate 2 (Op.fault .deliver)) (Mid2 · req { x with tok := req.tok } s w.now 1) [(.B, d)] [] := by
  have hs7 := Nat.le_of_lt hs
  have hA := handleS_blockOf_first (sl := ⟨some ⟨req, doExpire req⟩, none⟩) (now := w.now)
    (m := { x with tok := req.tok }) (fun _ => none) w.b.maxSize hsa hs hx.rc.dataBT htok
    (.inr (wants_of_respCode (r := blockOf .b2 { x with tok := req.tok } _ _ 0) hx.rc)) (fun h => nomatch h.2) rfl
    hx.more (blockReply_next req _ 0 hs7 (by decide) (Nat.div_self (sizeN_pos hs7)))
  rw [← downloadBlock_eq] at hA
  have hdone : { downloadBlock { x with tok := req.tok } s w.b.maxSize 0 with body := x.body, block2 := none, size2 := none } =
      ({ x with tok := req.tok } : Msg) := by
    have hxb2 := hx.b2
    have hxs2 := hx.s2
    cases x
    simp only at hxb2 hxs2
    subst hxb2 hxs2
    rfl
  have hvalid : w.now ≤ (match req.deadline with | some d => d | none => w.now + w.a.expiration) := by
    unfold doExpire at hexp
    cases hd : req.deadline with
    | none => show w.now ≤ w.now + w.a.expiration; omega
    | some d => rw [hd] at hexp; exact hexp
  refine .of_eq (exchange w _ _ _ _ _ _ hq hB hA (by rw [hmt]) (slots_eq hasnd harcv) hx.dl)
    ⟨rfl, hsa, hsb, rfl, hp, put_sending _ _ _, ⟨_, put_receiving _ _ _, hvalid, ?_, rfl, hdone⟩,
      _, by rw [hmt]; exact put_sending _ _ _, ?_⟩ rfl rfl rfl
  · rw [downloadBlock_zero_body _ _ hs, Nat.one_mul]
  · show w.now ≤ w.now + w.b.expiration
    omega

theorem download_first_round (w : World) (req x : Msg) (s : Nat) (hsa : w.a.szx = s) (hsb : w.b.szx = s)
    (hs : s < 7) (hq : req.code = codeGET ∨ req.code = codeDELETE) (htok : req.tok ≠ 0) (hb2 : req.block2 = none)
    (hfit : req.body.length ≤ sizeN s) (hexp : w.now ≤ doExpire req)
    (happ : w.appB (onWire req) = some x) (hx : LongAnswer x s)
    (hqu : w.queue = []) (hpe : w.pending = [])
    (hfa : w.a.sending req.tok = none) (hra : w.a.receiving req.tok = none) (hfb : w.b.sending req.tok = none)
    (hexpA : 0 ≤ w.a.expiration) (hexpB : 0 ≤ w.b.expiration) :
    Leads w (Op.doReq req :: List.replicate 2 (Op.fault .deliver)) (Mid2 · req { x with tok := req.tok } s w.now 1)
      [(.B, onWire req)] [] := by
  have hD := doStartS_direct w.a.toCfg w.now req hsa (Nat.le_of_lt hs) htok hfit
  rw [← hfa] at hD
  have hB := responder_first w.b.toCfg (onWire req) x (w.b.receiving req.tok) w.now w.appB hsb hs hq hb2 happ hx
  rw [← hfb] at hB
  exact .cons (startDo_of w req _ _ hD) rfl rfl rfl <| download_opens
    { w with a := { w.a with sending := w.a.sending.put req.tok (some ⟨req, doExpire req⟩) },
             queue := w.queue ++ [⟨.B, onWire req⟩], pending := w.pending ++ [⟨req.tok, req.deadline⟩] }
    req x (onWire req) (onWire req) s (w.b.receiving req.tok) hsa hsb hx hs htok hexp hexpA hexpB
    (by show w.queue ++ _ = _; rw [hqu]; rfl) rfl (by show w.pending ++ _ = _; rw [hpe]; rfl) (put_same _ _ _) hra hB

theorem download_from (req resp : Msg) (s : Nat) (t : Int)
    (hx : LongAnswer resp s) (hs : s < 7) (hrq : isRequest req.code = true)
    (htok : req.tok ≠ 0) (hrt : resp.tok = req.tok) (d : Nat) (hnum : d + 1 < 2 ^ 20) (hlo : (d + 1) * sizeN s < resp.body.length)
    (hhi : resp.body.length ≤ (d + 2) * sizeN s) (w : World) (h : Mid2 w req resp s t 1) :
    Leads w (List.replicate (2 * d) (Op.fault .deliver) ++ List.replicate 2 (Op.fault .deliver)) (Done2 · req.tok)
      [(.A, resp)] [(req.tok, some resp)] :=
  (Leads.rounds (P := fun j w => Mid2 w req resp s t (j + 1)) d
    (fun j w' hj hm => download_mid_round w' req resp s t j hx hs hrq htok hrt
      (Nat.lt_of_le_of_lt (Nat.succ_le_succ (Nat.succ_le_of_lt hj)) hnum)
      (Nat.lt_of_le_of_lt (Nat.mul_le_mul_right _ (Nat.succ_le_succ hj)) hlo) hm) w h).append
    fun w' h' => download_last_round w' req resp s t d hx hs hrq htok hrt hnum hlo hhi h'

theorem download_progress (w : World) (req x : Msg) (n : Nat)
    (hszx : w.a.szx = w.b.szx) (hs : w.b.szx < 7) (hq : req.code = codeGET ∨ req.code = codeDELETE) (htok : req.tok ≠ 0)
    (hb2 : req.block2 = none) (hfit : req.body.length ≤ sizeN w.b.szx) (hexp : w.now ≤ doExpire req)
    (happ : w.appB (onWire req) = some x) (hrc : RespCode x.code) (hxb1 : x.block1 = none) (hxb2 : x.block2 = none)
    (hxs2 : x.size2 = none) (hdl : x.deadline = none) (hlen : x.body.length < 4294967296)
    (hn : 2 ≤ n) (hnum : n < 2 ^ 20) (hlo : (n - 1) * sizeN w.b.szx < x.body.length) (hhi : x.body.length ≤ n * sizeN w.b.szx)
    (hqu : w.queue = []) (hpe : w.pending = [])
    (hfa : w.a.sending req.tok = none) (hra : w.a.receiving req.tok = none) (hfb : w.b.sending req.tok = none)
    (hexpA : 0 ≤ w.a.expiration) (hexpB : 0 ≤ w.b.expiration) :
    Done2 (World.run w (Op.doReq req :: List.replicate (2 * n) (Op.fault .deliver))).1 req.tok ∧
    delivs (World.run w (Op.doReq req :: List.replicate (2 * n) (Op.fault .deliver))).2 =
      [(.B, onWire req), (.A, { x with tok := req.tok })] ∧
    rets (World.run w (Op.doReq req :: List.replicate (2 * n) (Op.fault .deliver))).2 = [(req.tok, some { x with tok := req.tok })] ∧
    errs (World.run w (Op.doReq req :: List.replicate (2 * n) (Op.fault .deliver))).2 = 0 := by
  obtain ⟨d, rfl⟩ := Nat.exists_eq_add_of_le' hn
  have hlo : (d + 1) * sizeN w.b.szx < x.body.length := hlo
  have hmore : sizeN w.b.szx < x.body.length :=
    Nat.lt_of_le_of_lt (Nat.le_mul_of_pos_left _ (Nat.succ_pos d)) hlo
  have hrq : isRequest req.code = true := by rcases hq with h | h <;> rw [h] <;> decide
  have hx : LongAnswer x w.b.szx := ⟨hrc, hxb1, hxb2, hxs2, hdl, hmore, hlen⟩
  have L := (download_first_round w req x w.b.szx hszx rfl hs hq htok hb2 hfit hexp happ hx
    hqu hpe hfa hra hfb hexpA hexpB).append
    -- block numbers go up to `n − 1`, so `n ≤ 2^20` would do, as in `upload_progress`; the statement asks for `n < 2^20`
    (download_from req { x with tok := req.tok } w.b.szx w.now (hx.retok _) hs hrq htok rfl d (Nat.lt_of_succ_lt hnum) hlo hhi)
  rw [show 2 * (d + 2) = 2 + (2 * d + 2) by omega, ← List.replicate_append_replicate,
    ← List.replicate_append_replicate (n := 2 * d)]
  exact ⟨L.post, L.dlv, L.ret, L.err⟩

def exGet : Msg := { code := 1, tok := 7, other := [(11, [99])] }
def exGetResp : Msg := { code := 69, tok := 9, other := [(12, [42])], body := exRespBody }
def exGetApp : App := fun d => if d.code = 1 ∧ d.tok = 7 then some exGetResp else none
def exW2 : World := { exWorld with appB := exGetApp }

/-- non-vacuity: the hypotheses hold for a GET answered with 40 bytes in three 16-byte blocks … -/
example : Done2 (World.run exW2 (Op.doReq exGet :: List.replicate (2 * 3) (Op.fault .deliver))).1 7 ∧
    delivs (World.run exW2 (Op.doReq exGet :: List.replicate (2 * 3) (Op.fault .deliver))).2 =
      [(.B, onWire exGet), (.A, { exGetResp with tok := 7 })] ∧
    rets (World.run exW2 (Op.doReq exGet :: List.replicate (2 * 3) (Op.fault .deliver))).2 = [(7, some { exGetResp with tok := 7 })] ∧
    errs (World.run exW2 (Op.doReq exGet :: List.replicate (2 * 3) (Op.fault .deliver))).2 = 0 :=
  download_progress exW2 exGet exGetResp 3 (by decide) (by decide) (by decide) (by decide) (by decide) (by decide) (by decide)
    (by decide) ⟨by decide, by decide, by decide, by decide⟩ (by decide) (by decide) (by decide) (by decide) (by decide)
    (by decide) (by decide) (by decide) (by decide) rfl rfl rfl rfl rfl (by decide) (by decide)

/-- … and the same instance evaluated: with one delivery less A's application has not been handed anything; and in the
    upload of `exW`, one delivery before its last block arrives, neither has B's -/
example :
    delivs (World.run exW2 (Op.doReq exGet :: List.replicate (2 * 3) (Op.fault .deliver))).2 =
      [(.B, onWire exGet), (.A, { exGetResp with tok := 7 })] ∧
    delivs (World.run exW2 (Op.doReq exGet :: List.replicate (2 * 3 - 1) (Op.fault .deliver))).2 = [(.B, onWire exGet)] ∧
    delivs (World.run exW (Op.doReq exReq :: List.replicate (2 * 3 - 2) (Op.fault .deliver))).2 = [] := by decide +kernel

/-- the last block of the request, `j+1`, reaches B, whose application answers
    with a response that needs more than one block; B replies with its block 0, A opens an entry with it and asks for block 1 -/
theorem hinge_round (w : World) (app : App) (r x : Msg) (s : Nat) (t : Int) (j : Nat)
    (hr : UploadReq r) (hx : LongAnswer x s) (hs : s < 7) (hexp : t ≤ doExpire r) (hnum : j + 1 < 2 ^ 20)
    (hjle : (j + 1) * sizeN s ≤ r.body.length) (hlast : r.body.length ≤ (j + 2) * sizeN s)
    (happ : app (onWire r) = some x) (h : Mid w app r s t (j + 1)) :
    Leads w (List.replicate 2 (Op.fault .deliver)) (Mid2 · r { x with tok := r.tok } s t 1) [(.B, onWire r)] [] := by
  obtain ⟨ent, hrcv, hlive, hheld, hetag, hdone⟩ := h.brcv
  have hnow := h.now
  have ha := h.happ
  subst hnow ha
  have hd : ({ ent.msg with body := (onWire r).body } : Msg).removeBlockSize .b1 = onWire r := hdone
  have hnext : next w.appB none (onWire r) = some { x with tok := r.tok } := by unfold next; rw [happ]; rfl
  have hB := ((handleS_blockOf (sl := ⟨none, some ent⟩) (m := onWire r) w.appB 0 h.sb hs (postput_dataBT hr.pp) hr.tok (.inl rfl)
    (fun h => nomatch h.1) (live_fresh _ _ hlive) hheld hjle hetag hnum (Nat.succ_pos j)).2 hlast).2 _ _
    (by rw [hd, hnext]; exact startSending_long w.b.toCfg { x with tok := r.tok } w.now h.sb hs (hx.retok _))
  rw [hd, ← slots_eq h.bsnd hrcv] at hB
  exact download_opens w r x _ _ s none h.sa h.sb hx hs hr.tok hexp h.ea h.eb h.queue rfl h.pending
    h.asnd h.arcv hB

theorem do_progress (w : World) (r x : Msg) (n1 n2 : Nat)
    (hszx : w.a.szx = w.b.szx) (hs : w.b.szx < 7) (hpp : isPostPut r.code = true) (htok : r.tok ≠ 0)
    (hexp : w.now ≤ doExpire r) (hlenr : r.body.length < 4294967296) (hb1 : r.block1 = none) (hs1 : r.size1 = none)
    (hn1 : 2 ≤ n1) (hnum1 : n1 ≤ 2 ^ 20) (hlo1 : (n1 - 1) * sizeN w.b.szx < r.body.length) (hhi1 : r.body.length ≤ n1 * sizeN w.b.szx)
    (happ : w.appB (onWire r) = some x) (hrc : RespCode x.code) (hxb1 : x.block1 = none) (hxb2 : x.block2 = none)
    (hxs2 : x.size2 = none) (hdl : x.deadline = none) (hlenx : x.body.length < 4294967296)
    (hn2 : 2 ≤ n2) (hnum2 : n2 < 2 ^ 20) (hlo2 : (n2 - 1) * sizeN w.b.szx < x.body.length) (hhi2 : x.body.length ≤ n2 * sizeN w.b.szx)
    (hq : w.queue = []) (hpe : w.pending = []) (hfa : w.a.sending r.tok = none) (hra : w.a.receiving r.tok = none)
    (hfb : w.b.sending r.tok = none) (hrb : w.b.receiving r.tok = none)
    (hexpA : 0 ≤ w.a.expiration) (hexpB : 0 ≤ w.b.expiration) :
    Done2 (World.run w (Op.doReq r :: List.replicate (2 * n1 + 2 * n2 - 2) (Op.fault .deliver))).1 r.tok ∧
    delivs (World.run w (Op.doReq r :: List.replicate (2 * n1 + 2 * n2 - 2) (Op.fault .deliver))).2 =
      [(.B, onWire r), (.A, { x with tok := r.tok })] ∧
    rets (World.run w (Op.doReq r :: List.replicate (2 * n1 + 2 * n2 - 2) (Op.fault .deliver))).2 =
      [(r.tok, some { x with tok := r.tok })] ∧
    errs (World.run w (Op.doReq r :: List.replicate (2 * n1 + 2 * n2 - 2) (Op.fault .deliver))).2 = 0 := by
  obtain ⟨d1, rfl⟩ := Nat.exists_eq_add_of_le' hn1
  obtain ⟨d2, rfl⟩ := Nat.exists_eq_add_of_le' hn2
  have hlo1 : (d1 + 1) * sizeN w.b.szx < r.body.length := hlo1
  have hlo2 : (d2 + 1) * sizeN w.b.szx < x.body.length := hlo2
  have hmore1 : sizeN w.b.szx < r.body.length :=
    Nat.lt_of_le_of_lt (Nat.le_mul_of_pos_left _ (Nat.succ_pos d1)) hlo1
  have hmore2 : sizeN w.b.szx < x.body.length :=
    Nat.lt_of_le_of_lt (Nat.le_mul_of_pos_left _ (Nat.succ_pos d2)) hlo2
  have hrq : isRequest r.code = true := by rcases postput_codes hpp with h | h <;> rw [h] <;> decide
  have hr : UploadReq r := ⟨hpp, htok, hlenr, hb1, hs1⟩
  have hx : LongAnswer x w.b.szx := ⟨hrc, hxb1, hxb2, hxs2, hdl, hmore2, hlenx⟩
  have L := (upload_first_round w r w.b.szx hszx rfl hr hs hexp hmore1 hq hpe hfa hra hfb hrb hexpA hexpB).append
    fun w1 h1 => (upload_mid w.appB r w.b.szx w.now hr hs hexp d1 hnum1 hlo1 w1 h1).append
    fun w2 h2 => (hinge_round w2 w.appB r x w.b.szx w.now d1 hr hx hs hexp hnum1 (Nat.le_of_lt hlo1) hhi1 happ h2).append
    (download_from r { x with tok := r.tok } w.b.szx w.now (hx.retok _) hs hrq htok rfl d2 (Nat.lt_of_succ_lt hnum2) hlo2 hhi2)
  rw [show 2 * (d1 + 2) + 2 * (d2 + 2) - 2 = 2 + (2 * d1 + (2 + (2 * d2 + 2))) by omega,
    ← List.replicate_append_replicate, ← List.replicate_append_replicate (n := 2 * d1),
    ← List.replicate_append_replicate (n := 2), ← List.replicate_append_replicate (n := 2 * d2)]
  exact ⟨L.post, L.dlv, L.ret, L.err⟩

/-- non-vacuity: the hypotheses of `do_progress` hold for the 40-byte POST `exReq` in `exWorld` (`Lemmas/Blockwise.lean`; three blocks) answered with
    40 bytes (three blocks), which completes in `2·3 + 2·3 − 2 = 10` fault-free deliveries -/
theorem exWorld_progress : Done2 (World.run exWorld (Op.doReq exReq :: List.replicate (2 * 3 + 2 * 3 - 2) (Op.fault .deliver))).1 7 ∧
    delivs (World.run exWorld (Op.doReq exReq :: List.replicate (2 * 3 + 2 * 3 - 2) (Op.fault .deliver))).2 =
      [(.B, onWire exReq), (.A, { code := 68, tok := 7, other := [(12, [42])], body := exRespBody })] ∧
    rets (World.run exWorld (Op.doReq exReq :: List.replicate (2 * 3 + 2 * 3 - 2) (Op.fault .deliver))).2 =
      [(7, some { code := 68, tok := 7, other := [(12, [42])], body := exRespBody })] ∧
    errs (World.run exWorld (Op.doReq exReq :: List.replicate (2 * 3 + 2 * 3 - 2) (Op.fault .deliver))).2 = 0 :=
  do_progress exWorld exReq { code := 68, tok := 7, other := [(12, [42])], body := exRespBody } 3 3
    (by decide) (by decide) (by decide) (by decide) (by decide) (by decide) (by decide) (by decide)
    (by decide) (by decide) (by decide) (by decide)
    (by decide) ⟨by decide, by decide, by decide, by decide⟩ (by decide) (by decide) (by decide) (by decide) (by decide)
    (by decide) (by decide) (by decide) (by decide)
    rfl rfl rfl rfl rfl rfl (by decide) (by decide)

example : Done2 (World.run exWorld (Op.doReq exReq :: List.replicate (2 * 3 + 2 * 3 - 2) (Op.fault .deliver))).1 7 ∧
    delivs (World.run exWorld (Op.doReq exReq :: List.replicate (2 * 3 + 2 * 3 - 2) (Op.fault .deliver))).2 =
      [(.B, onWire exReq), (.A, { code := 68, tok := 7, other := [(12, [42])], body := exRespBody })] ∧
    rets (World.run exWorld (Op.doReq exReq :: List.replicate (2 * 3 + 2 * 3 - 2) (Op.fault .deliver))).2 =
      [(7, some { code := 68, tok := 7, other := [(12, [42])], body := exRespBody })] ∧
    errs (World.run exWorld (Op.doReq exReq :: List.replicate (2 * 3 + 2 * 3 - 2) (Op.fault .deliver))).2 = 0 := exWorld_progress

end CoapVerif.Lemmas.BlockwiseProgress
